import GoguVerif.Theorems.GenTieHeap
open GoguVerif.Theorems.GenTieHeap
#print axioms swap_tie
#print axioms swap_neg
#print axioms parent_tie
#print axioms leftChild_tie
#print axioms rightChild_tie
#print axioms moveUp_tie
#print axioms moveDown_tie
#print axioms moveUp_model_tie
#print axioms moveDown_model_tie
#print axioms size_tie
#print axioms isEmpty_tie
#print axioms clear_tie
#print axioms peek_tie
#print axioms getValues_tie
#print axioms pop_tie
#print axioms push_step_tie
#print axioms push_tie
#print axioms moveUpF_mono
#print axioms moveUpF_hang
#print axioms moveUpF_enough
#print axioms pushAll_loop_tie
#print axioms pushAll_tie
#print axioms moveDownF_enough
#print axioms pop_tie_fuel
#print axioms convert_loop_tie_full
#print axioms convert_loop_tie
#print axioms convert_loop_neg
#print axioms convertStart_spec
#print axioms convert_tie
#print axioms convert_tie_2n
#print axioms getIndex_loop_tie
#print axioms getIndex_lt
#print axioms getIndex_tie
#print axioms delete_tie
#print axioms fromSlice_inner_tie
#print axioms fromSlice_outer_tie
#print axioms fromSlice_tie_partial
#print axioms fromSlice_tie_swo
