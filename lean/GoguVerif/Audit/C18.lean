import GoguVerif.Theorems.C18More
import GoguVerif.Theorems.C18
open GoguVerif.Theorems.C18
#print axioms after_runs_iff
#print axioms before_spec
#print axioms beforeTrace_post
#print axioms beforeTrace_pre
#print axioms once_runs_when_absent
#print axioms once_cached_when_live
#print axioms once_entry_life
#print axioms once_spec_no_expiry
#print axioms once_spec_within_life
#print axioms once_refines
#print axioms retry_spec
#print axioms retry_calls
#print axioms retryDelay_spaced
#print axioms retryDelay_gapped
#print axioms retryDelayTimes_instant
-- C18More
#print axioms GoguVerif.Theorems.C18More.retryWithDelay_results
#print axioms GoguVerif.Theorems.C18More.retryWithDelay_eq_retry
#print axioms GoguVerif.Theorems.C18More.retryWithDelay_neg
#print axioms GoguVerif.Theorems.C18More.retryWithDelay_spec
#print axioms GoguVerif.Theorems.C18More.retryWithDelay_calls_le
#print axioms GoguVerif.Theorems.C18More.retryWithDelay_nonpos
#print axioms GoguVerif.Theorems.C18More.retryWithDelay_stops
#print axioms GoguVerif.Theorems.C18More.retryWithDelay_times_length
#print axioms GoguVerif.Theorems.C18More.retryWithDelay_times
#print axioms GoguVerif.Theorems.C18More.gapped_index
#print axioms GoguVerif.Theorems.C18More.spaced_of_gapped
#print axioms GoguVerif.Theorems.C18More.retryDelayTimes_le
#print axioms GoguVerif.Theorems.C18More.retryWithDelay_gapped
#print axioms GoguVerif.Theorems.C18More.retryWithDelay_gap
#print axioms GoguVerif.Theorems.C18More.retryWithDelay_spaced
#print axioms GoguVerif.Theorems.C18More.retryWithDelay_stamps
#print axioms GoguVerif.Theorems.C18More.retryDelayStamps_length
#print axioms GoguVerif.Theorems.C18More.retryDelayLoop_elapsed
#print axioms GoguVerif.Theorems.C18More.retryWithDelay_elapsed
#print axioms GoguVerif.Theorems.C18More.cellGet_stored
#print axioms GoguVerif.Theorems.C18More.beforeTimed_post
#print axioms GoguVerif.Theorems.C18More.beforeTimed_pre
#print axioms GoguVerif.Theorems.C18More.before_timed_runs
#print axioms GoguVerif.Theorems.C18More.before_timed_later
#print axioms GoguVerif.Theorems.C18More.before_timed_live
#print axioms GoguVerif.Theorems.C18More.before_timed_expired
#print axioms GoguVerif.Theorems.C18More.before_timed_expired_forever
#print axioms GoguVerif.Theorems.C18More.before_timed_state
#print axioms GoguVerif.Theorems.C18More.before_timed_nonpos
#print axioms GoguVerif.Theorems.C18More.cellGet_cellOf
#print axioms GoguVerif.Theorems.C18More.cellOf_set
#print axioms GoguVerif.Theorems.C18More.beforeCallC_sim
#print axioms GoguVerif.Theorems.C18More.beforeTimedC_eq
#print axioms GoguVerif.Theorems.C18More.before_timed_cache
#print axioms GoguVerif.Theorems.C18.once_returns_stored_or_fresh
#print axioms GoguVerif.Theorems.C18.before_full_false
