import GoguVerif.Theorems.C18More
#print axioms GoguVerif.Theorems.C18More.retryWithDelay_results
#print axioms GoguVerif.Theorems.C18More.retryWithDelay_eq_retry
#print axioms GoguVerif.Theorems.C18More.retryWithDelay_neg
#print axioms GoguVerif.Theorems.C18More.retryWithDelay_spec
#print axioms GoguVerif.Theorems.C18More.retryWithDelay_calls_le
#print axioms GoguVerif.Theorems.C18More.retryWithDelay_nonpos
#print axioms GoguVerif.Theorems.C18More.retryWithDelay_stops
#print axioms GoguVerif.Theorems.C18More.retryWithDelay_times_length
#print axioms GoguVerif.Theorems.C18More.retryWithDelay_times
#print axioms GoguVerif.Theorems.C18More.gapped_index
#print axioms GoguVerif.Theorems.C18More.spaced_of_gapped
#print axioms GoguVerif.Theorems.C18More.retryDelayTimes_le
#print axioms GoguVerif.Theorems.C18More.retryWithDelay_gapped
#print axioms GoguVerif.Theorems.C18More.retryWithDelay_gap
#print axioms GoguVerif.Theorems.C18More.retryWithDelay_spaced
#print axioms GoguVerif.Theorems.C18More.retryWithDelay_stamps
#print axioms GoguVerif.Theorems.C18More.retryDelayStamps_length
#print axioms GoguVerif.Theorems.C18More.retryDelayLoop_elapsed
#print axioms GoguVerif.Theorems.C18More.retryWithDelay_elapsed
#print axioms GoguVerif.Theorems.C18More.cellGet_stored
#print axioms GoguVerif.Theorems.C18More.beforeTimed_post
#print axioms GoguVerif.Theorems.C18More.beforeTimed_pre
#print axioms GoguVerif.Theorems.C18More.before_timed_runs
#print axioms GoguVerif.Theorems.C18More.before_timed_later
#print axioms GoguVerif.Theorems.C18More.before_timed_live
#print axioms GoguVerif.Theorems.C18More.before_timed_expired
#print axioms GoguVerif.Theorems.C18More.before_timed_expired_forever
#print axioms GoguVerif.Theorems.C18More.before_timed_state
#print axioms GoguVerif.Theorems.C18More.before_timed_nonpos
#print axioms GoguVerif.Theorems.C18More.cellGet_cellOf
#print axioms GoguVerif.Theorems.C18More.cellOf_set
#print axioms GoguVerif.Theorems.C18More.beforeCallC_sim
#print axioms GoguVerif.Theorems.C18More.beforeTimedC_eq
#print axioms GoguVerif.Theorems.C18More.before_timed_cache
