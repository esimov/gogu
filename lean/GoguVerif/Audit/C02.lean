import GoguVerif.Theorems.C02Inst
import GoguVerif.Theorems.C02Two
import GoguVerif.Theorems.C02More
import GoguVerif.Theorems.C02
open GoguVerif.Theorems.C02
#print axioms lin_legal
#print axioms ret_after_lin
#print axioms lin_after_inv
#print axioms nothing_before_inv
#print axioms real_time_order
#print axioms lin_table_ok
#print axioms queue_linearizable
#print axioms stack_linearizable
#print axioms GoguVerif.Theorems.C02Fine.inv_step
#print axioms GoguVerif.Theorems.C02Fine.fine_refines_atomic
#print axioms fine_linearizable
#print axioms fine_history_is_atomic
#print axioms queueMeth_atomic
#print axioms queueMeth_readOnly
#print axioms queue_fine_linearizable
-- C02More
#print axioms GoguVerif.Theorems.C02More.legal_cons_inv
#print axioms GoguVerif.Theorems.C02More.legal_nil_inv
#print axioms GoguVerif.Theorems.C02More.mem_linOps
#print axioms GoguVerif.Theorems.C02More.linOps_invoked
#print axioms GoguVerif.Theorems.C02More.lin_mem_linOps
#print axioms GoguVerif.Theorems.C02More.ret_id_lt
#print axioms GoguVerif.Theorems.C02More.openInv
#print axioms GoguVerif.Theorems.C02More.ret_unique
#print axioms GoguVerif.Theorems.C02More.lin_returned_or_done
#print axioms GoguVerif.Theorems.C02More.inv_linearized_or_pending
#print axioms GoguVerif.Theorems.C02More.find_store
#print axioms GoguVerif.Theorems.C02More.live_expOf
#print axioms GoguVerif.Theorems.C02More.set_free
#print axioms GoguVerif.Theorems.C02More.set_held
#print axioms GoguVerif.Theorems.C02More.race_losers
#print axioms GoguVerif.Theorems.C02More.race_sequential
#print axioms GoguVerif.Theorems.C02More.race_sequential_count
#print axioms GoguVerif.Theorems.C02More.successes_pos
#print axioms GoguVerif.Theorems.C02More.successes_append
#print axioms GoguVerif.Theorems.C02More.lin_success_unique
#print axioms GoguVerif.Theorems.C02More.race_linearizable
#print axioms GoguVerif.Theorems.C02More.race_at_most_one_success
#print axioms GoguVerif.Theorems.C02More.race_at_most_one_granted
#print axioms GoguVerif.Theorems.C02More.race_exactly_one_granted
#print axioms GoguVerif.Theorems.C02More.model_legal_abs
#print axioms GoguVerif.Theorems.C02More.race_sequential_model
#print axioms GoguVerif.Theorems.C02More.race_linearizable_model
#print axioms GoguVerif.Theorems.C02More.insert_length
#print axioms GoguVerif.Theorems.C02More.put_held
#print axioms GoguVerif.Theorems.C02More.put_last
#print axioms GoguVerif.Theorems.C02More.put_race_sequential
#print axioms GoguVerif.Theorems.C02More.put_race_linearizable
-- C02Inst
#print axioms GoguVerif.Theorems.C02Inst.oneStep_atomic
#print axioms GoguVerif.Theorems.C02Inst.oneStep_mode
#print axioms GoguVerif.Theorems.C02Inst.oneStep_obj
#print axioms GoguVerif.Theorems.C02Inst.oneStep_readOnly_iff
#print axioms GoguVerif.Theorems.C02Inst.oneStep_readOnly
#print axioms GoguVerif.Theorems.C02Inst.oneStep_fine_linearizable
#print axioms GoguVerif.Theorems.C02Inst.oneStep_history_is_atomic
#print axioms GoguVerif.Theorems.C02Inst.canEnter_of_free
#print axioms GoguVerif.Theorems.C02Inst.overlap_serial
#print axioms GoguVerif.Theorems.C02Inst.overlap_readers
#print axioms GoguVerif.Theorems.C02Inst.stack_modes_listed
#print axioms GoguVerif.Theorems.C02Inst.stack_observers
#print axioms GoguVerif.Theorems.C02Inst.stack_fine_linearizable
#print axioms GoguVerif.Theorems.C02Inst.stackModel_observers
#print axioms GoguVerif.Theorems.C02Inst.stackModel_fine_linearizable
#print axioms GoguVerif.Theorems.C02Inst.stack_fine_linearizable_int
#print axioms GoguVerif.Theorems.C02Inst.queue_modes_listed
#print axioms GoguVerif.Theorems.C02Inst.queue_observers
#print axioms GoguVerif.Theorems.C02Inst.queue_fine_linearizable
#print axioms GoguVerif.Theorems.C02Inst.queueMeth_same
#print axioms GoguVerif.Theorems.C02Inst.queueModel_observers
#print axioms GoguVerif.Theorems.C02Inst.queueModel_fine_linearizable
#print axioms GoguVerif.Theorems.C02Inst.lqueue_modes_listed
#print axioms GoguVerif.Theorems.C02Inst.lqueue_observers
#print axioms GoguVerif.Theorems.C02Inst.lqueue_fine_linearizable
#print axioms GoguVerif.Theorems.C02Inst.queue_fine_linearizable_int
#print axioms GoguVerif.Theorems.C02Inst.lstack_modes_listed
#print axioms GoguVerif.Theorems.C02Inst.lstack_observers
#print axioms GoguVerif.Theorems.C02Inst.lstack_fine_linearizable
#print axioms GoguVerif.Theorems.C02Inst.lstackPatched_observers
#print axioms GoguVerif.Theorems.C02Inst.lstackPatched_fine_linearizable
#print axioms GoguVerif.Theorems.C02Inst.bst_modes_listed
#print axioms GoguVerif.Theorems.C02Inst.bst_observers
#print axioms GoguVerif.Theorems.C02Inst.bst_fine_linearizable
#print axioms GoguVerif.Theorems.C02Inst.bstPatched_observers
#print axioms GoguVerif.Theorems.C02Inst.bstPatched_fine_linearizable
#print axioms GoguVerif.Theorems.C02Inst.trie_modes_listed
#print axioms GoguVerif.Theorems.C02Inst.trie_observers
#print axioms GoguVerif.Theorems.C02Inst.trie_fine_linearizable
#print axioms GoguVerif.Theorems.C02Inst.cache_modes_listed
#print axioms GoguVerif.Theorems.C02Inst.cache_observers
#print axioms GoguVerif.Theorems.C02Inst.cache_now_fixed
#print axioms GoguVerif.Theorems.C02Inst.cache_fine_linearizable
#print axioms GoguVerif.Theorems.C02Inst.cacheModel_observers
#print axioms GoguVerif.Theorems.C02Inst.cacheModel_fine_linearizable
#print axioms GoguVerif.Theorems.C02Inst.heap_modes_listed
#print axioms GoguVerif.Theorems.C02Inst.heapStep_ok
#print axioms GoguVerif.Theorems.C02Inst.heap_observers
#print axioms GoguVerif.Theorems.C02Inst.heapStep_clear_empty
#print axioms GoguVerif.Theorems.C02Inst.heap_fine_linearizable
#print axioms GoguVerif.Theorems.C02Inst.heapStep_refines
#print axioms GoguVerif.Theorems.C02Inst.heap_legal_spec
#print axioms GoguVerif.Theorems.C02Inst.heap_fine_linearizable_spec
#print axioms GoguVerif.Theorems.C02Inst.modeOf_isWrite
#print axioms GoguVerif.Theorems.C02Inst.modes_agree_with_table
#print axioms GoguVerif.Theorems.C02Inst.singleOps_covered
#print axioms GoguVerif.Theorems.C02Inst.listed_paths_agree
#print axioms GoguVerif.Theorems.C02Inst.listed_sections
#print axioms GoguVerif.Theorems.C02Inst.stack_lock_is_table_lock
-- C02Two (multi-section methods: Heap.Clear, Cache.Update)
#print axioms GoguVerif.Theorems.C02Two.inv_init
#print axioms GoguVerif.Theorems.C02Two.inv_step
#print axioms GoguVerif.Theorems.C02Two.fine2_refines_atomic
#print axioms GoguVerif.Theorems.C02Two.fine2_linearizable
#print axioms GoguVerif.Theorems.C02Two.fine2_real_time_order
#print axioms GoguVerif.Theorems.C02Two.fine2_shared_eq_abs
#print axioms GoguVerif.Theorems.C02Two.runPre_eq_step
#print axioms GoguVerif.Theorems.C02Two.atomic_eq_step
#print axioms GoguVerif.Theorems.C02Two.twoStep_cond
#print axioms GoguVerif.Theorems.C02Two.twoStep_fine_linearizable
#print axioms GoguVerif.Theorems.C02Two.twoStep_atomic
#print axioms GoguVerif.Theorems.C02Two.heapStep_clear
#print axioms GoguVerif.Theorems.C02Two.heapFin_eq
#print axioms GoguVerif.Theorems.C02Two.heapCheck_early
#print axioms GoguVerif.Theorems.C02Two.heapMeth2_cond
#print axioms GoguVerif.Theorems.C02Two.heap_two_linearizable
#print axioms GoguVerif.Theorems.C02Two.heap_two_linearizable_spec
#print axioms GoguVerif.Theorems.C02Two.heap_two_concurrent_never_panics
#print axioms GoguVerif.Theorems.C02Two.heapMeth2_atomic
#print axioms GoguVerif.Theorems.C02Two.cacheFin_eq
#print axioms GoguVerif.Theorems.C02Two.cacheCheck_early
#print axioms GoguVerif.Theorems.C02Two.cacheMeth2_cond
#print axioms GoguVerif.Theorems.C02Two.cache_two_linearizable
#print axioms GoguVerif.Theorems.C02Two.cacheMeth2_atomic
#print axioms GoguVerif.Theorems.C02Two.two_section_shape_ok
#print axioms GoguVerif.Theorems.C02Two.two_section_modes
#print axioms GoguVerif.Theorems.C02Two.canEnter_of_free
#print axioms GoguVerif.Theorems.C02Two.clear_push_between
#print axioms GoguVerif.Theorems.C02Two.clear_early_return
#print axioms GoguVerif.Theorems.C02Two.update_delete_between
