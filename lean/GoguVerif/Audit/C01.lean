import GoguVerif.Theorems.C01
import GoguVerif.Theorems.C01NoPanic
open GoguVerif.Theorems.C01
#print axioms race_free
#print axioms deadlock_free
#print axioms table_ok
#print axioms table_sections_wellLocked
#print axioms containers_race_free
#print axioms containers_deadlock_free
#print axioms quiescent_is_init
#print axioms quiescent_admits_everyone
#print axioms can_always_leave
#print axioms GoguVerif.Theorems.C01NoPanic.legal_preserves
#print axioms GoguVerif.Theorems.C01NoPanic.legal_preserves_at
#print axioms GoguVerif.Theorems.C01NoPanic.oneStep_preserves
#print axioms GoguVerif.Theorems.C01NoPanic.oneStep_preserves_at
#print axioms GoguVerif.Theorems.C01NoPanic.oneStep_shared_inv
#print axioms GoguVerif.Theorems.C01NoPanic.heap_concurrent_never_panics
#print axioms GoguVerif.Theorems.C01NoPanic.heap_shared_inv
#print axioms GoguVerif.Theorems.C01NoPanic.bstStep_sorted
#print axioms GoguVerif.Theorems.C01NoPanic.bstPatchedStep_sorted
#print axioms GoguVerif.Theorems.C01NoPanic.bst_concurrent_never_panics
#print axioms GoguVerif.Theorems.C01NoPanic.bstPatched_concurrent_never_panics
#print axioms GoguVerif.Theorems.C01NoPanic.trieStep_sorted
#print axioms GoguVerif.Theorems.C01NoPanic.trie_concurrent_never_panics
#print axioms GoguVerif.Theorems.C01NoPanic.specKeys_filter
#print axioms GoguVerif.Theorems.C01NoPanic.specKeys_store
#print axioms GoguVerif.Theorems.C01NoPanic.cacheStep_inv
#print axioms GoguVerif.Theorems.C01NoPanic.cache_concurrent_never_panics
#print axioms GoguVerif.Theorems.C01NoPanic.cacheModel_concurrent_never_panics
#print axioms GoguVerif.Theorems.C01NoPanic.lqueue_step_inv
#print axioms GoguVerif.Theorems.C01NoPanic.lstack_step_inv
#print axioms GoguVerif.Theorems.C01NoPanic.lqueue_ptr_ok
#print axioms GoguVerif.Theorems.C01NoPanic.lstack_ptr_ok
#print axioms GoguVerif.Theorems.C01NoPanic.repr_exists
#print axioms GoguVerif.Theorems.C01NoPanic.lqueue_concurrent_never_panics
#print axioms GoguVerif.Theorems.C01NoPanic.lstack_concurrent_never_panics
#print axioms GoguVerif.Theorems.C01NoPanic.lqueue_concurrent_inv
#print axioms GoguVerif.Theorems.C01NoPanic.lstack_concurrent_inv
