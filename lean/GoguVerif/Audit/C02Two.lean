import GoguVerif.Theorems.C02Two
/-! Axiom audit of `Theorems/C02Two.lean` (allowed: propext, Classical.choice, Quot.sound). -/
#print axioms GoguVerif.Theorems.C02Two.inv_init
#print axioms GoguVerif.Theorems.C02Two.inv_step
#print axioms GoguVerif.Theorems.C02Two.fine2_refines_atomic
#print axioms GoguVerif.Theorems.C02Two.fine2_linearizable
#print axioms GoguVerif.Theorems.C02Two.fine2_real_time_order
#print axioms GoguVerif.Theorems.C02Two.fine2_shared_eq_abs
#print axioms GoguVerif.Theorems.C02Two.runPre_eq_step
#print axioms GoguVerif.Theorems.C02Two.atomic_eq_step
#print axioms GoguVerif.Theorems.C02Two.twoStep_cond
#print axioms GoguVerif.Theorems.C02Two.twoStep_fine_linearizable
#print axioms GoguVerif.Theorems.C02Two.twoStep_atomic
#print axioms GoguVerif.Theorems.C02Two.heapStep_clear
#print axioms GoguVerif.Theorems.C02Two.heapFin_eq
#print axioms GoguVerif.Theorems.C02Two.heapCheck_early
#print axioms GoguVerif.Theorems.C02Two.heapMeth2_cond
#print axioms GoguVerif.Theorems.C02Two.heap_two_linearizable
#print axioms GoguVerif.Theorems.C02Two.heap_two_linearizable_spec
#print axioms GoguVerif.Theorems.C02Two.heap_two_concurrent_never_panics
#print axioms GoguVerif.Theorems.C02Two.heapMeth2_atomic
#print axioms GoguVerif.Theorems.C02Two.cacheFin_eq
#print axioms GoguVerif.Theorems.C02Two.cacheCheck_early
#print axioms GoguVerif.Theorems.C02Two.cacheMeth2_cond
#print axioms GoguVerif.Theorems.C02Two.cache_two_linearizable
#print axioms GoguVerif.Theorems.C02Two.cacheMeth2_atomic
#print axioms GoguVerif.Theorems.C02Two.two_section_shape_ok
#print axioms GoguVerif.Theorems.C02Two.two_section_modes
#print axioms GoguVerif.Theorems.C02Two.canEnter_of_free
#print axioms GoguVerif.Theorems.C02Two.clear_push_between
#print axioms GoguVerif.Theorems.C02Two.clear_early_return
#print axioms GoguVerif.Theorems.C02Two.update_delete_between
