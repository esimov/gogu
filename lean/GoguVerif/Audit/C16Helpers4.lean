import GoguVerif.Theorems.C16Helpers4
-- store-level models, fourth batch (Model/StoreHelpers4.lean)
#print axioms GoguVerif.Theorems.C16Helpers4.flatten_refines
#print axioms GoguVerif.Theorems.C16Helpers4.flatten_no_panic
#print axioms GoguVerif.Theorems.C16Helpers4.union_refines
#print axioms GoguVerif.Theorems.C16Helpers4.range_refines
#print axioms GoguVerif.Theorems.C16Helpers4.range_disciplined
#print axioms GoguVerif.Theorems.C16Helpers4.range_ok_or_err
#print axioms GoguVerif.Theorems.C16Helpers4.rangeRight_refines
#print axioms GoguVerif.Theorems.C16Helpers4.keys_refines
#print axioms GoguVerif.Theorems.C16Helpers4.values_refines
#print axioms GoguVerif.Theorems.C16Helpers4.mapCollection_refines
#print axioms GoguVerif.Theorems.C16Helpers4.mapFill_disciplined
#print axioms GoguVerif.Theorems.C16Helpers4.keys_disciplined
#print axioms GoguVerif.Theorems.C16Helpers4.values_disciplined
#print axioms GoguVerif.Theorems.C16Helpers4.mapCollection_disciplined
#print axioms GoguVerif.Theorems.C16Helpers4.pluckStore_eq
#print axioms GoguVerif.Theorems.C16Helpers4.pluck_refines
#print axioms GoguVerif.Theorems.C16Helpers4.pluck_disciplined
#print axioms GoguVerif.Theorems.C16Helpers4.mstore_push
#print axioms GoguVerif.Theorems.C16Helpers4.findAll_refines
#print axioms GoguVerif.Theorems.C16Helpers4.sliceToMap_refines
#print axioms GoguVerif.Theorems.C16Helpers4.covered4_agree_with_table
-- the lemmas they rest on (Lemmas/C16Helpers4.lean)
#print axioms GoguVerif.Lemmas.C16Helpers4.baseFlattenStore_sim12
#print axioms GoguVerif.Lemmas.C16Helpers4.flattenRangeStore_sim12
#print axioms GoguVerif.Lemmas.C16Helpers4.baseFlattenStore_sim11
#print axioms GoguVerif.Lemmas.C16Helpers4.flattenRangeStore_sim11
#print axioms GoguVerif.Lemmas.C16Helpers4.rangeUpLoop_eq
#print axioms GoguVerif.Lemmas.C16Helpers4.abs_eq
#print axioms GoguVerif.Lemmas.C16Helpers4.rangeDownLoop_eq
#print axioms GoguVerif.Lemmas.C16Helpers4.rangeLoopsStore_eq
#print axioms GoguVerif.Lemmas.C16Helpers4.rangeStore_eq
#print axioms GoguVerif.Lemmas.C16Helpers4.mapFillLoop_eq_writeAll
#print axioms GoguVerif.Lemmas.C16Helpers4.mapFillStoreIn_spec
#print axioms GoguVerif.Lemmas.C16Helpers4.c14_pluckLoop_acc
#print axioms GoguVerif.Lemmas.C16Helpers4.pluckLoopS_eq
#print axioms GoguVerif.Lemmas.C16Helpers4.findAllLoopS_eq
#print axioms GoguVerif.Lemmas.C16Helpers4.sliceToMapLoopS_eq
