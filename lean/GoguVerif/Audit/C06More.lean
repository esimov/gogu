import GoguVerif.Theorems.C06More
#print axioms GoguVerif.Theorems.C06More.run_cons
#print axioms GoguVerif.Theorems.C06More.run_append
#print axioms GoguVerif.Theorems.C06More.run_length
#print axioms GoguVerif.Theorems.C06More.observation
#print axioms GoguVerif.Theorems.C06More.snoc_cases
#print axioms GoguVerif.Theorems.C06More.step_pop_nil
#print axioms GoguVerif.Theorems.C06More.conservation_perm
#print axioms GoguVerif.Theorems.C06More.content_sublist
#print axioms GoguVerif.Theorems.C06More.size_eq_depth
#print axioms GoguVerif.Theorems.C06More.depth_counts
#print axioms GoguVerif.Theorems.C06More.final_size
#print axioms GoguVerif.Theorems.C06More.size_observation
#print axioms GoguVerif.Theorems.C06More.balanced_restores
#print axioms GoguVerif.Theorems.C06More.pop_returns_matching_push
#print axioms GoguVerif.Theorems.C06More.run_readOnly
#print axioms GoguVerif.Theorems.C06More.peek_then_pop
#print axioms GoguVerif.Theorems.C06More.search_observation
#print axioms GoguVerif.Theorems.C06More.search_true_was_pushed
#print axioms GoguVerif.Theorems.C06More.pop_empty_observation
#print axioms GoguVerif.Theorems.C06More.balanced_append
#print axioms GoguVerif.Theorems.C06More.open_push_or_initial
#print axioms GoguVerif.Theorems.C06More.stack_conservation_perm
#print axioms GoguVerif.Theorems.C06More.stack_content_sublist
#print axioms GoguVerif.Theorems.C06More.stack_depth_counts
#print axioms GoguVerif.Theorems.C06More.stack_size_observation
#print axioms GoguVerif.Theorems.C06More.stack_pop_returns_matching_push
#print axioms GoguVerif.Theorems.C06More.stack_peek_then_pop
#print axioms GoguVerif.Theorems.C06More.stack_search_observation
#print axioms GoguVerif.Theorems.C06More.stack_open_push_or_initial
