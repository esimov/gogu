import GoguVerif.Theorems.C16Helpers3
import GoguVerif.Theorems.C16Helpers4
import GoguVerif.Theorems.C16Helpers5
import GoguVerif.Theorems.C16Views
import GoguVerif.Theorems.C16Helpers2
import GoguVerif.Theorems.C16
import GoguVerif.Theorems.C16Helpers
open GoguVerif.Theorems.C16
#print axioms allow_lists_agree
#print axioms effects_ok
#print axioms effects_exact
#print axioms run_frame
#print axioms step_frame
#print axioms step_regs_fresh_or_view
#print axioms run_views_only
#print axioms write_back_same
#print axioms runInPlace_frame
#print axioms undisciplined_append_writes
-- store-level models of concrete helpers (Model/StoreHelpers.lean): refinement, frame, aliasing
#print axioms GoguVerif.Theorems.C16Helpers.frame_keeps
#print axioms GoguVerif.Theorems.C16Helpers.builder_post
#print axioms GoguVerif.Theorems.C16Helpers.run_alloc_appends
#print axioms GoguVerif.Theorems.C16Helpers.filter_refines
#print axioms GoguVerif.Theorems.C16Helpers.filter_disciplined
#print axioms GoguVerif.Theorems.C16Helpers.dropWhile_refines
#print axioms GoguVerif.Theorems.C16Helpers.dropWhile_disciplined
#print axioms GoguVerif.Theorems.C16Helpers.unique_refines
#print axioms GoguVerif.Theorems.C16Helpers.unique_disciplined
#print axioms GoguVerif.Theorems.C16Helpers.without_refines
#print axioms GoguVerif.Theorems.C16Helpers.without_disciplined
#print axioms GoguVerif.Theorems.C16Helpers.map_refines
#print axioms GoguVerif.Theorems.C16Helpers.merge_refines
#print axioms GoguVerif.Theorems.C16Helpers.mergeOld_breaks_frame
#print axioms GoguVerif.Theorems.C16Helpers.drop_refines
#print axioms GoguVerif.Theorems.C16Helpers.chunk_refines
#print axioms GoguVerif.Theorems.C16Helpers.chunk_panics
#print axioms GoguVerif.Theorems.C16Helpers.inplace_keeps
#print axioms GoguVerif.Theorems.C16Helpers.reverse_refines
#print axioms GoguVerif.Theorems.C16Helpers.reject_refines
#print axioms GoguVerif.Theorems.C16Helpers.filter_result_survives_merge
#print axioms GoguVerif.Theorems.C16Helpers.map_disciplined
#print axioms GoguVerif.Theorems.C16Helpers.difference_refines
#print axioms GoguVerif.Theorems.C16Helpers.difference_disciplined
#print axioms GoguVerif.Theorems.C16Helpers.uniqueBy_refines
#print axioms GoguVerif.Theorems.C16Helpers.uniqueBy_disciplined
#print axioms GoguVerif.Theorems.C16Helpers.dropRightWhile_refines
#print axioms GoguVerif.Theorems.C16Helpers.dropRightWhile_disciplined
#print axioms GoguVerif.Theorems.C16Helpers.toSlice_refines
#print axioms GoguVerif.Theorems.C16Helpers.partition_refines
#print axioms GoguVerif.Theorems.C16Helpers.reverse_is_runInPlace
#print axioms GoguVerif.Theorems.C16Helpers.mergeOld_writes_spare
#print axioms GoguVerif.Theorems.C16Helpers.shuffle_refines
#print axioms GoguVerif.Theorems.C16Helpers.intersection_refines
#print axioms GoguVerif.Theorems.C16Helpers.intersection_no_argument
#print axioms GoguVerif.Theorems.C16Helpers.intersection_disciplined
#print axioms GoguVerif.Theorems.C16Helpers.covered_agree_with_table
-- C16Helpers2
#print axioms GoguVerif.Theorems.C16Helpers2.differenceByStore_eq
#print axioms GoguVerif.Theorems.C16Helpers2.differenceBy_refines
#print axioms GoguVerif.Theorems.C16Helpers2.differenceBy_disciplined
#print axioms GoguVerif.Theorems.C16Helpers2.duplicateStoreIn_eq
#print axioms GoguVerif.Theorems.C16Helpers2.duplicate_any_order
#print axioms GoguVerif.Theorems.C16Helpers2.duplicate_any_order_disciplined
#print axioms GoguVerif.Theorems.C16Helpers2.duplicate_refines
#print axioms GoguVerif.Theorems.C16Helpers2.duplicate_disciplined
#print axioms GoguVerif.Theorems.C16Helpers2.wf_argd
#print axioms GoguVerif.Theorems.C16Helpers2.intersectionByStore_eq
#print axioms GoguVerif.Theorems.C16Helpers2.intersectionBy_refines
#print axioms GoguVerif.Theorems.C16Helpers2.intersectionBy_no_argument
#print axioms GoguVerif.Theorems.C16Helpers2.intersectionBy_disciplined
#print axioms GoguVerif.Theorems.C16Helpers2.square_map_elems
#print axioms GoguVerif.Theorems.C16Helpers2.zipWith_simulates
#print axioms GoguVerif.Theorems.C16Helpers2.zipWith_refines
#print axioms GoguVerif.Theorems.C16Helpers2.zipWith_panics
#print axioms GoguVerif.Theorems.C16Helpers2.zip_refines
#print axioms GoguVerif.Theorems.C16Helpers2.unzip_refines
#print axioms GoguVerif.Theorems.C16Helpers2.zip_panics
#print axioms GoguVerif.Theorems.C16Helpers2.unzip_panics
#print axioms GoguVerif.Theorems.C16Helpers2.zipWith_run
#print axioms GoguVerif.Theorems.C16Helpers2.zip_disciplined
#print axioms GoguVerif.Theorems.C16Helpers2.unzip_disciplined
#print axioms GoguVerif.Theorems.C16Helpers2.wf_z
#print axioms GoguVerif.Theorems.C16Helpers2.covered2_agree_with_table
#print axioms GoguVerif.Lemmas.C16Helpers2.skipByLoop_eq
#print axioms GoguVerif.Lemmas.C16Helpers2.differenceByLoop_eq
#print axioms GoguVerif.Lemmas.C16Helpers2.hasKey_eq
#print axioms GoguVerif.Lemmas.C16Helpers2.incrKey_eq
#print axioms GoguVerif.Lemmas.C16Helpers2.dupCountLoop_eq
#print axioms GoguVerif.Lemmas.C16Helpers2.dupCollectLoop_eq
#print axioms GoguVerif.Lemmas.C16Helpers2.hasStore_eq
#print axioms GoguVerif.Lemmas.C16Helpers2.interByScan_eq
#print axioms GoguVerif.Lemmas.C16Helpers2.interByLoop_eq
#print axioms GoguVerif.Lemmas.C16Helpers2.RowsInv.nil
#print axioms GoguVerif.Lemmas.C16Helpers2.RowsInv.alloc
#print axioms GoguVerif.Lemmas.C16Helpers2.read2_sim
#print axioms GoguVerif.Lemmas.C16Helpers2.RowsInv.write2
#print axioms GoguVerif.Lemmas.C16Helpers2.Sim.elim
#print axioms GoguVerif.Lemmas.C16Helpers2.zipCellLoop_sim
#print axioms GoguVerif.Lemmas.C16Helpers2.zipColLoop_sim
#print axioms GoguVerif.Lemmas.C16Helpers2.elems_nilSlice
#print axioms GoguVerif.Lemmas.C16Helpers2.zipRowsLoop_sim
#print axioms GoguVerif.Lemmas.C16Helpers2.firstLen_eq
#print axioms GoguVerif.Lemmas.C16Helpers2.zipWithStore_sim
#print axioms GoguVerif.Lemmas.C16Helpers2.Sim.of_some
#print axioms GoguVerif.Lemmas.C16Helpers2.Sim.of_ok
#print axioms GoguVerif.Lemmas.C16Helpers2.Sim.of_panic
#print axioms GoguVerif.Lemmas.C16Helpers2.run_append
#print axioms GoguVerif.Lemmas.C16Helpers2.at2_of_get2
-- views
#print axioms GoguVerif.Theorems.C16Views.inplace_alters_only_overlapping
#print axioms GoguVerif.Theorems.C16Views.reverse_after_drop_alters_view
-- C16Helpers3
#print axioms GoguVerif.Theorems.C16Helpers3.fromSliceStore_step
#print axioms GoguVerif.Theorems.C16Helpers3.fromSlice_inplace
#print axioms GoguVerif.Theorems.C16Helpers3.fromSlice_keeps
#print axioms GoguVerif.Theorems.C16Helpers3.fromSlice_spare_untouched
#print axioms GoguVerif.Theorems.C16Helpers3.fromSlice_is_runInPlace
#print axioms GoguVerif.Theorems.C16Helpers3.wf_argh
#print axioms GoguVerif.Theorems.C16Helpers3.fromSlice_nonstrict_never_ends
#print axioms GoguVerif.Theorems.C16Helpers3.sort_refines
#print axioms GoguVerif.Theorems.C16Helpers3.sort_keeps
#print axioms GoguVerif.Theorems.C16Helpers3.omitBy_refines
#print axioms GoguVerif.Theorems.C16Helpers3.omitBy_kept_gone
#print axioms GoguVerif.Theorems.C16Helpers3.omit_refines
#print axioms GoguVerif.Theorems.C16Helpers3.omit_kept_gone
#print axioms GoguVerif.Theorems.C16Helpers3.mstore_ext
#print axioms GoguVerif.Theorems.C16Helpers3.omitBy_order_independent
#print axioms GoguVerif.Theorems.C16Helpers3.omit_order_independent
#print axioms GoguVerif.Theorems.C16Helpers3.wf_keysx
#print axioms GoguVerif.Theorems.C16Helpers3.covered3_agree_with_table
#print axioms GoguVerif.Lemmas.C16Helpers3.runInPlace_none
#print axioms GoguVerif.Lemmas.C16Helpers3.runInPlace_append
#print axioms GoguVerif.Lemmas.C16Helpers3.Step.refl
#print axioms GoguVerif.Lemmas.C16Helpers3.Step.trans
#print axioms GoguVerif.Lemmas.C16Helpers3.Step.wf
#print axioms GoguVerif.Lemmas.C16Helpers3.swapStore_step
#print axioms GoguVerif.Lemmas.C16Helpers3.swapI_step
#print axioms GoguVerif.Lemmas.C16Helpers3.siftLoop_step
#print axioms GoguVerif.Lemmas.C16Helpers3.fromSliceLoop_step
#print axioms GoguVerif.Lemmas.C16Helpers3.moveDownStore_step
#print axioms GoguVerif.Lemmas.C16Helpers3.sortLoop_step
#print axioms GoguVerif.Lemmas.C16Helpers3.getValuesStore_spec
#print axioms GoguVerif.Lemmas.C16Helpers3.mget_mdelete_same
#print axioms GoguVerif.Lemmas.C16Helpers3.mdelete_other
#print axioms GoguVerif.Lemmas.C16Helpers3.mdelete_length
#print axioms GoguVerif.Lemmas.C16Helpers3.omitByLoopM_spec
#print axioms GoguVerif.Lemmas.C16Helpers3.omitLoopM_eq
-- fourth batch of store-level models (Model/StoreHelpers4.lean): Flatten, Union, Range, RangeRight, Keys, Values, MapCollection, Pluck, FindAll, SliceToMap
#print axioms GoguVerif.Theorems.C16Helpers4.flatten_refines
#print axioms GoguVerif.Theorems.C16Helpers4.flatten_no_panic
#print axioms GoguVerif.Theorems.C16Helpers4.union_refines
#print axioms GoguVerif.Theorems.C16Helpers4.range_refines
#print axioms GoguVerif.Theorems.C16Helpers4.range_disciplined
#print axioms GoguVerif.Theorems.C16Helpers4.range_ok_or_err
#print axioms GoguVerif.Theorems.C16Helpers4.rangeRight_refines
#print axioms GoguVerif.Theorems.C16Helpers4.keys_refines
#print axioms GoguVerif.Theorems.C16Helpers4.values_refines
#print axioms GoguVerif.Theorems.C16Helpers4.mapCollection_refines
#print axioms GoguVerif.Theorems.C16Helpers4.mapFill_disciplined
#print axioms GoguVerif.Theorems.C16Helpers4.keys_disciplined
#print axioms GoguVerif.Theorems.C16Helpers4.values_disciplined
#print axioms GoguVerif.Theorems.C16Helpers4.mapCollection_disciplined
#print axioms GoguVerif.Theorems.C16Helpers4.pluckStore_eq
#print axioms GoguVerif.Theorems.C16Helpers4.pluck_refines
#print axioms GoguVerif.Theorems.C16Helpers4.pluck_disciplined
#print axioms GoguVerif.Theorems.C16Helpers4.mstore_push
#print axioms GoguVerif.Theorems.C16Helpers4.findAll_refines
#print axioms GoguVerif.Theorems.C16Helpers4.sliceToMap_refines
#print axioms GoguVerif.Theorems.C16Helpers4.covered4_agree_with_table
#print axioms GoguVerif.Lemmas.C16Helpers4.baseFlattenStore_sim12
#print axioms GoguVerif.Lemmas.C16Helpers4.flattenRangeStore_sim12
#print axioms GoguVerif.Lemmas.C16Helpers4.baseFlattenStore_sim11
#print axioms GoguVerif.Lemmas.C16Helpers4.flattenRangeStore_sim11
#print axioms GoguVerif.Lemmas.C16Helpers4.rangeUpLoop_eq
#print axioms GoguVerif.Lemmas.C16Helpers4.abs_eq
#print axioms GoguVerif.Lemmas.C16Helpers4.rangeDownLoop_eq
#print axioms GoguVerif.Lemmas.C16Helpers4.rangeLoopsStore_eq
#print axioms GoguVerif.Lemmas.C16Helpers4.rangeStore_eq
#print axioms GoguVerif.Lemmas.C16Helpers4.mapFillLoop_eq_writeAll
#print axioms GoguVerif.Lemmas.C16Helpers4.mapFillStoreIn_spec
#print axioms GoguVerif.Lemmas.C16Helpers4.c14_pluckLoop_acc
#print axioms GoguVerif.Lemmas.C16Helpers4.pluckLoopS_eq
#print axioms GoguVerif.Lemmas.C16Helpers4.findAllLoopS_eq
#print axioms GoguVerif.Lemmas.C16Helpers4.sliceToMapLoopS_eq
-- fifth batch (Model/StoreHelpers5.lean): the twelve map-to-map helpers in full; GroupBy and DuplicateWithIndex: frame and freshness (…_frame_partial)
#print axioms GoguVerif.Theorems.C16Helpers5.MFresh.push
#print axioms GoguVerif.Theorems.C16Helpers5.MFresh.arg
#print axioms GoguVerif.Theorems.C16Helpers5.filterMap_refines
#print axioms GoguVerif.Theorems.C16Helpers5.filterMap_any_order
#print axioms GoguVerif.Theorems.C16Helpers5.mapValues_refines
#print axioms GoguVerif.Theorems.C16Helpers5.mapKeys_refines
#print axioms GoguVerif.Theorems.C16Helpers5.mapUnique_refines
#print axioms GoguVerif.Theorems.C16Helpers5.findByKey_refines
#print axioms GoguVerif.Theorems.C16Helpers5.pickBy_refines
#print axioms GoguVerif.Theorems.C16Helpers5.pick_refines
#print axioms GoguVerif.Theorems.C16Helpers5.c14_find_eq
#print axioms GoguVerif.Theorems.C16Helpers5.find_refines
#print axioms GoguVerif.Theorems.C16Helpers5.invert_refines
#print axioms GoguVerif.Theorems.C16Helpers5.filterMapCollection_refines
#print axioms GoguVerif.Theorems.C16Helpers5.filter2DMapCollection_refines
#print axioms GoguVerif.Theorems.C16Helpers5.partitionMap_refines
#print axioms GoguVerif.Theorems.C16Helpers5.groupBy_frame_partial
#print axioms GoguVerif.Theorems.C16Helpers5.duplicateWithIndex_frame_partial
#print axioms GoguVerif.Theorems.C16Helpers5.covered5_agree_with_table
#print axioms GoguVerif.Theorems.C16Helpers5.covered5_partial_agree_with_table
