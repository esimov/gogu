import GoguVerif.Theorems.C20More
/-! Axiom audit for Theorems/C20More.lean (allowed: propext, Classical.choice, Quot.sound) -/
#print axioms GoguVerif.Theorems.C20More.wake_step_fields
#print axioms GoguVerif.Theorems.C20More.trigger_after_period_granted
#print axioms GoguVerif.Theorems.C20More.next_takes_waiting_permission
#print axioms GoguVerif.Theorems.C20More.tstep_call_armed
#print axioms GoguVerif.Theorems.C20More.tstep_call_at_end
#print axioms GoguVerif.Theorems.C20More.trailing_trigger_kept
#print axioms GoguVerif.Theorems.C20More.kept_step
#print axioms GoguVerif.Theorems.C20More.trailing_trigger_kept_eventually
#print axioms GoguVerif.Theorems.C20More.fold_n
#print axioms GoguVerif.Theorems.C20More.trun_n
#print axioms GoguVerif.Theorems.C20More.lost_forever_state
#print axioms GoguVerif.Theorems.C20More.not_trailing_trigger_in_period_lost_forever
#print axioms GoguVerif.Theorems.C20More.skipAt_const
#print axioms GoguVerif.Theorems.C20More.not_trailing_trigger_in_period_lost_forever'
