import GoguVerif.Theorems.C16Helpers3
-- store-level models of the remaining in-place helpers (Model/StoreHelpers3.lean): heap.FromSlice, heap.Sort, Omit, OmitBy
#print axioms GoguVerif.Theorems.C16Helpers3.fromSliceStore_step
#print axioms GoguVerif.Theorems.C16Helpers3.fromSlice_inplace
#print axioms GoguVerif.Theorems.C16Helpers3.fromSlice_keeps
#print axioms GoguVerif.Theorems.C16Helpers3.fromSlice_spare_untouched
#print axioms GoguVerif.Theorems.C16Helpers3.fromSlice_is_runInPlace
#print axioms GoguVerif.Theorems.C16Helpers3.wf_argh
#print axioms GoguVerif.Theorems.C16Helpers3.fromSlice_nonstrict_never_ends
#print axioms GoguVerif.Theorems.C16Helpers3.sort_refines
#print axioms GoguVerif.Theorems.C16Helpers3.sort_keeps
#print axioms GoguVerif.Theorems.C16Helpers3.omitBy_refines
#print axioms GoguVerif.Theorems.C16Helpers3.omitBy_kept_gone
#print axioms GoguVerif.Theorems.C16Helpers3.omit_refines
#print axioms GoguVerif.Theorems.C16Helpers3.omit_kept_gone
#print axioms GoguVerif.Theorems.C16Helpers3.mstore_ext
#print axioms GoguVerif.Theorems.C16Helpers3.omitBy_order_independent
#print axioms GoguVerif.Theorems.C16Helpers3.omit_order_independent
#print axioms GoguVerif.Theorems.C16Helpers3.wf_keysx
#print axioms GoguVerif.Theorems.C16Helpers3.covered3_agree_with_table
-- the lemmas they rest on (Lemmas/C16Helpers3.lean)
#print axioms GoguVerif.Lemmas.C16Helpers3.runInPlace_none
#print axioms GoguVerif.Lemmas.C16Helpers3.runInPlace_append
#print axioms GoguVerif.Lemmas.C16Helpers3.Step.refl
#print axioms GoguVerif.Lemmas.C16Helpers3.Step.trans
#print axioms GoguVerif.Lemmas.C16Helpers3.Step.wf
#print axioms GoguVerif.Lemmas.C16Helpers3.swapStore_step
#print axioms GoguVerif.Lemmas.C16Helpers3.swapI_step
#print axioms GoguVerif.Lemmas.C16Helpers3.siftLoop_step
#print axioms GoguVerif.Lemmas.C16Helpers3.fromSliceLoop_step
#print axioms GoguVerif.Lemmas.C16Helpers3.moveDownStore_step
#print axioms GoguVerif.Lemmas.C16Helpers3.sortLoop_step
#print axioms GoguVerif.Lemmas.C16Helpers3.getValuesStore_spec
#print axioms GoguVerif.Lemmas.C16Helpers3.mget_mdelete_same
#print axioms GoguVerif.Lemmas.C16Helpers3.mdelete_other
#print axioms GoguVerif.Lemmas.C16Helpers3.mdelete_length
#print axioms GoguVerif.Lemmas.C16Helpers3.omitByLoopM_spec
#print axioms GoguVerif.Lemmas.C16Helpers3.omitLoopM_eq
