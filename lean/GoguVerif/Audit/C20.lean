import GoguVerif.Theorems.C20More
import GoguVerif.Theorems.C20
import GoguVerif.Theorems.C20M
import GoguVerif.Theorems.C20Late
open GoguVerif.Theorems.C20
-- debounce
#print axioms debounce_fire_ok
#print axioms debounce_fire_exact
#print axioms debounce_between_advances
#print axioms debounce_at_most_once
#print axioms debounce_unique
#print axioms debounce_pending
#print axioms debounce_completeness
#print axioms fireOKb_iff
-- throttle
#print axioms throttle_spacing
#print axioms throttle_spacing_pairs
#print axioms throttle_triggered
#print axioms throttle_calls_epoch
#print axioms wake_one_permission
#print axioms throttle_blocked
#print axioms tcancel_spec
#print axioms stop_step
#print axioms no_permission_after_cancel
#print axioms cancel_releases_blocked
#print axioms in_period_trigger_dropped
#print axioms waiting_trigger_coalesced
-- delay
#print axioms delay_never_early
-- throttle: steps and positions
#print axioms throttle_step_one_permission
#print axioms trun_now
#print axioms trun_grants_prefix
#print axioms calls_positions
#print axioms throttle_trigger_position
-- delay: specification, at most once, not after stop, completeness
#print axioms delay_ok
#print axioms delay_at_most_once
#print axioms delay_no_run_after_stop
#print axioms delay_completeness
-- the debounce monitor accepts the model
#print axioms dmon_accepts_model
-- the delay monitor accepts the model
#print axioms lmon_accepts_model
-- the throttle monitor accepts the model (Theorems/C20M.lean)
#print axioms tmonStep_sync
#print axioms tmon_accepts_model
-- the delay monitor accepts the sorted log; the debounce kind's call-number translation
#print axioms lonFired_accepts_perm
#print axioms sortFires_perm
#print axioms lmon_accepts_model_sorted
#print axioms noOfPos_roundtrip
-- throttle: the callback as in the code; timers that run late (F36)
#print axioms GoguVerif.Theorems.C20Late.trunCode_eq_trun
#print axioms GoguVerif.Theorems.C20Late.late_spacing
#print axioms GoguVerif.Theorems.C20Late.late_spacing_pairs
#print axioms GoguVerif.Theorems.C20Late.late_old_violates
-- C20More
#print axioms GoguVerif.Theorems.C20More.wake_step_fields
#print axioms GoguVerif.Theorems.C20More.trigger_after_period_granted
#print axioms GoguVerif.Theorems.C20More.next_takes_waiting_permission
#print axioms GoguVerif.Theorems.C20More.tstep_call_armed
#print axioms GoguVerif.Theorems.C20More.tstep_call_at_end
#print axioms GoguVerif.Theorems.C20More.trailing_trigger_kept
#print axioms GoguVerif.Theorems.C20More.kept_step
#print axioms GoguVerif.Theorems.C20More.trailing_trigger_kept_eventually
#print axioms GoguVerif.Theorems.C20More.fold_n
#print axioms GoguVerif.Theorems.C20More.trun_n
#print axioms GoguVerif.Theorems.C20More.lost_forever_state
#print axioms GoguVerif.Theorems.C20More.not_trailing_trigger_in_period_lost_forever
#print axioms GoguVerif.Theorems.C20More.skipAt_const
#print axioms GoguVerif.Theorems.C20More.not_trailing_trigger_in_period_lost_forever'
-- debounce: goroutines of expired timers that start late (F37, F46)
#print axioms GoguVerif.Theorems.C20Late.dlrun_inv
#print axioms GoguVerif.Theorems.C20Late.dlate_runs_ok_partial
#print axioms GoguVerif.Theorems.C20Late.dlate_full_false
#print axioms GoguVerif.Theorems.C20Late.dl_lastEv
#print axioms GoguVerif.Theorems.C20Late.dlate_old_runs_after_cancel
#print axioms GoguVerif.Theorems.C20Late.dlate_old_runs_early
