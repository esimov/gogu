import GoguVerif.Theorems.C16Helpers2
-- store-level models of further helpers (Model/StoreHelpers2.lean): refinement, frame, discipline
#print axioms GoguVerif.Theorems.C16Helpers2.differenceByStore_eq
#print axioms GoguVerif.Theorems.C16Helpers2.differenceBy_refines
#print axioms GoguVerif.Theorems.C16Helpers2.differenceBy_disciplined
#print axioms GoguVerif.Theorems.C16Helpers2.duplicateStoreIn_eq
#print axioms GoguVerif.Theorems.C16Helpers2.duplicate_any_order
#print axioms GoguVerif.Theorems.C16Helpers2.duplicate_any_order_disciplined
#print axioms GoguVerif.Theorems.C16Helpers2.duplicate_refines
#print axioms GoguVerif.Theorems.C16Helpers2.duplicate_disciplined
#print axioms GoguVerif.Theorems.C16Helpers2.wf_argd
#print axioms GoguVerif.Theorems.C16Helpers2.intersectionByStore_eq
#print axioms GoguVerif.Theorems.C16Helpers2.intersectionBy_refines
#print axioms GoguVerif.Theorems.C16Helpers2.intersectionBy_no_argument
#print axioms GoguVerif.Theorems.C16Helpers2.intersectionBy_disciplined
#print axioms GoguVerif.Theorems.C16Helpers2.square_map_elems
#print axioms GoguVerif.Theorems.C16Helpers2.zipWith_simulates
#print axioms GoguVerif.Theorems.C16Helpers2.zipWith_refines
#print axioms GoguVerif.Theorems.C16Helpers2.zipWith_panics
#print axioms GoguVerif.Theorems.C16Helpers2.zip_refines
#print axioms GoguVerif.Theorems.C16Helpers2.unzip_refines
#print axioms GoguVerif.Theorems.C16Helpers2.zip_panics
#print axioms GoguVerif.Theorems.C16Helpers2.unzip_panics
#print axioms GoguVerif.Theorems.C16Helpers2.zipWith_run
#print axioms GoguVerif.Theorems.C16Helpers2.zip_disciplined
#print axioms GoguVerif.Theorems.C16Helpers2.unzip_disciplined
#print axioms GoguVerif.Theorems.C16Helpers2.wf_z
#print axioms GoguVerif.Theorems.C16Helpers2.covered2_agree_with_table
-- the lemmas they rest on (Lemmas/C16Helpers2.lean)
#print axioms GoguVerif.Lemmas.C16Helpers2.skipByLoop_eq
#print axioms GoguVerif.Lemmas.C16Helpers2.differenceByLoop_eq
#print axioms GoguVerif.Lemmas.C16Helpers2.hasKey_eq
#print axioms GoguVerif.Lemmas.C16Helpers2.incrKey_eq
#print axioms GoguVerif.Lemmas.C16Helpers2.dupCountLoop_eq
#print axioms GoguVerif.Lemmas.C16Helpers2.dupCollectLoop_eq
#print axioms GoguVerif.Lemmas.C16Helpers2.hasStore_eq
#print axioms GoguVerif.Lemmas.C16Helpers2.interByScan_eq
#print axioms GoguVerif.Lemmas.C16Helpers2.interByLoop_eq
#print axioms GoguVerif.Lemmas.C16Helpers2.RowsInv.nil
#print axioms GoguVerif.Lemmas.C16Helpers2.RowsInv.alloc
#print axioms GoguVerif.Lemmas.C16Helpers2.read2_sim
#print axioms GoguVerif.Lemmas.C16Helpers2.RowsInv.write2
#print axioms GoguVerif.Lemmas.C16Helpers2.Sim.elim
#print axioms GoguVerif.Lemmas.C16Helpers2.zipCellLoop_sim
#print axioms GoguVerif.Lemmas.C16Helpers2.zipColLoop_sim
#print axioms GoguVerif.Lemmas.C16Helpers2.elems_nilSlice
#print axioms GoguVerif.Lemmas.C16Helpers2.zipRowsLoop_sim
#print axioms GoguVerif.Lemmas.C16Helpers2.firstLen_eq
#print axioms GoguVerif.Lemmas.C16Helpers2.zipWithStore_sim
#print axioms GoguVerif.Lemmas.C16Helpers2.Sim.of_some
#print axioms GoguVerif.Lemmas.C16Helpers2.Sim.of_ok
#print axioms GoguVerif.Lemmas.C16Helpers2.Sim.of_panic
#print axioms GoguVerif.Lemmas.C16Helpers2.run_append
#print axioms GoguVerif.Lemmas.C16Helpers2.at2_of_get2
