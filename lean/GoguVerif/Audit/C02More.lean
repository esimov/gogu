import GoguVerif.Theorems.C02More
#print axioms GoguVerif.Theorems.C02More.legal_cons_inv
#print axioms GoguVerif.Theorems.C02More.legal_nil_inv
#print axioms GoguVerif.Theorems.C02More.mem_linOps
#print axioms GoguVerif.Theorems.C02More.linOps_invoked
#print axioms GoguVerif.Theorems.C02More.lin_mem_linOps
#print axioms GoguVerif.Theorems.C02More.ret_id_lt
#print axioms GoguVerif.Theorems.C02More.openInv
#print axioms GoguVerif.Theorems.C02More.ret_unique
#print axioms GoguVerif.Theorems.C02More.lin_returned_or_done
#print axioms GoguVerif.Theorems.C02More.inv_linearized_or_pending
#print axioms GoguVerif.Theorems.C02More.find_store
#print axioms GoguVerif.Theorems.C02More.live_expOf
#print axioms GoguVerif.Theorems.C02More.set_free
#print axioms GoguVerif.Theorems.C02More.set_held
#print axioms GoguVerif.Theorems.C02More.race_losers
#print axioms GoguVerif.Theorems.C02More.race_sequential
#print axioms GoguVerif.Theorems.C02More.race_sequential_count
#print axioms GoguVerif.Theorems.C02More.successes_pos
#print axioms GoguVerif.Theorems.C02More.successes_append
#print axioms GoguVerif.Theorems.C02More.lin_success_unique
#print axioms GoguVerif.Theorems.C02More.race_linearizable
#print axioms GoguVerif.Theorems.C02More.race_at_most_one_success
#print axioms GoguVerif.Theorems.C02More.race_at_most_one_granted
#print axioms GoguVerif.Theorems.C02More.race_exactly_one_granted
#print axioms GoguVerif.Theorems.C02More.model_legal_abs
#print axioms GoguVerif.Theorems.C02More.race_sequential_model
#print axioms GoguVerif.Theorems.C02More.race_linearizable_model
#print axioms GoguVerif.Theorems.C02More.insert_length
#print axioms GoguVerif.Theorems.C02More.put_held
#print axioms GoguVerif.Theorems.C02More.put_last
#print axioms GoguVerif.Theorems.C02More.put_race_sequential
#print axioms GoguVerif.Theorems.C02More.put_race_linearizable
