/-! Facts about core `List` that more than one property chain needs and core Lean does not state: reading `l ++ [a]`,
a list without one element of its middle (plain and keyed), a fold that appends, an insertion by its equations, a loop
that exchanges the ends of a window, `eraseDups`.  Nothing of the project is mentioned here. -/
namespace GoguVerif.Lemmas.ListFacts

variable {α : Type _}

theorem getElem?_snoc_cases {l : List α} {a b : α} {i : Nat} (h : (l ++ [a])[i]? = some b) :
    (i < l.length ∧ l[i]? = some b) ∨ (i = l.length ∧ b = a) := by
  rcases Nat.lt_trichotomy i l.length with hi | hi | hi
  · rw [List.getElem?_append_left hi] at h; exact Or.inl ⟨hi, h⟩
  · rw [hi, List.getElem?_concat_length] at h; cases h; exact Or.inr ⟨hi, rfl⟩
  · rw [List.getElem?_eq_none (by rw [List.length_append, List.length_singleton]; exact hi)] at h; cases h

theorem nodup_middle {a b : List α} {x : α} : (a ++ x :: b).Nodup ↔ x ∉ a ++ b ∧ (a ++ b).Nodup := by
  rw [List.perm_middle.nodup_iff, List.nodup_cons]

theorem nodup_map_middle {β : Type _} {f : α → β} {a b : List α} {x : α} (h : ((a ++ x :: b).map f).Nodup) :
    f x ∉ a.map f ∧ f x ∉ b.map f ∧ ((a ++ b).map f).Nodup := by
  rw [List.map_append, List.map_cons, nodup_middle, List.mem_append, not_or, ← List.map_append] at h
  exact ⟨h.1.1, h.1.2, h.2⟩

theorem foldl_snoc_map {β : Type _} (f : α → β) (l : List α) (init : List β) :
    l.foldl (fun r p => r ++ [f p]) init = init ++ l.map f := by
  induction l generalizing init with
  | nil => simp
  | cons v r ih => simp [ih]

theorem foldl_snoc (l init : List α) : l.foldl (fun r x => r ++ [x]) init = init ++ l :=
  (foldl_snoc_map id l init).trans (by rw [List.map_id])

/-- an insertion into a list, given by its two equations (`c` is its test), permutes -/
theorem insert_perm {ins : α → List α → List α} {c : α → α → Prop} [∀ a b, Decidable (c a b)]
    (hnil : ∀ x, ins x [] = [x])
    (hcons : ∀ x y r, ins x (y :: r) = if c x y then x :: y :: r else y :: ins x r) (x : α) (l : List α) :
    (ins x l).Perm (x :: l) := by
  induction l with
  | nil => rw [hnil]
  | cons y r ih =>
    rw [hcons]
    split
    · exact .refl _
    · exact (ih.cons y).trans (.swap x y r)

theorem insert_sorted {ins : α → List α → List α} {c : α → α → Prop} [∀ a b, Decidable (c a b)]
    (hnil : ∀ x, ins x [] = [x])
    (hcons : ∀ x y r, ins x (y :: r) = if c x y then x :: y :: r else y :: ins x r)
    (htrans : ∀ a b d, c a b → c b d → c a d) (htot : ∀ a b, ¬ c a b → c b a)
    (x : α) {l : List α} (hl : l.Pairwise c) : (ins x l).Pairwise c := by
  induction l with
  | nil => rw [hnil]; exact List.pairwise_singleton _ _
  | cons y r ih =>
    obtain ⟨hy, hr⟩ := List.pairwise_cons.mp hl
    rw [hcons]
    split
    · next h =>
      exact List.pairwise_cons.mpr
        ⟨fun z hz => (List.mem_cons.mp hz).elim (· ▸ h) fun hz => htrans _ _ _ h (hy z hz), hl⟩
    · next h =>
      refine List.pairwise_cons.mpr ⟨fun z hz => ?_, ih hr⟩
      rcases List.mem_cons.mp ((insert_perm hnil hcons x r).subset hz) with rfl | hz
      · exact htot _ _ h
      · exact hy z hz

/-- both ends of a window `a :: (mid ++ [b])` behind `pre`: what is read there, and what writing them back
exchanged leaves -/
theorem swap_ends (pre mid post : List α) (a b : α) :
    (pre ++ a :: (mid ++ b :: post))[pre.length]? = some a ∧
    (pre ++ a :: (mid ++ b :: post))[pre.length + (mid.length + 1)]? = some b ∧
    ((pre ++ a :: (mid ++ b :: post)).set pre.length b).set (pre.length + (mid.length + 1)) a =
      pre ++ b :: (mid ++ a :: post) := by
  simp [List.set_append_right]

/-- A loop that exchanges the two ends of the window `[i, k)` and goes on with what lies between them reverses the
window and leaves the rest alone.  The loop is given by its two equations; `n` is whatever bounds its rounds. -/
theorem swapLoop_reverses {R : Type} (ok : List α → R) (L : Nat → List α → Nat → Nat → R)
    (stop : ∀ n l i k, k ≤ i + 1 → L n l i k = ok l)
    (step : ∀ n (pre mid post : List α) a b,
      L (n + 1) (pre ++ a :: (mid ++ b :: post)) pre.length (pre.length + (mid.length + 2)) =
        L n (pre ++ b :: (mid ++ a :: post)) (pre.length + 1) (pre.length + 1 + mid.length))
    (n : Nat) (pre mid post : List α) (hn : mid.length ≤ 2 * n + 1) :
    L n (pre ++ (mid ++ post)) pre.length (pre.length + mid.length) = ok (pre ++ (mid.reverse ++ post)) := by
  induction n generalizing pre mid post with
  | zero =>
    match mid, hn with
    | [], _ => exact stop _ _ _ _ (Nat.le_succ _)
    | [_], _ => exact stop _ _ _ _ (Nat.le_refl _)
  | succ n ih =>
    match mid, hn with
    | [], _ => exact stop _ _ _ _ (Nat.le_succ _)
    | [_], _ => exact stop _ _ _ _ (Nat.le_refl _)
    | a :: b :: t, hn =>
      obtain ⟨m, c, e⟩ : ∃ m c, b :: t = m ++ [c] :=
        ⟨_, _, (List.dropLast_concat_getLast (List.cons_ne_nil b t)).symm⟩
      rw [e] at hn ⊢
      simp only [List.length_cons, List.length_append, List.length_nil] at hn
      have := ih (pre ++ [c]) m (a :: post) (by omega)
      rw [List.length_append, List.length_singleton] at this
      simp only [List.cons_append, List.append_assoc, List.nil_append, List.length_cons, List.length_append,
        List.length_nil, List.reverse_cons, List.reverse_append, List.reverse_nil, Nat.zero_add] at this ⊢
      rw [step, this]

section eraseDups
variable [BEq α] [LawfulBEq α]

theorem filter_ne_of_not_mem {a : α} {l : List α} (h : a ∉ l) : (l.filter fun b => !b == a) = l :=
  List.filter_eq_self.2 fun b hb => by
    rw [Bool.not_eq_true', beq_eq_false_iff_ne]; exact fun e => h (e ▸ hb)

theorem eraseDups_of_nodup : ∀ l : List α, l.Nodup → l.eraseDups = l
  | [], _ => rfl
  | a :: as, h => by
    rw [List.nodup_cons] at h
    rw [List.eraseDups_cons, filter_ne_of_not_mem h.1, eraseDups_of_nodup as h.2]

theorem nodup_eraseDups (l : List α) : l.eraseDups.Nodup := by
  -- `eraseDups (a :: as)` recurses on a filtered tail, not on `as`: induction on a bound of the length
  suffices h : ∀ (n : Nat) (l : List α), l.length ≤ n → l.eraseDups.Nodup from h _ l (Nat.le_refl _)
  intro n
  induction n with
  | zero => intro l hl; rw [List.eq_nil_of_length_eq_zero (Nat.le_zero.mp hl)]; exact List.nodup_nil
  | succ n ih =>
    intro l hl
    cases l with
    | nil => exact List.nodup_nil
    | cons a as =>
      rw [List.eraseDups_cons, List.nodup_cons, List.mem_eraseDups, List.mem_filter]
      exact ⟨fun h => by simp at h,
        ih _ (Nat.le_trans (List.length_filter_le ..) (Nat.le_of_succ_le_succ hl))⟩

end eraseDups

end GoguVerif.Lemmas.ListFacts
