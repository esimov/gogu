import GoguVerif.Model.C12
import GoguVerif.Spec.C12
import GoguVerif.Lemmas.ListFacts
/-!
# C12 — the loops of `Model/C12` as list functions

A loop is either computed outright (`…Loop_eq`: the accumulator and a `List` function of what is left to visit;
`mapByIndexLoop_groups`) or carried under the invariant that yields its clause (`chunkLoop_spec`, `shuffleLoop_spec`).  The
order is that of `Model/C12`; Zip/Unzip and ReverseStr have files of their own.
-/
namespace GoguVerif.Lemmas.C12
open GoguVerif.Model.C12 GoguVerif.Spec.C12

variable {α β κ σ : Type}

theorem sliceOf_ok (s : List α) (lo hi : Nat) (h1 : lo ≤ hi) (h2 : hi ≤ s.length) :
    sliceOf s (lo : Int) (hi : Int) = .ok ((s.take hi).drop lo) := by
  unfold sliceOf
  rw [if_pos (by omega)]
  simp

theorem reverse_take_succ (slice : List α) (i : Nat) (hi : i < slice.length) :
    (slice.take (i + 1)).reverse = slice[i] :: (slice.take i).reverse := by
  rw [List.take_add_one, List.getElem?_eq_getElem hi, List.reverse_append]; rfl

/-! A slice made beforehand and filled from the left is `done ++ todo` with the next index `done.length`: a store puts the
value behind `done` (`set_length_append`), and the index that follows is the length of the grown `done` (`length_snoc`, in
the direction in which `rw` folds `done.length + 1` so that the induction hypothesis applies). -/

theorem set_length_append (done : List α) (t v : α) (todo : List α) :
    (done ++ t :: todo).set done.length v = (done ++ [v]) ++ todo := by simp

theorem length_snoc (done : List α) (v : α) : done.length + 1 = (done ++ [v]).length := by
  rw [List.length_append, List.length_singleton]

theorem chunkOK_cons {s : List α} {n : Nat} {c : List α} {t : List (List α)} (h : ChunkOK s n (c :: t)) :
    c = s.take n ∧ ChunkOK (s.drop n) n t := by
  obtain ⟨hf, hne, hl, hle⟩ := h
  subst hf
  have hc : c.length ≤ n := hle c (List.mem_cons_self ..)
  cases t with
  | nil => simp [ChunkOK, List.take_of_length_le hc, List.drop_of_length_le hc]
  | cons d u =>
    have hc : c.length = n := hl c (List.mem_cons_self ..)
    rw [List.flatten_cons, List.take_left' hc, List.drop_left' hc]
    exact ⟨rfl, rfl, (List.forall_mem_cons.mp hne).2, (List.forall_mem_cons.mp hl).2, (List.forall_mem_cons.mp hle).2⟩

theorem chunkOK_take {s : List α} {n : Nat} {t : List (List α)} (hn : 0 < n) (hs : s ≠ [])
    (h : ChunkOK (s.drop n) n t) : ChunkOK s n (s.take n :: t) := by
  obtain ⟨hf, hne, hl, hle⟩ := h
  refine ⟨by rw [List.flatten_cons, hf, List.take_append_drop], List.forall_mem_cons.mpr ⟨fun e => ?_, hne⟩, ?_,
    List.forall_mem_cons.mpr ⟨List.length_take_le _ _, hle⟩⟩
  · rcases List.take_eq_nil_iff.mp e with e | e
    · omega
    · exact hs e
  · cases t with
    | nil => nofun
    | cons d u =>
      rw [List.dropLast_cons_cons]
      refine List.forall_mem_cons.mpr ⟨?_, hl⟩
      -- a further chunk is not empty, so `n` elements were there to be taken
      have : s.drop n ≠ [] := fun e =>
        hne d (List.mem_cons_self ..) (List.append_eq_nil_iff.mp ((List.flatten_cons ..).symm.trans (hf.trans e))).1
      rw [List.length_take, Nat.min_eq_left (Nat.le_of_lt (List.length_lt_of_drop_ne_nil this))]

theorem chunkOK_nil {n : Nat} {r : List (List α)} (h : ChunkOK [] n r) : r = [] := by
  cases r with
  | nil => rfl
  | cons c t => exact absurd ((chunkOK_cons h).1.trans List.take_nil) (h.2.1 c (List.mem_cons_self ..))

/-- at a multiple of `size` inside the slice both slice expressions cut `size` elements off what is left, or all of it -/
theorem chunkLoop_cut (slice : List α) (size n i : Nat) (result : List (List α)) (hi : i % size = 0)
    (h : i < slice.length) :
    chunkLoop slice size (n + 1) i result =
      chunkLoop slice size n (i + 1) (result ++ [(slice.drop i).take size]) := by
  rw [chunkLoop, if_pos hi]
  by_cases hlt : i + size < slice.length
  · rw [if_pos hlt, ← Int.natCast_add, sliceOf_ok slice i (i + size) (Nat.le_add_right ..) (Nat.le_of_lt hlt),
      List.take_drop]
  · rw [if_neg hlt, sliceOf_ok slice i slice.length (Nat.le_of_lt h) (Nat.le_refl _), List.take_length,
      List.take_of_length_le (by rw [List.length_drop]; omega)]

theorem not_multiple_before (size k e : Nat) (hj : (k + e) % size = 0) (h0 : 0 < e) (he : e < size) :
    k % size ≠ 0 := by
  intro hk
  have := Nat.add_mod k e size
  rw [hj, hk, Nat.zero_add, Nat.mod_mod, Nat.mod_eq_of_lt he] at this
  omega

/-- At index `k`, `e` iterations before the next multiple of `size`, the loop cuts what lies from that multiple on
(nothing is asked of what it has cut before). -/
theorem chunkLoop_spec (slice : List α) (size : Nat) (n k e : Nat) (result : List (List α))
    (hn : k + n = slice.length) (he : e < size) (hj : (k + e) % size = 0) :
    ∃ r, chunkLoop slice size n k result = .ok (result ++ r) ∧ ChunkOK (slice.drop (k + e)) size r := by
  induction n generalizing k e result with
  | zero =>
    refine ⟨[], by rw [chunkLoop, List.append_nil], ?_⟩
    rw [List.drop_of_length_le (by omega)]
    exact ⟨rfl, nofun, nofun, nofun⟩
  | succ n ih =>
    match e with
    | 0 =>
      rw [chunkLoop_cut slice size n k result hj (by omega)]
      have e1 : k + 1 + (size - 1) = k + size := by omega
      obtain ⟨r, hr, hok⟩ := ih (k + 1) (size - 1) (result ++ [(slice.drop k).take size]) (by omega) (by omega)
        (by rw [e1, Nat.add_mod_right]; exact hj)
      rw [e1, ← List.drop_drop] at hok
      exact ⟨_ :: r, by rw [hr, List.append_assoc]; rfl,
        chunkOK_take (by omega) (List.ne_nil_of_length_pos (by rw [List.length_drop]; omega)) hok⟩
    | e + 1 =>
      rw [chunkLoop, if_neg (not_multiple_before size k (e + 1) hj (Nat.succ_pos e) he)]
      rw [show k + (e + 1) = k + 1 + e from Nat.add_right_comm k e 1] at hj ⊢
      exact ih (k + 1) e result (by omega) (by omega) hj

/-! Partition, Filter, Reject, DropWhile, DropRightWhile: `KeepOK` is met by `List.filter` (and only by it:
`Theorems/C12.keepOK_iff`) -/

theorem keepOK_filter (p : α → Bool) (s : List α) : KeepOK p s (s.filter p) := by
  refine ⟨List.filter_sublist, ?_, ?_⟩
  · intro x hx; exact (List.mem_filter.mp hx).2
  · exact List.countP_eq_length_filter.symm

theorem partitionLoop_eq (fn : α → Bool) (l yes no : List α) :
    partitionLoop fn l (yes, no) = (yes ++ l.filter fn, no ++ l.filter (fun x => !fn x)) := by
  induction l generalizing yes no with
  | nil => simp [partitionLoop]
  | cons v rest ih => cases h : fn v <;> simp [partitionLoop, h, ih]

theorem filterLoop_eq (fn : α → Bool) (l res : List α) : filterLoop fn l res = res ++ l.filter fn := by
  induction l generalizing res with
  | nil => simp [filterLoop]
  | cons v rest ih => cases h : fn v <;> simp [filterLoop, h, ih]

theorem rejectLoop_append (fn : α → Bool) (pre post : List α) :
    rejectLoop fn (pre ++ post) pre.length = pre ++ post.filter (fun x => !fn x) := by
  induction post generalizing pre with
  | nil => rw [rejectLoop, dif_neg (by simp)]; rfl
  | cons v rest ih =>
    rw [rejectLoop, dif_pos (by simp), List.getElem_append_right (Nat.le_refl _)]
    simp only [Nat.sub_self, List.getElem_cons_zero, List.filter_cons]
    cases fn v with
    | true => simpa using ih pre
    | false => simpa using ih (pre ++ [v])

theorem rejectLoop_eq (fn : α → Bool) (slice : List α) : rejectLoop fn slice 0 = slice.filter (fun x => !fn x) :=
  rejectLoop_append fn [] slice

/-- `DropWhile` runs the loop of `Filter` with the negated predicate: the two definitions are the same recursion over
the slice, clause for clause.  `rfl` sees it only with `smartUnfolding` off, since with it on the unifier unfolds a
structural recursion at a constructor only and the slice is a variable here.  The equation holds as long as the two
texts agree and stops checking when one of them changes. -/
theorem dropWhileLoop_eq_filterLoop (fn : α → Bool) : dropWhileLoop fn = filterLoop fun x => !fn x := by
  set_option smartUnfolding false in rfl

theorem dropWhileLoop_eq (fn : α → Bool) (l res : List α) :
    dropWhileLoop fn l res = res ++ l.filter (fun x => !fn x) := by
  rw [dropWhileLoop_eq_filterLoop, filterLoop_eq]

theorem dropRightWhileLoop_eq (fn : α → Bool) (slice : List α) (k : Nat) (res : List α)
    (hk : k ≤ slice.length) :
    dropRightWhileLoop fn slice k res = .ok (res ++ (slice.take k).reverse.filter (fun x => !fn x)) := by
  induction k generalizing res with
  | zero => simp [dropRightWhileLoop]
  | succ i ih =>
    rw [dropRightWhileLoop, List.getElem?_eq_getElem hk, reverse_take_succ slice i hk, List.filter_cons]
    cases h : fn slice[i] <;> simp [h, ih _ (Nat.le_of_succ_le hk)]

theorem mapLoop_eq (fn : α → σ → β × σ) (l : List α) (done todo : List β) (st : σ)
    (h : l.length ≤ todo.length) :
    mapLoop fn l done.length (done ++ todo) st =
      .ok (done ++ (callsInOrder fn l st).1 ++ todo.drop l.length, (callsInOrder fn l st).2) := by
  induction l generalizing done todo st with
  | nil => simp [mapLoop, callsInOrder]
  | cons v rest ih =>
    cases todo with
    | nil => simp at h
    | cons t todo' =>
      simp only [mapLoop, callsInOrder]
      rw [if_pos (by simp)]
      rw [set_length_append, length_snoc done (fn v st).1, ih _ _ _ (by simpa using h)]
      simp

/-- stated for the property as `Theorems/C12.map_calls_in_order` -/
theorem map_eq [Inhabited β] (s : List α) (fn : α → σ → β × σ) (st : σ) :
    map s fn st = .ok (callsInOrder fn s st) := by
  have := mapLoop_eq fn s [] (List.replicate s.length default) st (by simp)
  simpa [map] using this

theorem callsInOrder_split (f : α → β) (g : α → σ → σ) (l : List α) (st : σ) :
    callsInOrder (fun x st => (f x, g x st)) l st = (l.map f, l.foldl (fun st x => g x st) st) := by
  induction l generalizing st with
  | nil => rfl
  | cons v rest ih => simp [callsInOrder, ih]

theorem callsInOrder_logging (f : α → β) (l log : List α) :
    callsInOrder (fun x (lg : List α) => (f x, lg ++ [x])) l log = (l.map f, log ++ l) :=
  (callsInOrder_split f (fun x lg => lg ++ [x]) l log).trans (by rw [ListFacts.foldl_snoc])

theorem mapPure_eq [Inhabited β] (s : List α) (f : α → β) : mapPure s f = .ok (s.map f) := by
  unfold mapPure
  rw [map_eq, callsInOrder_split f fun _ u => u]

theorem forEachRightLoop_eq (fn : α → σ → σ) (slice : List α) (k : Nat) (st : σ) (hk : k ≤ slice.length) :
    forEachRightLoop fn slice k st = .ok ((slice.take k).reverse.foldl (fun st x => fn x st) st) := by
  induction k generalizing st with
  | zero => simp [forEachRightLoop]
  | succ i ih =>
    rw [forEachRightLoop, List.getElem?_eq_getElem hk, reverse_take_succ slice i hk]
    exact ih _ (Nat.le_of_succ_le hk)

theorem reduce_logging (f : α → β → β) (l log : List α) (a : β) :
    reduce (fun x acc (lg : List α) => (f x acc, lg ++ [x])) l a log =
      (l.foldl (fun acc x => f x acc) a, log ++ l) := by
  induction l generalizing log a with
  | nil => simp [reduce]
  | cons v rest ih => simp [reduce, ih]

/-- one iteration of `mapByIndex`: make the group if it is missing, append to it -/
def groupUpd [BEq κ] (g : List (κ × List α)) (v : κ) (x : α) : List (κ × List α) :=
  (if g.any (fun e => e.1 == v) then g else g ++ [(v, [])]).map
    fun e => if e.1 == v then (e.1, e.2 ++ [x]) else e

theorem mapByIndexLoop_cons [BEq κ] (orig : List α) (v : κ) (rest : List κ) (idx : Nat)
    (result : List (κ × List α)) :
    mapByIndexLoop orig (v :: rest) idx result =
      match orig[idx]? with
      | none => .panic
      | some x => mapByIndexLoop orig rest (idx + 1) (groupUpd result v x) := rfl

def groupOf [DecidableEq κ] (key : α → κ) (P : List α) (k : κ) : κ × List α :=
  (k, P.filter fun y => decide (key y = k))

structure KeysOf [DecidableEq κ] (key : α → κ) (P : List α) (ks : List κ) : Prop where
  nodup : ks.Nodup
  mem : ∀ k, k ∈ ks ↔ k ∈ P.map key

theorem groupOK_groups [DecidableEq κ] {key : α → κ} {P : List α} {ks : List κ} (h : KeysOf key P ks) :
    GroupOK key P (ks.map (groupOf key P)) := by
  refine ⟨?_, fun e he => ?_, fun x hx => ?_⟩
  · rw [List.map_map]; exact (List.map_id ks).symm ▸ h.nodup
  · obtain ⟨k, hk, rfl⟩ := List.mem_map.mp he
    obtain ⟨x, hx, hkx⟩ := List.mem_map.mp ((h.mem k).mp hk)
    exact ⟨fun e => List.filter_eq_nil_iff.mp e x hx (decide_eq_true hkx), keepOK_filter _ _⟩
  · exact ⟨_, List.mem_map_of_mem ((h.mem _).mpr (List.mem_map_of_mem hx)), rfl⟩

/-- the right side is what the `append` of one round does to the group of `k` -/
theorem groupOf_snoc [DecidableEq κ] (key : α → κ) (P : List α) (x : α) (k : κ) :
    groupOf key (P ++ [x]) k = if k == key x then (k, (groupOf key P k).2 ++ [x]) else groupOf key P k := by
  unfold groupOf
  rw [List.filter_append]
  by_cases hk : key x = k
  · rw [List.filter_cons_of_pos (p := fun y => decide (key y = k)) (decide_eq_true hk), hk, beq_self_eq_true]; rfl
  · rw [List.filter_cons_of_neg (p := fun y => decide (key y = k)) (by rwa [decide_eq_true_eq]),
      if_neg (fun e => hk (beq_iff_eq.mp e).symm)]
    exact congrArg _ (List.append_nil _)

/-- the key of `x` joins the keys if it is new: its group was empty -/
theorem groupUpd_groups [DecidableEq κ] {key : α → κ} {P : List α} {ks : List κ} (h : KeysOf key P ks) (x : α) :
    ∃ ks', KeysOf key (P ++ [x]) ks' ∧
      groupUpd (ks.map (groupOf key P)) (key x) x = ks'.map (groupOf key (P ++ [x])) := by
  have upd : ∀ l : List κ, (l.map (groupOf key P)).map (fun e => if e.1 == key x then (e.1, e.2 ++ [x]) else e) =
      l.map (groupOf key (P ++ [x])) := fun l => by
    rw [List.map_map]; exact List.map_congr_left fun k _ => (groupOf_snoc key P x k).symm
  have hmem : ∀ k, k ∈ (P ++ [x]).map key ↔ k ∈ ks ∨ k = key x := fun k => by
    rw [List.map_append, List.mem_append, ← h.mem, List.map_singleton, List.mem_singleton]
  have hany : ((ks.map (groupOf key P)).any fun e => e.1 == key x) = true ↔ key x ∈ ks := by
    rw [List.any_map, List.any_eq_true]
    exact ⟨fun ⟨k, hk, e⟩ => beq_iff_eq.mp e ▸ hk, fun h => ⟨_, h, beq_self_eq_true _⟩⟩
  unfold groupUpd
  by_cases hin : key x ∈ ks
  · rw [if_pos (hany.mpr hin)]
    exact ⟨ks, ⟨h.nodup, fun k => ((hmem k).trans ⟨fun o => o.elim id (· ▸ hin), Or.inl⟩).symm⟩, upd ks⟩
  · have hnil : P.filter (fun y => decide (key y = key x)) = [] :=
      List.filter_eq_nil_iff.mpr fun y hy e => hin ((h.mem _).mpr (of_decide_eq_true e ▸ List.mem_map_of_mem hy))
    rw [if_neg (mt hany.mp hin), show [(key x, ([] : List α))] = [key x].map (groupOf key P) by
      rw [List.map_singleton, groupOf, hnil], ← List.map_append, upd]
    refine ⟨ks ++ [key x], ⟨?_, fun k => ?_⟩, rfl⟩
    · exact ListFacts.nodup_middle.mpr ⟨(List.append_nil ks).symm ▸ hin, (List.append_nil ks).symm ▸ h.nodup⟩
    · rw [hmem, List.mem_append, List.mem_singleton]

theorem mapByIndexLoop_groups [DecidableEq κ] (fn : α → κ) (pre post : List α) (ks : List κ)
    (inv : KeysOf fn pre ks) :
    ∃ ks', KeysOf fn (pre ++ post) ks' ∧
      mapByIndexLoop (pre ++ post) (post.map fn) pre.length (ks.map (groupOf fn pre)) =
        .ok (ks'.map (groupOf fn (pre ++ post))) := by
  induction post generalizing pre ks with
  | nil => rw [List.append_nil]; exact ⟨ks, inv, rfl⟩
  | cons x rest ih =>
    obtain ⟨ks', hks', hstep⟩ := groupUpd_groups inv x
    have := ih (pre ++ [x]) ks' hks'
    rw [List.append_assoc, List.length_append] at this
    rw [List.map_cons, mapByIndexLoop_cons, List.getElem?_append_right (Nat.le_refl _), Nat.sub_self]
    dsimp only [List.getElem?_cons_zero]
    rw [hstep]
    exact this

mutual
/-- The nesting type of the model read as that of the specification: the two are copies of each other. -/
def toSpec : Nested α → Nest α
  | .leaf v => .leaf v
  | .slice v => .slice v
  | .list l => .list (toSpecAll l)
  | .bad => .bad
def toSpecAll : List (Nested α) → List (Nest α)
  | [] => []
  | n :: r => toSpec n :: toSpecAll r
end

mutual
theorem baseFlatten_eq : (n : Nested α) → (acc : List α) →
    baseFlatten acc n = if (toSpec n).wellFormed then some (acc ++ (toSpec n).leaves) else none
  | .leaf v, acc => by simp [baseFlatten, toSpec, Nest.wellFormed, Nest.leaves]
  | .slice v, acc => by simp [baseFlatten, toSpec, Nest.wellFormed, Nest.leaves]
  | .bad, acc => by simp [baseFlatten, toSpec, Nest.wellFormed]
  | .list l, acc => by
    simp only [baseFlatten, toSpec, Nest.wellFormed, Nest.leaves]
    exact flattenRange_eq l acc
theorem flattenRange_eq : (l : List (Nested α)) → (acc : List α) →
    flattenRange acc l = if wellFormedAll (toSpecAll l) then some (acc ++ leavesAll (toSpecAll l)) else none
  | [], acc => by simp [flattenRange, toSpecAll, wellFormedAll, leavesAll]
  | n :: r, acc => by
    simp only [flattenRange, toSpecAll, wellFormedAll, leavesAll]
    rw [baseFlatten_eq n acc]
    cases h : (toSpec n).wellFormed with
    | false => simp
    | true => simp [flattenRange_eq r]
end

theorem mergeLoop_eq (ps : List (List α)) (merged : List α) : mergeLoop ps merged = merged ++ ps.flatten := by
  induction ps generalizing merged with
  | nil => simp [mergeLoop]
  | cons p rest ih => simp [mergeLoop, ih]

theorem abs_neg_natCast (k : Nat) : abs (-(k : Int)) = k := by
  unfold abs; split <;> omega

theorem drop_natCast (s : List α) (k : Nat) : drop s (k : Int) = .ok (s.drop k) := by
  unfold drop
  by_cases hk : k < s.length
  · rw [if_pos ⟨by omega, Int.ofNat_lt.mpr hk⟩]
    by_cases h0 : 0 < k
    · rw [if_pos (show (k : Int) > 0 by omega), sliceOf_ok s k s.length (Nat.le_of_lt hk) (Nat.le_refl _),
        List.take_length]
    · obtain rfl : k = 0 := by omega
      rw [if_neg (show ¬ ((0 : Nat) : Int) > 0 from Int.lt_irrefl 0)]
      exact (sliceOf_ok s 0 s.length (Nat.zero_le _) (Nat.le_refl _)).trans (by rw [List.take_length])
  · rw [if_neg (fun h => hk (Int.ofNat_lt.mp h.2)), List.drop_of_length_le (Nat.le_of_not_lt hk)]

theorem drop_neg_natCast (s : List α) (k : Nat) : drop s (-(k : Int)) = .ok (s.take (s.length - k)) := by
  unfold drop
  rw [abs_neg_natCast]
  by_cases hk : k < s.length
  · rw [if_pos ⟨by omega, by omega⟩, if_neg (by omega), ← Int.ofNat_sub (Nat.le_of_lt hk)]
    exact sliceOf_ok s 0 (s.length - k) (Nat.zero_le _) (Nat.sub_le _ _)
  · rw [if_neg (by omega), Nat.sub_eq_zero_of_le (Nat.le_of_not_lt hk)]; rfl

theorem swapAt_of_get? {d : List α} {i j : Nat} {a b : α} (hi : d[i]? = some a) (hj : d[j]? = some b) :
    swapAt d i j = .ok ((d.set i b).set j a) := by
  rw [swapAt, hi, hj]

theorem swapAt_ok (d : List α) (i j : Nat) (hi : i < d.length) (hj : j < d.length) :
    swapAt d i j = .ok ((d.set i d[j]).set j d[i]) :=
  swapAt_of_get? (List.getElem?_eq_getElem hi) (List.getElem?_eq_getElem hj)

theorem reverseLoop_window (pre mid post : List α) :
    reverseLoop (pre ++ (mid ++ post)) pre.length (pre.length + mid.length) =
      .ok (pre ++ (mid.reverse ++ post)) := by
  refine ListFacts.swapLoop_reverses .ok (fun _ l i k => reverseLoop l i k) ?_ ?_ mid.length pre mid post (by omega)
  · intro _ l i k hk
    rw [reverseLoop, if_neg (by omega)]
  · intro _ pre mid post a b
    obtain ⟨ha, hb, hset⟩ := ListFacts.swap_ends pre mid post a b
    rw [reverseLoop, if_pos (by omega),
      show pre.length + (mid.length + 2) - 1 = pre.length + (mid.length + 1) from rfl, swapAt_of_get? ha hb]
    dsimp only
    rw [hset, show pre.length + (mid.length + 1) = pre.length + 1 + mid.length by omega]

theorem reversed_iff (s r : List α) : Reversed s r ↔ r = s.reverse := by
  constructor
  · rintro ⟨hlen, hget⟩
    apply List.ext_getElem?
    intro i
    by_cases hi : i < s.length
    · rw [hget i hi, List.getElem?_reverse hi]
    · rw [List.getElem?_eq_none (by omega), List.getElem?_eq_none (by simp; omega)]
  · rintro rfl
    refine ⟨by simp, fun i hi => ?_⟩
    rw [List.getElem?_reverse hi]

/-- Counting down from `k ≤ len`, round `i + 1` exchanges index `i` with `rnd c % (i + 1) ≤ i`: both are in range, and an
exchange permutes. -/
theorem shuffleLoop_spec (rnd : Nat → Nat) (k c : Nat) (dst : List α) (hk : k ≤ dst.length) :
    ∃ r, shuffleLoop rnd k c dst = .ok r ∧ r.Perm dst := by
  induction k generalizing c dst with
  | zero => exact ⟨dst, rfl, List.Perm.refl _⟩
  | succ i ih =>
    have hj : rnd c % (i + 1) < dst.length := by
      have := Nat.mod_lt (rnd c) (show i + 1 > 0 by omega); omega
    simp only [shuffleLoop, swapAt_ok dst i _ (show i < dst.length by omega) hj]
    have hlen : ∀ (a b : α) (j : Nat), i ≤ ((dst.set i a).set j b).length := fun a b j => by
      simp only [List.length_set]; omega
    obtain ⟨r, hr, hp⟩ := ih (c + 1) _ (hlen _ _ _)
    exact ⟨r, hr, hp.trans (List.set_set_perm _ _)⟩

end GoguVerif.Lemmas.C12
