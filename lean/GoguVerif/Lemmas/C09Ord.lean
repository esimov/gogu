import GoguVerif.Spec.C09
import GoguVerif.Lemmas.OrdMap
import GoguVerif.Lemmas.ListFacts
/-!
# C09: the specification side

Nothing here mentions the model.  First the byte-lexicographic order `lexLt` (a strict total order,
`lexLt_sto`: the laws of `Lemmas/OrdMap.lean` are used at it), `isPrefix`, and keys below a common first
byte (`consKey`).  Then the abstract map after a `Put` history: `build puts` is the specification's state
after putting `puts` in order into the empty map, `latest` and `build_keys` say what the clauses of the
property say about that state.  Last, what `Spec.C09.longest` computes (`lf`), and the same fold on
lengths (`lfN`), which is what the loop of `LongestPrefix` keeps.
-/
namespace GoguVerif.Lemmas.C09
open GoguVerif.Spec GoguVerif.Spec.C09

theorem byte_eq_of_not_lt {a b : UInt8} (h1 : ¬ a < b) (h2 : ¬ b < a) : a = b :=
  UInt8.le_antisymm (UInt8.not_lt.mp h2) (UInt8.not_lt.mp h1)

@[simp] theorem lexLt_nil_nil : lexLt [] [] = false := rfl
@[simp] theorem lexLt_nil_cons (b : UInt8) (s : Key) : lexLt [] (b :: s) = true := rfl
@[simp] theorem lexLt_cons_nil (a : UInt8) (r : Key) : lexLt (a :: r) [] = false := rfl

theorem lexLt_cons_cons (a b : UInt8) (r s : Key) :
    lexLt (a :: r) (b :: s) = if a < b then true else if b < a then false else lexLt r s := rfl

theorem lexLt_cons_lt {a b : UInt8} (h : a < b) (r s : Key) : lexLt (a :: r) (b :: s) = true := by
  simp [lexLt_cons_cons, h]

theorem lexLt_cons_gt {a b : UInt8} (h : b < a) (r s : Key) : lexLt (a :: r) (b :: s) = false := by
  simp [lexLt_cons_cons, h, UInt8.lt_asymm h]

@[simp] theorem lexLt_cons_same (c : UInt8) (r s : Key) : lexLt (c :: r) (c :: s) = lexLt r s := by
  simp [lexLt_cons_cons, UInt8.lt_irrefl]

theorem lexLt_irrefl (a : Key) : lexLt a a = false := by
  induction a with
  | nil => rfl
  | cons c r ih => rw [lexLt_cons_same, ih]

theorem lexLt_iff (a b : Key) : lexLt a b = true ↔ a < b := by
  induction a generalizing b with
  | nil => cases b <;> simp
  | cons x r ih =>
    cases b with
    | nil => simp
    | cons y s =>
      rw [List.cons_lt_cons_iff]
      by_cases h1 : x < y
      · rw [lexLt_cons_lt h1]; exact ⟨fun _ => .inl h1, fun _ => rfl⟩
      · by_cases h2 : y < x
        · rw [lexLt_cons_gt h2]
          exact ⟨nofun, fun h => h.elim (absurd · h1) fun e => absurd (e.1 ▸ h2) h1⟩
        · obtain rfl := byte_eq_of_not_lt h1 h2
          rw [lexLt_cons_same, ih]
          exact ⟨fun h => .inr ⟨rfl, h⟩, fun h => h.elim (absurd · h1) (·.2)⟩

theorem lexLt_sto : OrdMap.STO lexLt where
  irrefl := lexLt_irrefl
  trans a b c h1 h2 := (lexLt_iff a c).2 (List.lt_trans ((lexLt_iff a b).1 h1) ((lexLt_iff b c).1 h2))
  total a b h1 h2 :=
    List.le_antisymm (List.not_lt.1 fun h => Bool.eq_false_iff.1 h2 ((lexLt_iff b a).2 h))
      (List.not_lt.1 fun h => Bool.eq_false_iff.1 h1 ((lexLt_iff a b).2 h))

@[simp] theorem isPrefix_nil (k : Key) : isPrefix [] k = true := by cases k <;> rfl
@[simp] theorem isPrefix_cons_nil (a : UInt8) (r : Key) : isPrefix (a :: r) [] = false := rfl
@[simp] theorem isPrefix_cons_cons (a b : UInt8) (r s : Key) :
    isPrefix (a :: r) (b :: s) = (a == b && isPrefix r s) := rfl

theorem isPrefix_cons_same (c : UInt8) (r s : Key) : isPrefix (c :: r) (c :: s) = isPrefix r s := by
  rw [isPrefix_cons_cons, beq_self_eq_true, Bool.true_and]

theorem isPrefix_cons_ne {a b : UInt8} (h : a ≠ b) (r s : Key) : isPrefix (a :: r) (b :: s) = false := by
  rw [isPrefix_cons_cons, beq_eq_false_iff_ne.mpr h, Bool.false_and]

theorem isPrefix_eq (p k : Key) : isPrefix p k = p.isPrefixOf k := by
  induction p generalizing k with
  | nil => cases k <;> rfl
  | cons a r ih =>
    cases k with
    | nil => rfl
    | cons b s => exact congrArg (a == b && ·) (ih s)

theorem isPrefix_iff (p k : Key) : isPrefix p k = true ↔ ∃ t, k = p ++ t := by
  rw [isPrefix_eq, List.isPrefixOf_iff_prefix]
  exact exists_congr fun _ => eq_comm

theorem isPrefix_length_le (p k : Key) (h : isPrefix p k = true) : p.length ≤ k.length :=
  (List.isPrefixOf_iff_prefix.1 ((isPrefix_eq p k).symm.trans h)).length_le

section ordmap
variable {ν : Type}

/-- an entry of the map stored below the byte `c`, with its key as seen from above -/
def consKey (c : UInt8) (e : Key × ν) : Key × ν := (c :: e.1, e.2)

@[simp] theorem consKey_fst (c : UInt8) (e : Key × ν) : (consKey c e).1 = c :: e.1 := rfl
@[simp] theorem consKey_snd (c : UInt8) (e : Key × ν) : (consKey c e).2 = e.2 := rfl

theorem insert_map_cons (c : UInt8) (k : Key) (v : ν) (M : List (Key × ν)) :
    OrdMap.insert lexLt (c :: k) v (M.map (consKey c)) = (OrdMap.insert lexLt k v M).map (consKey c) :=
  C04.insert_map_key (lexLt_cons_same c) k v M

theorem lookup_map_cons (c : UInt8) (k : Key) (M : List (Key × ν)) :
    OrdMap.lookup lexLt (c :: k) (M.map (consKey c)) = OrdMap.lookup lexLt k M :=
  C04.lookup_map_key (lexLt_cons_same c) k M

theorem filter_map_consKey (c : UInt8) (p : Key) (M : List (Key × ν)) :
    ((M.map (consKey c)).map (·.1)).filter (isPrefix (c :: p)) =
      ((M.map (·.1)).filter (isPrefix p)).map (c :: ·) := by
  rw [List.map_map, List.filter_map, List.filter_map, List.map_map]
  exact congrArg (List.map _) (List.filter_congr fun e _ => isPrefix_cons_same c p e.1)

theorem sorted_map_consKey (c : UInt8) (M : List (Key × ν)) (h : OrdMap.Sorted lexLt M) :
    OrdMap.Sorted lexLt (M.map (consKey c)) := by
  induction M with
  | nil => trivial
  | cons e M' ih =>
    obtain ⟨k, v⟩ := e
    obtain ⟨h1, h2⟩ := h
    exact ⟨List.forall_mem_map.2 fun e' he' => (lexLt_cons_same c k e'.1).trans (h1 e' he'), ih h2⟩

end ordmap

abbrev Map := List (Key × Int)

def keys (m : Map) : List Key := m.map (·.1)

/-- the specification's state after a `Put` history -/
def build (puts : List (Key × Int)) : Map :=
  puts.foldl (fun m p => OrdMap.insert lexLt p.1 p.2 m) []

theorem length_eq_eraseDups (m : Map) (hs : OrdMap.Sorted lexLt m) (l : List Key)
    (h : ∀ k, k ∈ keys m ↔ k ∈ l) : m.length = l.eraseDups.length := by
  have hp : (keys m).Perm l.eraseDups :=
    (List.perm_ext_iff_of_nodup (C04.keys_nodup lexLt_sto hs) (ListFacts.nodup_eraseDups l)).mpr
      fun k => (h k).trans List.mem_eraseDups.symm
  have := hp.length_eq
  rwa [keys, List.length_map] at this

theorem foldl_keys (puts : List (Key × Int)) (k : Key) : ∀ m0,
    k ∈ keys (puts.foldl (fun m p => OrdMap.insert lexLt p.1 p.2 m) m0) ↔
      k ∈ puts.map (·.1) ∨ k ∈ keys m0 := by
  induction puts with
  | nil => intro m0; simp
  | cons p ps ih =>
    intro m0
    have hk : k ∈ keys (OrdMap.insert lexLt p.1 p.2 m0) ↔ k = p.1 ∨ k ∈ keys m0 :=
      C04.mem_keys_insert lexLt_sto p.1 k p.2 m0
    rw [List.foldl_cons, ih, hk, List.map_cons, List.mem_cons, or_assoc, or_left_comm]

theorem build_keys (puts : List (Key × Int)) (k : Key) :
    k ∈ keys (build puts) ↔ k ∈ puts.map (·.1) :=
  (foldl_keys puts k []).trans (or_iff_left (List.not_mem_nil))

/-- the value of the last put of `k` in the history, if any -/
def latest (k : Key) (puts : List (Key × Int)) : Option Int :=
  ((puts.filter (fun p => p.1 == k)).getLast?).map (·.2)

theorem latest_cons (k : Key) (p : Key × Int) (ps : List (Key × Int)) :
    latest k (p :: ps) = (latest k ps).or (if k = p.1 then some p.2 else none) := by
  unfold latest
  rw [List.filter_cons]
  by_cases h : k = p.1
  · rw [if_pos (beq_iff_eq.mpr h.symm), if_pos h, List.getLast?_cons]
    cases (List.filter (fun p => p.1 == k) ps).getLast? <;> rfl
  · rw [if_neg (fun hb => h (beq_iff_eq.mp hb).symm), if_neg h, Option.or_none]

theorem latest_eq_none_iff (k : Key) (puts : List (Key × Int)) :
    latest k puts = none ↔ k ∉ puts.map (·.1) := by
  rw [latest, Option.map_eq_none_iff, List.getLast?_eq_none_iff, List.filter_eq_nil_iff]
  constructor
  · intro h hk
    obtain ⟨p, hp, rfl⟩ := List.mem_map.mp hk
    exact h p hp (beq_self_eq_true _)
  · intro h p hp hb
    exact h (List.mem_map.mpr ⟨p, hp, beq_iff_eq.mp hb⟩)

theorem foldl_lookup (k : Key) (puts : List (Key × Int)) : ∀ m0,
    OrdMap.lookup lexLt k (puts.foldl (fun m p => OrdMap.insert lexLt p.1 p.2 m) m0) =
      (latest k puts).or (OrdMap.lookup lexLt k m0) := by
  induction puts with
  | nil => intro m0; rfl
  | cons p ps ih =>
    intro m0
    rw [List.foldl_cons, ih, C04.lookup_insert lexLt_sto, latest_cons, Option.or_assoc]
    split <;> rfl

theorem build_lookup (k : Key) (puts : List (Key × Int)) :
    OrdMap.lookup lexLt k (build puts) = latest k puts :=
  (foldl_lookup k puts []).trans (Option.or_none ..)

/-- the folding step of `Spec.C09.longest` -/
def lf (q : Key) (best : Key) (e : Key × Int) : Key :=
  if isPrefix e.1 q && best.length < e.1.length then e.1 else best

theorem longest_eq (q : Key) (m : Map) : longest q m = m.foldl (lf q) [] := rfl

theorem foldl_lf_result (q : Key) (X : Map) :
    ∀ b, X.foldl (lf q) b = b ∨ ∃ e ∈ X, X.foldl (lf q) b = e.1 ∧ isPrefix e.1 q = true := by
  induction X with
  | nil => intro b; exact Or.inl rfl
  | cons e X' ih =>
    intro b
    have hs : lf q b e = b ∨ lf q b e = e.1 ∧ isPrefix e.1 q = true := by
      unfold lf; split
      · rename_i hc; exact Or.inr ⟨rfl, (Bool.and_eq_true_iff.mp hc).1⟩
      · exact Or.inl rfl
    rw [List.foldl_cons]
    rcases ih (lf q b e) with h | ⟨e', he', h⟩
    · rcases hs with hs | hs
      · exact Or.inl (h.trans hs)
      · exact Or.inr ⟨e, List.mem_cons_self .., h.trans hs.1, hs.2⟩
    · exact Or.inr ⟨e', List.mem_cons_of_mem _ he', h⟩

theorem length_le_foldl_lf (q : Key) (X : Map) : ∀ b : Key, b.length ≤ (X.foldl (lf q) b).length := by
  induction X with
  | nil => intro b; exact Nat.le_refl _
  | cons e X' ih =>
    intro b
    refine Nat.le_trans ?_ (ih (lf q b e))
    unfold lf; split
    · rename_i hc; exact Nat.le_of_lt (of_decide_eq_true (Bool.and_eq_true_iff.mp hc).2)
    · exact Nat.le_refl _

theorem foldl_lf_ge (q : Key) (X : Map) : ∀ b : Key, ∀ e ∈ X, isPrefix e.1 q = true →
    e.1.length ≤ (X.foldl (lf q) b).length := by
  induction X with
  | nil => intro b _ h; nomatch h
  | cons e X' ih =>
    intro b e' he' hp
    rcases List.mem_cons.mp he' with rfl | he'
    · refine Nat.le_trans ?_ (length_le_foldl_lf q X' (lf q b e'))
      unfold lf; split
      · exact Nat.le_refl _
      · rename_i hc
        rw [hp, Bool.true_and, decide_eq_true_eq] at hc
        exact Nat.le_of_not_lt hc
    · exact ih _ e' he' hp

theorem longest_take (q : Key) (m : Map) : longest q m = q.take (longest q m).length := by
  rcases foldl_lf_result q m [] with h | ⟨e, _, h1, h2⟩
  · rw [longest_eq, h]; rfl
  · obtain ⟨t, rfl⟩ := (isPrefix_iff e.1 q).mp h2
    rw [longest_eq, h1]; exact (List.take_left' rfl).symm

/-- `lf` on lengths, for keys relative to position `i` of the query: the loop of `LongestPrefix` keeps
the length `i + |key|` of the best match, not the key. -/
def lfN (q : Key) (i : Nat) (best : Nat) (e : Key × Int) : Nat :=
  if isPrefix e.1 q && best < i + e.1.length then i + e.1.length else best

theorem length_foldl_lf (q : Key) (X : Map) :
    ∀ b : Key, (X.foldl (lf q) b).length = X.foldl (lfN q 0) b.length := by
  induction X with
  | nil => intro b; rfl
  | cons e X' ih =>
    intro b
    rw [List.foldl_cons, List.foldl_cons, ih]
    congr 1
    unfold lf lfN
    rw [Nat.zero_add]
    split <;> rfl

theorem foldl_lfN_none (q : Key) (i : Nat) (X : Map) (h : ∀ e ∈ X, isPrefix e.1 q = false) :
    ∀ b, X.foldl (lfN q i) b = b := by
  induction X with
  | nil => intro b; rfl
  | cons e X' ih =>
    intro b
    rw [List.foldl_cons, lfN, h e (List.mem_cons_self ..)]
    exact ih (fun e he => h e (List.mem_cons_of_mem _ he)) b

theorem foldl_lfN_map_cons (c : UInt8) (qs : Key) (i : Nat) (M : Map) (b : Nat) :
    (M.map (consKey c)).foldl (lfN (c :: qs) i) b = M.foldl (lfN qs (i + 1)) b := by
  have step : ∀ b e, lfN (c :: qs) i b (consKey c e) = lfN qs (i + 1) b e := by
    intro b e
    have h : i + (e.1.length + 1) = i + 1 + e.1.length := by omega
    simp only [lfN, consKey_fst, isPrefix_cons_same, List.length_cons, h]
  rw [List.foldl_map]
  simp only [step]

end GoguVerif.Lemmas.C09
