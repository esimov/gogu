import GoguVerif.Model.C11
import GoguVerif.Lemmas.Dedup
/-!
# C11 — what the scans and the flattening of `Model/C11.lean` compute

The inner scans are membership tests; the scan over the other arguments of `Intersection(By)` reaches the
end exactly when each of them passes the test (`scan_eq_iff`); `baseFlatten` flattens a well-formed nesting
from left to right (`baseFlatten_eq`).  The specification's `firstOccs` and `firstBy` are `Dedup.firstByG`.
`diffLoop_eq` is the closed form of the loop of `Without` and `Difference`; those of the keyed helpers
(`differenceBy_eq`, `intersectionBy_eq`) stand with their clauses in `Theorems/C11.lean`.  The plain loops are the
keyed ones at the identity (`unique_eq_uniqueBy`, `diffLoop_eq_diffByLoop`, `interLoop_eq_interByLoop`).
-/
namespace GoguVerif.Lemmas.C11
open GoguVerif.Spec.C11 GoguVerif.Model.C11

variable {α : Type} [DecidableEq α]

theorem ite_true_decide (p q : Prop) [Decidable p] [Decidable q] :
    (if p then true else decide q) = decide (p ∨ q) := by
  by_cases h : p <;> simp [h]

theorem ite_bnot {β : Type} (b : Bool) (x y : β) :
    (if b = true then y else x) = if (!b) = true then x else y := by
  cases b <;> rfl

theorem ite_ite_reorder {β : Type} {c c' d d' : Prop} [Decidable c] [Decidable c'] [Decidable d] [Decidable d']
    (hc : c ↔ c') (hd : d ↔ d') (a b : β) :
    (if c then a else if d then b else a) = if d' then if c' then a else b else a := by
  by_cases c' <;> by_cases d' <;> simp [*]

theorem firstBy_eq (f : α → α) (s : List α) : firstBy f s = Dedup.firstByG f s := by
  induction s with
  | nil => rfl
  | cons x r ih => rw [firstBy, Dedup.firstByG, ih]

theorem firstOccs_eq (s : List α) : firstOccs s = Dedup.firstByG id s := by
  induction s with
  | nil => rfl
  | cons x r ih => simp only [firstOccs, Dedup.firstByG, ih, id_eq]

/-- gogu writes the plain helper next to the keyed one so that it is the keyed one at the identity, and the models
follow the text: the two unfold to the same term (the unifier exposes the body of a structural recursion on a variable
only with `smartUnfolding` off).  The ties (`Theorems/GenTie.lean`: `Unique`, `Without`, `Difference`) and the store
loops (`Lemmas/C16Helpers(2)`) treat the keyed helper and read the plain one off through these.  The clauses of this
property do not: each plain loop is as direct an instance of `Dedup.dedupLoop_eq` as the keyed one (`diffLoop_eq`,
`Theorems.C11.unique_spec`, `intersection_spec`). -/
theorem unique_eq_uniqueBy (s : List α) : unique s = uniqueBy s id := by
  set_option smartUnfolding false in rfl

theorem diffLoop_eq_diffByLoop (s2 : List α) : diffLoop s2 = diffByLoop id s2 := by
  set_option smartUnfolding false in rfl

theorem interLoop_eq_interByLoop (n : Nat) (others : List (List α)) : interLoop n others = interByLoop id n others := by
  set_option smartUnfolding false in rfl

theorem firstOccs_sublist (s : List α) : (firstOccs s).Sublist s :=
  firstOccs_eq s ▸ Dedup.firstByG_sublist id s

theorem mem_firstOccs (s : List α) (y : α) : y ∈ firstOccs s ↔ y ∈ s := by
  have h := Dedup.mem_firstByG_image id s y
  rwa [List.map_id, List.map_id, ← firstOccs_eq] at h

theorem firstOccs_nodup (s : List α) : (firstOccs s).Nodup :=
  firstOccs_eq s ▸ Dedup.firstByG_pairwise id s

theorem mem_of_mem_firstOccs_filter {p : α → Bool} {s : List α} {x : α}
    (h : x ∈ firstOccs (s.filter p)) : x ∈ s :=
  (List.mem_filter.mp ((mem_firstOccs _ x).mp h)).1

theorem byHolds_firstOccs_filter (cond : α → Bool) (s : List α) :
    ByHolds cond s (firstOccs (s.filter cond)) :=
  ⟨(firstOccs_sublist _).trans List.filter_sublist,
   fun x hx => (List.mem_filter.mp ((mem_firstOccs _ x).mp hx)).2,
   fun x hx hc => (mem_firstOccs _ x).mpr (List.mem_filter.mpr ⟨hx, hc⟩)⟩

theorem firstOccs_filter (p : α → Bool) (s : List α) :
    firstOccs (s.filter p) = (firstOccs s).filter p := by
  simp only [firstOccs_eq]
  exact Dedup.firstByG_filter id p (fun a b h => congrArg p h) s

theorem contains_eq (v : α) (l : List α) : contains v l = decide (v ∈ l) := by
  induction l with
  | nil => rfl
  | cons y r ih =>
    rw [contains, ih, ite_true_decide]
    exact decide_eq_decide.mpr (by rw [List.mem_cons, eq_comm])

theorem skipEq_eq (v : α) (l : List α) : skipEq v l = decide (v ∈ l) := by
  induction l with
  | nil => rfl
  | cons y r ih => rw [skipEq, ih, ite_true_decide]; exact decide_eq_decide.mpr List.mem_cons.symm

theorem skipByEq_eq (f : α → α) (v : α) (l : List α) : skipByEq f v l = decide (f v ∈ l.map f) := by
  induction l with
  | nil => rfl
  | cons y r ih => rw [skipByEq, ih, ite_true_decide]; exact decide_eq_decide.mpr List.mem_cons.symm

theorem hasImage_eq (f : α → α) (item : α) (l : List α) :
    hasImage f item l = decide (f item ∈ l.map f) := by
  induction l with
  | nil => rfl
  | cons y r ih =>
    rw [hasImage, ih, ite_true_decide]
    exact decide_eq_decide.mpr (by rw [List.map_cons, List.mem_cons, eq_comm])

omit [DecidableEq α] in
/-- `interScan` / `interByScan`, the membership test being `c` -/
theorem scan_eq_iff (c : List α → Bool) (scan : List (List α) → Nat → Nat)
    (h0 : ∀ j, scan [] j = j) (h1 : ∀ p ps j, scan (p :: ps) j = if !c p then j else scan ps (j + 1))
    (ps : List (List α)) (j : Nat) : scan ps j = ps.length + j ↔ ps.all c = true := by
  induction ps generalizing j with
  | nil => simp [h0]
  | cons p ps ih =>
    rw [h1, List.all_cons, List.length_cons]
    cases c p
    · simp
    · simp only [Bool.not_true, Bool.false_eq_true, if_false, Bool.true_and, ← ih (j + 1)]
      omega

theorem interScan_iff (item : α) (ps : List (List α)) :
    interScan item ps 1 = ps.length + 1 ↔ (ps.all fun p => decide (item ∈ p)) = true := by
  rw [scan_eq_iff (contains item) (interScan item) (fun _ => rfl) (fun _ _ _ => rfl), funext (contains_eq item)]

theorem interByScan_iff (f : α → α) (item : α) (ps : List (List α)) :
    interByScan f item ps 1 = ps.length + 1 ↔ interByCond f ps item = true := by
  rw [scan_eq_iff (hasImage f item) (interByScan f item) (fun _ => rfl) (fun _ _ _ => rfl), funext (hasImage_eq f item)]
  rfl

theorem diffLoop_eq (t s : List α) : diffLoop t [] [] s = diffRef s t := by
  have hq : (fun v => !skipEq v t) = fun x => decide (x ∉ t) :=
    funext fun v => by rw [skipEq_eq, decide_not]
  rw [diffRef, firstOccs_eq, ← hq]
  exact Dedup.dedupLoop_eq id _ (diffLoop t) s (fun _ _ => rfl)
    (fun k r v s _ _ => ite_bnot (skipEq v t) _ _)

/-- The test on `result` in `Intersection(By)` as a test on the `keys` of `Dedup.dedupLoop_eq`; `hk` is what that lemma
lets the step equation assume, in the shape it has when the key function is `id`. -/
theorem contains_iff_mem_keys {k r : List α} (hk : ∀ x, x ∈ k ↔ x ∈ r.map id) (v : α) :
    contains v r = true ↔ id v ∈ k := by
  rw [contains_eq, decide_eq_true_eq, hk, List.map_id]; rfl

section Flatten
variable {β : Type}
mutual
theorem baseFlatten_eq (acc : List β) (n : Nested β) :
    baseFlatten acc n = if n.wellFormed then some (acc ++ n.leaves) else none := by
  cases n with
  | leaf a => simp [baseFlatten, Nested.wellFormed, Nested.leaves]
  | slice l => simp [baseFlatten, Nested.wellFormed, Nested.leaves]
  | bad => simp [baseFlatten, Nested.wellFormed]
  | list l =>
    simp only [baseFlatten, Nested.wellFormed, Nested.leaves]
    exact flattenLoop_eq acc l
theorem flattenLoop_eq (acc : List β) (l : List (Nested β)) :
    flattenLoop acc l
      = if Nested.wellFormedAll l then some (acc ++ Nested.leavesAll l) else none := by
  cases l with
  | nil => simp [flattenLoop, Nested.wellFormedAll, Nested.leavesAll]
  | cons n r =>
    simp only [flattenLoop, Nested.wellFormedAll, Nested.leavesAll]
    rw [baseFlatten_eq acc n]
    by_cases h : n.wellFormed = true
    · simp only [h, if_true, Bool.true_and]
      rw [flattenLoop_eq (acc ++ n.leaves) r]
      simp [List.append_assoc]
    · simp [h]
end
end Flatten

end GoguVerif.Lemmas.C11
