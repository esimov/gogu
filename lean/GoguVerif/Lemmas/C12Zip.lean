import GoguVerif.Lemmas.C12
/-!
# C12 — Zip / Unzip (index loops over a square matrix)

Every write of the loops stores the transposed entry of `m`, so the cells of the result that already hold it (`Good`) only
grow and no frame condition is needed (`Fills`, kept by `cellLoop_spec` and `colLoop_spec`); one proof serves Zip and Unzip
through the flag `tr`.  The round trip is `transpose_twice`: two `n × n` matrices with the same entries are equal
(`shape_ext`).
-/
namespace GoguVerif.Lemmas.C12
open GoguVerif.Model.C12 GoguVerif.Spec.C12

variable {α : Type}

structure Shape (n : Nat) (r : List (List α)) : Prop where
  len : r.length = n
  rows : ∀ row ∈ r, row.length = n

theorem Shape.of_square {n : Nat} {m : List (List α)} (hl : m.length = n) (h : Square m) : Shape n m :=
  ⟨hl, fun row hr => (h row hr).trans hl⟩

theorem Shape.square {n : Nat} {r : List (List α)} (h : Shape n r) : Square r :=
  fun row hr => (h.rows row hr).trans h.len.symm

theorem Shape.entry_some {n : Nat} {r : List (List α)} (h : Shape n r) {a b : Nat} (ha : a < n) (hb : b < n) :
    ∃ v, entry r a b = some v := by
  have ha' : a < r.length := by rw [h.len]; exact ha
  have hrow := h.rows r[a] (List.getElem_mem ha')
  refine ⟨r[a][b]'(by omega), ?_⟩
  simp [entry, List.getElem?_eq_getElem ha', List.getElem?_eq_getElem (show b < r[a].length by omega)]

theorem get2_of_entry (m : List (List α)) (x i : Nat) (v : α) (h : entry m x i = some v) :
    get2 m x i = .ok v := by
  unfold entry at h
  unfold get2
  cases hx : m[x]? with
  | none => simp [hx] at h
  | some row =>
    simp only [hx] at h ⊢
    simp [h]

theorem set2_spec {n : Nat} (r : List (List α)) (h : Shape n r) (i x : Nat) (hi : i < n) (hx : x < n) (v : α) :
    ∃ r', set2 r i x v = .ok r' ∧ Shape n r' ∧
      ∀ a b, entry r' a b = if a = i ∧ b = x then some v else entry r a b := by
  have hi' : i < r.length := by rw [h.len]; exact hi
  have hrow : r[i].length = n := h.rows r[i] (List.getElem_mem hi')
  refine ⟨r.set i (r[i].set x v), ?_, ⟨by simpa using h.len, ?_⟩, ?_⟩
  · simp [set2, List.getElem?_eq_getElem hi', hrow, hx]
  · intro row hmem
    rcases List.mem_or_eq_of_mem_set hmem with hm | hm
    · exact h.rows row hm
    · rw [hm]; simpa using hrow
  · intro a b
    unfold entry
    by_cases hai : a = i
    · subst hai
      have e1 : (r.set a (r[a].set x v))[a]? = some (r[a].set x v) := List.getElem?_set_self hi'
      simp only [e1, List.getElem?_eq_getElem hi', true_and]
      rw [List.getElem?_set]
      by_cases hbx : x = b
      · subst hbx; simp [hrow, hx]
      · have : ¬ b = x := fun e => hbx e.symm
        simp [hbx, this]
    · have : ¬ i = a := fun e => hai e.symm
      rw [List.getElem?_set_ne this]
      simp [hai]

/-- the cell written in iteration `(x, i)`: `result[i][x]` for Zip, `result[x][i]` for Unzip -/
def cell (tr : Bool) (x i : Nat) : Nat × Nat := if tr then (x, i) else (i, x)

def Good (m r : List (List α)) (c : Nat × Nat) : Prop := entry r c.1 c.2 = entry m c.2 c.1

/-- what a loop that has run from `result` to `r'` through the iterations `W` leaves -/
structure Fills (tr : Bool) (m : List (List α)) (n : Nat) (W : Nat → Nat → Prop) (result r' : List (List α)) : Prop where
  shape : Shape n r'
  keeps : ∀ c, Good m result c → Good m r' c
  writes : ∀ x i, W x i → Good m r' (cell tr x i)

theorem cellLoop_spec (tr : Bool) (m : List (List α)) (n : Nat) (hm : Shape n m) (x : Nat) (hx : x < n)
    (k i : Nat) (result : List (List α)) (hk : i + k = n) (hr : Shape n result) :
    ∃ r', cellLoop tr m x k i result = .ok r' ∧ Fills tr m n (fun x' i' => x' = x ∧ i ≤ i' ∧ i' < n) result r' := by
  induction k generalizing i result with
  | zero => exact ⟨result, rfl, hr, fun _ h => h, fun _ i' h => by omega⟩
  | succ k ih =>
    have hc : (cell tr x i).1 < n ∧ (cell tr x i).2 < n := by cases tr <;> simp [cell] <;> omega
    -- both variants read `m[c.2][c.1]` and write cell `c`
    obtain ⟨v, hv⟩ := hm.entry_some hc.2 hc.1
    obtain ⟨r1, hset, hs1, he1⟩ := set2_spec result hr _ _ hc.1 hc.2 v
    have hstep : cellLoop tr m x (k + 1) i result = cellLoop tr m x k (i + 1) r1 := by
      cases tr
      · simp only [cell, Bool.false_eq_true, if_false] at hv hset
        simp only [cellLoop, Bool.false_eq_true, if_false, get2_of_entry m x i v hv, hset]
      · simp only [cell, if_true] at hv hset
        simp only [cellLoop, if_true, get2_of_entry m i x v hv, hset]
    have h1 : ∀ c, Good m result c ∨ c = cell tr x i → Good m r1 c := by
      intro c h
      unfold Good
      rw [he1]
      split
      · rename_i e; rw [e.1, e.2, hv]
      · rename_i e; exact h.resolve_right fun h => e ⟨by rw [h], by rw [h]⟩
    obtain ⟨r', hr', f⟩ := ih (i + 1) r1 (by omega) hs1
    refine ⟨r', hstep ▸ hr', f.shape, fun c h => f.keeps c (h1 c (.inl h)), fun x' i' ⟨hx', hi1, hi2⟩ => ?_⟩
    by_cases h : i' = i
    · exact f.keeps _ (h1 _ (.inr (by rw [h, hx'])))
    · exact f.writes x' i' ⟨hx', by omega, hi2⟩

theorem colLoop_spec (tr : Bool) (m : List (List α)) (n : Nat) (hm : Shape n m)
    (k x : Nat) (result : List (List α)) (hk : x + k = n) (hr : Shape n result) :
    ∃ r', colLoop tr m k x result = .ok r' ∧ Fills tr m n (fun x' i' => x ≤ x' ∧ x' < n ∧ i' < n) result r' := by
  induction k generalizing x result with
  | zero => exact ⟨result, rfl, hr, fun _ h => h, fun x' _ h => by omega⟩
  | succ k ih =>
    obtain ⟨r1, hc1, f1⟩ := cellLoop_spec tr m n hm x (by omega) n 0 result (by omega) hr
    obtain ⟨r', hr', f⟩ := ih (x + 1) r1 (by omega) f1.shape
    refine ⟨r', ?_, f.shape, fun c h => f.keeps c (f1.keeps c h), fun x' i' ⟨h1, h2, h3⟩ => ?_⟩
    · simp only [colLoop, hm.len, hc1]; exact hr'
    · by_cases h : x' = x
      · exact f.keeps _ (f1.writes x' i' ⟨h, Nat.zero_le _, h3⟩)
      · exact f.writes x' i' ⟨by omega, h2, h3⟩

theorem rowsLoop_ok [Inhabited α] (n : Nat) (rows : List (List α)) (done todo : List (List α))
    (hall : ∀ sl ∈ rows, sl.length = n) (h : rows.length ≤ todo.length) :
    rowsLoop n rows done.length (done ++ todo) =
      .ok (done ++ rows.map (fun _ => List.replicate n default) ++ todo.drop rows.length) := by
  induction rows generalizing done todo with
  | nil => simp [rowsLoop]
  | cons sl rest ih =>
    cases todo with
    | nil => simp at h
    | cons t todo =>
      rw [rowsLoop, if_neg (by simp [hall sl]), if_pos (by simp), hall sl (List.mem_cons_self ..)]
      rw [set_length_append, length_snoc done (List.replicate n (default : α)), ih _ _ (fun s hs => hall s (List.mem_cons_of_mem _ hs)) (by simpa using h)]
      simp

theorem rowsLoop_panic [Inhabited α] (sliceLen : Nat) (rows : List (List α)) (idx : Nat) (result : List (List α))
    (hbad : ¬ ∀ sl ∈ rows, sl.length = sliceLen) : rowsLoop sliceLen rows idx result = .panic := by
  induction rows generalizing idx result with
  | nil => exact absurd (by simp) hbad
  | cons sl rest ih =>
    rw [rowsLoop]
    by_cases hsl : sliceLen = sl.length
    · rw [if_neg (by simp [hsl])]
      split
      · exact ih _ _ fun hall => hbad (List.forall_mem_cons.mpr ⟨hsl.symm, hall⟩)
      · rfl
    · rw [if_pos hsl]

theorem shape_ext {n : Nat} (m m' : List (List α)) (h : Shape n m) (h' : Shape n m')
    (he : ∀ a b, a < n → b < n → entry m a b = entry m' a b) : m = m' := by
  apply List.ext_getElem (by rw [h.len, h'.len])
  intro a ha ha'
  have han : a < n := by rw [← h.len]; exact ha
  have hr : m[a].length = n := h.rows _ (List.getElem_mem ha)
  have hr' : m'[a].length = n := h'.rows _ (List.getElem_mem ha')
  apply List.ext_getElem (by rw [hr, hr'])
  intro b hb hb'
  have := he a b han (by omega)
  simp only [entry, List.getElem?_eq_getElem ha, List.getElem?_eq_getElem ha',
    List.getElem?_eq_getElem hb, List.getElem?_eq_getElem hb'] at this
  injection this

theorem transpose_twice (m r m' : List (List α)) (hsq : Square m) (h1 : TransposeOK m r)
    (h2 : TransposeOK r m') : m' = m := by
  obtain ⟨hl1, _, he1⟩ := h1
  obtain ⟨hl2, hs2, he2⟩ := h2
  refine shape_ext m' m (.of_square (hl2.trans hl1) hs2) (.of_square rfl hsq) fun a b ha hb => ?_
  rw [he2 a (by omega) b (by omega), he1 b hb a ha]

theorem zipWith_ok [Inhabited α] (tr : Bool) (m : List (List α)) (hsq : Square m) :
    ∃ r, zipWith tr m = .ok r ∧ TransposeOK m r := by
  have hm : Shape m.length m := .of_square rfl hsq
  have hsl : firstLen m = m.length := by
    cases m with
    | nil => rfl
    | cons s0 t => exact hsq s0 (by simp)
  have hr0 : rowsLoop m.length m 0 (List.replicate m.length []) =
      .ok (m.map fun _ => List.replicate m.length default) := by
    simpa using rowsLoop_ok m.length m [] (List.replicate m.length []) hsq (by simp)
  have hs0 : Shape m.length (m.map fun _ => List.replicate m.length (default : α)) :=
    ⟨by simp, List.forall_mem_map.mpr fun _ _ => List.length_replicate⟩
  obtain ⟨r, hr, f⟩ := colLoop_spec tr m m.length hm m.length 0 _ (by omega) hs0
  refine ⟨r, ?_, f.shape.len, f.shape.square, ?_⟩
  · unfold zipWith
    rw [hsl, if_neg (by simp), hr0]
    exact hr
  · intro i hi x hx
    cases tr
    · exact f.writes x i ⟨Nat.zero_le _, hx, hi⟩
    · exact f.writes i x ⟨Nat.zero_le _, hi, hx⟩

theorem zipWith_round [Inhabited α] (tr : Bool) (m : List (List α)) (h : Square m) :
    ∃ r, zipWith tr m = .ok r ∧ zipWith (!tr) r = .ok m ∧ ZipOK m r m := by
  obtain ⟨r, hr, ht⟩ := zipWith_ok tr m h
  obtain ⟨m', hm', ht'⟩ := zipWith_ok (!tr) r ht.2.1
  cases transpose_twice m r m' h ht ht'
  exact ⟨r, hr, hm', ht, rfl⟩

theorem zipWith_panic [Inhabited α] (tr : Bool) (m : List (List α)) (hsq : ¬ Square m) :
    zipWith tr m = .panic := by
  unfold zipWith
  by_cases hsl : firstLen m = m.length
  · rw [if_neg (by simp [hsl]), rowsLoop_panic _ _ _ _ (hsl ▸ hsq)]
  · rw [if_pos hsl]

end GoguVerif.Lemmas.C12
