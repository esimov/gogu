import GoguVerif.Lemmas.C03.Basic
import GoguVerif.Lemmas.C03.Sift
import GoguVerif.Lemmas.C03.Up
import GoguVerif.Lemmas.C03.Ops
import GoguVerif.Lemmas.C03.Build
import GoguVerif.Lemmas.C03.Sort
