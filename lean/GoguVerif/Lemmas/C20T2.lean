import GoguVerif.Lemmas.C20T
/-!
# C20 — helper lemmas: one throttle step

A step is a pre-action (`tpre`) followed by the passage of time (`advanceTo`).  Between steps the
trailing timer is due strictly later (`Strict`); a wake-up hands at most one permission to one blocked
caller (`Woke`), a step at most one permission (`tstep_gext`); `tstep_keeps` says what a step does to trigger log,
clock and event counter.  A step during which the timer does not run is its pre-action (`tstep_noop`, `tstep_instant`).
-/
namespace GoguVerif.Lemmas.C20T2
open GoguVerif.Spec.C20 GoguVerif.Model.C20 GoguVerif.Lemmas.C20T

/-- `s'` has the permissions of `s` plus at most `k` new ones -/
def GExt (s s' : TState) (k : Nat) : Prop := ∃ ext, s'.grants = s.grants ++ ext ∧ ext.length ≤ k

theorem GExt.of_eq {s s' : TState} (k : Nat) (h : s'.grants = s.grants) : GExt s s' k :=
  ⟨[], by simp [h], Nat.zero_le _⟩

theorem GExt.same {s s' : TState} (h : GExt s s' 0) : s'.grants = s.grants := by
  obtain ⟨ext, h1, h2⟩ := h
  have : ext = [] := List.eq_nil_of_length_eq_zero (by omega)
  rw [h1, this]; simp

def logOf (s : TState) (e : TEv) : List (Int × Nat) :=
  match e with
  | .call => [(s.now, s.grants.length)]
  | _ => []

/-- nothing happens to permissions / completion log / blocked callers, or exactly one blocked caller
receives exactly one permission (and, the callers being distinct, only that caller leaves) -/
def Woke (s s' : TState) : Prop :=
  (s'.grants = s.grants ∧ s'.doneLog = s.doneLog ∧ s'.blocked = s.blocked) ∨
  (∃ g : Grant, s'.grants = s.grants ++ [g] ∧ s'.doneLog = s.doneLog ++ [(g.id, g.t, true)] ∧
    g.id ∈ s.blocked ∧ (s.blocked.Nodup → s'.blocked = s.blocked.filter (fun x => x != g.id)))

theorem Woke.gext {s s' : TState} (h : Woke s s') : GExt s s' 1 := by
  rcases h with ⟨h, _⟩ | ⟨g, h, _⟩
  · exact GExt.of_eq 1 h
  · exact ⟨[g], h, Nat.le_refl _⟩

theorem Woke.of_eq {s s0 s' : TState} (h : Woke s0 s') (h1 : s0.grants = s.grants)
    (h2 : s0.doneLog = s.doneLog) (h3 : s0.blocked = s.blocked) : Woke s s' := by
  unfold Woke at *
  rw [h1, h2, h3] at h
  exact h

theorem wake_woke (ch : Choice) (s : TState) (w : Int × Nat) : Woke s (wake ch s w) := by
  have h := wake_up ch s w
  generalize wake ch s w = s' at h
  cases h with
  | waits hb => exact Or.inl ⟨rfl, rfl, rfl⟩
  | grants id rest hid hlen hrest => exact Or.inr ⟨_, rfl, rfl, hid, hrest⟩

theorem fire_woke (ch : Choice) (s : TState) (sc : Sched) : Woke s (fire ch s sc) := by
  rcases Bool.eq_false_or_eq_true s.stop with hs | hs
  · rw [fire_stop ch sc hs]; exact Or.inl ⟨rfl, rfl, rfl⟩
  · rw [fire_wake ch sc hs]; exact wake_woke ch { s with scheduled := none } _

theorem advanceTo_frame (ch : Choice) (s : TState) (t : Int) : Frame { s with now := t } (advanceTo ch s t) := by
  rcases due_cases s t with hd | ⟨sc, hsc, hd⟩
  · rw [advanceTo_noop ch s t hd]; exact ⟨rfl, rfl, rfl, rfl⟩
  · have f := fire_frame ch { s with now := max s.now sc.deadline } sc
    rw [advanceTo_due ch t hsc hd]
    exact ⟨f.calls, f.stop, f.n, rfl⟩

theorem advanceTo_woke (ch : Choice) (s : TState) (t : Int) : Woke s (advanceTo ch s t) := by
  rcases due_cases s t with hd | ⟨sc, hsc, hd⟩
  · rw [advanceTo_noop ch s t hd]; exact Or.inl ⟨rfl, rfl, rfl⟩
  · rw [advanceTo_due ch t hsc hd]; exact fire_woke ch { s with now := max s.now sc.deadline } sc

theorem advanceTo_strict (ch : Choice) (s : TState) (t : Int) :
    ∀ sc, (advanceTo ch s t).scheduled = some sc → t < sc.deadline := by
  rcases due_cases s t with hd | ⟨sc, hsc, hd⟩
  · rw [advanceTo_noop ch s t hd]; exact hd
  · rw [advanceTo_due ch t hsc hd]
    intro sc' h
    rw [show _ = (fire ch { s with now := max s.now sc.deadline } sc).scheduled from rfl, fire_scheduled] at h
    cases h

def Strict (s : TState) : Prop := ∀ sc, s.scheduled = some sc → s.now < sc.deadline

theorem tcall_frame (cfg : TCfg) (ch : Choice) (s : TState) : Frame (logCall s) (tcall cfg ch s) := by
  have h := tcall_does cfg ch s
  generalize tcall cfg ch s = s' at h
  cases h with
  | wakes _ _ => exact wake_frame ch (logCall s) _
  | _ => exact ⟨rfl, rfl, rfl, rfl⟩

theorem tnext_frame (s : TState) (id : Nat) : Frame s (tnext s id) := by
  have h := tnext_does s id
  generalize tnext s id = s' at h
  cases h <;> exact ⟨rfl, rfl, rfl, rfl⟩

theorem tnext_strict {s : TState} (id : Nat) (hs : Strict s) : Strict (tnext s id) := by
  have h := tnext_does s id
  generalize tnext s id = s' at h
  cases h <;> exact hs

theorem tcall_woke {cfg : TCfg} {s : TState} (ch : Choice) (h : TInv cfg s) :
    Woke s (tcall cfg ch s) ∧ ((tcall cfg ch s).grants ≠ s.grants → (tcall cfg ch s).scheduled = none) := by
  have hd := tcall_does cfg ch s
  generalize tcall cfg ch s = s' at hd
  cases hd with
  | wakes _ ha =>
    exact ⟨wake_woke ch (logCall s) _, fun _ => (wake_scheduled ch (logCall s) _).trans (h.sched_none_of_after ha)⟩
  | _ => exact ⟨Or.inl ⟨rfl, rfl, rfl⟩, fun h' => absurd rfl h'⟩

structure Keeps (s s' : TState) (log : List (Int × Nat)) (dt : Int) (k : Nat) : Prop where
  calls : s'.calls = s.calls ++ log
  now : s'.now = s.now + dt
  n : s'.n = s.n + k

theorem tpre_keeps (cfg : TCfg) (ch : Choice) (s : TState) (e : TEv) : Keeps s (tpre cfg ch s e) (logOf s e) 0 0 := by
  cases e with
  | call =>
    exact ⟨(tcall_frame cfg ch s).calls, (tcall_frame cfg ch s).now.trans (Int.add_zero _).symm, (tcall_frame cfg ch s).n⟩
  | cancel => exact ⟨(List.append_nil _).symm, (Int.add_zero _).symm, rfl⟩
  | next id =>
    exact ⟨(tnext_frame s id).calls.trans (List.append_nil _).symm, (tnext_frame s id).now.trans (Int.add_zero _).symm,
      (tnext_frame s id).n⟩
  | advance dt => exact ⟨(List.append_nil _).symm, (Int.add_zero _).symm, rfl⟩

theorem tpre_gext {cfg : TCfg} {s : TState} (ch : Choice) (e : TEv) (h : TInv cfg s) :
    GExt s (tpre cfg ch s e) 1 ∧
    ((tpre cfg ch s e).grants ≠ s.grants → (tpre cfg ch s e).scheduled = none) := by
  have same : ∀ r : TState, r.grants = s.grants → GExt s r 1 ∧ (r.grants ≠ s.grants → r.scheduled = none) :=
    fun r hr => ⟨GExt.of_eq 1 hr, fun h' => absurd hr h'⟩
  cases e with
  | call => exact ⟨(tcall_woke ch h).1.gext, (tcall_woke ch h).2⟩
  | cancel => exact same _ rfl
  | next id =>
    have hd := tnext_does s id
    show GExt s (tnext s id) 1 ∧ ((tnext s id).grants ≠ s.grants → (tnext s id).scheduled = none)
    generalize tnext s id = s' at hd
    cases hd with
    | refused _ => exact same _ rfl
    | granted hw _ => exact ⟨⟨[_], rfl, Nat.le_refl _⟩, fun _ => h.sched_none_of_waiting hw⟩
    | blocks _ _ => exact same _ rfl
  | advance dt => exact same _ rfl

theorem tstep_keeps (cfg : TCfg) (ch : Choice) (s : TState) (e : TEv) :
    Keeps s (tstep cfg ch s e) (logOf s e) e.dt 1 := by
  have k := tpre_keeps cfg ch s e
  rw [tstep_eq]
  exact ⟨(advanceTo_frame ch _ _).calls.trans k.calls,
    by rw [← Int.add_zero s.now, ← k.now]; exact (advanceTo_frame ch _ _).now,
    by show (advanceTo ch _ _).n + 1 = _; rw [(advanceTo_frame ch _ _).n, k.n]⟩

/-- A pre-action that has handed out a permission leaves no timer pending.  So the passage of time after it hands out
a permission only if the pre-action had not; otherwise it does nothing. -/
theorem advanceTo_once {s p : TState} (ch : Choice) (t : Int) (hsched : p.grants ≠ s.grants → p.scheduled = none) :
    (p.grants = s.grants ∧ Woke p (advanceTo ch p t)) ∨ advanceTo ch p t = { p with now := t } := by
  by_cases hg : p.grants = s.grants
  · exact Or.inl ⟨hg, advanceTo_woke ch p t⟩
  · exact Or.inr (advanceTo_noop ch p t fun sc h' => nomatch (hsched hg).symm.trans h')

theorem tstep_gext {cfg : TCfg} {s : TState} (ch : Choice) (e : TEv) (h : TInv cfg s) :
    GExt s (tstep cfg ch s e) 1 := by
  rw [tstep_eq]
  obtain ⟨hpre, hsched⟩ := tpre_gext ch e h
  show GExt s (advanceTo ch (tpre cfg ch s e) ((tpre cfg ch s e).now + e.dt)) 1
  rcases advanceTo_once ch _ hsched with ⟨hg, hw⟩ | hno
  · obtain ⟨ext, he, hlen⟩ := hw.gext
    exact ⟨ext, hg ▸ he, hlen⟩
  · rw [hno]; exact hpre

theorem tstep_woke {cfg : TCfg} {s : TState} (ch : Choice) (e : TEv) (h : TInv cfg s)
    (he : e = TEv.call ∨ ∃ dt, e = TEv.advance dt) :
    Woke s (tstep cfg ch s e) ∧ (tstep cfg ch s e).stop = s.stop := by
  rw [tstep_eq]
  have hpre : Woke s (tpre cfg ch s e) ∧ ((tpre cfg ch s e).grants ≠ s.grants → (tpre cfg ch s e).scheduled = none) ∧
      (tpre cfg ch s e).stop = s.stop := by
    rcases he with rfl | ⟨dt, rfl⟩
    · exact ⟨(tcall_woke ch h).1, (tcall_woke ch h).2, (tcall_frame cfg ch s).stop⟩
    · exact ⟨Or.inl ⟨rfl, rfl, rfl⟩, fun h' => absurd rfl h', rfl⟩
  obtain ⟨hw, hsched, hstop⟩ := hpre
  refine ⟨?_, (advanceTo_frame ch _ _).stop.trans hstop⟩
  show Woke s (advanceTo ch (tpre cfg ch s e) ((tpre cfg ch s e).now + e.dt))
  rcases advanceTo_once ch _ hsched with ⟨hg, hwk⟩ | hno
  · rcases hw with ⟨_, h2, h3⟩ | ⟨g, h1, _⟩
    · exact hwk.of_eq hg h2 h3
    · exact absurd (congrArg List.length (h1.symm.trans hg)) (by simp)
  · rw [hno]; exact hw

theorem tstep_strict (cfg : TCfg) (ch : Choice) (s : TState) (e : TEv) : Strict (tstep cfg ch s e) := by
  rw [tstep_eq]
  intro sc h
  show (advanceTo ch _ _).now < sc.deadline
  rw [(advanceTo_frame ch _ _).now]; exact advanceTo_strict ch _ _ sc h

theorem tstep_noop (cfg : TCfg) (ch : Choice) (s : TState) (e : TEv)
    (h : ∀ sc, (tpre cfg ch s e).scheduled = some sc → (tpre cfg ch s e).now + e.dt < sc.deadline) :
    tstep cfg ch s e =
      { tpre cfg ch s e with now := (tpre cfg ch s e).now + e.dt, n := (tpre cfg ch s e).n + 1 } := by
  rw [tstep_eq, advanceTo_noop ch _ _ h]

theorem tstep_advance_noop (cfg : TCfg) (ch : Choice) (s : TState) (dt : Nat)
    (h : ∀ sc, s.scheduled = some sc → s.now + dt < sc.deadline) :
    tstep cfg ch s (.advance dt) = { s with now := s.now + dt, n := s.n + 1 } :=
  tstep_noop cfg ch s (.advance dt) h

theorem tstep_instant (cfg : TCfg) (ch : Choice) (s : TState) (e : TEv) (hdt : e.dt = 0)
    (h : Strict (tpre cfg ch s e)) :
    tstep cfg ch s e = { tpre cfg ch s e with n := (tpre cfg ch s e).n + 1 } := by
  rw [tstep_noop cfg ch s e fun sc h' => by rw [hdt]; exact (Int.add_zero _).symm ▸ h sc h', hdt]
  exact congrArg (fun t => ({ tpre cfg ch s e with now := t, n := (tpre cfg ch s e).n + 1 } : TState)) (Int.add_zero _)

theorem tstep_next (cfg : TCfg) (ch : Choice) (s : TState) (id : Nat) (hs : Strict s) :
    tstep cfg ch s (.next id) = { tnext s id with n := (tnext s id).n + 1 } :=
  tstep_instant cfg ch s (.next id) rfl (tnext_strict id hs)

theorem tstep_cancel (cfg : TCfg) (ch : Choice) (s : TState) (hs : Strict s) :
    tstep cfg ch s .cancel = { tcancel s with n := s.n + 1 } :=
  tstep_instant cfg ch s .cancel rfl hs

theorem tstep_call_dropped (cfg : TCfg) (ch : Choice) (s : TState) (hst : Strict s)
    (h : tcall cfg ch s = logCall s) :
    tstep cfg ch s .call = { logCall s with n := s.n + 1 } := by
  rw [tstep_instant cfg ch s .call rfl (by rw [show tpre cfg ch s .call = logCall s from h]; exact hst),
    show tpre cfg ch s .call = logCall s from h]
  rfl

/-- the callback runs AT the deadline (a wake-up caused by the trigger that armed the timer), then the clock moves on -/
theorem advanceTo_fires (ch : Choice) (q : TState) (sc : Sched) (t : Int)
    (hsc : q.scheduled = some sc) (hstop : q.stop = false) (hle : q.now ≤ sc.deadline)
    (ht : sc.deadline ≤ t) :
    advanceTo ch q t =
      { wake ch { q with now := sc.deadline, scheduled := none } (sc.ctime, sc.cepoch) with now := t } := by
  rw [advanceTo_due ch t hsc ht, Int.max_eq_right hle, fire_wake (s := { q with now := sc.deadline }) ch sc hstop]

theorem tstep_advance_fires (cfg : TCfg) (ch : Choice) (q : TState) (sc : Sched) (dt : Nat)
    (hsc : q.scheduled = some sc) (hstop : q.stop = false) (hle : q.now ≤ sc.deadline)
    (ht : sc.deadline ≤ q.now + dt) :
    tstep cfg ch q (.advance dt) =
      { wake ch { q with now := sc.deadline, scheduled := none } (sc.ctime, sc.cepoch) with
        now := q.now + dt, n := q.n + 1 } := by
  rw [tstep_eq]
  show ({ advanceTo ch q (q.now + dt) with n := (advanceTo ch q (q.now + dt)).n + 1 } : TState) = _
  rw [advanceTo_fires ch q sc _ hsc hstop hle ht]
  show ({ wake ch _ _ with now := q.now + dt, n := (wake ch _ _).n + 1 } : TState) = _
  rw [(wake_frame ch _ _).n]

end GoguVerif.Lemmas.C20T2
