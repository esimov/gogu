import GoguVerif.Lemmas.C16Store
import GoguVerif.Lemmas.C12
import GoguVerif.Lemmas.C11
/-!
# Lemmas for the store-level helper models (C16)

Four layers.  First what `read`, `write`, `make` and `s[lo:hi]` do to the elements a well-formed header shows (`elems`),
and `range_induction`: a `range` loop as an induction over those elements.  Then the *builder invariant* `Inv`, with
`AppendPost` as the one postcondition of `append`, `appendEach` and `append(s, vs...)`, and the loops of the builders:
each is `appendEach` of the value-level answer (`Inv2`: two results side by side, for `Partition`).  Then the views of
`Drop` and `Chunk`, and the in-place helpers, whose every step is `InPlace` on the argument's window (`swapStore_sim`,
`rejectStep_spec`); the swap loops of `Reverse` and `Shuffle` simulate the value-level loops on every store, panics included
(`Sim`), so that they never panic is C12's theorem and is not proved again here.  Last the builders that fill a slice made
to measure (`writeAll_spec`, `filler_spec`).  At the end, in the namespace `Theorems.C16Helpers`, what the batches of
`Theorems/C16Helpers….lean` share: `frame_keeps`, `inplace_keeps`, `builder_refines`, `builder_disciplined`; at the
head, in the same namespace, `writesFrom`, the program of a filler.
-/
namespace GoguVerif.Theorems.C16Helpers
open Model.Store

/-- the program of `Map`'s loop: one indexed write per element, through register `r` -/
def writesFrom (r : Nat) : Nat → List Int → List Instr
  | _, [] => []
  | idx, v :: vs => Instr.write r idx v :: writesFrom r (idx + 1) vs

end GoguVerif.Theorems.C16Helpers

namespace GoguVerif.Lemmas.C16Helpers
open Model.Store Model.StoreHelpers Lemmas.C16Store

theorem elems_of_arr {σ : Store} {s : Slice} {a : List Int} (h : σ[s.arr]? = some a) :
    elems σ s = (a.drop s.off).take s.len := by
  simp only [elems, h, Option.getD_some]

theorem elems_length {σ : Store} {s : Slice} (h : WF σ s) : (elems σ s).length = s.len := by
  obtain ⟨hl, a, ha, hc⟩ := h
  rw [elems_of_arr ha, List.length_take, List.length_drop]
  omega

/-- what a slice shows, cell by cell: `InPlace` speaks of cells, the refinements of `elems` -/
theorem elems_getElem? (σ : Store) (s : Slice) (k : Nat) :
    (elems σ s)[k]? = if k < s.len then cell σ s.arr (s.off + k) else none := by
  simp only [elems, List.getElem?_take, List.getElem?_drop, cell]
  split
  · cases σ[s.arr]? <;> rfl
  · rfl

theorem read_eq {σ : Store} {s : Slice} (i : Nat) : Model.Store.read σ s i = (elems σ s)[i]? :=
  (elems_getElem? σ s i).symm

theorem lt_of_elems_getElem? {σ : Store} {s : Slice} {i : Nat} {a : Int} (h : (elems σ s)[i]? = some a) : i < s.len := by
  rw [elems_getElem?] at h
  split at h
  · assumption
  · cases h

theorem read_getElem {σ : Store} {s : Slice} {i : Nat} (hi : i < (elems σ s).length) :
    Model.Store.read σ s i = some (elems σ s)[i] := by
  rw [read_eq, List.getElem?_eq_getElem hi]

theorem elems_congr {σ σ' : Store} (s : Slice) (h : σ'[s.arr]? = σ[s.arr]?) : elems σ' s = elems σ s := by
  simp only [elems, h]

theorem read_congr {σ σ' : Store} (s : Slice) (i : Nat) (h : σ'[s.arr]? = σ[s.arr]?) :
    Model.Store.read σ' s i = Model.Store.read σ s i := by
  simp only [Model.Store.read, h]

theorem WF_congr {σ σ' : Store} {s : Slice} (h : σ'[s.arr]? = σ[s.arr]?) (hw : WF σ s) : WF σ' s := by
  obtain ⟨hl, a, ha, hc⟩ := hw
  exact ⟨hl, a, h.trans ha, hc⟩

theorem WF_arr_lt {σ : Store} {s : Slice} (h : WF σ s) : s.arr < σ.length := by
  obtain ⟨_, a, ha, _⟩ := h
  exact (List.getElem?_eq_some_iff.mp ha).1

theorem take_drop_set_in {a : List Int} {off len i : Nat} (v : Int) :
    ((a.set (off + i) v).drop off).take len = ((a.drop off).take len).set i v := by
  rw [List.drop_set, if_neg (by omega), Nat.add_sub_cancel_left, List.take_set]

/-- the counterpart of `take_drop_set_in`, at list level what `InPlace.outside` says of a write outside a window -/
theorem take_drop_set_out {a : List Int} {off len j : Nat} (v : Int) (hj : j < off ∨ off + len ≤ j) :
    ((a.set j v).drop off).take len = (a.drop off).take len := by
  rw [List.drop_set]
  split
  · rfl
  · rw [List.take_set, List.set_eq_of_length_le]
    rw [List.length_take]; omega

theorem take_succ_of_set (l : List Int) (i : Nat) (x : Int) (hi : i < l.length) :
    (l.set i x).take (i + 1) = l.take i ++ [x] := by
  rw [List.take_add_one, List.take_set_of_le (Nat.le_refl i), List.getElem?_set_self hi]; rfl

theorem take_drop_succ_of_set {a : List Int} {off len : Nat} (v : Int) (h : off + len < a.length) :
    ((a.set (off + len) v).drop off).take (len + 1) = (a.drop off).take len ++ [v] := by
  rw [List.drop_set, if_neg (by omega), Nat.add_sub_cancel_left,
    take_succ_of_set _ _ _ (by rw [List.length_drop]; omega)]

theorem InPlace.wf {σ σ' : Store} {s : Slice} (h : InPlace σ σ' s) {t : Slice} (ht : WF σ t) : WF σ' t := by
  obtain ⟨_, h2, _, h4⟩ := h
  obtain ⟨htl, b, hb, htc⟩ := ht
  by_cases hta : t.arr = s.arr
  · rw [← hta, hb] at h4
    obtain ⟨b', hb', hl⟩ := Option.map_eq_some_iff.mp h4
    exact ⟨htl, b', hb', hl ▸ htc⟩
  · exact ⟨htl, b, (h2 _ hta).trans hb, htc⟩

theorem elems_setCell (σ : Store) (s : Slice) (i : Nat) (v : Int) :
    elems (setCell σ s.arr (s.off + i) v) s = (elems σ s).set i v := by
  simp only [elems, setCell_same]
  cases σ[s.arr]? with
  | none => simp
  | some a => exact take_drop_set_in v

theorem write_inplace {σ : Store} {s : Slice} {i : Nat} (hi : i < s.len) (v : Int) :
    ∃ σ', write σ s i v = some σ' ∧ elems σ' s = (elems σ s).set i v ∧ InPlace σ σ' s :=
  ⟨_, if_pos hi, elems_setCell σ s i v, InPlace.of_write (if_pos hi)⟩

/-- `c` is a view of `s` inside `s`'s window `[off, off+len)` -/
def View (s c : Slice) : Prop := c.arr = s.arr ∧ s.off ≤ c.off ∧ c.off + c.len ≤ s.off + s.len

theorem InPlace.mono {σ σ' : Store} {s t : Slice} (h : InPlace σ σ' t) (hv : View s t) : InPlace σ σ' s := by
  obtain ⟨ha, ho, hl⟩ := hv
  obtain ⟨b1, b2, b3, b4⟩ := h
  rw [ha] at b2 b3 b4
  exact ⟨b1, b2, fun j hj => b3 j (hj.imp (fun h => Nat.lt_of_lt_of_le h ho) (Nat.le_trans hl)), b4⟩

theorem reslice_spec {σ : Store} {s : Slice} (h : WF σ s) {lo hi : Nat} (h1 : lo ≤ hi) (h2 : hi ≤ s.len) :
    reslice s lo hi = some ⟨s.arr, s.off + lo, hi - lo, s.cap - lo⟩ ∧
      WF σ ⟨s.arr, s.off + lo, hi - lo, s.cap - lo⟩ ∧
      elems σ ⟨s.arr, s.off + lo, hi - lo, s.cap - lo⟩ = ((elems σ s).take hi).drop lo ∧
      View s ⟨s.arr, s.off + lo, hi - lo, s.cap - lo⟩ := by
  obtain ⟨hl, a, ha, hc⟩ := h
  have hcap : hi ≤ s.cap := Nat.le_trans h2 hl
  refine ⟨if_pos ⟨h1, hcap⟩, ⟨Nat.sub_le_sub_right hcap lo, a, ha, ?_⟩, ?_, ⟨rfl, Nat.le_add_right .., ?_⟩⟩
  · show s.off + lo + (s.cap - lo) ≤ a.length
    rw [Nat.add_assoc, Nat.add_sub_cancel' (Nat.le_trans h1 hcap)]
    exact hc
  · simp only [elems, List.take_take, Nat.min_eq_left h2, List.drop_take, List.drop_drop]
  · show s.off + lo + (hi - lo) ≤ s.off + s.len
    rw [Nat.add_assoc, Nat.add_sub_cancel' h1]
    exact Nat.add_le_add_left h2 _

theorem alloc_wf (σ : Store) (len cap : Nat) : WF (alloc σ len cap).1 (alloc σ len cap).2 :=
  ⟨Nat.le_max_left .., _, List.getElem?_concat_length, by simp [alloc]⟩

theorem alloc_elems (σ : Store) (len cap : Nat) :
    elems (alloc σ len cap).1 (alloc σ len cap).2 = List.replicate len 0 := by
  simp only [elems, alloc, List.getElem?_concat_length, Option.getD_some, List.drop_zero, List.take_replicate]
  rw [Nat.min_eq_left (Nat.le_max_left ..)]

theorem alloc_arr (σ : Store) (len cap : Nat) : (alloc σ len cap).2.arr = σ.length := rfl

theorem alloc_length (σ : Store) (len cap : Nat) : (alloc σ len cap).1.length = σ.length + 1 := List.length_append

theorem alloc_frame (σ : Store) (len cap : Nat) : Frame σ (alloc σ len cap).1 :=
  fun _ ha => List.getElem?_append_left ha

theorem frame_arg {σ0 σ : Store} (hf : Frame σ0 σ) {s : Slice} (hs : WF σ0 s) : σ[s.arr]? = σ0[s.arr]? :=
  hf s.arr (WF_arr_lt hs)

theorem Frame.refl (σ : Store) : Frame σ σ := fun _ _ => rfl

theorem Frame.length_le {σ σ' : Store} (h : Frame σ σ') : σ.length ≤ σ'.length := by
  rcases Nat.lt_or_ge σ'.length σ.length with hlt | hge
  · have := h σ'.length hlt
    rw [List.getElem?_eq_none (Nat.le_refl _), List.getElem?_eq_getElem hlt] at this
    cases this
  · exact hge

theorem Frame.trans {σ σ1 σ2 : Store} (h1 : Frame σ σ1) (h2 : Frame σ1 σ2) : Frame σ σ2 :=
  fun a ha => (h2 a (Nat.lt_of_lt_of_le ha (Frame.length_le h1))).trans (h1 a ha)

theorem Frame.wf {σ0 σ : Store} (hf : Frame σ0 σ) {s : Slice} (hs : WF σ0 s) : WF σ s :=
  WF_congr (frame_arg hf hs) hs

theorem Frame.elems_eq {σ0 σ : Store} (hf : Frame σ0 σ) {s : Slice} (hs : WF σ0 s) : elems σ s = elems σ0 s :=
  elems_congr s (frame_arg hf hs)

/-- `for i, v := range s` as an induction over the elements `s` shows: with `n` iterations left at index `i`,
`i + n = len s`, the list is what is still to be read, and `s[i]` read from ANY store that frames `σ0` is its head.
A loop lemma is left with what the body does. -/
theorem range_induction {σ0 : Store} {s : Slice} (h : WF σ0 s) {motive : Nat → Nat → List Int → Prop}
    (nil : ∀ i, motive 0 i [])
    (cons : ∀ n i v l, (∀ σ, Frame σ0 σ → Model.Store.read σ s i = some v) → motive n (i + 1) l →
      motive (n + 1) i (v :: l)) :
    ∀ n i, i + n = s.len → motive n i ((elems σ0 s).drop i) := by
  rw [← elems_length h]
  intro n
  induction n with
  | zero => intro i hi; rw [List.drop_of_length_le (i := i) (Nat.le_of_eq hi.symm)]; exact nil i
  | succ n ih =>
    intro i hi
    have hlt : i < (elems σ0 s).length := hi ▸ Nat.lt_add_of_pos_right (Nat.succ_pos n)
    rw [List.drop_eq_getElem_cons hlt]
    exact cons n i _ _ (fun σ hf => (read_congr s i (frame_arg hf h)).trans (read_getElem hlt))
      (ih (i + 1) ((Nat.add_right_comm i 1 n).trans hi))

theorem range_loop {σ0 : Store} {s : Slice} (h : WF σ0 s) {motive : Nat → Nat → List Int → Prop}
    (nil : ∀ i, motive 0 i [])
    (cons : ∀ n i v l, (∀ σ, Frame σ0 σ → Model.Store.read σ s i = some v) → motive n (i + 1) l →
      motive (n + 1) i (v :: l)) : motive s.len 0 (elems σ0 s) :=
  range_induction h nil cons s.len 0 (Nat.zero_add _)

/-- the builder invariant: every array of the initial store `σ0` is unchanged in `σ`, and `res` is a
well-formed header into storage that did not exist in `σ0` -/
structure Inv (σ0 σ : Store) (res : Slice) : Prop where
  len : σ0.length ≤ σ.length
  frame : Frame σ0 σ
  fresh : σ0.length ≤ res.arr
  wf : WF σ res

theorem Inv.alloc (σ : Store) (len cap : Nat) : Inv σ (alloc σ len cap).1 (alloc σ len cap).2 := by
  exact ⟨Frame.length_le (alloc_frame σ len cap), alloc_frame σ len cap, Nat.le_refl _, alloc_wf σ len cap⟩

theorem Inv.inplace {σ0 σ σ' : Store} {res : Slice} (h : Inv σ0 σ res) (hp : InPlace σ σ' res) : Inv σ0 σ' res := by
  refine ⟨by rw [InPlace.length_eq hp]; exact h.len, fun a ha => ?_, h.fresh, InPlace.wf hp h.wf⟩
  rw [InPlace.other hp (Nat.ne_of_lt (Nat.lt_of_lt_of_le ha h.fresh)), h.frame a ha]

/-- `target`: the result stays on `s`'s array (written in place) or lies on a fresh one; `keep`: every other
header stays well-formed, which is what carries the second result of `Partition` through an append to the first -/
structure AppendPost (σ : Store) (s : Slice) (vs : List Int) (r : Store × Slice) : Prop where
  wf : WF r.1 r.2
  elems : elems r.1 r.2 = elems σ s ++ vs
  len : r.2.len = s.len + vs.length
  grow : σ.length ≤ r.1.length
  others : ∀ a, a < σ.length → a ≠ s.arr → r.1[a]? = σ[a]?
  keep : ∀ t, WF σ t → WF r.1 t
  target : r.2.arr = s.arr ∨ σ.length ≤ r.2.arr

theorem AppendPost.nil {σ : Store} {s : Slice} (h : WF σ s) : AppendPost σ s [] (σ, s) :=
  ⟨h, (List.append_nil _).symm, rfl, Nat.le_refl _, fun _ _ _ => rfl, fun _ ht => ht, Or.inl rfl⟩

theorem AppendPost.realloc {σ : Store} {s : Slice} (h : WF σ s) (vs : List Int) {c : Nat}
    (h1 : s.len + vs.length ≤ c) :
    AppendPost σ s vs
      (σ ++ [Model.Store.elems σ s ++ vs ++ List.replicate (c - (s.len + vs.length)) 0],
        { arr := σ.length, off := 0, len := s.len + vs.length, cap := c }) := by
  have hlen := elems_length h
  refine ⟨⟨h1, _, List.getElem?_concat_length, by simp only [List.length_append, List.length_replicate, hlen]; omega⟩, ?_, rfl,
    by simp, fun b hb _ => List.getElem?_append_left hb, fun t ht => Frame.wf (fun _ hb => List.getElem?_append_left hb) ht, Or.inr (Nat.le_refl _)⟩
  generalize Model.Store.elems σ s = e at hlen ⊢
  simp only [Model.Store.elems, List.getElem?_concat_length, Option.getD_some, List.drop_zero]
  rw [List.take_append_of_le_length (by simp [hlen]), List.take_of_length_le (by simp [hlen])]

theorem AppendPost.single {σ : Store} {s : Slice} (h : WF σ s) (v : Int) : AppendPost σ s [v] (append σ s v) := by
  unfold append
  split
  · rename_i hlt
    obtain ⟨hl, a, ha, hc⟩ := h
    have hset : (setCell σ s.arr (s.off + s.len) v)[s.arr]? = some (a.set (s.off + s.len) v) := by
      rw [setCell_same, ha]; rfl
    have hp := setCell_inplace σ { s with len := s.len + 1 } v (Nat.lt_succ_self s.len)
    refine ⟨⟨hlt, _, hset, by rw [List.length_set]; exact hc⟩, ?_, rfl, Nat.le_of_eq (setCell_length ..).symm,
      fun b _ hb => setCell_other _ _ _ _ _ (Ne.symm hb), fun t ht => InPlace.wf hp ht, Or.inl rfl⟩
    rw [elems_of_arr (s := { s with len := s.len + 1 }) hset, elems_of_arr ha]
    exact take_drop_succ_of_set v (show s.off + s.len < a.length by omega)
  · have := h.1
    exact AppendPost.realloc h [v] (show s.len + 1 ≤ 2 * s.cap + 1 by omega)

theorem AppendPost.trans {σ : Store} {s : Slice} {vs ws : List Int} {r r' : Store × Slice}
    (h1 : AppendPost σ s vs r) (h2 : AppendPost r.1 r.2 ws r') : AppendPost σ s (vs ++ ws) r' := by
  refine ⟨h2.wf, by rw [h2.elems, h1.elems, List.append_assoc], by rw [h2.len, h1.len, List.length_append]; omega,
    Nat.le_trans h1.grow h2.grow, fun a ha hne => ?_, fun t ht => h2.keep t (h1.keep t ht), ?_⟩
  · rw [h2.others a (Nat.lt_of_lt_of_le ha h1.grow) (by rcases h1.target with e | e <;> omega), h1.others a ha hne]
  · rcases h2.target with e | e
    · rcases h1.target with e1 | e1
      · exact Or.inl (e.trans e1)
      · exact Or.inr (by omega)
    · exact Or.inr (Nat.le_trans h1.grow e)

theorem appendEach_post {σ : Store} {s : Slice} (h : WF σ s) (vs : List Int) :
    AppendPost σ s vs (appendEach σ s vs) := by
  induction vs generalizing σ s with
  | nil => exact AppendPost.nil h
  | cons v vs ih =>
    have h1 := AppendPost.single h v
    exact AppendPost.trans (vs := [v]) h1 (ih h1.wf)

theorem appendMany_post {σ : Store} {s : Slice} (h : WF σ s) (vs : List Int) :
    AppendPost σ s vs (appendMany σ s vs) := by
  unfold appendMany
  split
  · exact appendEach_post h vs
  · exact AppendPost.realloc h vs (Nat.le_max_right ..)

/-- when the values do not fit, `append(s, vs...)` writes NO existing array (the case beside `appendMany_fit`; the
builders get their frame from `appendMany_post` in either case) -/
theorem appendMany_nofit_frame {σ : Store} {s : Slice} (vs : List Int) (h : ¬ s.len + vs.length ≤ s.cap) :
    Frame σ (appendMany σ s vs).1 ∧ (appendMany σ s vs).2.arr = σ.length := by
  simp only [appendMany, h, if_false]
  exact ⟨fun a ha => List.getElem?_append_left ha, trivial⟩

theorem appendMany_fit {σ : Store} {s : Slice} (vs : List Int) (hfit : s.len + vs.length ≤ s.cap) :
    (appendMany σ s vs).2 = { s with len := s.len + vs.length } ∧
    InPlace σ (appendMany σ s vs).1 { s with off := s.off + s.len, len := vs.length } := by
  rw [appendMany, if_pos hfit]
  induction vs generalizing σ s with
  | nil => exact ⟨rfl, InPlace.refl ..⟩
  | cons v vs ih =>
    rw [List.length_cons] at hfit
    have happ : append σ s v = (setCell σ s.arr (s.off + s.len) v, { s with len := s.len + 1 }) :=
      if_pos (show s.len < s.cap by omega)
    obtain ⟨h1, h2⟩ := ih (σ := setCell σ s.arr (s.off + s.len) v) (s := { s with len := s.len + 1 })
      (show s.len + 1 + vs.length ≤ s.cap by omega)
    simp only [appendEach, happ, List.length_cons]
    refine ⟨h1.trans (by rw [Nat.add_assoc, Nat.add_comm 1]), InPlace.trans ?_ (InPlace.mono h2 ⟨rfl, ?_, ?_⟩)⟩
    · exact setCell_inplace σ { s with off := s.off + s.len, len := vs.length + 1 } (i := 0) v (Nat.succ_pos _)
    · show s.off + s.len ≤ s.off + (s.len + 1); omega
    · show s.off + (s.len + 1) + vs.length ≤ s.off + s.len + (vs.length + 1); omega

theorem Inv.of_appendPost {σ0 σ : Store} {res : Slice} (h : Inv σ0 σ res) {vs : List Int} {r : Store × Slice}
    (hp : AppendPost σ res vs r) : Inv σ0 r.1 r.2 := by
  refine ⟨Nat.le_trans h.len hp.grow, fun a ha => ?_, ?_, hp.wf⟩
  · rw [hp.others a (Nat.lt_of_lt_of_le ha h.len) (by have := h.fresh; omega), h.frame a ha]
  · rcases hp.target with e | e
    · rw [e]; exact h.fresh
    · exact Nat.le_trans h.len e

theorem Inv.append {σ0 σ : Store} {res : Slice} (h : Inv σ0 σ res) (v : Int) :
    Inv σ0 (append σ res v).1 (append σ res v).2 := h.of_appendPost (AppendPost.single h.wf v)

theorem Inv.appendEach {σ0 σ : Store} {res : Slice} (h : Inv σ0 σ res) (vs : List Int) :
    Inv σ0 (appendEach σ res vs).1 (appendEach σ res vs).2 := h.of_appendPost (appendEach_post h.wf vs)

/-- `res = append(res, s...)` for an argument `s` -/
theorem Inv.appendMany {σ0 σ : Store} {res : Slice} (h : Inv σ0 σ res) {s : Slice} (hs : WF σ0 s) :
    Inv σ0 (appendMany σ res (elems σ s)).1 (appendMany σ res (elems σ s)).2 ∧
    elems (appendMany σ res (elems σ s)).1 (appendMany σ res (elems σ s)).2 = elems σ res ++ elems σ0 s := by
  have hpost := appendMany_post h.wf (elems σ s)
  exact ⟨h.of_appendPost hpost, by rw [hpost.elems, Frame.elems_eq h.frame hs]⟩

/-- appends through the last register, where `make` has put the slice -/
theorem run_appends (base : Nat) (vs : List Int) (σ : Store) (regs : List Slice) (s : Slice) (hb : base ≤ s.arr)
    (hσ : base ≤ σ.length) :
    run base { σ := σ, regs := regs ++ [s] } (vs.map (Instr.append regs.length)) =
      { σ := (appendEach σ s vs).1, regs := regs ++ [(appendEach σ s vs).2] } := by
  induction vs generalizing σ s with
  | nil => rfl
  | cons v vs ih =>
    simp only [List.map_cons, run, step, List.getElem?_concat_length, hb, if_true, appendEach,
      List.set_append_right _ _ (Nat.le_refl _), Nat.sub_self, List.set_cons_zero]
    exact ih _ _ (append_arr_ge _ _ _ _ hb hσ) (Nat.le_trans hσ (append_length_ge _ _ _))

/-! ## the `range … append` loops are `appendEach` of the value-level answer

Where the value-level loop carries its result as an accumulator `r`, the store-level loop appends some
`ws` with `spec r … = r ++ ws` for EVERY `r`: the induction then needs no lemma about the accumulator. -/

theorem filterLoop_eq (fn : Int → Bool) {σ0 : Store} {arg : Slice} (harg : WF σ0 arg) (σ : Store) (res : Slice)
    (hinv : Inv σ0 σ res) :
    filterLoop fn arg arg.len 0 σ res = some (appendEach σ res ((elems σ0 arg).filter fn)) :=
  range_loop harg
    (motive := fun n i l => ∀ σ res, Inv σ0 σ res →
      filterLoop fn arg n i σ res = some (appendEach σ res (l.filter fn)))
    (fun _ _ _ _ => rfl)
    (fun n i v l hr ih σ res hinv => by
      simp only [filterLoop, hr σ hinv.frame, List.filter_cons]
      split
      · exact ih _ _ (hinv.append v)
      · exact ih _ _ hinv) σ res hinv

/-- gogu writes `DropWhile` as `Filter` of the negated predicate and `Unique` next to `UniqueBy`, and the models follow the
text: such loops unfold to the same term (the unifier exposes the body of a structural recursion on a variable only with
`smartUnfolding` off) -/
theorem dropWhileLoop_eq_filterLoop (fn : Int → Bool) (slice : Slice) :
    dropWhileLoop fn slice = filterLoop (fun x => !fn x) slice := by
  set_option smartUnfolding false in rfl

theorem dropWhileLoop_eq (fn : Int → Bool) {σ0 : Store} {arg : Slice} (harg : WF σ0 arg) (σ : Store) (res : Slice)
    (hinv : Inv σ0 σ res) :
    dropWhileLoop fn arg arg.len 0 σ res = some (appendEach σ res ((elems σ0 arg).filter (fun x => !fn x))) := by
  rw [dropWhileLoop_eq_filterLoop]
  exact filterLoop_eq _ harg σ res hinv

theorem uniqueByLoop_eq (fn : Int → Int) {σ0 : Store} {arg : Slice} (harg : WF σ0 arg) (σ : Store) (res : Slice)
    (hinv : Inv σ0 σ res) :
    uniqueByLoop fn arg arg.len 0 [] σ res = some (appendEach σ res (Model.C11.uniqueBy (elems σ0 arg) fn)) := by
  obtain ⟨ws, g1, g2⟩ := range_loop harg
    (motive := fun n i l => ∀ keys σ res, Inv σ0 σ res →
      ∃ ws, uniqueByLoop fn arg n i keys σ res = some (appendEach σ res ws) ∧
        ∀ r, Model.C11.uniqueByLoop fn keys r l = r ++ ws)
    (fun _ _ _ _ _ => ⟨[], rfl, fun r => (List.append_nil r).symm⟩)
    (fun n i v l hr ih keys σ res hinv => by
      by_cases hk : fn v ∈ keys
      · simp only [uniqueByLoop, hr σ hinv.frame, Model.C11.uniqueByLoop, hk, if_true]
        exact ih _ _ _ hinv
      · simp only [uniqueByLoop, hr σ hinv.frame, Model.C11.uniqueByLoop, hk, if_false]
        obtain ⟨ws, g1, g2⟩ := ih (fn v :: keys) _ _ (hinv.append v)
        exact ⟨v :: ws, g1, fun r => by rw [g2, List.append_assoc]; rfl⟩) [] σ res hinv
  rw [g1, show ws = Model.C11.uniqueBy (elems σ0 arg) fn from (g2 []).symm]

theorem uniqueLoop_eq_uniqueByLoop (slice : Slice) : uniqueLoop slice = uniqueByLoop id slice := by
  set_option smartUnfolding false in rfl

theorem uniqueLoop_eq {σ0 : Store} {arg : Slice} (harg : WF σ0 arg) (σ : Store) (res : Slice) (hinv : Inv σ0 σ res) :
    uniqueLoop arg arg.len 0 [] σ res = some (appendEach σ res (Model.C11.unique (elems σ0 arg))) := by
  rw [uniqueLoop_eq_uniqueByLoop, Lemmas.C11.unique_eq_uniqueBy]
  exact uniqueByLoop_eq id harg σ res hinv

theorem dropRightWhileLoop_eq (fn : Int → Bool) {σ0 : Store} {arg : Slice} (harg : WF σ0 arg) (σ : Store)
    (res : Slice) (hinv : Inv σ0 σ res) :
    dropRightWhileLoop fn arg arg.len σ res =
      some (appendEach σ res ((elems σ0 arg).reverse.filter (fun x => !fn x))) := by
  have down : ∀ k σ res, Inv σ0 σ res → k ≤ arg.len → dropRightWhileLoop fn arg k σ res =
      some (appendEach σ res (((elems σ0 arg).take k).reverse.filter (fun x => !fn x))) := by
    intro k
    induction k with
    | zero => intros; rfl
    | succ i ih =>
      intro σ res hinv hk
      have hi : i < (elems σ0 arg).length := by rw [elems_length harg]; omega
      have hr := (read_congr arg i (frame_arg hinv.frame harg)).trans (read_getElem hi)
      simp only [dropRightWhileLoop, hr, List.take_add_one, List.getElem?_eq_getElem hi, Option.toList_some,
        List.reverse_append, List.reverse_singleton, List.singleton_append, List.filter_cons]
      split
      · exact ih _ _ (hinv.append _) (by omega)
      · exact ih _ _ hinv (by omega)
  rw [down _ σ res hinv (Nat.le_refl _), List.take_of_length_le (Nat.le_of_eq (elems_length harg))]

theorem containsStore_eq {σ : Store} {s : Slice} (h : WF σ s) (value : Int) :
    containsStore σ s value = some (Model.C11.contains value (elems σ s)) :=
  range_loop h (motive := fun n j l => containsLoop σ s value n j = some (Model.C11.contains value l))
    (fun _ => rfl)
    (fun n j w l hr ih => by
      simp only [containsLoop, hr σ (Frame.refl σ), Model.C11.contains]
      split
      · rfl
      · exact ih)

theorem mergeLoop_spec {σ0 : Store} (params : List Slice) (hp : ∀ p ∈ params, WF σ0 p) (σ : Store) (merged : Slice)
    (hinv : Inv σ0 σ merged) :
    Inv σ0 (mergeLoop params σ merged).1 (mergeLoop params σ merged).2 ∧
    elems (mergeLoop params σ merged).1 (mergeLoop params σ merged).2 =
      Model.C12.mergeLoop (params.map (elems σ0)) (elems σ merged) := by
  induction params generalizing σ merged with
  | nil => exact ⟨hinv, rfl⟩
  | cons p rest ih =>
    obtain ⟨i1, e1⟩ := hinv.appendMany (hp p List.mem_cons_self)
    obtain ⟨h1, h2⟩ := ih (fun q hq => hp q (List.mem_cons_of_mem _ hq)) _ _ i1
    exact ⟨h1, by simp only [mergeLoop, List.map_cons, Model.C12.mergeLoop]; rw [h2, e1]⟩

/-- two results built side by side: both fresh, on different arrays -/
structure Inv2 (σ0 σ : Store) (r0 r1 : Slice) : Prop where
  i0 : Inv σ0 σ r0
  i1 : Inv σ0 σ r1
  ne : r0.arr ≠ r1.arr

theorem Inv2.append_left {σ0 σ : Store} {r0 r1 : Slice} (h : Inv2 σ0 σ r0 r1) (v : Int) :
    Inv2 σ0 (append σ r0 v).1 (append σ r0 v).2 r1 ∧ elems (append σ r0 v).1 r1 = elems σ r1 ∧
      elems (append σ r0 v).1 (append σ r0 v).2 = elems σ r0 ++ [v] := by
  have post := AppendPost.single h.i0.wf v
  have i0' := h.i0.of_appendPost post
  have hlt := WF_arr_lt h.i1.wf
  refine ⟨⟨i0', ⟨i0'.len, i0'.frame, h.i1.fresh, post.keep _ h.i1.wf⟩, ?_⟩, ?_, post.elems⟩
  · rcases post.target with e | e
    · rw [e]; exact h.ne
    · omega
  · exact elems_congr r1 (post.others _ hlt (Ne.symm h.ne))

theorem Inv2.symm {σ0 σ : Store} {r0 r1 : Slice} (h : Inv2 σ0 σ r0 r1) : Inv2 σ0 σ r1 r0 :=
  ⟨h.i1, h.i0, Ne.symm h.ne⟩

/-- the pair rule for builders: a result `r` built from `σ` on, after `r0` was built from `σ0` on -/
theorem Inv.later {σ0 σ σ' : Store} {r0 r : Slice} (h0 : Inv σ0 σ r0) (h : Inv σ σ' r) :
    Inv2 σ0 σ' r0 r ∧ elems σ' r0 = elems σ r0 := by
  have hl := Nat.le_trans h0.len h.len
  have hf := Frame.trans h0.frame h.frame
  exact ⟨⟨⟨hl, hf, h0.fresh, Frame.wf h.frame h0.wf⟩, ⟨hl, hf, Nat.le_trans h0.len h.fresh, h.wf⟩,
    Nat.ne_of_lt (Nat.lt_of_lt_of_le (WF_arr_lt h0.wf) h.fresh)⟩, Frame.elems_eq h.frame h0.wf⟩

theorem partitionLoop_spec (fn : Int → Bool) {σ0 : Store} {arg : Slice} (harg : WF σ0 arg) (σ : Store)
    (r0 r1 : Slice) (hinv : Inv2 σ0 σ r0 r1) :
    ∃ σ' q0 q1, partitionLoop fn arg arg.len 0 σ r0 r1 = some (σ', q0, q1) ∧ Inv2 σ0 σ' q0 q1 ∧
      Model.C12.partitionLoop fn (elems σ0 arg) (elems σ r0, elems σ r1) = (elems σ' q0, elems σ' q1) :=
  range_loop harg
    (motive := fun n i l => ∀ σ r0 r1, Inv2 σ0 σ r0 r1 →
      ∃ σ' q0 q1, partitionLoop fn arg n i σ r0 r1 = some (σ', q0, q1) ∧ Inv2 σ0 σ' q0 q1 ∧
        Model.C12.partitionLoop fn l (elems σ r0, elems σ r1) = (elems σ' q0, elems σ' q1))
    (fun _ σ r0 r1 hinv => ⟨σ, r0, r1, rfl, hinv, rfl⟩)
    (fun n i v l hr ih σ r0 r1 hinv => by
      simp only [partitionLoop, hr σ hinv.i0.frame, Model.C12.partitionLoop]
      by_cases hf : fn v = true
      · obtain ⟨a1, a2, a3⟩ := hinv.append_left v
        rw [if_pos hf, if_pos hf, ← a3, ← a2]
        exact ih _ _ _ a1
      · obtain ⟨a1, a2, a3⟩ := hinv.symm.append_left v
        rw [if_neg hf, if_neg hf, ← a3, ← a2]
        exact ih _ _ _ a1.symm) σ r0 r1 hinv

theorem reslice_sliceOf {σ : Store} {s : Slice} (h : WF σ s) {lo hi : Nat} (h1 : lo ≤ hi) (h2 : hi ≤ s.len) :
    ∃ c, reslice s lo hi = some c ∧ Model.C12.sliceOf (elems σ s) lo hi = .ok (elems σ c) ∧ WF σ c ∧ View s c := by
  obtain ⟨e1, e2, e3, e4⟩ := reslice_spec h h1 h2
  exact ⟨_, e1, by rw [e3]; exact Lemmas.C12.sliceOf_ok _ lo hi h1 (by rw [elems_length h]; exact h2), e2, e4⟩

theorem chunkLoop_refines {σ : Store} {s : Slice} (h : WF σ s) (size n i : Nat) (acc : List Slice)
    (hi : i + n = s.len) (hacc : ∀ c ∈ acc, View s c ∧ WF σ c) :
    ∃ r, chunkLoop s size n i acc = some r ∧
      Model.C12.chunkLoop (elems σ s) size n i (acc.map (elems σ)) = .ok (r.map (elems σ)) ∧
      ∀ c ∈ r, View s c ∧ WF σ c := by
  induction n generalizing i acc with
  | zero => exact ⟨acc, rfl, rfl, hacc⟩
  | succ n ih =>
    have push : ∀ c, View s c → WF σ c →
        ∃ r, chunkLoop s size n (i + 1) (acc ++ [c]) = some r ∧
          Model.C12.chunkLoop (elems σ s) size n (i + 1) (acc.map (elems σ) ++ [elems σ c]) =
            .ok (r.map (elems σ)) ∧ ∀ c ∈ r, View s c ∧ WF σ c := by
      intro c hv hw
      have := ih (i + 1) (acc ++ [c]) (by omega)
        (List.forall_mem_append.mpr ⟨hacc, List.forall_mem_singleton.mpr ⟨hv, hw⟩⟩)
      rwa [List.map_append, List.map_singleton] at this
    simp only [chunkLoop, Model.C12.chunkLoop, elems_length h]
    by_cases hm : i % size = 0
    · rw [if_pos hm, if_pos hm]
      by_cases hlt : i + size < s.len
      · obtain ⟨c, e1, e2, hw, hv⟩ := reslice_sliceOf h (Nat.le_add_right i size) (Nat.le_of_lt hlt)
        rw [if_pos hlt, if_pos hlt, ← Int.natCast_add, e1, e2]
        exact push c hv hw
      · obtain ⟨c, e1, e2, hw, hv⟩ := reslice_sliceOf h (show i ≤ s.len by omega) (Nat.le_refl _)
        rw [if_neg hlt, if_neg hlt, e1, e2]
        exact push c hv hw
    · rw [if_neg hm, if_neg hm]
      exact ih (i + 1) acc (by omega) hacc

end GoguVerif.Lemmas.C16Helpers

-- `Sim` keeps the namespace of `Lemmas/C16Helpers2.lean`, whose simulations of `Zip`/`Unzip` it also serves: the audit
-- modules (`Audit/C16.lean`, `Audit/C16Helpers2.lean`) ask for `Sim.elim`, `Sim.of_some`, `Sim.of_ok`, `Sim.of_panic` there.
namespace GoguVerif.Lemmas.C16Helpers2

/-- store side and value side agree: both panic, or both succeed with related results -/
inductive Sim {β γ : Type} (R : β → γ → Prop) : Option β → Model.C12.Outcome γ → Prop
  | panic : Sim R none .panic
  | ok {b : β} {c : γ} : R b c → Sim R (some b) (.ok c)

theorem Sim.elim {β γ : Type} {R : β → γ → Prop} {o : Option β} {c : Model.C12.Outcome γ} (h : Sim R o c) :
    (o = none ∧ c = .panic) ∨ ∃ b r, o = some b ∧ c = .ok r ∧ R b r := by
  cases h with
  | panic => exact Or.inl ⟨rfl, rfl⟩
  | ok h => exact Or.inr ⟨_, _, rfl, rfl, h⟩

theorem Sim.of_some {β γ : Type} {R : β → γ → Prop} {b : β} {c : Model.C12.Outcome γ} (h : Sim R (some b) c) :
    ∃ r, c = .ok r ∧ R b r := by
  cases h with
  | ok h => exact ⟨_, rfl, h⟩

theorem Sim.of_none {β γ : Type} {R : β → γ → Prop} {c : Model.C12.Outcome γ} (h : Sim R none c) : c = .panic := by
  cases h; rfl

theorem Sim.of_ok {β γ : Type} {R : β → γ → Prop} {o : Option β} {r : γ} (h : Sim R o (.ok r)) :
    ∃ b, o = some b ∧ R b r := by
  cases h with
  | ok h => exact ⟨_, rfl, h⟩

theorem Sim.of_panic {β γ : Type} {R : β → γ → Prop} {o : Option β} (h : Sim R o .panic) : o = none := by
  cases h; rfl

theorem Sim.imp {β γ : Type} {R R' : β → γ → Prop} {o : Option β} {c : Model.C12.Outcome γ} (h : Sim R o c)
    (hi : ∀ b r, R b r → R' b r) : Sim R' o c := by
  cases h with
  | panic => exact .panic
  | ok h => exact .ok (hi _ _ h)

end GoguVerif.Lemmas.C16Helpers2

namespace GoguVerif.Lemmas.C16Helpers
open Model.Store Model.StoreHelpers Lemmas.C16Store

/-- `sl[i], sl[j] = sl[j], sl[i]` does to what `sl` shows what the value-level swap does to the list, on every store:
a read panics on both sides or on neither, and after two reads that succeeded the two writes do -/
theorem swapStore_sim (σ : Store) (s : Slice) (i j : Nat) :
    C16Helpers2.Sim (fun σ' l => elems σ' s = l ∧ InPlace σ σ' s) (swapStore σ s i j)
      (Model.C12.swapAt (elems σ s) i j) := by
  unfold swapStore Model.C12.swapAt
  rw [read_eq, read_eq]
  cases hi : (elems σ s)[i]? with
  | none => exact .panic
  | some a =>
    cases hj : (elems σ s)[j]? with
    | none => exact .panic
    | some b =>
      obtain ⟨σ1, w1, e1, p1⟩ := write_inplace (σ := σ) (lt_of_elems_getElem? hi) b
      obtain ⟨σ2, w2, e2, p2⟩ := write_inplace (σ := σ1) (lt_of_elems_getElem? hj) a
      simp only [w1, w2]
      exact .ok ⟨by rw [e2, e1], InPlace.trans p1 p2⟩

theorem swapStore_some {σ σ' : Store} {s : Slice} {i j : Nat} (h : swapStore σ s i j = some σ') :
    ∃ a b σ1, Model.Store.read σ s i = some a ∧ Model.Store.read σ s j = some b ∧
      write σ s i b = some σ1 ∧ write σ1 s j a = some σ' := by
  unfold swapStore at h
  split at h
  · rename_i a b ha hb
    split at h
    · rename_i σ1 hw
      exact ⟨a, b, σ1, ha, hb, hw, h⟩
    · cases h
  · cases h

theorem reverseLoop_sim (s : Slice) (i j1 : Nat) (σ : Store) :
    C16Helpers2.Sim (fun σ' l => elems σ' s = l ∧ InPlace σ σ' s) (reverseLoop s i j1 σ)
      (Model.C12.reverseLoop (elems σ s) i j1) := by
  fun_induction reverseLoop s i j1 σ with
  | case1 i j1 σ hlt hsw =>
    have hp := swapStore_sim σ s i (j1 - 1)
    rw [hsw] at hp
    rw [Model.C12.reverseLoop, if_pos hlt, hp.of_none]
    exact .panic
  | case2 i j1 σ hlt σ1 hsw ih =>
    obtain ⟨l, hl, rfl, p⟩ := (hsw ▸ swapStore_sim σ s i (j1 - 1)).of_some
    rw [Model.C12.reverseLoop, if_pos hlt, hl]
    exact ih.imp fun _ _ h => ⟨h.1, InPlace.trans p h.2⟩
  | case3 i j1 σ hge =>
    rw [Model.C12.reverseLoop, if_neg hge]
    exact .ok ⟨rfl, InPlace.refl σ s⟩

/-- `Reject`'s `slice = append(slice[:i], slice[i+1:]...)`: the prefix `slice[:i]` keeps the capacity of the
whole slice, so the `append` never allocates and stays inside the window -/
theorem rejectStep_spec {σ : Store} {s : Slice} (h : WF σ s) {i : Nat} (hi : i < s.len) :
    ∃ σ', appendMany σ { s with len := i } ((elems σ s).drop (i + 1)) = (σ', { s with len := s.len - 1 }) ∧
      elems σ' { s with len := s.len - 1 } = (elems σ s).take i ++ (elems σ s).drop (i + 1) ∧
      WF σ' { s with len := s.len - 1 } ∧ InPlace σ σ' s := by
  generalize hvs : (elems σ s).drop (i + 1) = vs
  have hvl : i + vs.length = s.len - 1 := by
    rw [← hvs, List.length_drop, elems_length h]; omega
  have hfit : i + vs.length ≤ s.cap := by rw [hvl]; exact Nat.le_trans (Nat.sub_le ..) h.1
  have post := appendMany_post (s := { s with len := i }) ⟨Nat.le_trans (Nat.le_add_right ..) hfit, h.2⟩ vs
  have he : elems σ { s with len := i } = (elems σ s).take i := by
    simp only [elems, List.take_take, Nat.min_eq_left (Nat.le_of_lt hi)]
  obtain ⟨q1, q2⟩ := appendMany_fit (σ := σ) (s := { s with len := i }) vs hfit
  have hq : (appendMany σ { s with len := i } vs).2 = { s with len := s.len - 1 } :=
    q1.trans (congrArg (fun n => ({ s with len := n } : Slice)) hvl)
  refine ⟨_, Prod.ext rfl hq, ?_, hq ▸ post.wf, InPlace.mono q2 ⟨rfl, Nat.le_add_right .., ?_⟩⟩
  · rw [← hq, post.elems, he]
  · show s.off + i + vs.length ≤ s.off + s.len
    rw [Nat.add_assoc, hvl]
    exact Nat.add_le_add_left (Nat.sub_le ..) _

theorem rejectLoop_refines (fn : Int → Bool) (n i : Nat) (σ : Store) (s : Slice) (h : WF σ s)
    (hn : i + n = s.len) :
    ∃ σ' k, rejectLoop fn n i σ s = some (σ', { s with len := k }) ∧ k ≤ s.len ∧
      elems σ' { s with len := k } = Model.C12.rejectLoop fn (elems σ s) i ∧
      WF σ' { s with len := k } ∧ InPlace σ σ' s := by
  induction n generalizing i σ s with
  | zero =>
    refine ⟨σ, s.len, rfl, Nat.le_refl _, ?_, h, InPlace.refl σ s⟩
    rw [Model.C12.rejectLoop, dif_neg (by rw [elems_length h]; omega)]
  | succ n ih =>
    have hlt : i < s.len := hn ▸ Nat.lt_add_of_pos_right (Nat.succ_pos n)
    have hlt' : i < (elems σ s).length := by rw [elems_length h]; exact hlt
    have hr := read_getElem hlt'
    rw [Model.C12.rejectLoop, dif_pos hlt']
    simp only [rejectLoop, if_pos hlt, hr]
    split
    · obtain ⟨e1, _⟩ := reslice_spec h (Nat.zero_le i) (Nat.le_of_lt hlt)
      obtain ⟨e2, _, e3, _⟩ := reslice_spec h (show i + 1 ≤ s.len from hlt) (Nat.le_refl _)
      rw [List.take_of_length_le (Nat.le_of_eq (elems_length h))] at e3
      obtain ⟨σ1, r1, r2, r3, r4⟩ := rejectStep_spec h hlt
      simp only [e1, e2, e3, Nat.add_zero, Nat.sub_zero, r1]
      obtain ⟨σ', k, g1, g2, g3, g4, g5⟩ := ih i σ1 { s with len := s.len - 1 } r3 (Nat.eq_sub_of_add_eq hn)
      exact ⟨σ', k, g1, Nat.le_trans g2 (Nat.sub_le ..), by rw [g3, r2], g4,
        InPlace.trans r4 (InPlace.mono g5 ⟨rfl, Nat.le_refl _, Nat.add_le_add_left (Nat.sub_le s.len 1) s.off⟩)⟩
    · exact ih (i + 1) σ s h ((Nat.add_right_comm i 1 n).trans hn)

theorem shuffleLoop_sim (rnd : Nat → Nat) (s : Slice) (k c : Nat) (σ : Store) :
    C16Helpers2.Sim (fun σ' l => elems σ' s = l ∧ InPlace σ σ' s) (shuffleLoop rnd s k c σ)
      (Model.C12.shuffleLoop rnd k c (elems σ s)) := by
  induction k generalizing c σ with
  | zero => exact .ok ⟨rfl, InPlace.refl σ s⟩
  | succ i ih =>
    simp only [shuffleLoop, Model.C12.shuffleLoop]
    rcases (swapStore_sim σ s i (rnd c % (i + 1))).elim with ⟨h1, h2⟩ | ⟨σ1, _, h1, h2, rfl, p⟩
    · rw [h1, h2]; exact .panic
    · rw [h1, h2]; exact (ih (c + 1) σ1).imp fun _ _ g => ⟨g.1, InPlace.trans p g.2⟩

theorem writeAll_spec {σ : Store} {s : Slice} (h : WF σ s) {vs : List Int} (hn : vs.length = s.len) :
    ∃ σ', writeAll σ s 0 vs = some σ' ∧ elems σ' s = vs ∧ InPlace σ σ' s := by
  -- from position `i` to the end: the first `i` elements stay
  have upTo : ∀ (vs : List Int) (i : Nat) (σ : Store), WF σ s → i + vs.length = s.len →
      ∃ σ', writeAll σ s i vs = some σ' ∧ elems σ' s = (elems σ s).take i ++ vs ∧ InPlace σ σ' s := by
    intro vs
    induction vs with
    | nil =>
      intro i σ h hi
      exact ⟨σ, rfl, by rw [List.append_nil, List.take_of_length_le (by rw [elems_length h]; exact Nat.le_of_eq hi.symm)],
        InPlace.refl σ s⟩
    | cons v vs ih =>
      intro i σ h hi
      have hlt : i < s.len := hi ▸ Nat.lt_add_of_pos_right (Nat.succ_pos _)
      obtain ⟨σ1, w1, e1, p1⟩ := write_inplace (σ := σ) hlt v
      obtain ⟨σ', g1, g2, g3⟩ := ih (i + 1) σ1 (InPlace.wf p1 h) ((Nat.add_right_comm i 1 _).trans hi)
      refine ⟨σ', by simp only [writeAll, w1]; exact g1, ?_, InPlace.trans p1 g3⟩
      rw [g2, e1, take_succ_of_set _ _ _ (by rw [elems_length h]; exact hlt), List.append_assoc]
      rfl
  exact upTo vs 0 σ h ((Nat.zero_add _).trans hn)

theorem run_writeAll {base : Nat} {res : Slice} {regs : List Slice} (hb : base ≤ res.arr) (vs : List Int) (idx : Nat)
    {σ σ' : Store} (h : writeAll σ res idx vs = some σ') :
    run base { σ := σ, regs := regs ++ [res] } (Theorems.C16Helpers.writesFrom regs.length idx vs) =
      { σ := σ', regs := regs ++ [res] } := by
  induction vs generalizing idx σ with
  | nil => cases h; rfl
  | cons v vs ih =>
    simp only [writeAll] at h
    split at h
    · cases h
    · rename_i σ1 hw
      simp only [Theorems.C16Helpers.writesFrom, run, step, List.getElem?_concat_length, hb, if_true, hw]
      exact ih (idx + 1) h

/-- `for idx, v := range slice { result[idx] = fn(v) }` with `result` made by the helper: the reads see the
argument as it was, so the loop is `writeAll` of the mapped elements (also when a write panics) -/
theorem mapLoop_eq_writeAll (fn : Int → Int) {σ0 : Store} {arg : Slice} (harg : WF σ0 arg) (res : Slice)
    (σ : Store) (hinv : Inv σ0 σ res) :
    mapLoop fn arg res arg.len 0 σ = writeAll σ res 0 ((elems σ0 arg).map fn) :=
  range_loop harg
    (motive := fun n idx l => ∀ σ, Inv σ0 σ res → mapLoop fn arg res n idx σ = writeAll σ res idx (l.map fn))
    (fun _ _ _ => rfl)
    (fun n idx v l hr ih σ hinv => by
      simp only [mapLoop, hr σ hinv.frame, List.map_cons, writeAll]
      cases hw : write σ res idx (fn v) with
      | none => rfl
      | some σ1 => exact ih σ1 (hinv.inplace (InPlace.of_write hw))) σ hinv

/-- for the helpers that fill, what `builder_refines` and `builder_disciplined` are for those that append:
`make([]T, n)` and then `result[i] = vs[i]` for the `n` values of `vs`.  `Map`, `Keys`, `Values`, `MapCollection` and
the `copy` of `Shuffle` and `heap.GetValues` are instances. -/
theorem filler_spec (σ : Store) {n : Nat} {vs : List Int} (hn : vs.length = n) :
    ∃ σ', writeAll (alloc σ n n).1 (alloc σ n n).2 0 vs = some σ' ∧
      elems σ' (alloc σ n n).2 = vs ∧ Inv σ σ' (alloc σ n n).2 ∧ σ'.length = σ.length + 1 ∧
      ∀ regs : List Slice, run σ.length { σ := σ, regs := regs }
          (Instr.alloc n n :: Theorems.C16Helpers.writesFrom regs.length 0 vs) =
        { σ := σ', regs := regs ++ [(alloc σ n n).2] } := by
  have hinv := Inv.alloc σ n n
  obtain ⟨σ', w1, w2, w3⟩ := writeAll_spec hinv.wf (vs := vs) hn
  refine ⟨σ', w1, w2, hinv.inplace w3, (InPlace.length_eq w3).trans (alloc_length σ n n), fun regs => ?_⟩
  simp only [run, step]
  exact run_writeAll hinv.fresh vs 0 w1

/-- `dst := make([]T, len(src)); copy(dst, src)`: a fresh slice showing what `src` shows -/
theorem copy_fresh {σ : Store} {src : Slice} (h : WF σ src) :
    ∃ σ1, copyStore (alloc σ src.len src.len).1 (alloc σ src.len src.len).2 src = some σ1 ∧
      elems σ1 (alloc σ src.len src.len).2 = elems σ src ∧ Inv σ σ1 (alloc σ src.len src.len).2 ∧
      σ1.length = σ.length + 1 := by
  obtain ⟨σ1, w, e, hinv, hl, _⟩ := filler_spec σ (vs := elems σ src) (elems_length h)
  refine ⟨σ1, ?_, e, hinv, hl⟩
  unfold copyStore
  rw [Frame.elems_eq (alloc_frame σ src.len src.len) h, show (alloc σ src.len src.len).2.len = src.len from rfl,
    List.take_of_length_le (Nat.le_of_eq (elems_length h))]
  exact w

end GoguVerif.Lemmas.C16Helpers

namespace GoguVerif.Theorems.C16Helpers
open Model.Store Model.StoreHelpers Lemmas.C16Store Lemmas.C16Helpers

/-- ANY well-formed header of the old store — the argument, its
full capacity window, another slice sharing its array, a result returned by an earlier call — shows the
same elements afterwards and is still well-formed. -/
theorem frame_keeps {σ σ' : Store} (hf : Frame σ σ') {t : Slice} (ht : WF σ t) :
    elems σ' t = elems σ t ∧ elems σ' { t with len := t.cap } = elems σ { t with len := t.cap } ∧ WF σ' t := by
  exact ⟨Frame.elems_eq hf ht, elems_congr { t with len := t.cap } (frame_arg (s := t) hf ht), Frame.wf hf ht⟩

/-- any well-formed header that lies in another array, or in
the same array but outside the argument's window `[off, off+len)` — e.g. the spare capacity behind the
argument, `{off := s.off + s.len, len := s.cap - s.len}` — shows the same elements afterwards. -/
theorem inplace_keeps {σ σ' : Store} {s : Slice} (hp : InPlace σ σ' s) {t : Slice} (ht : WF σ t)
    (hdis : t.arr ≠ s.arr ∨ t.off + t.len ≤ s.off ∨ s.off + s.len ≤ t.off) :
    elems σ' t = elems σ t ∧ WF σ' t := by
  refine ⟨List.ext_getElem? fun k => ?_, InPlace.wf hp ht⟩
  rw [elems_getElem?, elems_getElem?]
  split
  · rename_i hk
    by_cases hta : t.arr = s.arr
    · rw [hta]
      exact InPlace.outside hp ((hdis.resolve_left (not_not_intro hta)).imp
        (Nat.lt_of_lt_of_le (Nat.add_lt_add_left hk _)) (fun h => Nat.le_trans h (Nat.le_add_right ..)))
    · simp only [cell, InPlace.other hp hta]
  · rfl

theorem builder_post (σ : Store) (cap : Nat) (vs : List Int) :
    let r := appendEach (alloc σ 0 cap).1 (alloc σ 0 cap).2 vs
    elems r.1 r.2 = vs ∧ Frame σ r.1 ∧ σ.length ≤ r.2.arr ∧ WF r.1 r.2 := by
  have hinv := (Inv.alloc σ 0 cap).appendEach vs
  have hpost := appendEach_post (alloc_wf σ 0 cap) vs
  exact ⟨by rw [hpost.elems, alloc_elems σ 0 cap]; rfl, hinv.frame, hinv.fresh, hinv.wf⟩

/-- `make` followed by appends to the made slice is a program of the builder discipline
(`Model.Store.run` with `base` = the number of arrays that existed before) -/
theorem run_alloc_appends (σ : Store) (regs : List Slice) (len cap : Nat) (vs : List Int) :
    run σ.length { σ := σ, regs := regs } (Instr.alloc len cap :: vs.map (Instr.append regs.length)) =
      { σ := (appendEach (alloc σ len cap).1 (alloc σ len cap).2 vs).1,
        regs := regs ++ [(appendEach (alloc σ len cap).1 (alloc σ len cap).2 vs).2] } :=
  run_appends σ.length vs _ regs _ (Nat.le_refl _) (Inv.alloc σ len cap).len

/-- what follows once a helper's store function is known to be `make([]T, 0, c)` followed by one `append` per
element of `ws`: the result shows `ws`, every array that existed is unchanged and the result lies in storage that
did not exist (`builder_refines`, through `Inv`); and the call is `run` of that program of the builder discipline
(`builder_disciplined`), of which `Theorems.C16.run_frame` says the same frame once more, for every program.  The
`…_refines` / `…_disciplined` theorems of the `append` builders are instances of the two halves. -/
theorem builder_refines {o : Option (Store × Slice)} {σ : Store} {c : Nat} {ws : List Int}
    (h : o = some (appendEach (alloc σ 0 c).1 (alloc σ 0 c).2 ws)) :
    ∃ σ' res, o = some (σ', res) ∧ elems σ' res = ws ∧ Frame σ σ' ∧ σ.length ≤ res.arr ∧ WF σ' res :=
  ⟨_, _, h, builder_post σ c ws⟩

theorem builder_disciplined {o : Option (Store × Slice)} {σ : Store} {c : Nat} {ws : List Int}
    (h : o = some (appendEach (alloc σ 0 c).1 (alloc σ 0 c).2 ws)) (regs : List Slice) :
    ∃ σ' res, o = some (σ', res) ∧
      run σ.length { σ := σ, regs := regs } (Instr.alloc 0 c :: ws.map (Instr.append regs.length)) =
        { σ := σ', regs := regs ++ [res] } :=
  ⟨_, _, h, run_alloc_appends σ regs 0 c ws⟩

end GoguVerif.Theorems.C16Helpers
