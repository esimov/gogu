import GoguVerif.Model.Lru
import GoguVerif.Lemmas.ListFacts
/-!
# C07 — helper lemmas (layer 1)

The invariant; `find` and `del` on a list with distinct keys; the specification's `step` by its equations; the model's
list methods through `find` and `del` (what `Theorems.C07.step_refines` runs on); and the
bookkeeping `track` over an observed history, which a call of the specification respects (`find_step`).
-/
namespace GoguVerif.Lemmas.C07
open Spec.C07 Model.Lru

/-- the keys held by the list, front first -/
def keys (l : Entries) : List Int := l.map (·.1)

/-- Representation invariant of `LRUCache` (layer 1): map and list agree (these two fields alone are `Wf`, declared
next; `Inv.wf`), and the capacity bounds. -/
structure Inv (c : St) : Prop where
  nodup : (keys c.list).Nodup
  items : ∀ k, k ∈ c.items ↔ k ∈ keys c.list
  len : (c.list.length : Int) ≤ c.size
  cap : 1 ≤ c.size

/-- the part of the invariant that does not mention the capacity (`Add` calls `RemoveOldest` in a
state that is one over capacity) -/
structure Wf (c : St) : Prop where
  nodup : (keys c.list).Nodup
  items : ∀ k, k ∈ c.items ↔ k ∈ keys c.list

theorem Inv.wf {c : St} (h : Inv c) : Wf c := ⟨h.nodup, h.items⟩

theorem Inv.one_le_cap {c : St} (h : Inv c) : 1 ≤ c.size.toNat :=
  (Int.le_toNat (Int.le_trans (by decide) h.cap)).mpr h.cap

@[simp] theorem keys_nil : keys [] = [] := rfl
@[simp] theorem keys_cons (e : Int × Int) (l : Entries) : keys (e :: l) = e.1 :: keys l := rfl
@[simp] theorem keys_append (a b : Entries) : keys (a ++ b) = keys a ++ keys b := by simp [keys]

@[simp] theorem find_nil (k : Int) : find k [] = none := rfl
theorem find_cons (k : Int) (e : Int × Int) (l : Entries) :
    find k (e :: l) = if e.1 = k then some e.2 else find k l := by
  by_cases h : e.1 = k <;> simp [find, h]

@[simp] theorem del_nil (k : Int) : del k [] = [] := rfl
theorem del_cons (k : Int) (e : Int × Int) (l : Entries) :
    del k (e :: l) = if e.1 = k then del k l else e :: del k l := by
  by_cases h : e.1 = k <;> simp [del, h]

theorem del_of_not_mem {k : Int} {l : Entries} (h : k ∉ keys l) : del k l = l :=
  List.filter_eq_self.mpr fun e he => by
    have : e.1 ≠ k := fun x => h (x ▸ List.mem_map_of_mem he)
    simpa using this

theorem find_none_iff {k : Int} {l : Entries} : find k l = none ↔ k ∉ keys l := by
  induction l with
  | nil => simp
  | cons e r ih =>
    by_cases h : e.1 = k
    · simp [find_cons, h]
    · have : ¬ k = e.1 := fun x => h x.symm
      simp [find_cons, h, ih, this]

theorem mem_keys_of_find {k v : Int} {l : Entries} (h : find k l = some v) : k ∈ keys l :=
  Decidable.by_contra fun hn => by rw [find_none_iff.mpr hn] at h; cases h

theorem mem_keys_del {x k : Int} {l : Entries} : x ∈ keys (del k l) ↔ x ∈ keys l ∧ x ≠ k := by
  simp only [keys, del, List.mem_map, List.mem_filter, Bool.not_eq_eq_eq_not, Bool.not_true,
    beq_eq_false_iff_ne]
  constructor
  · rintro ⟨e, ⟨he, hk⟩, rfl⟩; exact ⟨⟨e, he, rfl⟩, hk⟩
  · rintro ⟨⟨e, he, rfl⟩, hk⟩; exact ⟨e, ⟨he, hk⟩, rfl⟩

theorem nodup_del {k : Int} {l : Entries} (h : (keys l).Nodup) : (keys (del k l)).Nodup :=
  (List.filter_sublist.map _).nodup h

theorem length_del_lt {k : Int} {l : Entries} (h : k ∈ keys l) : (del k l).length < l.length := by
  obtain ⟨e, he, rfl⟩ := List.mem_map.mp h
  exact List.length_filter_lt_length_iff_exists.mpr ⟨e, he, by simp⟩

theorem find_append_of_not_mem {k : Int} {a b : Entries} (h : k ∉ keys a) :
    find k (a ++ b) = find k b := by
  induction a with
  | nil => rfl
  | cons e r ih =>
    simp only [keys_cons, List.mem_cons, not_or] at h
    rw [List.cons_append, find_cons, if_neg (fun x => h.1 x.symm), ih h.2]

theorem del_append (k : Int) (a b : Entries) : del k (a ++ b) = del k a ++ del k b :=
  List.filter_append ..

theorem find_del (k k' : Int) (es : Entries) :
    find k (del k' es) = if k' = k then none else find k es := by
  induction es with
  | nil => simp only [del_nil, find_nil, ite_self]
  | cons e r ih =>
    rw [del_cons, find_cons]
    by_cases h1 : e.1 = k'
    · rw [if_pos h1, ih, ← h1]; split <;> rfl
    · rw [if_neg h1, find_cons, ih]
      by_cases h2 : e.1 = k
      · rw [if_pos h2, if_pos h2, if_neg (fun x => h1 (h2.trans x.symm))]
      · rw [if_neg h2, if_neg h2]

/-- what "exactly the entry under `x` is removed" says about lookups -/
theorem find_removed {l l' : Entries} {x : Int} (h : ∀ k, find k l' = if x = k then none else find k l) :
    find x l' = none ∧ ∀ k, k ≠ x → find k l' = find k l :=
  ⟨by rw [h, if_pos rfl], fun k hk => by rw [h, if_neg fun e => hk e.symm]⟩

theorem find_touch (k k' v : Int) (es : Entries) :
    find k ((k', v) :: del k' es) = if k' = k then some v else find k es := by
  rw [find_cons, find_del]; split <;> rfl

theorem find_del_mid {a b : Entries} {e : Int × Int} (h : (keys (a ++ e :: b)).Nodup) :
    find e.1 (a ++ e :: b) = some e.2 ∧ del e.1 (a ++ e :: b) = a ++ b := by
  obtain ⟨ha, hb, -⟩ := ListFacts.nodup_map_middle h
  rw [find_append_of_not_mem ha, del_append, del_of_not_mem ha, find_cons, del_cons, if_pos rfl,
    if_pos rfl, del_of_not_mem hb]
  exact ⟨rfl, rfl⟩

theorem find_del_first {l : Entries} {e : Int × Int} (h : (keys l).Nodup) (hl : l.head? = some e) :
    find e.1 l = some e.2 ∧ del e.1 l = l.tail := by
  cases l with
  | nil => cases hl
  | cons a r => cases hl; exact find_del_mid (a := []) h

theorem find_del_last {l : Entries} {e : Int × Int} (h : (keys l).Nodup) (hl : l.getLast? = some e) :
    find e.1 l = some e.2 ∧ del e.1 l = l.dropLast := by
  obtain ⟨ys, rfl⟩ := List.getLast?_eq_some_iff.mp hl
  obtain ⟨hf, hd⟩ := find_del_mid (b := []) h
  exact ⟨hf, by rw [hd, List.append_nil, List.dropLast_concat]⟩

theorem find_dropLast {es : Entries} {e : Int × Int} (hn : (keys es).Nodup)
    (hl : es.getLast? = some e) (k : Int) :
    find k es.dropLast = if e.1 = k then none else find k es := by
  rw [← (find_del_last hn hl).2, find_del]

theorem find_tail {es : Entries} {e : Int × Int} (hn : (keys es).Nodup)
    (hh : es.head? = some e) (k : Int) :
    find k es.tail = if e.1 = k then none else find k es := by
  rw [← (find_del_first hn hh).2, find_del]

/-! The specification's `step` by its equations, as far as a `match` on `find` or `getLast?` stands in the way
(`getYoungest`, `removeOldest`, `removeYoungest`, `flush`, `count` are `rfl`). -/

theorem step_add_miss {cap : Nat} {es : Entries} {k v : Int} (hf : find k es = none) :
    Spec.C07.step cap es (.add k v) =
      if es.length + 1 > cap then (((k, v) :: es).dropLast, .kv ((k, v) :: es).getLast?)
      else ((k, v) :: es, .kv none) := by
  simp only [Spec.C07.step, hf, List.length_cons]

theorem step_add_hit {cap : Nat} {es : Entries} {k v0 : Int} (v : Int) (hf : find k es = some v0) :
    Spec.C07.step cap es (.add k v) = ((k, v) :: del k es, .kv none) := by
  simp only [Spec.C07.step, hf]

theorem step_add_room {cap : Nat} {es : Entries} {k : Int} (v : Int) (hf : find k es = none)
    (hroom : es.length < cap) : Spec.C07.step cap es (.add k v) = ((k, v) :: es, .kv none) := by
  rw [step_add_miss hf, if_neg (Nat.not_lt.mpr hroom)]

theorem step_add_full {cap : Nat} {es : Entries} {k : Int} (v : Int) (hf : find k es = none)
    (hcap : 1 ≤ cap) (hfull : cap ≤ es.length) :
    ∃ e, es.getLast? = some e ∧
      Spec.C07.step cap es (.add k v) = ((k, v) :: es.dropLast, .kv (some e)) := by
  have hne : es ≠ [] := List.ne_nil_of_length_pos (Nat.lt_of_lt_of_le hcap hfull)
  refine ⟨es.getLast hne, List.getLast?_eq_some_getLast hne, ?_⟩
  rw [step_add_miss hf, if_pos (Nat.lt_succ_of_le hfull), List.dropLast_cons_of_ne_nil hne,
    List.getLast?_cons_of_ne_nil hne, List.getLast?_eq_some_getLast hne]

theorem step_get (cap : Nat) (es : Entries) (k : Int) :
    Spec.C07.step cap es (.get k) =
      (match find k es with | some v => (k, v) :: del k es | none => es, .v (find k es)) := by
  cases hf : find k es <;> simp only [Spec.C07.step, hf]

theorem step_remove (cap : Nat) (es : Entries) (k : Int) :
    Spec.C07.step cap es (.remove k) = (del k es, .v (find k es)) := by
  cases hf : find k es with
  | some v => simp only [Spec.C07.step, hf]
  | none => simp only [Spec.C07.step, hf, del_of_not_mem (find_none_iff.mp hf)]

theorem step_getOldest (cap : Nat) (es : Entries) :
    Spec.C07.step cap es .getOldest =
      (match es.getLast? with | some e => e :: es.dropLast | none => es, .kv es.getLast?) := by
  cases hl : es.getLast? <;> simp only [Spec.C07.step, hl]

theorem unlink_eq {k : Int} {l : Entries} (h : (keys l).Nodup) :
    unlink k l = (find k l).map (fun v => ((k, v), del k l)) := by
  induction l with
  | nil => rfl
  | cons e r ih =>
    rw [keys_cons, List.nodup_cons] at h
    rw [unlink, find_cons, del_cons, ih h.2]
    split
    · next he => subst he; rw [del_of_not_mem h.1]; rfl
    · cases find k r <;> rfl

theorem unlink_none_iff {k : Int} {l : Entries} : unlink k l = none ↔ k ∉ keys l := by
  induction l with
  | nil => simp [unlink]
  | cons e r ih =>
    by_cases he : e.1 = k
    · simp [unlink, he]
    · have : ¬ k = e.1 := fun x => he x.symm
      simp only [unlink, he, if_false, keys_cons, List.mem_cons, this, false_or, ← ih]
      cases unlink k r <;> simp

theorem moveFront_eq {k : Int} {l : Entries} (h : (keys l).Nodup) :
    moveFront k l = (find k l).map (fun v => ((k, v), (k, v) :: del k l)) := by
  rw [moveFront, unlink_eq h]
  cases find k l <;> rfl

theorem mem_mapDelete {x k : Int} {items : List Int} :
    x ∈ mapDelete k items ↔ x ∈ items ∧ x ≠ k := by
  simp [mapDelete]

theorem mapHas_iff {k : Int} {items : List Int} : mapHas k items = true ↔ k ∈ items := by
  simp [mapHas]

theorem Wf.mapHas {c : St} (h : Wf c) (k : Int) : mapHas k c.items = (find k c.list).isSome := by
  rw [Bool.eq_iff_iff, mapHas_iff, h.items]
  cases hf : find k c.list with
  | none => simpa using find_none_iff.mp hf
  | some v => simpa using mem_keys_of_find hf

theorem wf_touch {c : St} (h : Wf c) {k : Int} (hk : k ∈ keys c.list) (v : Int) :
    Wf { c with list := (k, v) :: del k c.list } := by
  refine ⟨List.nodup_cons.mpr ⟨fun m => (mem_keys_del.mp m).2 rfl, nodup_del h.nodup⟩, fun x => ?_⟩
  simp only [h.items, keys_cons, List.mem_cons, mem_keys_del]
  by_cases hx : x = k
  · simp only [hx, hk, ne_eq, not_true, and_false, or_false]
  · simp only [hx, ne_eq, not_false_eq_true, and_true, false_or]

theorem wf_del {c : St} (h : Wf c) (k : Int) :
    Wf { c with items := mapDelete k c.items, list := del k c.list } :=
  ⟨nodup_del h.nodup, fun x => by simp only [mem_mapDelete, mem_keys_del, h.items]⟩

theorem Inv.of_wf {c c' : St} (h : Inv c) (w : Wf c') (hs : c'.size = c.size)
    (hl : c'.list.length ≤ c.list.length) : Inv c' :=
  ⟨w.nodup, w.items, by have := h.len; rw [hs]; omega, hs ▸ h.cap⟩

theorem inv_touch {c : St} (h : Inv c) {k : Int} (hk : k ∈ keys c.list) (v : Int) :
    Inv { c with list := (k, v) :: del k c.list } :=
  h.of_wf (wf_touch h.wf hk v) rfl (length_del_lt hk)

theorem removeOldest_spec {c : St} (h : Wf c) :
    ∃ c', removeOldest c = .ok c' (Ret.ofOut (.kv c.list.getLast?)) ∧
      c'.list = c.list.dropLast ∧ c'.size = c.size ∧ Wf c' := by
  cases hl : c.list.getLast? with
  | none =>
    refine ⟨c, ?_, by rw [List.getLast?_eq_none_iff.mp hl]; rfl, rfl, h⟩
    simp only [removeOldest, last, hl]; rfl
  | some e =>
    obtain ⟨hf, hd⟩ := find_del_last h.nodup hl
    refine ⟨{ c with items := mapDelete e.1 c.items, list := del e.1 c.list }, ?_, hd, rfl, wf_del h e.1⟩
    simp only [removeOldest, removeLast, remove, last, hl, unlink_eq h.nodup, hf, Option.map_some]; rfl

theorem removeYoungest_spec {c : St} (h : Wf c) :
    ∃ c', removeYoungest c = .ok c' (Ret.ofOut (.kv c.list.head?)) ∧
      c'.list = c.list.tail ∧ c'.size = c.size ∧ Wf c' := by
  cases hl : c.list.head? with
  | none =>
    refine ⟨c, ?_, by rw [List.head?_eq_none_iff.mp hl]; rfl, rfl, h⟩
    simp only [removeYoungest, first, hl]; rfl
  | some e =>
    obtain ⟨hf, hd⟩ := find_del_first h.nodup hl
    refine ⟨{ c with items := mapDelete e.1 c.items, list := del e.1 c.list }, ?_, hd, rfl, wf_del h e.1⟩
    simp only [removeYoungest, remove, first, hl, unlink_eq h.nodup, hf, Option.map_some]; rfl

theorem model_add_miss {c : St} {k v : Int} (h : Wf c) (hf : find k c.list = none) :
    Model.Lru.step c (.add k v) =
      if (c.list.length : Int) + 1 > c.size then
        removeOldest { c with items := mapSet k c.items, list := addFront k v c.list }
      else .ok { c with items := mapSet k c.items, list := addFront k v c.list } (.kvb 0 0 false) := by
  simp only [Model.Lru.step, add, h.mapHas, hf, Option.isSome_none, Bool.false_eq_true, if_false, count,
    length, addFront, List.length_cons, Int.natCast_add, Int.cast_ofNat_Int]
  rfl

/-- the specification's and the model's test for "over capacity" (`Nat` against Go `int`) -/
theorem full_iff {n : Nat} {s : Int} : n + 1 > s.toNat ↔ (n : Int) + 1 > s :=
  Int.toNat_lt' (Nat.succ_pos n)

/-- Bookkeeping over the *observed* history for one key `k`: the value last added under `k`, unless
`k` has since been removed (`Remove k`), come back out of a remover, been evicted (returned by an
`Add`), or the cache was flushed.  Uses only operations and their returned tuples. -/
def track (k : Int) (cur : Option Int) (op : Op) (r : Ret) : Option Int :=
  match op, r with
  | .add k' v, .kvb ek _ ev => if k' = k then some v else if ev = true ∧ ek = k then none else cur
  | .remove k', _ => if k' = k then none else cur
  | .removeOldest, .kvb rk _ true => if rk = k then none else cur
  | .removeYoungest, .kvb rk _ true => if rk = k then none else cur
  | .flush, _ => none
  | _, _ => cur

def trackAll (k : Int) (cur : Option Int) : List Op → List Ret → Option Int
  | op :: ops, r :: rs => trackAll k (track k cur op r) ops rs
  | _, _ => cur

/-! `track` on each kind of call, all by `rfl`: unfolding `track` in `simp only` would have to build the
splitter of its overlapping `match`. -/

theorem track_add (k : Int) (cur : Option Int) (k' v ek x : Int) (ev : Bool) :
    track k cur (.add k' v) (.kvb ek x ev) =
      if k' = k then some v else if ev = true ∧ ek = k then none else cur := rfl
theorem track_remove (k : Int) (cur : Option Int) (k' : Int) (r : Ret) :
    track k cur (.remove k') r = if k' = k then none else cur := rfl
theorem track_get (k : Int) (cur : Option Int) (k' : Int) (r : Ret) : track k cur (.get k') r = cur := rfl
theorem track_getOldest (k : Int) (cur : Option Int) (r : Ret) : track k cur .getOldest r = cur := rfl
theorem track_removeOldest (k : Int) (cur : Option Int) (rk x : Int) :
    track k cur .removeOldest (.kvb rk x true) = if rk = k then none else cur := rfl
theorem track_removeYoungest (k : Int) (cur : Option Int) (rk x : Int) :
    track k cur .removeYoungest (.kvb rk x true) = if rk = k then none else cur := rfl

/-- A call of the specification changes the lookup of `k` exactly as `track` predicts from the returned tuple
(`hcap` is for the evicting `add` only); `Theorems.C07.run_find` sums this over a history. -/
theorem find_step {cap : Nat} {es : Entries} (hn : (keys es).Nodup) (hcap : 1 ≤ cap) (k : Int)
    (op : Op) :
    find k (Spec.C07.step cap es op).1 =
      track k (find k es) op (Ret.ofOut (Spec.C07.step cap es op).2) := by
  cases op with
  | add k' v =>
    cases hf : find k' es with
    | some v0 =>
      rw [step_add_hit v hf]
      simp only [Ret.ofOut, track_add, find_touch, Bool.false_eq_true, false_and, if_false]
    | none =>
      by_cases hroom : es.length < cap
      · rw [step_add_room v hf hroom]
        simp only [Ret.ofOut, track_add, find_cons, Bool.false_eq_true, false_and, if_false]
      · obtain ⟨e, he, hst⟩ := step_add_full v hf hcap (Nat.le_of_not_lt hroom)
        rw [hst]
        simp only [Ret.ofOut, track_add, find_cons, find_dropLast hn he, true_and]
  | get k' =>
    rw [step_get, track_get]
    cases hf : find k' es with
    | some v0 => rw [find_touch]; exact ite_eq_right_iff.mpr fun h => by rw [← h, hf]
    | none => rfl
  | getOldest =>
    rw [step_getOldest, track_getOldest]
    cases hl : es.getLast? with
    | none => rfl
    | some e =>
      rw [← (find_del_last hn hl).2, find_touch]
      exact ite_eq_right_iff.mpr fun h => by rw [← h, (find_del_last hn hl).1]
  | getYoungest => rfl
  | remove k' => rw [step_remove, track_remove, find_del]
  | removeOldest =>
    cases hl : es.getLast? with
    | none => rw [List.getLast?_eq_none_iff.mp hl]; rfl
    | some e => simp only [Spec.C07.step, hl, Ret.ofOut, track_removeOldest, find_dropLast hn hl]
  | removeYoungest =>
    cases hl : es.head? with
    | none => rw [List.head?_eq_none_iff.mp hl]; rfl
    | some e => simp only [Spec.C07.step, hl, Ret.ofOut, track_removeYoungest, find_tail hn hl]
  | flush => rfl
  | count => rfl

end GoguVerif.Lemmas.C07
