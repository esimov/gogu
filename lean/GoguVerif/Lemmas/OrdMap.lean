import GoguVerif.Spec.OrdMap
/-!
# Laws of the ordered association list `Spec.OrdMap`

The shared library for every container specified as an ordered map (binary search tree C04, trie C09,
B-tree C10; the concurrency theorems use it too): what `insert`, `erase`, `lookup` and `Sorted` satisfy
for any strict total order `comp` (`OrdMap.STO`), and how the three functions distribute over
`a ++ (k, v) :: b`, the shape of an in-order traversal.  The lemmas are in namespace
`GoguVerif.Lemmas.C04`.

`insert`, `erase` and `lookup` branch alike at a cons cell `(k', v') :: r`: on `comp k k'`, then on
`comp k' k`.  Under a strict total order these are the three cases of trichotomy (`STO.tri`), and
`ite_lt`, `ite_gt`, `ite_refl` pick the branch; laws that relate two of the functions without using
the order are proved by following the two tests (`by_cases`).
-/
namespace GoguVerif.Spec.OrdMap.STO

variable {κ : Type} {comp : κ → κ → Bool}

theorem asymm (h : STO comp) {a b : κ} (hab : comp a b = true) : comp b a = false := by
  cases hba : comp b a with
  | false => rfl
  | true => exact (h.trans a b a hab hba).symm.trans (h.irrefl a)

theorem tri (h : STO comp) (a b : κ) : comp a b = true ∨ a = b ∨ comp b a = true := by
  cases h1 : comp a b with
  | true => exact .inl rfl
  | false =>
    cases h2 : comp b a with
    | true => exact .inr (.inr rfl)
    | false => exact .inr (.inl (h.total a b h1 h2))

theorem flip (h : STO comp) : STO fun a b => comp b a :=
  ⟨h.irrefl, fun a b c hab hbc => h.trans c b a hbc hab, fun a b hab hba => h.total a b hba hab⟩

end GoguVerif.Spec.OrdMap.STO

namespace GoguVerif.Lemmas.C04
open GoguVerif.Spec GoguVerif.Spec.OrdMap

variable {κ ν : Type} {comp : κ → κ → Bool}

/-- `<` on `Int` is a strict total order (the comparator of the harness, and `Spec.C10.ltb`). -/
theorem sto_int_lt : STO (fun a b : Int => decide (a < b)) where
  irrefl a := decide_eq_false (Int.lt_irrefl a)
  trans _ _ _ hab hbc := decide_eq_true (Int.lt_trans (of_decide_eq_true hab) (of_decide_eq_true hbc))
  total _ _ hab hba :=
    Int.le_antisymm (Int.not_lt.1 (of_decide_eq_false hba)) (Int.not_lt.1 (of_decide_eq_false hab))

section ite
variable {α : Type} {x y z : α} {a b : κ}

theorem ite_lt (c : comp a b = true) : (if comp a b then x else if comp b a then y else z) = x :=
  if_pos c

theorem ite_gt (h : STO comp) (c : comp b a = true) :
    (if comp a b then x else if comp b a then y else z) = y := by
  rw [if_neg (ne_true_of_eq_false (h.asymm c)), if_pos c]

theorem ite_refl (h : STO comp) : (if comp a a then x else if comp a a then y else z) = z := by
  rw [if_neg (ne_true_of_eq_false (h.irrefl a)), if_neg (ne_true_of_eq_false (h.irrefl a))]

end ite

theorem mem_of_mem_insert {k : κ} {v : ν} {l : List (κ × ν)} {e : κ × ν} :
    e ∈ OrdMap.insert comp k v l → e = (k, v) ∨ e ∈ l := by
  induction l with
  | nil => exact fun hm => .inl (List.mem_singleton.1 hm)
  | cons x r ih =>
    obtain ⟨k', v'⟩ := x
    rw [OrdMap.insert]
    split
    · exact List.mem_cons.1
    · split
      · intro hm
        rcases List.mem_cons.1 hm with rfl | hm
        · exact .inr List.mem_cons_self
        · exact (ih hm).imp_right (List.mem_cons_of_mem _)
      · exact fun hm => (List.mem_cons.1 hm).imp_right (List.mem_cons_of_mem _)

theorem mem_of_mem_erase {k : κ} {l : List (κ × ν)} {e : κ × ν} : e ∈ erase comp k l → e ∈ l := by
  induction l with
  | nil => exact id
  | cons x r ih =>
    obtain ⟨k', v'⟩ := x
    rw [erase]
    split
    · exact id
    · split
      · exact fun hm => (List.mem_cons.1 hm).elim (· ▸ List.mem_cons_self) (List.mem_cons_of_mem _ ∘ ih)
      · exact List.mem_cons_of_mem _

theorem sorted_insert (h : STO comp) (k : κ) (v : ν) {l : List (κ × ν)} (hs : Sorted comp l) :
    Sorted comp (OrdMap.insert comp k v l) := by
  induction l with
  | nil => exact And.intro (fun _ he => nomatch he) trivial
  | cons x r ih =>
    obtain ⟨k', v'⟩ := x
    obtain ⟨hx, hr⟩ := hs
    rw [OrdMap.insert]
    rcases h.tri k k' with c | rfl | c
    · rw [ite_lt c]
      refine ⟨fun e he => ?_, hx, hr⟩
      rcases List.mem_cons.1 he with rfl | he
      · exact c
      · exact h.trans _ _ _ c (hx e he)
    · rw [ite_refl h]; exact ⟨hx, hr⟩
    · rw [ite_gt h c]
      exact ⟨fun e he => (mem_of_mem_insert he).elim (· ▸ c) (hx e), ih hr⟩

theorem sorted_erase (k : κ) {l : List (κ × ν)} (hs : Sorted comp l) :
    Sorted comp (erase comp k l) := by
  induction l with
  | nil => exact hs
  | cons x r ih =>
    obtain ⟨k', v'⟩ := x
    rw [erase]
    split
    · exact hs
    · split
      · exact ⟨fun e he => hs.1 e (mem_of_mem_erase he), ih hs.2⟩
      · exact hs.2

theorem length_insert (k : κ) (v : ν) (l : List (κ × ν)) :
    (OrdMap.insert comp k v l).length = l.length + (if (lookup comp k l).isSome then 0 else 1) := by
  induction l with
  | nil => rfl
  | cons x r ih =>
    obtain ⟨k', v'⟩ := x
    rw [OrdMap.insert, lookup]
    by_cases c1 : comp k k' = true
    · rw [if_pos c1, if_pos c1]; rfl
    · rw [if_neg c1, if_neg c1]
      by_cases c2 : comp k' k = true
      · rw [if_pos c2, if_pos c2, List.length_cons, ih, List.length_cons, Nat.add_right_comm]
      · rw [if_neg c2, if_neg c2]; rfl

theorem length_erase (k : κ) (l : List (κ × ν)) :
    ((erase comp k l).length : Int) = l.length - (if (lookup comp k l).isSome then 1 else 0) := by
  induction l with
  | nil => rfl
  | cons x r ih =>
    obtain ⟨k', v'⟩ := x
    rw [erase, lookup]
    by_cases c1 : comp k k' = true
    · rw [if_pos c1, if_pos c1]; exact (Int.sub_zero _).symm
    · rw [if_neg c1, if_neg c1]
      by_cases c2 : comp k' k = true
      · rw [if_pos c2, if_pos c2, List.length_cons, List.length_cons, Int.natCast_succ, ih]; omega
      · rw [if_neg c2, if_neg c2, List.length_cons, Int.natCast_succ]; exact (Int.add_sub_cancel _ _).symm

theorem erase_of_lookup_none {k : κ} {l : List (κ × ν)} (hl : lookup comp k l = none) :
    erase comp k l = l := by
  induction l with
  | nil => rfl
  | cons x r ih =>
    obtain ⟨k', v'⟩ := x
    rw [lookup] at hl
    rw [erase]
    by_cases c1 : comp k k' = true
    · rw [if_pos c1]
    · rw [if_neg c1] at hl ⊢
      by_cases c2 : comp k' k = true
      · rw [if_pos c2] at hl ⊢; rw [ih hl]
      · rw [if_neg c2] at hl; cases hl

theorem lookup_all_gt {k : κ} {l : List (κ × ν)} (hl : ∀ x ∈ l, comp k x.1 = true) :
    lookup comp k l = none := by
  cases l with
  | nil => rfl
  | cons x r => exact if_pos (hl x List.mem_cons_self)

theorem insert_all_gt {k : κ} (v : ν) {l : List (κ × ν)} (hl : ∀ x ∈ l, comp k x.1 = true) :
    OrdMap.insert comp k v l = (k, v) :: l := by
  cases l with
  | nil => rfl
  | cons x r => exact if_pos (hl x List.mem_cons_self)

theorem mem_iff_lookup (h : STO comp) {l : List (κ × ν)} (hs : Sorted comp l) (k : κ) (v : ν) :
    (k, v) ∈ l ↔ lookup comp k l = some v := by
  induction l with
  | nil => exact ⟨fun hm => (nomatch hm), fun hn => (nomatch hn)⟩
  | cons x r ih =>
    obtain ⟨k', v'⟩ := x
    obtain ⟨hx, hr⟩ := hs
    -- a pair for `k` in the tail puts `k` above the head key
    have hr' : (k, v) ∈ r → comp k' k = true := hx (k, v)
    rw [lookup, List.mem_cons, Prod.mk.injEq]
    rcases h.tri k k' with c | rfl | c
    · rw [ite_lt c]
      refine ⟨fun hm => ?_, fun hn => (nomatch hn)⟩
      have c' := h.asymm c
      rcases hm with ⟨rfl, _⟩ | hm
      · rw [c] at c'; cases c'
      · rw [hr' hm] at c'; cases c'
    · rw [ite_refl h, Option.some.injEq]
      refine ⟨fun hm => ?_, fun hv => .inl ⟨rfl, hv.symm⟩⟩
      rcases hm with ⟨_, e⟩ | hm
      · exact e.symm
      · rw [h.irrefl] at hr'; cases hr' hm
    · rw [ite_gt h c, ← ih hr]
      refine ⟨fun hm => ?_, .inr⟩
      rcases hm with ⟨rfl, _⟩ | hm
      · rw [h.irrefl] at c; cases c
      · exact hm

theorem sorted_iff_pairwise {l : List (κ × ν)} :
    Sorted comp l ↔ l.Pairwise (fun a b => comp a.1 b.1 = true) := by
  induction l with
  | nil => exact ⟨fun _ => .nil, fun _ => trivial⟩
  | cons x r ih => rw [Sorted, List.pairwise_cons, ih]

theorem keys_nodup (h : STO comp) {l : List (κ × ν)} (hs : Sorted comp l) :
    (l.map (·.1)).Nodup :=
  List.pairwise_map.mpr ((sorted_iff_pairwise.mp hs).imp fun hab e => by rw [e, h.irrefl] at hab; cases hab)

/-- needs of the order only that `k` is not below itself -/
theorem lookup_insert_self {k : κ} (hirr : comp k k = false) (v : ν) (l : List (κ × ν)) :
    lookup comp k (OrdMap.insert comp k v l) = some v := by
  have hk : ∀ r : List (κ × ν), lookup comp k ((k, v) :: r) = some v := fun r => by
    rw [lookup, if_neg (ne_true_of_eq_false hirr), if_neg (ne_true_of_eq_false hirr)]
  induction l with
  | nil => exact hk []
  | cons x r ih =>
    obtain ⟨k', v'⟩ := x
    rw [OrdMap.insert]
    by_cases c1 : comp k k' = true
    · rw [if_pos c1]; exact hk _
    · rw [if_neg c1]
      by_cases c2 : comp k' k = true
      · rw [if_pos c2, lookup, if_neg c1, if_pos c2, ih]
      · rw [if_neg c2]; exact hk _

theorem lookup_insert_other (h : STO comp) {k k' : κ} (hne : k' ≠ k) (v : ν) (l : List (κ × ν)) :
    lookup comp k' (OrdMap.insert comp k v l) = lookup comp k' l := by
  have hk : ∀ (w : ν) (r : List (κ × ν)), lookup comp k' ((k, w) :: r) =
      if comp k' k then none else lookup comp k' r := fun w r => by
    rw [lookup]
    rcases h.tri k' k with c | e | c
    · rw [ite_lt c, if_pos c]
    · exact absurd e hne
    · rw [ite_gt h c, if_neg (ne_true_of_eq_false (h.asymm c))]
  induction l with
  | nil => rw [OrdMap.insert, hk]; exact ite_self _
  | cons x r ih =>
    obtain ⟨k₀, v₀⟩ := x
    rw [OrdMap.insert]
    rcases h.tri k k₀ with c | rfl | c
    · -- `k' < k < k₀` or `k < k'`
      rw [ite_lt c, hk]
      split
      · rename_i t; exact (if_pos (h.trans _ _ _ t c)).symm
      · rfl
    · rw [ite_refl h, hk, hk]
    · rw [ite_gt h c, lookup, lookup, ih]

theorem lookup_erase_self (h : STO comp) (k : κ) {l : List (κ × ν)} (hs : Sorted comp l) :
    lookup comp k (erase comp k l) = none := by
  induction l with
  | nil => rfl
  | cons x r ih =>
    obtain ⟨k₀, v₀⟩ := x
    obtain ⟨hx, hr⟩ := hs
    rw [erase]
    rcases h.tri k k₀ with c | rfl | c
    · rw [ite_lt c, lookup, ite_lt c]
    · rw [ite_refl h]; exact lookup_all_gt hx
    · rw [ite_gt h c, lookup, ite_gt h c, ih hr]

theorem lookup_erase_other (h : STO comp) {k k' : κ} (hne : k' ≠ k) {l : List (κ × ν)}
    (hs : Sorted comp l) : lookup comp k' (erase comp k l) = lookup comp k' l := by
  induction l with
  | nil => rfl
  | cons x r ih =>
    obtain ⟨k₀, v₀⟩ := x
    obtain ⟨hx, hr⟩ := hs
    rw [erase]
    rcases h.tri k k₀ with c | rfl | c
    · rw [ite_lt c]
    · rw [ite_refl h, lookup]
      rcases h.tri k' k with t | e | t
      · -- `k' < k <` everything in `r`
        rw [ite_lt t]
        exact lookup_all_gt fun e he => h.trans _ _ _ t (hx e he)
      · exact absurd e hne
      · rw [ite_gt h t]
    · rw [ite_gt h c, lookup, lookup, ih hr]

theorem lookup_insert [DecidableEq κ] (h : STO comp) (k k' : κ) (v : ν) (l : List (κ × ν)) :
    lookup comp k' (OrdMap.insert comp k v l) = if k' = k then some v else lookup comp k' l := by
  split
  · rename_i e; rw [e]; exact lookup_insert_self (h.irrefl k) v l
  · rename_i e; exact lookup_insert_other h e v l

theorem lookup_erase [DecidableEq κ] (h : STO comp) (k k' : κ) {l : List (κ × ν)} (hs : Sorted comp l) :
    lookup comp k' (erase comp k l) = if k' = k then none else lookup comp k' l := by
  split
  · rename_i e; rw [e]; exact lookup_erase_self h k hs
  · rename_i e; exact lookup_erase_other h e hs

theorem mem_keys_insert (h : STO comp) (k k' : κ) (v : ν) (l : List (κ × ν)) :
    k' ∈ (OrdMap.insert comp k v l).map (·.1) ↔ k' = k ∨ k' ∈ l.map (·.1) := by
  induction l with
  | nil => exact List.mem_singleton.trans (or_iff_left (List.not_mem_nil)).symm
  | cons x r ih =>
    obtain ⟨k₀, v₀⟩ := x
    rw [OrdMap.insert]
    rcases h.tri k k₀ with c | rfl | c
    · rw [ite_lt c]; exact List.mem_cons
    · rw [ite_refl h]; simp only [List.map_cons, List.mem_cons, or_self_left]
    · rw [ite_gt h c]; simp only [List.map_cons, List.mem_cons, ih, or_left_comm]

section mapKey
variable {κ' : Type} {comp' : κ' → κ' → Bool} {f : κ → κ'} (hf : ∀ a b, comp' (f a) (f b) = comp a b)
include hf

theorem insert_map_key (k : κ) (v : ν) (l : List (κ × ν)) :
    OrdMap.insert comp' (f k) v (l.map fun e => (f e.1, e.2)) =
      (OrdMap.insert comp k v l).map fun e => (f e.1, e.2) := by
  induction l with
  | nil => rfl
  | cons x r ih =>
    obtain ⟨k', v'⟩ := x
    rw [List.map_cons, OrdMap.insert, OrdMap.insert, hf, hf, ih]
    cases comp k k' <;> cases comp k' k <;> rfl

theorem lookup_map_key (k : κ) (l : List (κ × ν)) :
    lookup comp' (f k) (l.map fun e => (f e.1, e.2)) = lookup comp k l := by
  induction l with
  | nil => rfl
  | cons x r ih =>
    obtain ⟨k', v'⟩ := x
    rw [List.map_cons, lookup, lookup, hf, hf, ih]

end mapKey

theorem insert_append_left {key k : κ} (hk : comp key k = true) (val v : ν) (a b : List (κ × ν)) :
    OrdMap.insert comp key val (a ++ (k, v) :: b) = OrdMap.insert comp key val a ++ (k, v) :: b := by
  induction a with
  | nil => exact if_pos hk
  | cons x r ih =>
    obtain ⟨k', v'⟩ := x
    rw [List.cons_append, OrdMap.insert, OrdMap.insert, ih]
    cases comp key k' <;> cases comp k' key <;> rfl

theorem erase_append_left {key k : κ} (hk : comp key k = true) (v : ν) (a b : List (κ × ν)) :
    erase comp key (a ++ (k, v) :: b) = erase comp key a ++ (k, v) :: b := by
  induction a with
  | nil => exact if_pos hk
  | cons x r ih =>
    obtain ⟨k', v'⟩ := x
    rw [List.cons_append, erase, erase, ih]
    cases comp key k' <;> cases comp k' key <;> rfl

theorem lookup_append_left {key k : κ} (hk : comp key k = true) (v : ν) (a b : List (κ × ν)) :
    lookup comp key (a ++ (k, v) :: b) = lookup comp key a := by
  induction a with
  | nil => exact if_pos hk
  | cons x r ih =>
    obtain ⟨k', v'⟩ := x
    rw [List.cons_append, lookup, lookup, ih]

/-- everything in `b` comes after `key` (`insert_append_left` asks this of the head of `b` only) -/
theorem insert_append_all_gt {key : κ} (val : ν) {a b : List (κ × ν)}
    (hb : ∀ e ∈ b, comp key e.1 = true) :
    OrdMap.insert comp key val (a ++ b) = OrdMap.insert comp key val a ++ b := by
  cases b with
  | nil => rw [List.append_nil, List.append_nil]
  | cons e b => exact insert_append_left (hb e List.mem_cons_self) val e.2 a b

theorem lookup_append_all_gt {key : κ} {a b : List (κ × ν)} (hb : ∀ e ∈ b, comp key e.1 = true) :
    lookup comp key (a ++ b) = lookup comp key a := by
  cases b with
  | nil => rw [List.append_nil]
  | cons e b => exact lookup_append_left (hb e List.mem_cons_self) e.2 a b

section right
variable (h : STO comp) {key : κ} {a : List (κ × ν)} (ha : ∀ e ∈ a, comp e.1 key = true)
include h ha

theorem insert_append_right (val : ν) (l : List (κ × ν)) :
    OrdMap.insert comp key val (a ++ l) = a ++ OrdMap.insert comp key val l := by
  induction a with
  | nil => rfl
  | cons x r ih =>
    rw [List.cons_append, OrdMap.insert, ite_gt h (ha x List.mem_cons_self),
      ih fun e he => ha e (List.mem_cons_of_mem _ he), List.cons_append]

theorem erase_append_right (l : List (κ × ν)) :
    erase comp key (a ++ l) = a ++ erase comp key l := by
  induction a with
  | nil => rfl
  | cons x r ih =>
    rw [List.cons_append, erase, ite_gt h (ha x List.mem_cons_self),
      ih fun e he => ha e (List.mem_cons_of_mem _ he), List.cons_append]

theorem lookup_append_right (l : List (κ × ν)) :
    lookup comp key (a ++ l) = lookup comp key l := by
  induction a with
  | nil => rfl
  | cons x r ih =>
    rw [List.cons_append, lookup, ite_gt h (ha x List.mem_cons_self),
      ih fun e he => ha e (List.mem_cons_of_mem _ he)]

end right

theorem sorted_append {a b : List (κ × ν)} :
    Sorted comp (a ++ b) ↔
      Sorted comp a ∧ Sorted comp b ∧ ∀ x ∈ a, ∀ y ∈ b, comp x.1 y.1 = true := by
  simp only [sorted_iff_pairwise, List.pairwise_append]

/-! `key` at the root key `k` of `a ++ (k, v) :: b`, and right of it: everything in `a` is below the root
(`key` left of the root: `*_append_left` above, which asks nothing of `a`). -/

section mid
variable (h : STO comp) {k : κ} {a : List (κ × ν)} (ha : ∀ e ∈ a, comp e.1 k = true)
include h ha

theorem lookup_append_mid (v : ν) (b : List (κ × ν)) :
    lookup comp k (a ++ (k, v) :: b) = some v := by
  rw [lookup_append_right h ha, lookup, ite_refl h]

theorem insert_append_mid (val v : ν) (b : List (κ × ν)) :
    OrdMap.insert comp k val (a ++ (k, v) :: b) = a ++ (k, val) :: b := by
  rw [insert_append_right h ha, OrdMap.insert, ite_refl h]

theorem erase_append_mid (v : ν) (b : List (κ × ν)) :
    erase comp k (a ++ (k, v) :: b) = a ++ b := by
  rw [erase_append_right h ha, erase, ite_refl h]

end mid

section rootLt
variable (h : STO comp) {k key : κ} {a : List (κ × ν)} (ha : ∀ e ∈ a, comp e.1 k = true)
  (c : comp k key = true)
include h ha c

theorem lookup_append_root_lt (v : ν) (b : List (κ × ν)) :
    lookup comp key (a ++ (k, v) :: b) = lookup comp key b := by
  rw [lookup_append_right h fun e he => h.trans _ _ _ (ha e he) c, lookup, ite_gt h c]

theorem insert_append_root_lt (val v : ν) (b : List (κ × ν)) :
    OrdMap.insert comp key val (a ++ (k, v) :: b) = a ++ (k, v) :: OrdMap.insert comp key val b := by
  rw [insert_append_right h (fun e he => h.trans _ _ _ (ha e he) c), OrdMap.insert, ite_gt h c]

theorem erase_append_root_lt (v : ν) (b : List (κ × ν)) :
    erase comp key (a ++ (k, v) :: b) = a ++ (k, v) :: erase comp key b := by
  rw [erase_append_right h (fun e he => h.trans _ _ _ (ha e he) c), erase, ite_gt h c]

end rootLt

end GoguVerif.Lemmas.C04
