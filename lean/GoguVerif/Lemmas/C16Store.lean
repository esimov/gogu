import GoguVerif.Model.StoreHelpers
/-!
# Basic facts about the slice store (C16)

What `setCell`, `write` and `append` do to the shape of the store and to the arrays they do not address, and
the algebra of `InPlace`: writing one cell of a window is an in-place change of that window, and in-place
changes compose.  Then `Stepped`: what one instruction of the builder discipline can do to a machine.

`InPlace` and `Frame` are definitions of `Model.StoreHelpers`; their lemmas are `Lemmas.C16Store.InPlace.*` here
(`length_eq`, `other`, `outside`, `arr_length`, `refl`, `trans`, `of_write`) and `Lemmas.C16Helpers.InPlace.wf/mono`,
`Lemmas.C16Helpers.Frame.*` in `Lemmas/C16Helpers.lean`.  So dot notation on a hypothesis does not find them: with both
namespaces open one writes `InPlace.wf hp ht`, `Frame.length_le hf`.
-/
namespace GoguVerif.Lemmas.C16Store
open Model.Store Model.StoreHelpers

theorem setCell_length (σ : Store) (a i : Nat) (v : Int) : (setCell σ a i v).length = σ.length := by
  simp [setCell]

theorem setCell_other (σ : Store) (a b i : Nat) (v : Int) (h : b ≠ a) :
    (setCell σ b i v)[a]? = σ[a]? := by
  simp [setCell, List.getElem?_modify_ne _ _ h]

theorem setCell_same (σ : Store) (a i : Nat) (v : Int) :
    (setCell σ a i v)[a]? = (σ[a]?).map (fun arr => arr.set i v) := by
  simp only [setCell, List.getElem?_modify_eq, Option.map_eq_map]

theorem cell_setCell (σ : Store) (a j : Nat) (v : Int) {k : Nat} (h : k ≠ j) :
    cell (setCell σ a j v) a k = cell σ a k := by
  simp only [cell, setCell_same]
  cases σ[a]? with
  | none => rfl
  | some arr => exact List.getElem?_set_ne (Ne.symm h)

theorem InPlace.length_eq {σ σ' : Store} {s : Slice} (h : InPlace σ σ' s) : σ'.length = σ.length := h.1

theorem InPlace.other {σ σ' : Store} {s : Slice} (h : InPlace σ σ' s) {a : Nat} (ha : a ≠ s.arr) : σ'[a]? = σ[a]? :=
  h.2.1 a ha

theorem InPlace.outside {σ σ' : Store} {s : Slice} (h : InPlace σ σ' s) {j : Nat} (hj : j < s.off ∨ s.off + s.len ≤ j) :
    cell σ' s.arr j = cell σ s.arr j := h.2.2.1 j hj

theorem InPlace.arr_length {σ σ' : Store} {s : Slice} (h : InPlace σ σ' s) :
    (σ'[s.arr]?).map List.length = (σ[s.arr]?).map List.length := h.2.2.2

theorem InPlace.refl (σ : Store) (s : Slice) : InPlace σ σ s := ⟨rfl, fun _ _ => rfl, fun _ _ => rfl, rfl⟩

theorem InPlace.trans {σ σ1 σ2 : Store} {s : Slice} (h1 : InPlace σ σ1 s) (h2 : InPlace σ1 σ2 s) :
    InPlace σ σ2 s :=
  ⟨(length_eq h2).trans (length_eq h1), fun _ hne => (other h2 hne).trans (other h1 hne),
    fun _ hj => (outside h2 hj).trans (outside h1 hj), (arr_length h2).trans (arr_length h1)⟩

theorem setCell_inplace (σ : Store) (s : Slice) {i : Nat} (v : Int) (hi : i < s.len) :
    InPlace σ (setCell σ s.arr (s.off + i) v) s := by
  refine ⟨setCell_length .., fun a ha => setCell_other _ _ _ _ _ (Ne.symm ha),
    fun k hk => cell_setCell _ _ _ _ (by omega), ?_⟩
  rw [setCell_same]
  cases σ[s.arr]? with
  | none => rfl
  | some arr => exact congrArg some List.length_set

theorem write_eq {σ σ' : Store} {s : Slice} {i : Nat} {v : Int} (h : write σ s i v = some σ') :
    i < s.len ∧ σ' = setCell σ s.arr (s.off + i) v := by
  unfold write at h
  split at h
  · exact ⟨‹_›, (Option.some.inj h).symm⟩
  · cases h

theorem InPlace.of_write {σ σ' : Store} {s : Slice} {i : Nat} {v : Int} (h : write σ s i v = some σ') :
    InPlace σ σ' s := by
  obtain ⟨hi, rfl⟩ := write_eq h
  exact setCell_inplace σ s v hi

theorem write_length {σ σ' : Store} {s : Slice} {i : Nat} {v : Int} (h : write σ s i v = some σ') :
    σ'.length = σ.length := InPlace.length_eq (InPlace.of_write h)

theorem write_other {σ σ' : Store} {s : Slice} {i : Nat} {v : Int} (h : write σ s i v = some σ') {base a : Nat}
    (hb : base ≤ s.arr) (ha : a < base) : σ'[a]? = σ[a]? :=
  InPlace.other (InPlace.of_write h) (Nat.ne_of_lt (Nat.lt_of_lt_of_le ha hb))

theorem append_length_ge (σ : Store) (s : Slice) (v : Int) : σ.length ≤ (append σ s v).1.length := by
  unfold append
  split
  · simp [setCell_length]
  · simp

theorem append_other (σ : Store) (s : Slice) (v : Int) {base a : Nat} (hb : base ≤ s.arr) (hσ : base ≤ σ.length)
    (ha : a < base) : (append σ s v).1[a]? = σ[a]? := by
  unfold append
  split
  · exact setCell_other _ _ _ _ _ (Nat.ne_of_gt (Nat.lt_of_lt_of_le ha hb))
  · simp [List.getElem?_append_left (Nat.lt_of_lt_of_le ha hσ)]

theorem append_arr_ge (σ : Store) (s : Slice) (v : Int) (base : Nat) (hb : base ≤ s.arr)
    (hσ : base ≤ σ.length) : base ≤ (append σ s v).2.arr := by
  unfold append
  split
  · exact hb
  · exact hσ

/-- the machines `step base m i` can be: the facts about `step` are proved by cases on this list and not on the
instruction with its register lookups -/
inductive Stepped (base : Nat) (m : Machine) : Machine → Prop
  | same : Stepped base m m
  | alloc (len cap : Nat) :
      Stepped base m { σ := (Model.Store.alloc m.σ len cap).1, regs := m.regs ++ [(Model.Store.alloc m.σ len cap).2] }
  | write {i : Nat} {v : Int} {s : Slice} {σ' : Store} : base ≤ s.arr →
      Model.Store.write m.σ s i v = some σ' → Stepped base m { m with σ := σ' }
  | append {r : Nat} (v : Int) {s : Slice} : base ≤ s.arr →
      Stepped base m { σ := (Model.Store.append m.σ s v).1, regs := m.regs.set r (Model.Store.append m.σ s v).2 }
  | reslice {r lo hi : Nat} {s s' : Slice} : m.regs[r]? = some s → Model.Store.reslice s lo hi = some s' →
      Stepped base m { m with regs := m.regs ++ [s'] }

theorem stepped (base : Nat) (m : Machine) (i : Instr) : Stepped base m (step base m i) := by
  cases i with
  | alloc len cap => exact .alloc len cap
  | write r i v =>
    simp only [step]
    split
    · split
      · split
        · exact .write ‹_› ‹_›
        · exact .same
      · exact .same
    · exact .same
  | append r v =>
    simp only [step]
    split
    · split
      · exact .append v ‹_›
      · exact .same
    · exact .same
  | reslice r lo hi =>
    simp only [step]
    split
    · split
      · exact .reslice ‹_› ‹_›
      · exact .same
    · exact .same

theorem Stepped.length_ge {base : Nat} {m m' : Machine} (h : Stepped base m m') : m.σ.length ≤ m'.σ.length := by
  cases h with
  | same | reslice _ _ => exact Nat.le_refl _
  | alloc len cap => simp [Model.Store.alloc]
  | write _ h => exact Nat.le_of_eq (write_length h).symm
  | append v _ => exact append_length_ge _ _ _

theorem Stepped.frame {base : Nat} {m m' : Machine} (h : Stepped base m m') (hb : base ≤ m.σ.length) (a : Nat)
    (ha : a < base) : m'.σ[a]? = m.σ[a]? := by
  cases h with
  | same | reslice _ _ => rfl
  | alloc len cap => exact List.getElem?_append_left (Nat.lt_of_lt_of_le ha hb)
  | write hbs h => exact write_other h hbs ha
  | append v hbs => exact append_other _ _ v hbs hb ha

theorem Stepped.regs {base : Nat} {m m' : Machine} (h : Stepped base m m') (hb : base ≤ m.σ.length) :
    ∀ s ∈ m'.regs, s ∈ m.regs ∨ base ≤ s.arr ∨ ∃ s0 ∈ m.regs, s.arr = s0.arr := by
  intro s hs
  cases h with
  | same | write _ _ => exact Or.inl hs
  | alloc len cap =>
    rcases List.mem_append.mp hs with h | h
    · exact Or.inl h
    · rw [List.mem_singleton.mp h]; exact Or.inr (Or.inl hb)
  | append v hbs =>
    rcases List.mem_or_eq_of_mem_set hs with h | h
    · exact Or.inl h
    · subst h; exact Or.inr (Or.inl (append_arr_ge _ _ _ _ hbs hb))
  | @reslice r lo hi s0 s' hs0 hre =>
    rcases List.mem_append.mp hs with h | h
    · exact Or.inl h
    · rw [List.mem_singleton.mp h]
      refine Or.inr (Or.inr ⟨s0, List.mem_of_getElem? hs0, ?_⟩)
      unfold Model.Store.reslice at hre
      split at hre
      · cases hre; rfl
      · cases hre

end GoguVerif.Lemmas.C16Store
