import GoguVerif.Model.StoreHelpers3
/-!
# The map store (C16)

What `delete` does to the map store `MStore` of `Model/StoreHelpers3.lean` (`mdelete` touches one object), when two
map stores are equal, and what a map object appended to the store looks like from outside.  Frame facts are stated on
the objects (`μ'[j]? = μ[j]?`), values on what an id shows (`mget`); `mget_congr` goes from the one to the other.  The
namespaces are those of the audit lines that name these lemmas.
-/
set_option autoImplicit false

namespace GoguVerif.Lemmas.C16Helpers3
open Model.StoreHelpers3

theorem mget_congr {μ μ' : MStore} {j : Nat} (h : μ'[j]? = μ[j]?) : mget μ' j = mget μ j := by
  unfold mget; rw [h]

theorem mget_mdelete_same (μ : MStore) (id : Nat) (k : Int) :
    mget (mdelete μ id k) id = Model.C14.del (mget μ id) k := by
  unfold mget mdelete
  rw [List.getElem?_modify]
  cases μ[id]? with
  | none => simp [Model.C14.del]
  | some m => simp

theorem mdelete_other (μ : MStore) (id j : Nat) (k : Int) (h : j ≠ id) : (mdelete μ id k)[j]? = μ[j]? :=
  List.getElem?_modify_ne _ _ (Ne.symm h)

theorem mdelete_length (μ : MStore) (id : Nat) (k : Int) : (mdelete μ id k).length = μ.length := by
  simp [mdelete]

end GoguVerif.Lemmas.C16Helpers3

namespace GoguVerif.Theorems.C16Helpers3
open Model.StoreHelpers3

theorem mstore_ext {μ1 μ2 : MStore} (hl : μ1.length = μ2.length) (h : ∀ j, mget μ1 j = mget μ2 j) : μ1 = μ2 := by
  refine List.ext_getElem hl fun j h1 h2 => ?_
  have := h j
  unfold mget at this
  rwa [List.getElem?_eq_getElem h1, List.getElem?_eq_getElem h2] at this

end GoguVerif.Theorems.C16Helpers3

namespace GoguVerif.Theorems.C16Helpers4
open Model.StoreHelpers3

/-- a map object appended to the map store is found under the new id, and every id that existed keeps its
object -/
theorem mstore_push (μ : MStore) (m : List (Int × Int)) :
    mget (μ ++ [m]) μ.length = m ∧ ∀ j, j < μ.length → (μ ++ [m])[j]? = μ[j]? :=
  ⟨by simp [mget], fun _ hj => List.getElem?_append_left hj⟩

end GoguVerif.Theorems.C16Helpers4
