import GoguVerif.Spec.C15
import GoguVerif.Model.C15
import GoguVerif.Lemmas.ListFacts
/-! What the primitives of `Model/C15.lean` compute: a slice expression in range, the pad token as a cut of repeated
copies, `Unwrap`'s prefix and suffix tests as `take` and `drop`, `ReverseStr`'s swap loop, `Substr` as the window
`(s.take e).drop o` with clamped ends, the rune loops as maps. -/
namespace GoguVerif.Lemmas.C15
open GoguVerif.Go.Utf8 GoguVerif.Model.C15 GoguVerif.Spec.C15

theorem bind_ok {α β : Type} (a : α) (f : α → Outcome β) : (Outcome.ok a).bind f = f a := rfl

theorem map_ok {α β : Type} (f : α → β) (a : α) : (Outcome.ok a).map f = .ok (f a) := rfl

theorem goSlice_ok {s : Str} {lo hi : Int} (h0 : 0 ≤ lo) (h1 : lo ≤ hi) (h2 : hi ≤ s.length) :
    goSlice s lo hi = .ok ((s.take hi.toNat).drop lo.toNat) :=
  if_pos ⟨h0, h1, h2⟩

theorem goSlice_zero {s : Str} {hi : Int} (h1 : 0 ≤ hi) (h2 : hi ≤ s.length) :
    goSlice s 0 hi = .ok (s.take hi.toNat) :=
  goSlice_ok (Int.le_refl 0) h1 h2

theorem goSlice_panic {s : Str} {lo hi : Int} (h : (s.length : Int) < hi) : goSlice s lo hi = .panic :=
  if_neg fun ⟨_, _, h2⟩ => absurd h2 (by omega)

theorem isCyc_iff (tok p : Str) :
    isCyc tok p = true ↔ ∀ i, i < p.length → p[i]? = tok[i % tok.length]? := by
  simp [isCyc, List.all_eq_true, List.mem_range]

theorem flatten_replicate_getElem? (tok : Str) (k i : Nat) (h : i < k * tok.length) :
    (List.replicate k tok).flatten[i]? = tok[i % tok.length]? := by
  induction k generalizing i with
  | zero => simp at h
  | succ k ih =>
    rw [List.replicate_succ, List.flatten_cons]
    by_cases hi : i < tok.length
    · rw [List.getElem?_append_left hi, Nat.mod_eq_of_lt hi]
    · have hi' : tok.length ≤ i := Nat.le_of_not_lt hi
      rw [List.getElem?_append_right hi', ih (i - tok.length) (by rw [Nat.succ_mul] at h; omega)]
      rw [Nat.mod_eq_sub_mod hi']

theorem length_flatten_replicate (m : Nat) (tok : Str) :
    (List.replicate m tok).flatten.length = m * tok.length := by
  simp [List.length_flatten, List.sum_replicate_nat]

theorem isCyc_take_replicate (tok : Str) (m c : Nat) :
    isCyc tok ((List.replicate m tok).flatten.take c) = true := by
  rw [isCyc_iff]
  intro i hi
  rw [List.length_take, length_flatten_replicate] at hi
  rw [List.getElem?_take_of_lt (by omega)]
  exact flatten_replicate_getElem? tok m i (by omega)

/-- the first `c` bytes of `tok tok tok …` -/
def fill (tok : Str) (c : Nat) : Str := (List.replicate c tok).flatten.take c

theorem fill_length (tok : Str) (htok : tok ≠ []) (c : Nat) : (fill tok c).length = c := by
  rw [fill, List.length_take, length_flatten_replicate]
  exact Nat.min_eq_left (Nat.le_mul_of_pos_right _ (List.length_pos_iff.mpr htok))

theorem isCyc_fill (tok : Str) (c : Nat) : isCyc tok (fill tok c) = true := isCyc_take_replicate tok c c

theorem take_eq_fill (tok : Str) (c : Nat) (h : c ≤ tok.length) : tok.take c = fill tok c := by
  cases c with
  | zero => rfl
  | succ c => rw [fill, List.replicate_succ, List.flatten_cons, List.take_append_of_le_length h]

/-- Repeated `c` times or not at all, the token string is long enough for the cut, which leaves `fill tok c`.  `Pad` cuts
its right filler to `c = ⌈d/2⌉` bytes but tests the token length against `k = ⌊d/2⌋`, so `c ≤ k + 1`: a token that is not
repeated (`k < |tok|`) has length `≥ k + 1 ≥ c`. -/
theorem padToken_fill (tok : Str) (htok : tok ≠ []) (c : Nat) {k : Int} (hk : (c : Int) ≤ k + 1) :
    padToken tok (decide ((tok.length : Int) ≤ k)) c c = .ok (fill tok c) := by
  unfold padToken
  by_cases hr : (tok.length : Int) ≤ k
  · rw [decide_eq_true hr, if_pos rfl, goRepeat, if_neg (Int.not_lt.mpr (Int.natCast_nonneg c)), bind_ok,
      goSlice_zero (Int.natCast_nonneg c) (by
        rw [length_flatten_replicate, Int.toNat_natCast]
        exact Int.ofNat_le.mpr (Nat.le_mul_of_pos_right _ (List.length_pos_iff.mpr htok))),
      Int.toNat_natCast]
    rfl
  · rw [decide_eq_false hr, if_neg Bool.false_ne_true, bind_ok, goSlice_zero (Int.natCast_nonneg c) (by omega),
      Int.toNat_natCast, take_eq_fill tok c (by omega)]

theorem exists_natCast_eq_sub {size : Int} {n : Nat} (h : ¬ size ≤ n) : ∃ d : Nat, size - n = d :=
  ⟨_, (Int.toNat_of_nonneg (by omega)).symm⟩

/-- with an empty token no filler can be cut: the slice expression `tokenStr[:n]`, n > 0, panics -/
theorem padToken_nil (rep : Bool) (count c : Int) (hc : 0 < c) : padToken [] rep count c = .panic := by
  unfold padToken goRepeat
  cases rep
  · exact goSlice_panic hc
  · rw [if_pos rfl]
    split
    · rfl
    · rw [List.flatten_replicate_nil]; exact goSlice_panic hc

theorem padAt_mk (s tok l r : Str) {d k : Nat} (hl : isCyc tok l = true) (hr : isCyc tok r = true)
    (hk : l.length = k) (hd : k + r.length = d) : padAt s tok (l ++ s ++ r) d k = true := by
  subst hk hd
  unfold padAt
  rw [List.drop_left' (l₁ := l ++ s) List.length_append, List.append_assoc, List.drop_left, List.take_left,
    List.take_left, hl, hr]
  simp only [List.length_append, beq_self_eq_true, Bool.and_true, beq_iff_eq]
  omega

theorem isPrefixOf_iff_take (t s : Str) : t.isPrefixOf s = true ↔ s.take t.length = t := by
  rw [List.isPrefixOf_iff_prefix, List.prefix_iff_eq_take]
  exact eq_comm

theorem isSuffixOf_iff_drop (t s : Str) : t.isSuffixOf s = true ↔ s.drop (s.length - t.length) = t := by
  rw [List.isSuffixOf_iff_suffix, List.suffix_iff_eq_drop]
  exact eq_comm

theorem revLoop_spec (fuel : Nat) (l : List Rune) (h : l.length ≤ 2 * fuel + 1) :
    revLoop fuel l 0 ((l.length : Int) - 1) = .ok l.reverse := by
  -- the loop's upper index is the last position of the slice, kept as an `Int` so that it can be `-1`
  have := ListFacts.swapLoop_reverses .ok (fun n l i k => revLoop n l i ((k : Int) - 1)) ?_ ?_ fuel [] l [] h
  · rwa [List.nil_append, List.append_nil, List.nil_append, List.append_nil, List.length_nil, Nat.zero_add] at this
  · intro n l i k hk
    cases n with
    | zero => rfl
    | succ n => rw [revLoop, if_neg (by omega)]
  · intro n pre mid post a b
    obtain ⟨ha, hb, hset⟩ := ListFacts.swap_ends pre mid post a b
    have e : ((pre.length + (mid.length + 2) : Nat) : Int) - 1 = ((pre.length + (mid.length + 1) : Nat) : Int) := by
      omega
    have e' : ((pre.length + (mid.length + 1) : Nat) : Int) - 1 = ((pre.length + 1 + mid.length : Nat) : Int) - 1 := by
      omega
    rw [e, revLoop, if_pos (Int.ofNat_lt.mpr (Nat.lt_add_of_pos_right (Nat.succ_pos _))),
      if_neg (Int.not_lt.mpr (Int.natCast_nonneg _)), Int.toNat_natCast, ha, hb]
    dsimp only
    rw [hset, e']

theorem abs_gt_iff (x n : Int) : abs x > n ↔ x < -n ∨ n < x := by
  unfold abs; split <;> omega

theorem inRange_iff (x lo up : Int) : inRange x lo up = true ↔ lo ≤ x ∧ x ≤ up := by
  simp [inRange]

theorem take_clamp (s : Str) (e : Int) :
    s.take (if e > s.length then (s.length : Int) else e).toNat = s.take e.toNat := by
  split
  · rw [Int.toNat_natCast, List.take_length, List.take_of_length_le (by omega)]
  · rfl

theorem drop_take_eq_nil {α : Type} (s : List α) {a b : Nat} (h : b ≤ a ∨ s.length ≤ a) :
    (s.take b).drop a = [] :=
  List.drop_eq_nil_of_le (by rw [List.length_take]; omega)

/-- The window `[o, e)` of `s`.  `take` and `drop` absorb an end past the string, an end before the start
and a start past the end, so only a negative start needs a case of its own. -/
theorem substrEnd_eq (s : Str) {o e : Int} (h : o ≤ e) :
    substrEnd s o e = .ok (if o < 0 then [] else (s.take e.toNat).drop o.toNat) := by
  unfold substrEnd
  simp only [Bool.or_eq_true, Bool.not_eq_true', ← Bool.not_eq_true, inRange_iff]
  have hc := take_clamp s e
  have hcn : (if e > s.length then (s.length : Int) else e) ≤ s.length ∧
      (o ≤ s.length → o ≤ (if e > s.length then (s.length : Int) else e)) := by split <;> omega
  generalize (if e > (s.length : Int) then (s.length : Int) else e) = c at hc hcn ⊢
  by_cases ho : 0 ≤ o ∧ o ≤ s.length
  · have hoc := hcn.2 ho.2
    rw [if_neg (fun h => h.elim (· ho) (· ⟨Int.le_trans ho.1 hoc, hcn.1⟩)), goSlice_ok ho.1 hoc hcn.1, hc,
      if_neg (Int.not_lt.mpr ho.1)]
  · rw [if_pos (Or.inl ho)]
    split
    · rfl
    · rw [drop_take_eq_nil s (by omega)]

theorem substrLen_eq (s : Str) (o l : Int) :
    substrLen s o l = .ok (if o < 0 then [] else
      (s.take (if l < 0 then (s.length : Int) + l else o + l).toNat).drop o.toNat) := by
  unfold substrLen
  split
  · simp only [abs_gt_iff]
    split
    · split
      · rfl
      · rw [drop_take_eq_nil s (by omega)]
    · exact substrEnd_eq s (by omega)
  · exact substrEnd_eq s (by omega)

theorem substr_eq_window (s : Str) (offset length : Int) :
    substr s offset length = .ok (
      let o := if offset < 0 then (s.length : Int) + offset else offset
      if o < 0 then [] else
        (s.take (if length < 0 then (s.length : Int) + length else o + length).toNat).drop o.toNat) := by
  unfold substr
  split
  · simp only [abs_gt_iff]
    split
    · rw [if_pos (by omega)]
    · exact substrLen_eq ..
  · exact substrLen_eq ..

theorem substr_nat (w : Str) (a l : Nat) : substr w (a : Int) (l : Int) = .ok ((w.drop a).take l) := by
  rw [substr_eq_window]
  have ha : ¬ (a : Int) < 0 := by omega
  have hl : ¬ (l : Int) < 0 := by omega
  simp only [if_neg ha, if_neg hl]
  rw [← Int.natCast_add, Int.toNat_natCast, Int.toNat_natCast, List.drop_take, Nat.add_sub_cancel_left]

theorem toLower_eq_map (f : Rune → Rune) (s : Str) : toLower f s = encodeAll ((runes s).map f) := by
  unfold toLower runes
  rw [ListFacts.foldl_snoc_map (fun p : Nat × Rune => f p.2), List.nil_append, List.map_map]
  rfl

theorem toUpper_eq_toLower (f : Rune → Rune) (s : Str) : toUpper f s = toLower f s := rfl

theorem rangeAux_index_ge (i k : Nat) (s : Str) : ∀ p ∈ rangeAux i k s, i ≤ p.1 := by
  induction s generalizing i k with
  | nil => simp [rangeAux]
  | cons b rest ih =>
    cases k with
    | zero =>
      simp only [rangeAux, List.mem_cons]
      rintro p (rfl | hp)
      · exact Nat.le_refl _
      · exact Nat.le_of_succ_le (ih _ _ p hp)
    | succ k =>
      simp only [rangeAux]
      intro p hp
      exact Nat.le_of_succ_le (ih _ _ p hp)

-- stated again as `Theorems.C15.capitalize_eq_spec`; the case styles (`capitalize_word`) need it here
theorem capitalize_eq_capSpec (lo up : Rune → Rune) (s : Str) : capitalize lo up s = capSpec lo up s := by
  unfold capitalize capSpec runes rangeStr
  rw [ListFacts.foldl_snoc_map (fun p : Nat × Rune => if p.1 = 0 then up p.2 else lo p.2), List.nil_append]
  cases s with
  | nil => rfl
  | cons b rest =>
    simp only [rangeAux, List.map_cons, if_true]
    congr 2
    rw [List.map_map]
    apply List.map_congr_left
    intro p hp
    exact if_neg (Nat.ne_of_gt (rangeAux_index_ge _ _ _ p hp))

end GoguVerif.Lemmas.C15
