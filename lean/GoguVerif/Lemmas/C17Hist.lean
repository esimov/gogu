import GoguVerif.Lemmas.C17Log
/-!
# C17 — invariants of the ghost history log `HLog` of the Memoize protocol LTS (helper lemmas)

The offers made to the cache (`SetsCore`, which knows the instant the run started), the start order of the executions
(`OrdInv`) and what every caller's read of the cache saw (`ReadInv`); where cached values and hit values come from
follows from these (`cellOrigin_of_sets`, `hitSource_of_read`).  Before them `foldSets`, the cache cell after a list of
offers; at the end `AllInv`, all of it with `LogInv`, kept by every step under the virtual clock.
-/

namespace GoguVerif.Lemmas.C17

open GoguVerif.Model.C17

/-- the cache cell after a list of offers `(leader, value, instant)` -/
def foldSets (E : Int) (cell : Cell) (T : List (Nat × Int × Int)) : Cell :=
  T.foldl (fun cell p => cellSet E p.2.2 cell p.2.1) cell

theorem foldSets_of_live {E T0 : Int} {v : Int} : ∀ (R : List (Nat × Int × Int)) (cell : Cell),
    cellGet T0 cell = some v → (∀ p ∈ R, p.2.2 ≤ T0) → foldSets E cell R = cell
  | [], _, _, _ => rfl
  | p :: R, cell, hl, ht => by
    simp only [foldSets, List.foldl_cons]
    have e : cellSet E p.2.2 cell p.2.1 = cell := Lemmas.CacheCell.cellSet_of_live hl (ht p List.mem_cons_self)
    rw [e]
    exact foldSets_of_live R cell hl (fun q hq => ht q (List.mem_cons_of_mem _ hq))

theorem foldSets_cases (E : Int) : ∀ (T : List (Nat × Int × Int)) (cell : Cell),
    foldSets E cell T = cell ∨ ∃ p ∈ T, foldSets E cell T = some (p.2.1, defaultExp E p.2.2)
  | [], _ => Or.inl rfl
  | p :: T, cell => by
    have step : foldSets E cell (p :: T) = foldSets E (cellSet E p.2.2 cell p.2.1) T := rfl
    rw [step]
    rcases foldSets_cases E T (cellSet E p.2.2 cell p.2.1) with h | ⟨q, hq, h⟩
    · rw [h]
      have hcs : cellSet E p.2.2 cell p.2.1 = _ ∨ cellSet E p.2.2 cell p.2.1 = _ := Lemmas.CacheCell.cellSet_cases ..
      rcases hcs with k | k
      · exact Or.inl k
      · exact Or.inr ⟨p, List.mem_cons_self, k⟩
    · exact Or.inr ⟨q, List.mem_cons_of_mem _ hq, h⟩

/-- the caller's function has run and its (successful) result has been offered to the cache -/
def isSet (s : State) (l : Nat) : Prop :=
  (∃ v, s.pc l = .setDone (.ok v) ∧ s.src l = some (.exec l)) ∨
  (∃ v, s.pc l = .done (.ok v) ∧ s.src l = some (.exec l))

/-- the caller's function has started and the caller is still the registered call of its key -/
def activeStarted : PC → Bool
  | .running | .ran _ | .setDone _ => true
  | _ => false

/-- what is known of an offer `(leader, value, instant)`: the value is the result of the leader's execution, which ended at
that instant, and the leader is past its `cacheSet` -/
structure Offered (s : State) (g : EvLog) (p : Nat × Int × Int) : Prop where
  res : s.execRes p.1 = some (.ok p.2.1)
  endT : g.endT p.1 = some p.2.2
  set : isSet s p.1

/-- the execution of `a` started before that of `b`, if both are in the log -/
def startsBefore (g : EvLog) (a b : Nat) : Prop :=
  ∀ x y, g.startAt a = some x → g.startAt b = some y → x < y

/-- the offers made so far, tied to state, log and cache, in a run that started at the instant `t0` -/
structure SetsCore (cfg : Cfg) (c0 : Nat → Cell) (t0 : Int) (s : State) (g : EvLog) (h : HLog) : Prop where
  lo : t0 ≤ s.now
  after : ∀ p ∈ h.sets, t0 ≤ p.2.2
  fact : ∀ p ∈ h.sets, Offered s g p
  compl : ∀ l, isSet s l → ∃ p ∈ h.sets, p.1 = l
  sorted : h.sets.Pairwise (fun p q => cfg.key p.1 = cfg.key q.1 → startsBefore g p.1 q.1)
  cacheA : ∀ k, s.cache k = foldSets cfg.expTime (c0 k) (h.sets.filter (fun p => cfg.key p.1 == k))

/-- the offers of a run that started at an instant `≥ 0`, in one structure: the clauses of `SetsCore` with `0` for `t0`, and
what the event log says of the offers beside them — none is later than now (`Instants.le`), an execution still registered
started last (`dD`: `SInv.last_started`).  The proofs read `SetsCore`.  `now0` and `0 ≤ p.2.2` in `fact`: the specification
treats a deadline as one only if it is positive, and `now + expTime > 0` needs `0 ≤ now` (`offer_abs`) -/
structure SetsInv (cfg : Cfg) (c0 : Nat → Cell) (s : State) (g : EvLog) (h : HLog) : Prop where
  now0 : 0 ≤ s.now
  fact : ∀ p ∈ h.sets, s.execRes p.1 = some (.ok p.2.1) ∧ g.endT p.1 = some p.2.2 ∧ 0 ≤ p.2.2 ∧
          p.2.2 ≤ s.now ∧ isSet s p.1
  compl : ∀ l, isSet s l → ∃ p ∈ h.sets, p.1 = l
  sorted : h.sets.Pairwise (fun p q => cfg.key p.1 = cfg.key q.1 →
            ∀ x y, g.startAt p.1 = some x → g.startAt q.1 = some y → x < y)
  cacheA : ∀ k, s.cache k = foldSets cfg.expTime (c0 k) (h.sets.filter (fun p => cfg.key p.1 == k))
  dD : ∀ a c' x x', activeStarted (s.pc a) = true → c' ≠ a → cfg.key c' = cfg.key a →
          g.startAt c' = some x' → g.startAt a = some x → x' < x

theorem setscore_init (cfg : Cfg) (c0 : Nat → Cell) (now : Int) :
    SetsCore cfg c0 now (init c0 now) EvLog.empty HLog.empty where
  lo := Int.le_refl now
  after := nofun
  fact := by intro p hp; simp [HLog.empty] at hp
  compl := by intro l hl; simp [isSet, init] at hl
  sorted := by simp [HLog.empty]
  cacheA := by intro k; simp [HLog.empty, foldSets, init]

section

variable {cfg : Cfg} {c0 : Nat → Cell} {s s' : State} {g : EvLog} {h : HLog} {l : Label}

theorem histStep_wake (cfg : Cfg) (s : State) (h : HLog) (a : Nat) :
    histStep cfg s h (.wake a) = h ∨
    histStep cfg s h (.wake a) = { h with readLen := upd h.readLen a (some h.sets.length) } := by
  simp only [histStep]
  split
  · split
    · exact Or.inr rfl
    · exact Or.inl rfl
  · exact Or.inl rfl

theorem histStep_sets (cfg : Cfg) (s : State) (h : HLog) (l : Label) :
    ((histStep cfg s h l).sets = h.sets ∧ ∀ a v, l = .cacheSet a → s.pc a ≠ .ran (.ok v)) ∨
    ∃ a v, l = .cacheSet a ∧ s.pc a = .ran (.ok v) ∧ (histStep cfg s h l).sets = h.sets ++ [(a, v, s.now)] := by
  have other : (histStep cfg s h l).sets = h.sets → (∀ a, l ≠ .cacheSet a) →
      (histStep cfg s h l).sets = h.sets ∧ ∀ a v, l = .cacheSet a → s.pc a ≠ .ran (.ok v) :=
    fun e hl => ⟨e, fun a _ k => absurd k (hl a)⟩
  cases l with
  | cacheSet a =>
    simp only [histStep]
    split
    · next v hpc => exact Or.inr ⟨a, v, rfl, hpc, rfl⟩
    · next hn => exact Or.inl ⟨rfl, fun a' v e => by cases e; exact hn v⟩
  | wake a => exact Or.inl (other (by rcases histStep_wake cfg s h a with e | e <;> rw [e]) nofun)
  | _ => exact Or.inl (other rfl nofun)

theorem Step.isSet_step (hinv : Inv cfg c0 s) (hs : Step cfg s l s') (x : Nat) :
    isSet s' x ↔ isSet s x ∨ ∃ v, l = .cacheSet x ∧ s.pc x = .ran (.ok v) := by
  by_cases hc : l.caller = some x
  · cases hs with
    | tick => cases hc
    | invoke a hpc | miss a hpc | join a _ hpc | lead a hpc | fnStart a hpc | fnEnd a _ hpc | setErr a hpc
    | hit a _ hpc | leadHit a _ hpc =>
      cases hc; simp [isSet, upd_same, hpc]
    | setOk a v hpc =>
      cases hc
      exact iff_of_true (Or.inl ⟨v, upd_same _ _ _, ((hinv.loc x).ran hpc).1⟩) (Or.inr ⟨v, rfl, hpc⟩)
    | doFinish a r hpc =>
      cases hc
      refine Iff.trans ?_ (or_iff_left fun ⟨_, k, _⟩ => nomatch k).symm
      simp only [isSet, upd_same, hpc]
      constructor
      · rintro (⟨v, h1, _⟩ | ⟨v, h1, h2⟩)
        · cases h1
        · cases h1; exact Or.inl ⟨v, rfl, h2⟩
      · rintro (⟨v, h1, h2⟩ | ⟨v, h1, _⟩)
        · cases h1; exact Or.inr ⟨v, rfl, h2⟩
        · cases h1
    | wake a l' r hpc hr =>
      cases hc
      refine Iff.trans ?_ (or_iff_left fun ⟨_, k, _⟩ => nomatch k).symm
      -- the joiner's source names its leader, never itself
      have j := (hinv.loc x).waiting hpc
      have hws : wakeSrc s x l' ≠ some (.exec x) := fun k =>
        j.ne hr (Option.some.inj ((server_wakeSrc j.src (hinv.loc l') hr).symm.trans (congrArg server k)))
      simp only [isSet, upd_same, hpc]
      constructor
      · rintro (⟨v, h1, _⟩ | ⟨v, _, h2⟩)
        · cases h1
        · exact absurd h2 hws
      · rintro (⟨v, h1, _⟩ | ⟨v, h1, _⟩) <;> cases h1
  · have f := hs.frame hc
    refine Iff.trans ?_ (or_iff_left fun ⟨_, k, _⟩ => hc (k ▸ rfl)).symm
    unfold isSet; rw [f.pc, f.src]

theorem setscore_step {t0 : Int} (hinv : Inv cfg c0 s) (hsi : SInv cfg s g) (hcl : Clock cfg s g)
    (hi : SetsCore cfg c0 t0 s g h) (hs : step cfg s l = some s') :
    SetsCore cfg c0 t0 s' (logStep cfg s g l) (histStep cfg s h l) := by
  have hs := Step.of_step hs
  have hset := hs.isSet_step hinv
  have lo := Int.le_trans hi.lo hs.now_le
  -- the offers made so far belong to executions that have started and ended: their stamps stay, and so do the offers
  have old : ∀ p ∈ h.sets, (logStep cfg s g l).startAt p.1 = g.startAt p.1 ∧ Offered s' (logStep cfg s g l) p := by
    intro p hp
    obtain ⟨h1, h2, h5⟩ := hi.fact p hp
    exact ⟨(hs.stamp_keep hinv.loc g (e := .start) ((hinv.loc p.1).started_of_execRes h1)).1, hs.execRes_mono hinv h1,
      hs.time_keep hinv.loc hsi.toCells (e := .end) h2,
      (hset _).2 (Or.inl h5)⟩
  have sorted : h.sets.Pairwise (fun p q => cfg.key p.1 = cfg.key q.1 → startsBefore (logStep cfg s g l) p.1 q.1) :=
    hi.sorted.imp_of_mem fun {p q} hp hq hpq hk x y hx hy =>
      hpq hk x y ((old p hp).1.symm.trans hx) ((old q hq).1.symm.trans hy)
  rcases histStep_sets cfg s h l with ⟨e, hq⟩ | ⟨a, v, rfl, hpc, e⟩
  · have hc : s'.cache = s.cache := hs.cache_cases.resolve_right fun ⟨a, v, e, hpc, _⟩ => hq a v e hpc
    refine ⟨lo, e ▸ hi.after, fun p hp => (old p (e ▸ hp)).2, fun x hx => ?_, e ▸ sorted,
      fun k => by rw [hc, e]; exact hi.cacheA k⟩
    rw [e]
    exact hi.compl x (((hset x).1 hx).resolve_right fun ⟨v, e, hp⟩ => hq x v e hp)
  · -- a new offer: it comes after all earlier ones for the key, whose executions started before this one
    have hla := (hinv.loc a).ran hpc
    have hend : g.endT a = some s.now := hcl.ended_now (by rw [hpc]; rfl) hla.2
    have hna : ∀ x, isSet s x → x ≠ a := by
      intro x hx hxa; subst hxa
      rcases hx with ⟨v, h1, _⟩ | ⟨v, h1, _⟩ <;> (rw [hpc] at h1; cases h1)
    have hsa : isSet s' a := (hset a).2 (Or.inr ⟨v, rfl, hpc⟩)
    have hcache : s'.cache = upd s.cache (cfg.key a) (cellSet cfg.expTime s.now (s.cache (cfg.key a)) v) := by
      cases hs with
      | setOk _ w hw => cases hpc.symm.trans hw; rfl
      | setErr _ hw => cases hpc.symm.trans hw
    refine ⟨lo, ?_, ?_, ?_, ?_, ?_⟩ <;> rw [e]
    · intro p hp
      rcases List.mem_append.1 hp with hp | hp
      · exact hi.after p hp
      · cases List.mem_singleton.1 hp; exact hi.lo
    · intro p hp
      rcases List.mem_append.1 hp with hp | hp
      · exact (old p hp).2
      · cases List.mem_singleton.1 hp
        exact ⟨hs.execRes_mono hinv hla.2, hend, hsa⟩
    · intro x hx
      rcases (hset x).1 hx with hx | ⟨_, e, _⟩
      · obtain ⟨p, hp, hpx⟩ := hi.compl x hx
        exact ⟨p, List.mem_append_left _ hp, hpx⟩
      · cases e
        exact ⟨(a, v, s.now), List.mem_append_right _ List.mem_cons_self, rfl⟩
    · rw [List.pairwise_append]
      refine ⟨sorted, List.pairwise_singleton _ _, ?_⟩
      intro p hp q hq hk x y hx hy
      cases List.mem_singleton.1 hq
      exact hsi.last_started (fun r k => nomatch hpc.symm.trans k) (hna _ (hi.fact p hp).set) hk hx hy
    · intro k
      rw [hcache]
      simp only [List.filter_append, foldSets, List.foldl_append]
      by_cases hk : k = cfg.key a
      · subst hk
        have := hi.cacheA (cfg.key a)
        simp only [foldSets] at this
        simp [upd_same, ← this]
      · have := hi.cacheA k
        simp only [foldSets] at this
        have hk' : ¬ cfg.key a = k := fun h => hk h.symm
        simp [upd_other _ _ _ _ hk, hk', ← this]

end

/-- `order` lists the callers whose function has started, in the order of their start stamps; `maxIn`, kept at the same
step, has never exceeded 1 -/
structure OrdInv (g : EvLog) (h : HLog) : Prop where
  mem : ∀ l, l ∈ h.order ↔ ∃ x, g.startAt l = some x
  sorted : h.order.Pairwise (fun a b => ∀ x y, g.startAt a = some x → g.startAt b = some y → x < y)
  maxIn : ∀ k, h.maxIn k ≤ 1

theorem ordinv_init : OrdInv EvLog.empty HLog.empty where
  mem := by intro l; simp [EvLog.empty, HLog.empty]
  sorted := by simp [HLog.empty]
  maxIn := by intro k; simp [HLog.empty]

section

variable {cfg : Cfg} {c0 : Nat → Cell} {s s' : State} {g : EvLog} {h : HLog} {l : Label}

theorem ordinv_step (hinv : Inv cfg c0 s) (hsi : SInv cfg s g) (hi : OrdInv g h)
    (hs : step cfg s l = some s') : OrdInv (logStep cfg s g l) (histStep cfg s h l) := by
  cases Step.of_step hs with
  | hit a v hpc hv | miss a hpc hv => simp only [logStep, hv]; exact ⟨hi.mem, hi.sorted, hi.maxIn⟩
  | setOk a v hpc | setErr a hpc => simp only [histStep, hpc]; exact ⟨hi.mem, hi.sorted, hi.maxIn⟩
  | wake a l r hpc hr =>
    rcases histStep_wake cfg s h a with e | e <;> rw [e] <;> exact ⟨hi.mem, hi.sorted, hi.maxIn⟩
  | fnStart a hpc hv =>
    have hnone := (hsi.startAt_none a).2 ((hinv.loc a).unstarted (Or.inr hpc)).1
    have hnotin : a ∉ h.order := by
      intro hin
      obtain ⟨x, hx⟩ := (hi.mem a).1 hin
      rw [hnone] at hx; cases hx
    have hinfl := hinv.leader_idle hpc
    simp only [logStep, histStep]
    refine ⟨?_, ?_, ?_⟩
    · intro x
      simp only [List.mem_append, List.mem_singleton]
      by_cases hxa : x = a
      · subst hxa
        simp [upd_same]
      · rw [upd_other _ _ _ _ hxa]
        exact (or_iff_left hxa).trans (hi.mem x)
    · rw [List.pairwise_append]
      refine ⟨?_, List.pairwise_singleton _ _, ?_⟩
      · refine List.Pairwise.imp_of_mem ?_ hi.sorted
        intro p q hp hq hpq x y hx hy
        have hpa : p ≠ a := fun h => hnotin (h ▸ hp)
        have hqa : q ≠ a := fun h => hnotin (h ▸ hq)
        simp only [upd_other _ _ _ _ hpa] at hx
        simp only [upd_other _ _ _ _ hqa] at hy
        exact hpq x y hx hy
      · intro p hp q hq x y hx hy
        simp only [List.mem_singleton] at hq
        subst hq
        have hpa : p ≠ q := fun h => hnotin (h ▸ hp)
        simp only [upd_other _ _ _ _ hpa] at hx
        simp only [upd_same, Option.some.injEq] at hy
        subst hy
        exact hsi.bnd .start p x hx
    · intro k
      simp only [upd_apply]
      split
      · have := hi.maxIn (cfg.key a)
        rw [hinfl]
        omega
      · exact hi.maxIn k
  | _ => exact ⟨hi.mem, hi.sorted, hi.maxIn⟩

end

/-- the offers for `c`'s key among the first `m` offers -/
def offersSeen (cfg : Cfg) (h : HLog) (c m : Nat) : List (Nat × Int × Int) :=
  (h.sets.take m).filter (fun p => cfg.key p.1 == cfg.key c)

/-- what caller `c`'s read of the cache saw, `m` offers having been made until then -/
structure Seen (cfg : Cfg) (c0 : Nat → Cell) (s : State) (g : EvLog) (h : HLog) (c m : Nat) : Prop where
  le : m ≤ h.sets.length
  /-- it read, at the caller's invocation instant, the cell produced by the offers made until then for its key, none
  of them later than that instant; it hit iff that cell was live -/
  fact : ∃ ti, g.invT c = some ti ∧ (∀ p ∈ h.sets.take m, p.2.2 ≤ ti) ∧
          cellGet ti (foldSets cfg.expTime (c0 (cfg.key c)) (offersSeen cfg h c m)) = hitVal (s.src c)
  /-- a successful execution one of whose callers had returned before `c` was invoked had made its offer -/
  known : ∀ r l tr i v, g.retAt r = some tr → g.invAt c = some i → tr < i →
          s.src r = some (.exec l) → s.execRes l = some (.ok v) → ∃ p ∈ h.sets.take m, p.1 = l
  /-- the executions whose offers the read saw had ended before the caller returned -/
  seenEnd : ∀ t, g.retAt c = some t → ∀ p ∈ h.sets.take m, ∃ b, g.endAt p.1 = some b ∧ b < t

/-- every caller past its `cacheCheck` has read the cache: `readLen` says after how many offers.  For a caller served
the value its flight's leader read at its re-check, the read is that re-check (the leader) resp. the hand-over (a
joiner), both at the caller's invocation instant too -/
structure ReadInv (cfg : Cfg) (c0 : Nat → Cell) (s : State) (g : EvLog) (h : HLog) : Prop where
  has : ∀ c, s.pc c ≠ .idle → s.pc c ≠ .start → ∃ m, h.readLen c = some m
  seen : ∀ c m, h.readLen c = some m → Seen cfg c0 s g h c m

theorem readinv_init (cfg : Cfg) (c0 : Nat → Cell) (now : Int) :
    ReadInv cfg c0 (init c0 now) EvLog.empty HLog.empty where
  has := by intro c h; simp [init] at h
  seen := by intro c m h; simp [HLog.empty] at h

section

variable {cfg : Cfg} {c0 : Nat → Cell} {s s' : State} {g : EvLog} {h : HLog} {l : Label}

theorem histStep_readLen (cfg : Cfg) (s : State) (h : HLog) {c : Nat} (hc : l.caller ≠ some c) :
    (histStep cfg s h l).readLen c = h.readLen c := by
  cases l with
  | cacheCheck a | leadHit a => exact upd_other _ _ _ _ (ne_symm_of_some_ne hc)
  | wake a =>
    rcases histStep_wake cfg s h a with e | e <;> rw [e]
    exact upd_other _ _ _ _ (ne_symm_of_some_ne hc)
  | cacheSet a => simp only [histStep]; split <;> rfl
  | _ => rfl

/-- in a step a caller either reads the cache cell of its key, at its invocation instant (its own
`cacheCheck`, its re-check as leader, or the hand-over of what its leader read: `readLen` is overwritten
there, `Model/C17.lean: histStep`), or keeps what it read; in the second case it is past its `cacheCheck` only if it was
(the last conjunct, for `ReadInv.has`) -/
theorem Step.read_cases (hinv : Inv cfg c0 s) (hk : Clock cfg s g) (hs : Step cfg s l s')
    (h : HLog) (c : Nat) :
    (l.caller = some c ∧ (histStep cfg s h l).readLen c = some h.sets.length ∧ g.invT c = some s.now ∧
       hitVal (s'.src c) = cellGet s.now (s.cache (cfg.key c))) ∨
    ((histStep cfg s h l).readLen c = h.readLen c ∧ hitVal (s'.src c) = hitVal (s.src c) ∧
       (s'.pc c ≠ .idle → s'.pc c ≠ .start → s.pc c ≠ .idle ∧ s.pc c ≠ .start)) := by
  by_cases hc : l.caller = some c
  · have hla := hinv.loc c
    have hv' : ∀ {x : Option Src} {w : Option Int}, hitVal x = w → hitVal (upd s.src c x c) = w :=
      fun e => (congrArg hitVal (upd_same _ _ _)).trans e
    have past : ∀ {p : PC}, s.pc c = p → p ≠ .idle → p ≠ .start → s.pc c ≠ .idle ∧ s.pc c ≠ .start :=
      fun e h1 h2 => e ▸ ⟨h1, h2⟩
    cases hs with
    | tick => cases hc
    | hit a v hpc hv =>
      cases hc
      exact Or.inl ⟨rfl, upd_same _ _ _, hk.invoked_now (by rw [hpc]; rfl) (hla.early (Or.inl hpc)).2, hv' hv.symm⟩
    | miss a hpc hv =>
      cases hc
      have ⟨hsrc, hx⟩ := hla.early (Or.inl hpc)
      exact Or.inl ⟨rfl, upd_same _ _ _, hk.invoked_now (by rw [hpc]; rfl) hx, by rw [hv]; exact congrArg hitVal hsrc⟩
    | leadHit a v hpc hv =>
      cases hc
      exact Or.inl ⟨rfl, upd_same _ _ _, hk.invoked_now (by rw [hpc]; rfl) (hla.unstarted (Or.inr hpc)).2, hv' hv.symm⟩
    | wake a l0 r hpc hr =>
      cases hc; have j := hla.waiting hpc
      rcases wakeSrc_served j.src (hinv.loc l0) hr with ⟨e1, hsl⟩ | ⟨v, e1, hsl, _⟩
      · refine Or.inr ⟨by simp only [histStep, hpc, hsl], hv' ?_, fun _ _ => past hpc nofun nofun⟩
        rw [e1, j.src]
      · -- the value the leader read is still live: handing it over is a read at this instant
        refine Or.inl ⟨rfl, ?_, hk.fresh c l0 hpc ((hinv.loc l0).lhit_unstarted hsl), hv' ?_⟩
        · simp only [histStep, hpc, hsl]; exact upd_same _ _ _
        · rw [e1, ← j.key]; exact (hk.live c l0 v hsl (Or.inr hpc)).symm
    | invoke a hpc =>
      cases hc
      exact Or.inr ⟨rfl, rfl, fun _ k => absurd (upd_same _ _ _) k⟩
    | join a _ hpc | lead a hpc =>
      cases hc
      exact Or.inr ⟨rfl, hv' (congrArg hitVal (hla.early (Or.inr hpc)).1).symm,
        fun _ _ => ⟨by rw [hpc]; nofun, by rw [hpc]; nofun⟩⟩
    | setOk a _ hpc | setErr a hpc =>
      cases hc
      exact Or.inr ⟨by simp only [histStep, hpc], rfl, fun _ _ => past hpc nofun nofun⟩
    | fnStart a hpc | fnEnd a _ hpc | doFinish a _ hpc =>
      cases hc
      exact Or.inr ⟨rfl, rfl, fun _ _ => past hpc nofun nofun⟩
  · have f := hs.frame hc
    exact Or.inr ⟨histStep_readLen cfg s h hc, by rw [f.src], by rw [f.pc]; exact fun h1 h2 => ⟨h1, h2⟩⟩

theorem readinv_step {t0 : Int} (hinv : Inv cfg c0 s) (hsi : SInv cfg s g) (hk : Clock cfg s g)
    (hse : SetsCore cfg c0 t0 s g h) (hi : ReadInv cfg c0 s g h) (hs : step cfg s l = some s') :
    ReadInv cfg c0 s' (logStep cfg s g l) (histStep cfg s h l) := by
  have hs := Step.of_step hs
  have rd := hs.read_cases hinv hk h
  obtain ⟨extra, hsets⟩ : ∃ extra, (histStep cfg s h l).sets = h.sets ++ extra := by
    rcases histStep_sets cfg s h l with ⟨e, _⟩ | ⟨a, v, _, _, e⟩
    · exact ⟨[], by rw [e, List.append_nil]⟩
    · exact ⟨_, e⟩
  have hlen : ∀ m, m ≤ h.sets.length → m ≤ (histStep cfg s h l).sets.length := fun m hm => by
    rw [hsets, List.length_append]; omega
  have htake : ∀ m, m ≤ h.sets.length → (histStep cfg s h l).sets.take m = h.sets.take m := fun m hm => by
    rw [hsets]; exact List.take_append_of_le_length hm
  have hfull : (histStep cfg s h l).sets.take h.sets.length = h.sets := by
    rw [htake _ (Nat.le_refl _), List.take_length]
  have ended : ∀ p ∈ h.sets, ∃ b, (logStep cfg s g l).endAt p.1 = some b ∧ b < g.n := fun p hp =>
    have ⟨b, hb⟩ := endAt_of_execRes hsi (hse.fact p hp).res
    ⟨b, hsi.toCells.keep hinv.loc hs (e := .end) hb, hsi.bnd .end _ b hb⟩
  refine ⟨fun c h1 h2 => ?_, fun c m hm => ?_⟩
  · rcases rd c with ⟨_, e, _⟩ | ⟨e, _, k⟩
    · exact ⟨_, e⟩
    · rw [e]
      exact hi.has c (k h1 h2).1 (k h1 h2).2
  -- a caller that has read was invoked: no step rewrites its invocation stamp or instant
  have hc0 : s.pc c ≠ .idle := by
    rcases rd c with ⟨_, _, k, _⟩ | ⟨e, _⟩
    · exact hsi.of_time (e := .inv) k
    · have ⟨_, hti, _⟩ := (hi.seen c m (e ▸ hm)).fact
      exact hsi.of_time (e := .inv) hti
  obtain ⟨kA, kT⟩ := hs.stamp_keep hinv.loc g (e := .inv) hc0
  -- a caller that had returned before `c` was invoked had returned before this step: what it was served by is
  -- settled, and has made its offer
  have settled : ∀ {r l' tr i v}, (logStep cfg s g l).retAt r = some tr → (logStep cfg s g l).invAt c = some i →
      tr < i → s'.src r = some (.exec l') → s'.execRes l' = some (.ok v) →
      g.retAt r = some tr ∧ g.invAt c = some i ∧ s.src r = some (.exec l') ∧ s.execRes l' = some (.ok v) ∧
        isSet s l' := by
    intro r l' tr i v h1 h2 h3 h4 h5
    have h2 := kA.symm.trans h2
    have h1' : g.retAt r = some tr :=
      (logStep_cell_cases (e := .ret) h1).resolve_right fun e => by
        have := hsi.bnd .inv c i h2; omega
    obtain ⟨x, hd⟩ := hsi.of_cell (e := .ret) h1'
    rw [(hs.frame_done hd).src] at h4
    obtain ⟨k1, k2, k3, _⟩ := src_exec_done hinv hd h4
    rw [hs.execRes_mono hinv k1] at h5; cases h5
    exact ⟨h1', h2, h4, k1, Or.inr ⟨v, k2, k3⟩⟩
  rcases rd c with ⟨hc, e, k1, k2⟩ | ⟨e, k2, _⟩
  · -- it reads now: the cell the offers made so far have produced
    rw [e] at hm; cases hm
    refine ⟨hlen _ (Nat.le_refl _), ⟨s.now, kT.trans k1, ?_, ?_⟩, fun r l' tr i v h1 h2 h3 h4 h5 => ?_,
      fun t h2 p hp => ?_⟩
    · rw [hfull]; exact fun p hp => hk.le .end p.1 p.2.2 (hse.fact p hp).endT
    · simp only [offersSeen]
      rw [hfull, ← hse.cacheA (cfg.key c)]; exact k2.symm
    · obtain ⟨_, _, _, _, hset⟩ := settled h1 h2 h3 h4 h5
      rw [hfull]; exact hse.compl l' hset
    · rw [hfull] at hp
      obtain ⟨b, hb, hbn⟩ := ended p hp
      rcases logStep_cell_cases (e := .ret) h2 with h2 | ⟨e, _⟩
      · obtain ⟨x, hd⟩ := hsi.of_cell (e := .ret) h2
        exact absurd hd (hs.pc_ne_done hc x)
      · exact ⟨b, hb, e ▸ hbn⟩
  · -- it has read before: what it saw stays
    rw [e] at hm
    have S := hi.seen c m hm
    have ht := htake m S.le
    obtain ⟨ti, f1, f2, f3⟩ := S.fact
    refine ⟨hlen m S.le, ⟨ti, kT.trans f1, ht ▸ f2, ?_⟩, fun r l' tr i v h1 h2 h3 h4 h5 => ?_,
      fun t h2 p hp => ?_⟩
    · rw [k2]; simp only [offersSeen] at f3 ⊢; rw [ht]; exact f3
    · obtain ⟨j1, j2, j3, j4, _⟩ := settled h1 h2 h3 h4 h5
      rw [ht]; exact S.known r l' tr i v j1 j2 h3 j3 j4
    · rw [ht] at hp
      rcases logStep_cell_cases (e := .ret) h2 with h2 | ⟨e, _⟩
      · obtain ⟨b, hb, hbt⟩ := S.seenEnd t h2 p hp
        exact ⟨b, hsi.toCells.keep hinv.loc hs (e := .end) hb, hbt⟩
      · obtain ⟨b, hb, hbn⟩ := ended p (List.mem_of_mem_take hp)
        exact ⟨b, hb, e ▸ hbn⟩

end

theorem reachableH_logP {cfg : Cfg} {s0 s : State} {g : EvLog} {h : HLog}
    (hr : ReachableH cfg s0 s g h) : ReachableLogP cfg s0 s g := by
  induction hr with
  | refl => exact ReachableLogP.refl
  | step l _ hs hp ih => exact ReachableLogP.step l ih hs hp

/-- the history log is pure observation: every run under the virtual clock has one -/
theorem reachableLogP_hist {cfg : Cfg} {s0 s : State} {g : EvLog} (hr : ReachableLogP cfg s0 s g) :
    ∃ h, ReachableH cfg s0 s g h := by
  induction hr with
  | refl => exact ⟨_, ReachableH.refl⟩
  | step l _ hs hp ih => obtain ⟨h, ih⟩ := ih; exact ⟨_, ReachableH.step l ih hs hp⟩

section

variable {cfg : Cfg} {c0 : Nat → Cell} {now : Int} {s : State} {g : EvLog} {h : HLog}

/-! The cache is the fold of the offers (`SetsCore.cacheA`) and every read saw the fold of a prefix of them
(`Seen.fact`); a fold of offers is the cell it started from or an offer that was accepted (`foldSets_cases`). -/

/-- where a cached entry comes from: the cache before the run, or the successful execution `l` of that
key, with the deadline computed (default expiration) at the instant that execution ended -/
def CellOrigin (cfg : Cfg) (c0 : Nat → Cell) (s : State) (g : EvLog) (k : Nat) (v e : Int) : Prop :=
  c0 k = some (v, e) ∨
  ∃ l te, cfg.key l = k ∧ s.execRes l = some (.ok v) ∧ g.endT l = some te ∧ e = defaultExp cfg.expTime te

/-- what a cache hit read: an entry for the caller's key that was live at the caller's invocation
instant — the entry from before the run, or the one left by a successful execution that had ended
before the caller returned -/
def HitSource (cfg : Cfg) (c0 : Nat → Cell) (s : State) (g : EvLog) (c : Nat) (v : Int) : Prop :=
  ∃ ti t, g.invT c = some ti ∧ g.retAt c = some t ∧
    ((∃ e, c0 (cfg.key c) = some (v, e) ∧ cellGet ti (some (v, e)) = some v) ∨
     (∃ l te b, cfg.key l = cfg.key c ∧ s.execRes l = some (.ok v) ∧ g.endT l = some te ∧
        g.endAt l = some b ∧ b < t ∧ cellGet ti (some (v, defaultExp cfg.expTime te)) = some v))

theorem cellOrigin_of_sets {t0 : Int} (hse : SetsCore cfg c0 t0 s g h) (k : Nat) (v e : Int) (hk : s.cache k = some (v, e)) :
    CellOrigin cfg c0 s g k v e := by
  rw [hse.cacheA k] at hk
  rcases foldSets_cases cfg.expTime (h.sets.filter fun p => cfg.key p.1 == k) (c0 k) with e1 | ⟨p, hp, e1⟩
  · exact Or.inl (e1 ▸ hk)
  · rw [e1] at hk; cases hk
    obtain ⟨hp, hpk⟩ := List.mem_filter.1 hp
    obtain ⟨f1, f2, _⟩ := hse.fact p hp
    exact Or.inr ⟨p.1, p.2.2, eq_of_beq hpk, f1, f2, rfl⟩

theorem hitSource_of_read {t0 : Int} (hsi : SInv cfg s g) (hse : SetsCore cfg c0 t0 s g h) (hrd : ReadInv cfg c0 s g h)
    (c : Nat) (v : Int) (hv : hitVal (s.src c) = some v) (r : Res) (hd : s.pc c = .done r) :
    HitSource cfg c0 s g c v := by
  obtain ⟨m, hm⟩ := hrd.has c (by rw [hd]; nofun) (by rw [hd]; nofun)
  obtain ⟨ti, hti, _, hread⟩ := (hrd.seen c m hm).fact
  obtain ⟨_, t, _, ht⟩ := stamps_of_done hsi hd
  rw [hv] at hread
  refine ⟨ti, t, hti, ht, ?_⟩
  rcases foldSets_cases cfg.expTime (offersSeen cfg h c m) (c0 (cfg.key c)) with e1 | ⟨p, hp, e1⟩
  · rw [e1] at hread
    obtain ⟨e, he, _⟩ := Lemmas.CacheCell.live_of_cellGet hread
    exact Or.inl ⟨e, he, he ▸ hread⟩
  · rw [e1] at hread
    obtain ⟨_, he, _⟩ := Lemmas.CacheCell.live_of_cellGet (now := ti)
      (c := some (p.2.1, defaultExp cfg.expTime p.2.2)) (v := v) hread
    have hpv : p.2.1 = v := by cases he; rfl
    obtain ⟨hpt, hpk⟩ := List.mem_filter.1 hp
    obtain ⟨f1, f2, _⟩ := hse.fact p (List.mem_of_mem_take hpt)
    obtain ⟨b, hb, hbt⟩ := (hrd.seen c m hm).seenEnd t ht p hpt
    exact Or.inr ⟨p.1, p.2.2, b, eq_of_beq hpk, hpv ▸ f1, f2, hb, hbt, hpv ▸ hread⟩

/-- what holds of state and both logs in a run under the virtual clock that started at the instant `t0` -/
structure AllInv (cfg : Cfg) (c0 : Nat → Cell) (t0 : Int) (s : State) (g : EvLog) (h : HLog) : Prop
    extends LogInv cfg c0 s g where
  sets : SetsCore cfg c0 t0 s g h
  ord : OrdInv g h
  read : ReadInv cfg c0 s g h

theorem AllInv.step {t0 : Int} {s' : State} {l : Label} (A : AllInv cfg c0 t0 s g h) (hs : step cfg s l = some s')
    (hp : ∀ d, l = .tick d → ∀ c, blocked s c) : AllInv cfg c0 t0 s' (logStep cfg s g l) (histStep cfg s h l) :=
  ⟨A.toLogInv.step hs hp, setscore_step A.inv A.sinv A.clock A.sets hs, ordinv_step A.inv A.sinv A.ord hs,
    readinv_step A.inv A.sinv A.clock A.sets A.read hs⟩

theorem allinv_reachable (hr : ReachableH cfg (init c0 now) s g h) : AllInv cfg c0 now s g h := by
  induction hr with
  | refl => exact ⟨loginv_init cfg c0 now, setscore_init cfg c0 now, ordinv_init, readinv_init cfg c0 now⟩
  | step l _ hs hp ih => exact ih.step hs hp

end

end GoguVerif.Lemmas.C17
