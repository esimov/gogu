import GoguVerif.Model.C17
import GoguVerif.Lemmas.CacheCell

/-!
# C17 — the invariant of the Memoize protocol LTS and its preservation (helper lemmas)

Besides `Inv` and `inv_step` the file gives what the later files reason through instead of unfolding `step`: the relation
`Step` (`Step.of_step`), `Step.frame` for the callers that do not move, the control flow `PcStep` for the one that does,
one `*_cases` lemma for each global component a step can change, and what `Local` says of a caller (`Joiner`, `Started`,
`published_cases`, `done_source`).
-/

namespace GoguVerif.Lemmas.C17

open GoguVerif.Model.C17

/-- the caller is the registered call of its key (between `doEnter` as leader and `doFinish`) -/
def active : PC → Bool
  | .leader | .running | .ran _ | .setDone _ => true
  | _ => false

/-- what is known about one caller, by where it is -/
def Local (cfg : Cfg) (s : State) (c : Nat) : Prop :=
  match s.pc c with
  | .idle | .start | .missed =>
    s.src c = none ∧ s.started c = false ∧ s.execRes c = none ∧ s.result c = none
  | .waiting l =>
    s.src c = some (.exec l) ∧ s.started c = false ∧ s.execRes c = none ∧ s.result c = none ∧
      cfg.key l = cfg.key c
  | .leader =>
    s.src c = some (.exec c) ∧ s.started c = false ∧ s.execRes c = none ∧ s.result c = none
  | .running =>
    s.src c = some (.exec c) ∧ s.started c = true ∧ s.execRes c = none ∧ s.result c = none
  | .ran r =>
    s.src c = some (.exec c) ∧ s.started c = true ∧ s.execRes c = some r ∧ s.result c = none
  | .setDone r =>
    -- after the caller's own execution …
    (s.src c = some (.exec c) ∧ s.started c = true ∧ s.execRes c = some r ∧ s.result c = none)
    -- … or after its re-check as leader found a live value: nothing ran
    ∨ (∃ v, r = .ok v ∧ s.src c = some (.lhit c v) ∧ s.started c = false ∧ s.execRes c = none ∧ s.result c = none)
  | .done r =>
    (∃ v, r = .ok v ∧ s.src c = some (.hit v) ∧ s.started c = false ∧ s.execRes c = none ∧ s.result c = none)
    ∨ (s.src c = some (.exec c) ∧ s.started c = true ∧ s.execRes c = some r ∧ s.result c = some r)
    ∨ (∃ l, s.src c = some (.exec l) ∧ cfg.key l = cfg.key c ∧ s.result l = some r ∧
          s.started c = false ∧ s.execRes c = none ∧ s.result c = none ∧ s.src l = some (.exec l))
    -- the leader whose re-check hit the cache …
    ∨ (∃ v, r = .ok v ∧ s.src c = some (.lhit c v) ∧ s.started c = false ∧ s.execRes c = none ∧
          s.result c = some r)
    -- … and the joiners of its flight
    ∨ (∃ l v, r = .ok v ∧ s.src c = some (.lhit l v) ∧ cfg.key l = cfg.key c ∧ s.result l = some r ∧
          s.started c = false ∧ s.execRes c = none ∧ s.result c = none ∧ s.src l = some (.lhit l v))

/-- the invariant of the protocol (`c0` = the cache before the first step); `infl`: the in-flight counter of a
key is 1 exactly while the registered call of that key is inside `fn()` -/
structure Inv (cfg : Cfg) (c0 : Nat → Cell) (s : State) : Prop where
  lead : ∀ c, active (s.pc c) = true → s.flight (cfg.key c) = some c
  fkey : ∀ k c, s.flight k = some c → cfg.key c = k
  infl : ∀ k, s.inflight k = (match s.flight k with
            | some c => if s.pc c = .running then 1 else 0
            | none => 0)
  loc  : ∀ c, Local cfg s c
  cach : ∀ k v e, s.cache k = some (v, e) →
            c0 k = some (v, e) ∨ ∃ l, cfg.key l = k ∧ s.execRes l = some (.ok v)

theorem inv_init (cfg : Cfg) (c0 : Nat → Cell) (now : Int) : Inv cfg c0 (init c0 now) where
  lead := by intro c h; simp [init, active] at h
  fkey := by intro k c h; simp [init] at h
  infl := by intro k; simp [init]
  loc := by intro c; simp [Local, init]
  cach := by intro k v e h; exact Or.inl h

theorem upd_apply {α : Type} (f : Nat → α) (a x : Nat) (b : α) : upd f a b x = if x = a then b else f x := rfl

theorem upd_agree {α : Type} {f g : Nat → α} {a : Nat} {b : α} {c : Nat} (h : f c = g c) :
    upd f a b c = upd g a b c := by
  simp only [upd_apply]
  split
  · rfl
  · exact h

theorem upd_keep {β : Type} (f : PC → β) {pc : Nat → PC} {a : Nat} {q : PC} (h : f q = f (pc a)) (c : Nat) :
    f (upd pc a q c) = f (pc c) := by
  rw [upd_apply]
  split
  · next e => rw [e, h]
  · rfl

/-- `step cfg s l = some s'`: one constructor per way a label can be enabled -/
inductive Step (cfg : Cfg) (s : State) : Label → State → Prop
  | invoke (a : Nat) (hpc : s.pc a = .idle) : Step cfg s (.invoke a) { s with pc := upd s.pc a .start }
  | hit (a : Nat) (v : Int) (hpc : s.pc a = .start) (hv : cellGet s.now (s.cache (cfg.key a)) = some v) :
      Step cfg s (.cacheCheck a) { s with pc := upd s.pc a (.done (.ok v)), src := upd s.src a (some (.hit v)) }
  | miss (a : Nat) (hpc : s.pc a = .start) (hv : cellGet s.now (s.cache (cfg.key a)) = none) :
      Step cfg s (.cacheCheck a) { s with pc := upd s.pc a .missed }
  | join (a l : Nat) (hpc : s.pc a = .missed) (hf : s.flight (cfg.key a) = some l) :
      Step cfg s (.doEnter a) { s with pc := upd s.pc a (.waiting l), src := upd s.src a (some (.exec l)) }
  | lead (a : Nat) (hpc : s.pc a = .missed) (hf : s.flight (cfg.key a) = none) :
      Step cfg s (.doEnter a) { s with pc := upd s.pc a .leader, flight := upd s.flight (cfg.key a) (some a),
                                       src := upd s.src a (some (.exec a)) }
  | leadHit (a : Nat) (v : Int) (hpc : s.pc a = .leader) (hv : cellGet s.now (s.cache (cfg.key a)) = some v) :
      Step cfg s (.leadHit a) { s with pc := upd s.pc a (.setDone (.ok v)), src := upd s.src a (some (.lhit a v)) }
  | fnStart (a : Nat) (hpc : s.pc a = .leader) (hv : cellGet s.now (s.cache (cfg.key a)) = none) :
      Step cfg s (.fnStart a) { s with pc := upd s.pc a .running, started := upd s.started a true,
                                       inflight := upd s.inflight (cfg.key a) (s.inflight (cfg.key a) + 1) }
  | fnEnd (a : Nat) (r : Res) (hpc : s.pc a = .running) :
      Step cfg s (.fnEnd a r) { s with pc := upd s.pc a (.ran r), execRes := upd s.execRes a (some r),
                                       inflight := upd s.inflight (cfg.key a) (s.inflight (cfg.key a) - 1) }
  | setOk (a : Nat) (v : Int) (hpc : s.pc a = .ran (.ok v)) :
      Step cfg s (.cacheSet a) { s with pc := upd s.pc a (.setDone (.ok v)),
                                        cache := upd s.cache (cfg.key a) (cellSet cfg.expTime s.now (s.cache (cfg.key a)) v) }
  | setErr (a : Nat) (hpc : s.pc a = .ran .err) :
      Step cfg s (.cacheSet a) { s with pc := upd s.pc a (.setDone .err) }
  | doFinish (a : Nat) (r : Res) (hpc : s.pc a = .setDone r) :
      Step cfg s (.doFinish a) { s with pc := upd s.pc a (.done r), result := upd s.result a (some r),
                                        flight := upd s.flight (cfg.key a) none }
  | wake (a l : Nat) (r : Res) (hpc : s.pc a = .waiting l) (hr : s.result l = some r) :
      Step cfg s (.wake a) { s with pc := upd s.pc a (.done r), src := upd s.src a (wakeSrc s a l) }
  | tick (d : Nat) : Step cfg s (.tick d) { s with now := s.now + d }

variable {cfg : Cfg} {c0 : Nat → Cell} {s s' : State} {l : Label}

theorem Step.of_step (h : step cfg s l = some s') : Step cfg s l s' := by
  cases l <;> simp only [step] at h <;> (try split at h) <;> (try split at h) <;>
    first
    | (cases h; constructor <;> assumption)
    | cases h

theorem Step.to_step (h : Step cfg s l s') : step cfg s l = some s' := by
  cases h <;> simp only [step, *]

theorem ne_symm_of_some_ne {a c : Nat} (h : some a ≠ some c) : c ≠ a := fun e => h (e ▸ rfl)

structure Kept (s s' : State) (c : Nat) : Prop where
  pc : s'.pc c = s.pc c
  result : s'.result c = s.result c
  src : s'.src c = s.src c
  started : s'.started c = s.started c
  execRes : s'.execRes c = s.execRes c

theorem Step.frame (hs : Step cfg s l s') {c : Nat} (hc : l.caller ≠ some c) : Kept s s' c := by
  cases hs
  case tick => exact ⟨rfl, rfl, rfl, rfl, rfl⟩
  all_goals
    have hca := ne_symm_of_some_ne hc
    exact ⟨upd_other _ _ _ _ hca, by first | rfl | exact upd_other _ _ _ _ hca,
      by first | rfl | exact upd_other _ _ _ _ hca, by first | rfl | exact upd_other _ _ _ _ hca,
      by first | rfl | exact upd_other _ _ _ _ hca⟩

/-- the control flow of `Memoize`: a step labelled `l` takes caller `c` from `p` to `q` -/
inductive PcStep (c : Nat) : PC → Label → PC → Prop
  | invoke : PcStep c .idle (.invoke c) .start
  | hit (v : Int) : PcStep c .start (.cacheCheck c) (.done (.ok v))
  | miss : PcStep c .start (.cacheCheck c) .missed
  | join (l : Nat) : PcStep c .missed (.doEnter c) (.waiting l)
  | lead : PcStep c .missed (.doEnter c) .leader
  | leadHit (v : Int) : PcStep c .leader (.leadHit c) (.setDone (.ok v))
  | fnStart : PcStep c .leader (.fnStart c) .running
  | fnEnd (r : Res) : PcStep c .running (.fnEnd c r) (.ran r)
  | cacheSet (r : Res) : PcStep c (.ran r) (.cacheSet c) (.setDone r)
  | doFinish (r : Res) : PcStep c (.setDone r) (.doFinish c) (.done r)
  | wake (l : Nat) (r : Res) : PcStep c (.waiting l) (.wake c) (.done r)
  | other {l : Label} {p : PC} (hc : l.caller ≠ some c) : PcStep c p l p

/-- `p` and `q` are variables so that `cases` on the result discards the rows that do not fit what is known of them -/
theorem Step.pcStep (hs : Step cfg s l s') {c : Nat} {p q : PC} (hp : s.pc c = p) (hq : s'.pc c = q) :
    PcStep c p l q := by
  by_cases hc : l.caller = some c
  · cases hs with
    | tick => cases hc
    | invoke _ hpc | hit _ _ hpc | miss _ hpc | join _ _ hpc | lead _ hpc | leadHit _ _ hpc | fnStart _ hpc
    | fnEnd _ _ hpc | setOk _ _ hpc | setErr _ hpc | doFinish _ _ hpc | wake _ _ _ hpc =>
      cases hc
      cases hpc.symm.trans hp
      cases (upd_same _ _ _).symm.trans hq
      constructor
  · cases hp.symm.trans ((hs.frame hc).pc.symm.trans hq)
    exact .other hc

theorem Step.pc_ne_done (hs : Step cfg s l s') {a : Nat} (hc : l.caller = some a) (r : Res) : s.pc a ≠ .done r := by
  intro h
  generalize hq : s'.pc a = q
  cases hs.pcStep h hq with
  | other hn => exact hn hc

theorem Step.frame_done (hs : Step cfg s l s') {c : Nat} {r : Res} (hd : s.pc c = .done r) : Kept s s' c :=
  hs.frame fun hc => hs.pc_ne_done hc r hd

theorem Step.waiting_cases (hs : Step cfg s l s') {c l0 : Nat} (h : s'.pc c = .waiting l0) :
    s.pc c = .waiting l0 ∨ (l = .doEnter c ∧ s.pc c = .missed ∧ s.flight (cfg.key c) = some l0) := by
  generalize hp : s.pc c = p
  cases hs.pcStep hp h with
  | other => exact Or.inl rfl
  | join =>
    cases hs with
    | join a l1 hpc hf => cases (upd_same _ _ _).symm.trans h; exact Or.inr ⟨rfl, rfl, hf⟩
    | lead a hpc hf => cases (upd_same _ _ _).symm.trans h

/-- `Local` only looks at the caller's own components and at the published results -/
theorem local_congr {c : Nat}
    (hown : Kept s s' c)
    (hpub : ∀ l r, s.result l = some r → s'.result l = some r ∧ s'.src l = s.src l)
    (h : Local cfg s c) : Local cfg s' c := by
  obtain ⟨hpc, hres, hsrc, hst, hex⟩ := hown
  unfold Local at h ⊢
  rw [hpc, hsrc, hst, hex, hres]
  cases hp : s.pc c with
  | done r =>
    simp only [hp] at h ⊢
    rcases h with h | h | ⟨l, h1, h2, h3, h4, h5, h6, h7⟩ | h | ⟨l, v, h0, h1, h2, h3, h4, h5, h6, h7⟩
    · exact Or.inl h
    · exact Or.inr (Or.inl h)
    · obtain ⟨e1, e2⟩ := hpub l r h3
      exact Or.inr (Or.inr (Or.inl ⟨l, h1, h2, e1, h4, h5, h6, e2.trans h7⟩))
    · exact Or.inr (Or.inr (Or.inr (Or.inl h)))
    · obtain ⟨e1, e2⟩ := hpub l r h3
      exact Or.inr (Or.inr (Or.inr (Or.inr ⟨l, v, h0, h1, h2, e1, h4, h5, h6, e2.trans h7⟩)))
  | _ => simp only [hp] at h ⊢; exact h

theorem published_cases {c : Nat} {r : Res} (hl : Local cfg s c) (hr : s.result c = some r) :
    s.pc c = .done r ∧
      ((s.src c = some (.exec c) ∧ s.started c = true ∧ s.execRes c = some r) ∨
       (∃ v, r = .ok v ∧ s.src c = some (.lhit c v) ∧ s.started c = false)) := by
  unfold Local at hl
  cases hp : s.pc c with
  | done r' =>
    simp only [hp] at hl
    rcases hl with ⟨v, _, _, _, _, h⟩ | ⟨h1, h2, h3, h4⟩ | ⟨l', _, _, _, _, _, h, _⟩ | ⟨v, h0, h1, h2, h3, h4⟩ |
      ⟨l', v, _, _, _, _, _, _, h, _⟩
    · rw [h] at hr; cases hr
    · rw [h4] at hr; cases hr; exact ⟨rfl, Or.inl ⟨h1, h2, h3⟩⟩
    · rw [h] at hr; cases hr
    · rw [h4] at hr; cases hr; exact ⟨rfl, Or.inr ⟨v, h0, h1, h2⟩⟩
    · rw [h] at hr; cases hr
  | waiting x => simp only [hp] at hl; rw [hl.2.2.2.1] at hr; cases hr
  | setDone x =>
    simp only [hp] at hl
    rcases hl with h | ⟨v, _, _, _, _, h⟩
    · rw [h.2.2.2] at hr; cases hr
    · rw [h] at hr; cases hr
  | _ => simp only [hp] at hl; rw [hl.2.2.2] at hr; cases hr

/-- what `Local` says of a caller that waits for `l` -/
structure Joiner (cfg : Cfg) (s : State) (c l : Nat) : Prop where
  src : s.src c = some (.exec l)
  started : s.started c = false
  execRes : s.execRes c = none
  result : s.result c = none
  key : cfg.key l = cfg.key c

theorem Local.waiting {c l : Nat} (h : Local cfg s c) (hp : s.pc c = .waiting l) : Joiner cfg s c l := by
  simp only [Local, hp] at h; exact ⟨h.1, h.2.1, h.2.2.1, h.2.2.2.1, h.2.2.2.2⟩

theorem Joiner.ne {c l : Nat} {r : Res} (j : Joiner cfg s c l) (hr : s.result l = some r) : l ≠ c :=
  fun e => by subst e; rw [j.result] at hr; cases hr

theorem Local.ran {c : Nat} {r : Res} (h : Local cfg s c) (hp : s.pc c = .ran r) :
    s.src c = some (.exec c) ∧ s.execRes c = some r := by
  simp only [Local, hp] at h; exact ⟨h.1, h.2.2.1⟩

theorem Inv.active_unique (hi : Inv cfg c0 s) {c c' : Nat} (hk : cfg.key c = cfg.key c')
    (ha : active (s.pc c) = true) (ha' : active (s.pc c') = true) : c = c' :=
  Option.some.inj ((hi.lead c ha).symm.trans (hk ▸ hi.lead c' ha'))

theorem Inv.leader_idle (hi : Inv cfg c0 s) {a : Nat} (hp : s.pc a = .leader) : s.inflight (cfg.key a) = 0 := by
  rw [hi.infl, hi.lead a (by rw [hp]; rfl)]
  exact if_neg (by rw [hp]; nofun)

theorem wakeSrc_served {c l : Nat} {r : Res} (hc : s.src c = some (.exec l)) (hl : Local cfg s l)
    (hr : s.result l = some r) :
    (wakeSrc s c l = some (.exec l) ∧ s.src l = some (.exec l)) ∨
    ∃ v, wakeSrc s c l = some (.lhit l v) ∧ s.src l = some (.lhit l v) ∧ r = .ok v := by
  rcases (published_cases hl hr).2 with ⟨k, _⟩ | ⟨v, k0, k, _⟩
  · exact Or.inl ⟨by simp only [wakeSrc, k]; exact hc, k⟩
  · exact Or.inr ⟨v, by simp only [wakeSrc, k], k, k0⟩

/-- the leader of the flight through which a caller is served, if it is -/
def server : Option Src → Option Nat
  | some (.exec l) => some l
  | some (.lhit l _) => some l
  | _ => none

theorem server_wakeSrc {c l : Nat} {r : Res} (hc : s.src c = some (.exec l)) (hl : Local cfg s l)
    (hr : s.result l = some r) : server (wakeSrc s c l) = some l := by
  rcases wakeSrc_served hc hl hr with ⟨e, _⟩ | ⟨v, e, _⟩ <;> rw [e] <;> rfl

theorem Local.setDone {c : Nat} {r : Res} (h : Local cfg s c) (hp : s.pc c = .setDone r) :
    (s.src c = some (.exec c) ∧ s.started c = true ∧ s.execRes c = some r) ∨
    ∃ v, r = .ok v ∧ s.src c = some (.lhit c v) ∧ s.started c = false ∧ s.execRes c = none := by
  simp only [Local, hp] at h
  rcases h with h | ⟨v, k0, k1, k2, k3, _⟩
  · exact Or.inl ⟨h.1, h.2.1, h.2.2.1⟩
  · exact Or.inr ⟨v, k0, k1, k2, k3⟩

theorem Local.early {c : Nat} (h : Local cfg s c) (hp : s.pc c = .start ∨ s.pc c = .missed) :
    s.src c = none ∧ s.execRes c = none := by
  rcases hp with hp | hp <;> simp only [Local, hp] at h <;> exact ⟨h.1, h.2.2.1⟩

theorem Local.unstarted {c : Nat} (h : Local cfg s c) (hp : s.pc c = .idle ∨ s.pc c = .leader) :
    s.started c = false ∧ s.execRes c = none := by
  rcases hp with hp | hp <;> simp only [Local, hp] at h <;> exact ⟨h.2.1, h.2.2.1⟩

theorem Local.in_fn {c : Nat} (h : Local cfg s c) (hp : s.pc c = .running) : s.execRes c = none := by
  simp only [Local, hp] at h; exact h.2.2.1

/-- what `Local` says of a caller whose function was invoked -/
structure Started (s : State) (c : Nat) : Prop where
  src : s.src c = some (.exec c)
  invoked : s.pc c ≠ .idle
  live : active (s.pc c) = true ∨ ∃ r, s.pc c = .done r ∧ s.execRes c = some r

theorem Local.started_facts {c : Nat} (h : Local cfg s c) :
    (s.started c = false → s.execRes c = none) ∧ (s.started c = true → Started s c) := by
  unfold Local at h
  cases hp : s.pc c with
  | running | ran r =>
    simp only [hp] at h; exact ⟨fun k => (by rw [h.2.1] at k; cases k), fun _ => ⟨h.1, by rw [hp]; nofun, Or.inl (by rw [hp]; rfl)⟩⟩
  | setDone r =>
    simp only [hp] at h
    rcases h with h | ⟨v, _, _, k, k', _⟩
    · exact ⟨fun k => (by rw [h.2.1] at k; cases k), fun _ => ⟨h.1, by rw [hp]; nofun, Or.inl (by rw [hp]; rfl)⟩⟩
    · exact ⟨fun _ => k', fun e => by rw [k] at e; cases e⟩
  | done r =>
    simp only [hp] at h
    rcases h with ⟨_, _, _, k, k', _⟩ | ⟨k0, k, k1, _⟩ | ⟨_, _, _, _, k, k', _⟩ | ⟨_, _, _, k, k', _⟩ |
      ⟨_, _, _, _, _, _, k, k', _⟩
    · exact ⟨fun _ => k', fun e => by rw [k] at e; cases e⟩
    · exact ⟨fun e => (by rw [k] at e; cases e), fun _ => ⟨k0, by rw [hp]; nofun, Or.inr ⟨r, hp, k1⟩⟩⟩
    · exact ⟨fun _ => k', fun e => by rw [k] at e; cases e⟩
    · exact ⟨fun _ => k', fun e => by rw [k] at e; cases e⟩
    · exact ⟨fun _ => k', fun e => by rw [k] at e; cases e⟩
  | _ => simp only [hp] at h; exact ⟨fun _ => h.2.2.1, fun e => by rw [h.2.1] at e; cases e⟩

theorem Local.execRes_none_of_unstarted {c : Nat} (h : Local cfg s c) (k : s.started c = false) : s.execRes c = none :=
  h.started_facts.1 k

theorem Local.toStarted {c : Nat} (h : Local cfg s c) (k : s.started c = true) : Started s c :=
  h.started_facts.2 k

theorem Local.started_of_execRes {c : Nat} {r : Res} (h : Local cfg s c) (hr : s.execRes c = some r) : s.started c = true := by
  cases k : s.started c with
  | true => rfl
  | false => rw [h.execRes_none_of_unstarted k] at hr; cases hr

theorem Local.lhit_unstarted {c l : Nat} {v : Int} (h : Local cfg s c) (hs : s.src c = some (.lhit l v)) :
    s.started c = false := by
  cases k : s.started c with
  | false => rfl
  | true => have := (h.toStarted k).src; rw [hs] at this; cases this

/-- where the result of a returned caller comes from: its own `cacheCheck`, the execution it led or joined, or
the re-check of its flight's leader -/
theorem done_source (hi : Inv cfg c0 s) {c : Nat} {r : Res} (hd : s.pc c = .done r) :
    (∃ v, r = .ok v ∧ s.src c = some (.hit v) ∧ s.started c = false) ∨
    (∃ l, s.src c = some (.exec l) ∧ cfg.key l = cfg.key c ∧ s.execRes l = some r ∧ s.started l = true ∧
        s.pc l = .done r) ∨
    (∃ l v, r = .ok v ∧ s.src c = some (.lhit l v) ∧ cfg.key l = cfg.key c ∧ s.src l = some (.lhit l v) ∧
        s.started l = false ∧ s.started c = false) := by
  have hl := hi.loc c
  simp only [Local, hd] at hl
  rcases hl with ⟨v, h1, h2, h3, _⟩ | ⟨h1, h2, h3, _⟩ | ⟨l, h1, h2, h3, _, _, _, h7⟩ | ⟨v, h1, h2, h3, _⟩ |
    ⟨l, v, h1, h2, h3, h4, h5, _, _, h8⟩
  · exact Or.inl ⟨v, h1, h2, h3⟩
  · exact Or.inr (Or.inl ⟨c, h1, rfl, h3, h2, hd⟩)
  · obtain ⟨k0, k⟩ := published_cases (hi.loc l) h3
    rcases k with ⟨_, k1, k2⟩ | ⟨v, _, k, _⟩
    · exact Or.inr (Or.inl ⟨l, h1, h2, k2, k1, k0⟩)
    · rw [h7] at k; cases k
  · exact Or.inr (Or.inr ⟨c, v, h1, h2, rfl, h2, h3, h3⟩)
  · rcases (published_cases (hi.loc l) h4).2 with ⟨k, _⟩ | ⟨_, _, _, k⟩
    · rw [h8] at k; cases k
    · exact Or.inr (Or.inr ⟨l, v, h1, h2, h3, h8, k, h5⟩)

theorem src_ne_none_of_done (hi : Inv cfg c0 s) {c : Nat} {r : Res} (hd : s.pc c = .done r) : s.src c ≠ none := by
  rcases done_source hi hd with ⟨_, _, k, _⟩ | ⟨_, k, _⟩ | ⟨_, _, _, k, _⟩ <;> rw [k] <;> nofun

theorem src_exec_done (hi : Inv cfg c0 s) {r l : Nat} {x : Res} (hd : s.pc r = .done x)
    (hs : s.src r = some (.exec l)) :
    s.execRes l = some x ∧ s.pc l = .done x ∧ s.src l = some (.exec l) ∧ cfg.key l = cfg.key r := by
  rcases done_source hi hd with ⟨v, _, k, _⟩ | ⟨l', k1, k2, k3, k4, k5⟩ | ⟨l', v, _, k, _⟩
  · rw [hs] at k; cases k
  · cases hs.symm.trans k1; exact ⟨k3, k5, ((hi.loc l).toStarted k4).src, k2⟩
  · rw [hs] at k; cases k

theorem active_result_none {l : Nat} (h : Local cfg s l) (ha : active (s.pc l) = true) : s.result l = none := by
  cases hr : s.result l with
  | none => rfl
  | some r => rw [(published_cases h hr).1] at ha; cases ha

theorem lhit_pending {c : Nat} {v : Int} (h : Local cfg s c)
    (hs : s.src c = some (.lhit c v)) (hr : s.result c = none) : ∃ r, s.pc c = .setDone r := by
  unfold Local at h
  cases hp : s.pc c with
  | setDone r => exact ⟨r, rfl⟩
  | done r =>
    simp only [hp] at h
    rcases h with ⟨w, _, h2, _⟩ | ⟨h2, _⟩ | ⟨y, h2, _⟩ | ⟨w, _, _, _, _, h2⟩ | ⟨y, w, _, h2, _, h3, _, _, h4, _⟩
    · rw [hs] at h2; cases h2
    · rw [hs] at h2; cases h2
    · rw [hs] at h2; cases h2
    · rw [hr] at h2; cases h2
    · rw [hs] at h2; cases h2; rw [hr] at h3; cases h3
  | _ => simp only [hp] at h; rw [h.1] at hs; cases hs

theorem src_hit_done {s : State} {c : Nat} {v : Int} (hl : Local cfg s c)
    (hs : s.src c = some (.hit v)) : s.pc c = .done (.ok v) ∧ s.started c = false := by
  unfold Local at hl
  cases hp : s.pc c with
  | done r =>
    simp only [hp] at hl
    rcases hl with ⟨w, h1, h2, h3, _⟩ | ⟨h2, _⟩ | ⟨l, h2, _⟩ | ⟨w, _, h2, _⟩ | ⟨l, w, _, h2, _⟩
    · rw [hs] at h2; cases h2; exact ⟨by rw [h1], h3⟩
    · rw [hs] at h2; cases h2
    · rw [hs] at h2; cases h2
    · rw [hs] at h2; cases h2
    · rw [hs] at h2; cases h2
  | setDone r =>
    simp only [hp] at hl
    rcases hl with hl | ⟨w, _, h2, _⟩
    · rw [hl.1] at hs; cases hs
    · rw [hs] at h2; cases h2
  | _ => simp only [hp] at hl; rw [hl.1] at hs; cases hs

theorem Step.published_keep (hi : Inv cfg c0 s) (hs : Step cfg s l s') {c : Nat} {r : Res}
    (hr : s.result c = some r) : s'.result c = some r ∧ s'.src c = s.src c :=
  have f := hs.frame_done (published_cases (hi.loc c) hr).1
  ⟨f.result.trans hr, f.src⟩

theorem Step.lhit_cases (hi : Inv cfg c0 s) (hs : Step cfg s l s') {c : Nat} {v : Int}
    (h : s'.src c = some (.lhit c v)) :
    s.src c = some (.lhit c v) ∨ cellGet s.now (s.cache (cfg.key c)) = some v := by
  by_cases hc : l.caller = some c
  · cases hs with
    | tick => cases hc
    | leadHit a w hpc hv =>
      cases hc
      have : upd s.src c (some (.lhit c w)) c = some (.lhit c v) := h
      rw [upd_same] at this; cases this; exact Or.inr hv
    | hit a w hpc | join a l1 hpc | lead a hpc =>
      cases hc
      have : upd s.src c _ c = some (.lhit c v) := h
      rw [upd_same] at this; cases this
    | wake a l1 r hpc hr =>
      cases hc
      have j := (hi.loc c).waiting hpc
      have : upd s.src c (wakeSrc s c l1) c = some (.lhit c v) := h
      rw [upd_same] at this
      -- the joiner's source names its leader, never itself
      exact absurd (Option.some.inj ((server_wakeSrc j.src (hi.loc l1) hr).symm.trans (congrArg server this))) (j.ne hr)
    | invoke | miss | fnStart | fnEnd | setOk | setErr | doFinish => exact Or.inl h
  · rw [(hs.frame hc).src] at h; exact Or.inl h

theorem Step.flight_cases (hs : Step cfg s l s') :
    (s'.flight = s.flight ∧ ∀ c, active (s'.pc c) = active (s.pc c)) ∨
    (∃ a, s.pc a = .missed ∧ s.flight (cfg.key a) = none ∧
      s'.flight = upd s.flight (cfg.key a) (some a) ∧ s'.pc = upd s.pc a .leader) ∨
    (∃ a r, s.pc a = .setDone r ∧ s'.flight = upd s.flight (cfg.key a) none ∧ s'.pc = upd s.pc a (.done r) ∧
      s'.result = upd s.result a (some r)) := by
  cases hs with
  | tick => exact Or.inl ⟨rfl, fun _ => rfl⟩
  | lead a hpc hf => exact Or.inr (Or.inl ⟨a, hpc, hf, rfl, rfl⟩)
  | doFinish a r hpc => exact Or.inr (Or.inr ⟨a, r, hpc, rfl, rfl, rfl⟩)
  | invoke _ hpc | hit _ _ hpc | miss _ hpc | join _ _ hpc | leadHit _ _ hpc | fnStart _ hpc | fnEnd _ _ hpc
  | setOk _ _ hpc | setErr _ hpc | wake _ _ _ hpc =>
    exact Or.inl ⟨rfl, upd_keep active (by rw [hpc]; rfl)⟩

theorem Step.active_keep (hs : Step cfg s l s') {c : Nat} (h : active (s.pc c) = true) :
    active (s'.pc c) = true ∨ ∃ r, s'.result c = some r := by
  rcases hs.flight_cases with ⟨_, e⟩ | ⟨a, _, _, _, e⟩ | ⟨a, r, _, _, e, er⟩
  · exact Or.inl ((e c).trans h)
  · rw [e]
    by_cases hca : c = a
    · subst hca; exact Or.inl (by rw [upd_same]; rfl)
    · exact Or.inl (by rw [upd_other _ _ _ _ hca]; exact h)
  · by_cases hca : c = a
    · subst hca; exact Or.inr ⟨r, by rw [er, upd_same]⟩
    · exact Or.inl (by rw [e, upd_other _ _ _ _ hca]; exact h)

theorem Step.cache_cases (hs : Step cfg s l s') :
    s'.cache = s.cache ∨ ∃ a v, l = .cacheSet a ∧ s.pc a = .ran (.ok v) ∧
      s'.cache = upd s.cache (cfg.key a) (cellSet cfg.expTime s.now (s.cache (cfg.key a)) v) := by
  cases hs with
  | setOk a v hpc => exact Or.inr ⟨a, v, rfl, hpc, rfl⟩
  | _ => exact Or.inl rfl

theorem Step.execRes_mono (hi : Inv cfg c0 s) (hs : Step cfg s l s') {c : Nat} {r : Res}
    (h : s.execRes c = some r) : s'.execRes c = some r := by
  cases hs with
  | fnEnd a r' hpc =>
    have hca : c ≠ a := fun e => by subst e; rw [(hi.loc c).in_fn hpc] at h; cases h
    exact (upd_other _ _ _ _ hca).trans h
  | _ => exact h

theorem Step.local (hi : Inv cfg c0 s) (hs : Step cfg s l s') (c : Nat) : Local cfg s' c := by
  by_cases hc : l.caller = some c
  · have ha := hi.loc c
    cases hs with
    | tick => cases hc
    | invoke a hpc | miss a hpc =>
      cases hc; simp only [Local, hpc] at ha; simp only [Local, upd_same]; exact ha
    | hit a v hpc =>
      cases hc; simp only [Local, hpc] at ha; simp only [Local, upd_same]; exact Or.inl ⟨v, rfl, rfl, ha.2⟩
    | join a l hpc hf =>
      cases hc; simp only [Local, hpc] at ha; simp only [Local, upd_same]
      exact ⟨trivial, ha.2.1, ha.2.2.1, ha.2.2.2, hi.fkey _ _ hf⟩
    | lead a hpc =>
      cases hc; simp only [Local, hpc] at ha; simp only [Local, upd_same]; exact ⟨trivial, ha.2⟩
    | leadHit a v hpc =>
      cases hc; simp only [Local, hpc] at ha; simp only [Local, upd_same]; exact Or.inr ⟨v, rfl, rfl, ha.2⟩
    | fnStart a hpc =>
      cases hc; simp only [Local, hpc] at ha; simp only [Local, upd_same]; exact ⟨ha.1, trivial, ha.2.2⟩
    | fnEnd a r hpc =>
      cases hc; simp only [Local, hpc] at ha; simp only [Local, upd_same]; exact ⟨ha.1, ha.2.1, trivial, ha.2.2.2⟩
    | setOk a v hpc | setErr a hpc =>
      cases hc; simp only [Local, hpc] at ha; simp only [Local, upd_same]; exact Or.inl ha
    | doFinish a r hpc =>
      cases hc; simp only [Local, upd_same]
      rcases ha.setDone hpc with ⟨k1, k2, k3⟩ | ⟨v, k0, k1, k2, k3⟩
      · exact Or.inr (Or.inl ⟨k1, k2, k3, trivial⟩)
      · exact Or.inr (Or.inr (Or.inr (Or.inl ⟨v, k0, k1, k2, k3, trivial⟩)))
    | wake a l r hpc hr =>
      cases hc; have j := ha.waiting hpc; simp only [Local, upd_same]
      rcases wakeSrc_served j.src (hi.loc l) hr with ⟨e1, k1⟩ | ⟨v, e1, k1, k0⟩
      · rw [e1]
        exact Or.inr (Or.inr (Or.inl ⟨l, rfl, j.key, hr, j.started, j.execRes, j.result,
          (upd_other _ _ _ _ (j.ne hr)).trans k1⟩))
      · rw [e1]
        exact Or.inr (Or.inr (Or.inr (Or.inr ⟨l, v, k0, rfl, j.key, hr, j.started, j.execRes, j.result,
          (upd_other _ _ _ _ (j.ne hr)).trans k1⟩)))
  · exact local_congr (hs.frame hc) (fun _ _ hr => hs.published_keep hi hr) (hi.loc c)

/-- the three facts about the flight map are kept together, by the same analysis of who registers and who leaves: the two
clauses of `Inv`, and the converse of `lead`, which `Inv`, being fixed, has no place for (`SInv.flt` in `C17Log`) -/
theorem Step.flight_inv (hs : Step cfg s l s')
    (h1 : ∀ c, active (s.pc c) = true → s.flight (cfg.key c) = some c)
    (h2 : ∀ k c, s.flight k = some c → cfg.key c = k) :
    (∀ c, active (s'.pc c) = true → s'.flight (cfg.key c) = some c) ∧
    (∀ k c, s'.flight k = some c → cfg.key c = k) ∧
    ((∀ k c, s.flight k = some c → active (s.pc c) = true) → ∀ k c, s'.flight k = some c → active (s'.pc c) = true) := by
  rcases hs.flight_cases with ⟨e1, e2⟩ | ⟨a, hpc, hf, e1, e2⟩ | ⟨a, r, hpc, e1, e2⟩
  · rw [e1]
    exact ⟨fun c hc => h1 c (by rw [← e2 c]; exact hc), h2, fun hf k c hk => by rw [e2 c]; exact hf k c hk⟩
  · -- `a` registers: its key had no call, so every registered caller is another one, of another key
    rw [e1, e2]
    have hk : ∀ k c, s.flight k = some c → k ≠ cfg.key a := fun k c hk e => by rw [e, hf] at hk; cases hk
    refine ⟨fun c hc => ?_, fun k c hc => ?_, fun hfl k c hc => ?_⟩
    · by_cases hca : c = a
      · subst hca; exact upd_same _ _ _
      · rw [upd_other _ _ _ _ hca] at hc
        rw [upd_other _ _ _ _ (hk _ _ (h1 c hc))]; exact h1 c hc
    · by_cases hka : k = cfg.key a
      · subst hka; rw [upd_same] at hc; cases hc; rfl
      · rw [upd_other _ _ _ _ hka] at hc; exact h2 k c hc
    · by_cases hka : k = cfg.key a
      · subst hka; rw [upd_same] at hc; cases hc; rw [upd_same]; rfl
      · rw [upd_other _ _ _ _ hka] at hc
        have hca : c ≠ a := fun e => by subst e; have := hfl k c hc; rw [hpc] at this; cases this
        rw [upd_other _ _ _ _ hca]; exact hfl k c hc
  · -- `a` leaves: it was the call of its key, so every other registered caller has another key
    obtain ⟨e2, _⟩ := e2
    rw [e1, e2]
    have hfa : s.flight (cfg.key a) = some a := h1 a (by rw [hpc]; rfl)
    have hk : ∀ k c, c ≠ a → s.flight k = some c → k ≠ cfg.key a :=
      fun k c hca hk e => by rw [e, hfa] at hk; cases hk; exact hca rfl
    have hne : ∀ k c, upd s.flight (cfg.key a) none k = some c → k ≠ cfg.key a ∧ s.flight k = some c :=
      fun k c hc => by
        by_cases hka : k = cfg.key a
        · subst hka; rw [upd_same] at hc; cases hc
        · rw [upd_other _ _ _ _ hka] at hc; exact ⟨hka, hc⟩
    refine ⟨fun c hc => ?_, fun k c hc => h2 k c (hne k c hc).2, fun hfl k c hc => ?_⟩
    · have hca : c ≠ a := fun e => by subst e; rw [upd_same] at hc; cases hc
      rw [upd_other _ _ _ _ hca] at hc
      rw [upd_other _ _ _ _ (hk _ c hca (h1 c hc))]; exact h1 c hc
    · obtain ⟨hka, hc⟩ := hne k c hc
      have hca : c ≠ a := fun e => hka (by rw [← h2 k c hc, e])
      rw [upd_other _ _ _ _ hca]; exact hfl k c hc

/-- the in-flight equation of key `k` does not see the mover's pc when the mover is not the registered call of `k` -/
theorem infl_other {a : Nat} {p : PC} {k : Nat}
    (h3 : s.inflight k = (match s.flight k with
            | some c => if s.pc c = .running then 1 else 0
            | none => 0))
    (hk : ∀ c, s.flight k = some c → c ≠ a) :
    s.inflight k = (match s.flight k with
            | some c => if upd s.pc a p c = .running then 1 else 0
            | none => 0) := by
  rw [h3]
  cases hf : s.flight k with
  | none => rfl
  | some c => simp only [upd_other _ _ _ _ (hk c hf)]

theorem Step.infl (hi : Inv cfg c0 s) (hs : Step cfg s l s') (k : Nat) :
    s'.inflight k = (match s'.flight k with
            | some c => if s'.pc c = .running then 1 else 0
            | none => 0) := by
  have hne : ∀ a, k ≠ cfg.key a → ∀ c, s.flight k = some c → c ≠ a :=
    fun a hk c hc e => hk (by rw [← hi.fkey k c hc, e])
  have idle : ∀ (a : Nat) (p : PC), p ≠ .running → s.pc a ≠ .running →
      s.inflight k = (match s.flight k with
            | some c => if upd s.pc a p c = .running then 1 else 0
            | none => 0) := by
    intro a p hp ha
    rw [hi.infl k]
    cases s.flight k with
    | none => rfl
    | some c =>
      by_cases hca : c = a
      · subst hca; simp only [upd_same, if_neg ha, if_neg hp]
      · simp only [upd_other _ _ _ _ hca]
  cases hs with
  | tick => exact hi.infl k
  | invoke a hpc | hit a _ hpc | miss a hpc | join a _ hpc | leadHit a _ hpc | setOk a _ hpc | setErr a hpc
  | wake a _ _ hpc =>
    exact idle a _ (fun h => by cases h) (fun h => by rw [hpc] at h; cases h)
  | lead a hpc hf =>
    by_cases hk : k = cfg.key a
    · subst hk
      simp only [upd_same, hi.infl (cfg.key a), hf]
      rfl
    · simp only [upd_other _ _ _ _ hk]
      exact infl_other (hi.infl k) (hne a hk)
  | doFinish a _ hpc | fnStart a hpc | fnEnd a _ hpc =>
    by_cases hk : k = cfg.key a
    · subst hk
      simp only [upd_same, hi.infl (cfg.key a), hi.lead a (by rw [hpc]; rfl), hpc]
      rfl
    · simp only [upd_other _ _ _ _ hk]
      exact infl_other (hi.infl k) (hne a hk)

theorem Step.cach (hi : Inv cfg c0 s) (hs : Step cfg s l s') (k : Nat) (v e : Int)
    (hk : s'.cache k = some (v, e)) : c0 k = some (v, e) ∨ ∃ l, cfg.key l = k ∧ s'.execRes l = some (.ok v) := by
  have old : s.cache k = some (v, e) → c0 k = some (v, e) ∨ ∃ l, cfg.key l = k ∧ s'.execRes l = some (.ok v) :=
    fun h => (hi.cach k v e h).imp_right fun ⟨l, h1, h2⟩ => ⟨l, h1, hs.execRes_mono hi h2⟩
  rcases hs.cache_cases with e1 | ⟨a, w, _, hpc, e1⟩
  · exact old (e1 ▸ hk)
  · rw [e1] at hk
    by_cases hka : k = cfg.key a
    · subst hka
      rw [upd_same] at hk
      have hcs : cellSet cfg.expTime s.now (s.cache (cfg.key a)) w = _ ∨
          cellSet cfg.expTime s.now (s.cache (cfg.key a)) w = _ := Lemmas.CacheCell.cellSet_cases ..
      rcases hcs with hc | hc
      · exact old (hc ▸ hk)
      · -- the entry just written is the result of `a`'s own execution
        rw [hc] at hk; cases hk
        exact Or.inr ⟨a, rfl, hs.execRes_mono hi ((hi.loc a).ran hpc).2⟩
    · rw [upd_other _ _ _ _ hka] at hk; exact old hk

theorem inv_step {cfg : Cfg} {c0 : Nat → Cell} {s s' : State} {l : Label}
    (h : Inv cfg c0 s) (hs : step cfg s l = some s') : Inv cfg c0 s' :=
  have hs := Step.of_step hs
  have ⟨lead, fkey, _⟩ := hs.flight_inv h.lead h.fkey
  ⟨lead, fkey, hs.infl h, hs.local h, hs.cach h⟩

theorem inv_reachable {cfg : Cfg} {c0 : Nat → Cell} {now : Int} {s : State}
    (h : Reachable cfg (init c0 now) s) : Inv cfg c0 s := by
  induction h with
  | refl => exact inv_init cfg c0 now
  | step l _ hs ih => exact inv_step ih hs

theorem reachable_trans {s0 s1 s2 : State} (h1 : Reachable cfg s0 s1) (h2 : Reachable cfg s1 s2) :
    Reachable cfg s0 s2 := by
  induction h2 with
  | refl => exact h1
  | step l _ hs ih => exact Reachable.step l ih hs

end GoguVerif.Lemmas.C17
