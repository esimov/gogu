import GoguVerif.Model.Lin
import GoguVerif.Model.Lock
/-! Threads under a readers-writer lock (C01, C02).  The equations of `Lin.upd` (`Lock.upd` of
`Model/Lock` unfolds to the same function, so they serve `Lock.State` as well), and the invariant
`RWInv` of the thread map of `Model/Fine2` (that of `Model/Fine` is read through `Sections.emb`), with
the conditions under which it survives the change of one thread. -/
namespace GoguVerif.Lemmas.RWLock
open GoguVerif.Model
open GoguVerif.Model.Lock (Mode)

variable {α β σ : Type}

theorem upd_self (th : Nat → α) (t : Nat) (x : α) : Lin.upd th t x t = x := if_pos rfl

theorem upd_ne (th : Nat → α) (t j : Nat) (x : α) (h : j ≠ t) : Lin.upd th t x j = th j := if_neg h

theorem forall_upd {P : Nat → α → Prop} {th : Nat → α} {t : Nat} {x : α}
    (others : ∀ i, i ≠ t → P i (th i)) (self : P t x) (i : Nat) : P i (Lin.upd th t x i) := by
  by_cases e : i = t
  · rw [e, upd_self]; exact self
  · rw [upd_ne _ _ _ _ e]; exact others i e

theorem upd_eq_self (th : Nat → α) (t : Nat) : Lin.upd th t (th t) = th :=
  funext (forall_upd (P := fun j y => y = th j) (fun _ _ => rfl) rfl)

theorem comp_upd (g : α → β) (th : Nat → α) (t : Nat) (x : α) :
    (fun j => g (Lin.upd th t x j)) = Lin.upd (fun j => g (th j)) t (g x) :=
  funext (forall_upd (P := fun j y => g y = Lin.upd (fun j => g (th j)) t (g x) j)
    (fun i e => (upd_ne (fun j => g (th j)) t i (g x) e).symm) (upd_self _ t (g x)).symm)

/-- In a system of two threads, `0` and `1`, everybody but `i` holds nothing. -/
theorem free_01 (hold : α → Option Mode) {th : Nat → α} {i : Nat} (h0 : i ≠ 0 → hold (th 0) = none)
    (h1 : i ≠ 1 → hold (th 1) = none) (rest : ∀ k, hold (th (k + 2)) = none) :
    ∀ j, j ≠ i → hold (th j) = none
  | 0, h => h0 (Ne.symm h)
  | 1, h => h1 (Ne.symm h)
  | k + 2, _ => rest k

/-- When everybody but `i` is outside the lock, nobody but `i` is a writer: with the hypothesis itself, the
admission rule of the lock in either mode. -/
theorem no_writer_of_free {hold : α → Option Mode} {th : Nat → α} {i : Nat}
    (h : ∀ j, j ≠ i → hold (th j) = none) : ∀ j, j ≠ i → hold (th j) ≠ some .w :=
  fun j hj e => by rw [h j hj] at e; cases e

/-- Exclusion survives the change of thread `t` to `x` under the admission rule of the lock, split by what `x`
holds: a writer needs everybody else outside (`hw`), a holder of either mode needs no writer among the others (`hr`). -/
theorem excl_upd {hold : α → Option Mode} {th : Nat → α} {t : Nat} {x : α}
    (old : ∀ i j, i ≠ j → hold (th i) = some .w → hold (th j) = none)
    (hw : hold x = some .w → ∀ j, j ≠ t → hold (th j) = none)
    (hr : hold x ≠ none → ∀ j, j ≠ t → hold (th j) ≠ some .w) :
    ∀ i j, i ≠ j → hold (Lin.upd th t x i) = some .w → hold (Lin.upd th t x j) = none := by
  intro i j hij h
  by_cases ei : i = t
  · rw [ei, upd_self] at h
    rw [upd_ne _ _ _ _ (ei ▸ hij.symm)]
    exact hw h j (ei ▸ hij.symm)
  · rw [upd_ne _ _ _ _ ei] at h
    by_cases ej : j = t
    · rw [ej, upd_self]
      cases hx : hold x with
      | none => rfl
      | some m => exact absurd h (hr (by rw [hx]; nofun) i ei)
    · rw [upd_ne _ _ _ _ ej]
      exact old i j hij h

theorem no_writer_of_reader {hold : α → Option Mode} {th : Nat → α} {t : Nat}
    (excl : ∀ i j, i ≠ j → hold (th i) = some .w → hold (th j) = none) (h : hold (th t) = some .r) (i : Nat) :
    hold (th i) ≠ some .w := by
  intro hw
  by_cases e : i = t
  · rw [e, h] at hw; cases hw
  · have := excl i t e hw
    rw [h] at this; cases this

/-- Threads `th` under a readers-writer lock, over a shared state `sh` with its abstraction `ab`:
a writer excludes everybody, every thread state is `Q`, and without a writer `ab` is `sh`. -/
structure RWInv (hold : α → Option Mode) (Q : σ → σ → α → Prop) (sh ab : σ) (th : Nat → α) : Prop where
  excl : ∀ i j, i ≠ j → hold (th i) = some .w → hold (th j) = none
  good : ∀ i, Q sh ab (th i)
  noWriter : (∀ i, hold (th i) ≠ some .w) → ab = sh

namespace RWInv
variable {hold : α → Option Mode} {Q : σ → σ → α → Prop} {sh ab sh' ab' : σ} {th : Nat → α} {t : Nat}
  {x : α}

theorem good_at (hi : RWInv hold Q sh ab th) (h : th t = x) : Q sh ab x := h ▸ hi.good t

theorem abs_eq_of_no_writer (hi : RWInv hold Q sh ab th) (ht : hold (th t) ≠ some .w)
    (hn : ∀ i, i ≠ t → hold (th i) ≠ some .w) : ab = sh :=
  hi.noWriter fun i => if e : i = t then e ▸ ht else hn i e

/-- Thread `t` becomes `x`, the states become `sh'`, `ab'`.  `upd_none`, `upd_r`: `x` is outside the lock, a reader;
only a writer changes the states (`upd_w`). -/
theorem upd_any (hi : RWInv hold Q sh ab th)
    (hw : hold x = some .w → ∀ j, j ≠ t → hold (th j) = none)
    (hr : hold x ≠ none → ∀ j, j ≠ t → hold (th j) ≠ some .w)
    (others : ∀ i, i ≠ t → Q sh' ab' (th i)) (self : Q sh' ab' x)
    (nw : hold x ≠ some .w → (∀ i, i ≠ t → hold (th i) ≠ some .w) → ab' = sh') :
    RWInv hold Q sh' ab' (Lin.upd th t x) where
  excl := excl_upd hi.excl hw hr
  good := forall_upd (P := fun _ => Q sh' ab') others self
  noWriter h := nw (upd_self th t x ▸ h t) fun i e => upd_ne th t i x e ▸ h i

theorem upd_none (hi : RWInv hold Q sh ab th) (hx : hold x = none) (self : Q sh ab x)
    (nw : (∀ i, i ≠ t → hold (th i) ≠ some .w) → ab = sh) : RWInv hold Q sh ab (Lin.upd th t x) :=
  hi.upd_any (fun h => by rw [hx] at h; cases h) (fun h => absurd hx h) (fun i _ => hi.good i) self fun _ => nw

theorem upd_r (hi : RWInv hold Q sh ab th) (hx : hold x = some .r)
    (free : ∀ j, j ≠ t → hold (th j) ≠ some .w) (self : Q sh ab x) (e : ab = sh) :
    RWInv hold Q sh ab (Lin.upd th t x) :=
  hi.upd_any (fun h => by rw [hx] at h; cases h) (fun _ => free) (fun i _ => hi.good i) self fun _ _ => e

theorem upd_reader (hi : RWInv hold Q sh ab th) (ht : hold (th t) = some .r) (hx : hold x = some .r)
    (hs : sh' = sh) (self : Q sh ab x) (e : ab = sh) : RWInv hold Q sh' ab (Lin.upd th t x) :=
  hs ▸ hi.upd_r hx (fun j _ => no_writer_of_reader hi.excl ht j) self e

theorem upd_w (hi : RWInv hold Q sh ab th) (hx : hold x = some .w)
    (free : ∀ j, j ≠ t → hold (th j) = none)
    (frame : ∀ y, hold y = none → Q sh ab y → Q sh' ab' y) (self : Q sh' ab' x) :
    RWInv hold Q sh' ab' (Lin.upd th t x) :=
  hi.upd_any (fun _ => free) (fun _ => no_writer_of_free free)
    (fun i e => frame _ (free i e) (hi.good i)) self fun h => absurd hx h

end RWInv

end GoguVerif.Lemmas.RWLock
