import GoguVerif.Model.C20
import GoguVerif.Lemmas.ListFacts
/-!
# C20 — helper lemmas: history lookups, folds over a history, clocks, the debounce invariant
-/
namespace GoguVerif.Lemmas.C20
open GoguVerif.Spec.C20 GoguVerif.Model.C20

theorem get_lt {α} {l : List α} {k : Nat} {x : α} (h : l[k]? = some x) : k < l.length :=
  let ⟨hk, _⟩ := List.getElem?_eq_some_iff.mp h
  hk

theorem get_snoc_beyond {α} {pre : List α} {e x : α} {k : Nat} (h : pre.length < k) :
    (pre ++ [e])[k]? ≠ some x := fun hx =>
  nomatch (List.getElem?_eq_none (by rw [List.length_append, List.length_singleton]; exact h)).symm.trans hx

theorem get_snoc_old {α} (pre : List α) (e x : α) {k : Nat} (h : pre[k]? = some x) :
    (pre ++ [e])[k]? = some x := by
  rw [List.getElem?_append_left (get_lt h)]; exact h

/-- like `List.foldlRecOn`, for an invariant `I hist s` that also sees the history consumed so far -/
theorem foldl_inv {ε σ} {step : σ → ε → σ} {I : List ε → σ → Prop}
    (hstep : ∀ hist s e, I hist s → I (hist ++ [e]) (step s e)) (evs : List ε) :
    ∀ hist s, I hist s → I (hist ++ evs) (evs.foldl step s) := by
  induction evs with
  | nil => intro hist s h; rw [List.append_nil]; exact h
  | cons e r ih => intro hist s h; rw [List.append_cons]; exact ih _ _ (hstep hist s e h)

/-! The clocks of the three kinds of history (`clock`, `lclock`, `tclock`) are the same function: `c` sums
the `dt` of the events. -/
section clocks
variable {ε : Type} {dt : ε → Nat} {c : List ε → Int} (hnil : c [] = 0)
  (hcons : ∀ e r, c (e :: r) = (dt e : Int) + c r)
include hnil hcons

theorem clk_append (a b : List ε) : c (a ++ b) = c a + c b := by
  induction a with
  | nil => rw [List.nil_append, hnil, Int.zero_add]
  | cons e r ih => rw [List.cons_append, hcons, hcons, ih, Int.add_assoc]

theorem clk_nonneg (a : List ε) : 0 ≤ c a := by
  induction a with
  | nil => rw [hnil]; exact Int.le_refl 0
  | cons e r ih => rw [hcons]; exact Int.add_nonneg (Int.natCast_nonneg _) ih

theorem clk_take_le (a : List ε) (k : Nat) : c (a.take k) ≤ c a := by
  have h := clk_append hnil hcons (a.take k) (a.drop k)
  rw [List.take_append_drop] at h
  rw [h]; exact Int.le_add_of_nonneg_right (clk_nonneg hnil hcons _)

theorem clk_snoc (pre : List ε) (e : ε) : c (pre ++ [e]) = c pre + dt e := by
  rw [clk_append hnil hcons, hcons, hnil, Int.add_zero]

end clocks

theorem clock_take_le (a : List DEv) (k : Nat) : clock (a.take k) ≤ clock a :=
  clk_take_le rfl (fun _ _ => rfl) a k

theorem clock_take_mono (a : List DEv) {k k' : Nat} (h : k ≤ k') :
    clock (a.take k) ≤ clock (a.take k') := by
  have := clock_take_le (a.take k') k
  rwa [List.take_take, Nat.min_eq_left h] at this

theorem clock_append (a b : List DEv) : clock (a ++ b) = clock a + clock b :=
  clk_append rfl (fun _ _ => rfl) a b

theorem clock_snoc (pre : List DEv) (e : DEv) : clock (pre ++ [e]) = clock pre + e.dt :=
  clk_snoc rfl (fun _ _ => rfl) pre e

structure FireInv (wait : Nat) (hist : List DEv) (fr : Fire) : Prop where
  idx_le : fr.idx ≤ fr.at
  at_lt : fr.at < hist.length
  isCall : hist[fr.idx]? = some DEv.call
  callTime : clock (hist.take fr.idx) = fr.tc
  exact : fr.f = fr.tc + wait
  fired_by : fr.f ≤ clock (hist.take (fr.at + 1))
  between : ∀ k e, fr.idx < k → k ≤ fr.at → hist[k]? = some e → e.isAdvance = true

structure PendInv (wait : Nat) (hist : List DEv) (fired : List Fire) (p : Pending) : Prop where
  idx_lt : p.idx < hist.length
  isCall : hist[p.idx]? = some DEv.call
  callTime : clock (hist.take p.idx) = p.tc
  exact : p.deadline = p.tc + wait
  after : ∀ k e, p.idx < k → hist[k]? = some e → e.isAdvance = true
  newest : ∀ fr ∈ fired, fr.idx < p.idx

/-- invariant in the middle of a step: `hist` already contains the current event (number `s.n`),
the pre-action has been done, due timers have not been run yet -/
structure DPre (wait : Nat) (hist : List DEv) (s : DState) : Prop where
  n_eq : s.n + 1 = hist.length
  now_eq : s.now = clock hist
  pend : ∀ p, s.pending = some p → PendInv wait hist s.fired p
  fired : ∀ fr ∈ s.fired, FireInv wait hist fr
  sorted : s.fired.Pairwise (fun a b => a.idx < b.idx)

/-- invariant between steps -/
structure DInv (wait : Nat) (hist : List DEv) (s : DState) : Prop where
  n_eq : s.n = hist.length
  now_eq : s.now = clock hist
  pend : ∀ p, s.pending = some p → PendInv wait hist s.fired p ∧ s.now < p.deadline
  fired : ∀ fr ∈ s.fired, FireInv wait hist fr
  sorted : s.fired.Pairwise (fun a b => a.idx < b.idx)

theorem FireInv.snoc {wait hist fr} (e : DEv) (h : FireInv wait hist fr) :
    FireInv wait (hist ++ [e]) fr where
  idx_le := h.idx_le
  at_lt := by rw [List.length_append]; exact Nat.lt_add_right _ h.at_lt
  isCall := get_snoc_old _ _ _ h.isCall
  callTime := by
    rw [List.take_append_of_le_length (Nat.le_of_lt (Nat.lt_of_le_of_lt h.idx_le h.at_lt))]; exact h.callTime
  exact := h.exact
  fired_by := by rw [List.take_append_of_le_length h.at_lt]; exact h.fired_by
  between := fun k x hk hk' hx => h.between k x hk hk' (by
    rwa [List.getElem?_append_left (Nat.lt_of_le_of_lt hk' h.at_lt)] at hx)

theorem PendInv.snoc {wait hist fired p} (e : DEv) (h : PendInv wait hist fired p)
    (he : e.isAdvance = true) : PendInv wait (hist ++ [e]) fired p where
  idx_lt := by rw [List.length_append]; exact Nat.lt_add_right _ h.idx_lt
  isCall := get_snoc_old _ _ _ h.isCall
  callTime := by rw [List.take_append_of_le_length (Nat.le_of_lt h.idx_lt)]; exact h.callTime
  exact := h.exact
  after := by
    intro k x hk hx
    rcases ListFacts.getElem?_snoc_cases hx with ⟨_, hx'⟩ | ⟨_, rfl⟩
    · exact h.after k x hk hx'
    · exact he
  newest := h.newest

theorem dinv_init (wait : Nat) : DInv wait [] {} where
  n_eq := rfl
  now_eq := rfl
  pend := by intro p h; cases h
  fired := by intro fr h; cases h
  sorted := List.Pairwise.nil

/-- the pre-action of an event: the `let s1 := match e …` of `dstep`, copied (`dstep_eq`) -/
def dpre (wait : Nat) (s : DState) (e : DEv) : DState :=
  match e with
  | .call => { s with pending := some { deadline := s.now + wait, idx := s.n, tc := s.now } }
  | .cancel => { s with pending := none }
  | .advance dt => { s with now := s.now + dt }

theorem dstep_eq (wait : Nat) (s : DState) (e : DEv) :
    dstep wait s e = { (dpre wait s e).settle with n := (dpre wait s e).settle.n + 1 } := by
  cases e <;> rfl

structure DPreKeeps (s s' : DState) (e : DEv) : Prop where
  n : s'.n = s.n
  fired : s'.fired = s.fired
  now : s'.now = s.now + e.dt

theorem dpre_keeps (wait : Nat) (s : DState) (e : DEv) : DPreKeeps s (dpre wait s e) e := by
  cases e with
  | advance dt => exact ⟨rfl, rfl, rfl⟩
  | _ => exact ⟨rfl, rfl, (Int.add_zero _).symm⟩

inductive Settles (s : DState) : DState → Prop
  | runs (p : Pending) (hp : s.pending = some p) (hd : p.deadline ≤ s.now) :
      Settles s { s with pending := none,
                         fired := s.fired ++ [{ f := p.deadline, idx := p.idx, tc := p.tc, «at» := s.n }] }
  | rests (h : ∀ p, s.pending = some p → s.now < p.deadline) : Settles s s

theorem settle_settles (s : DState) : Settles s s.settle := by
  unfold DState.settle
  cases hp : s.pending with
  | none => exact .rests fun _ h => nomatch hp.symm.trans h
  | some p =>
    by_cases hd : p.deadline ≤ s.now
    · show Settles s (if p.deadline ≤ s.now then _ else s)
      rw [if_pos hd]; exact .runs p hp hd
    · show Settles s (if p.deadline ≤ s.now then _ else s)
      rw [if_neg hd]; exact .rests fun q h => (by cases hp.symm.trans h; exact Int.not_le.mp hd)

theorem dpre_inv {wait hist s} (e : DEv) (h : DInv wait hist s) :
    DPre wait (hist ++ [e]) (dpre wait s e) where
  n_eq := by rw [(dpre_keeps wait s e).n, h.n_eq, List.length_append, List.length_singleton]
  now_eq := by rw [(dpre_keeps wait s e).now, clock_snoc, h.now_eq]
  fired := by rw [(dpre_keeps wait s e).fired]; exact fun fr hfr => (h.fired fr hfr).snoc e
  sorted := by rw [(dpre_keeps wait s e).fired]; exact h.sorted
  pend := by
    intro p hp
    rw [(dpre_keeps wait s e).fired]
    cases e with
    | call =>
      cases hp
      exact
        { idx_lt := by rw [List.length_append, h.n_eq]; exact Nat.lt_succ_self _
          isCall := by show (hist ++ [DEv.call])[s.n]? = _; rw [h.n_eq, List.getElem?_concat_length]
          callTime := by show clock ((hist ++ [DEv.call]).take s.n) = s.now; rw [h.n_eq, List.take_left, h.now_eq]
          exact := rfl
          after := fun k x hk hx => absurd hx (get_snoc_beyond (h.n_eq ▸ hk))
          newest := by
            intro fr hfr
            have hF := h.fired fr hfr
            exact h.n_eq ▸ Nat.lt_of_le_of_lt hF.idx_le hF.at_lt }
    | cancel => cases hp
    | advance dt =>
      obtain ⟨hP, _⟩ := h.pend p hp
      exact hP.snoc _ rfl

theorem settle_inv {wait hist s} (h : DPre wait hist s) :
    DInv wait hist { s.settle with n := s.settle.n + 1 } := by
  have hs := settle_settles s
  generalize s.settle = s' at hs
  cases hs with
  | runs p hp hd =>
    -- the pending timer runs now, during event `s.n`
    have hpi := h.pend p hp
    refine ⟨h.n_eq, h.now_eq, fun _ => nofun, ?_, ?_⟩
    · exact List.forall_mem_append.mpr ⟨h.fired, List.forall_mem_singleton.mpr
        { idx_le := Nat.le_of_lt_succ (show p.idx < s.n + 1 from h.n_eq ▸ hpi.idx_lt)
          at_lt := show s.n < hist.length from h.n_eq ▸ Nat.lt_succ_self s.n
          isCall := hpi.isCall
          callTime := hpi.callTime
          exact := hpi.exact
          fired_by := by
            show p.deadline ≤ clock (hist.take (s.n + 1))
            rw [h.n_eq, List.take_length, ← h.now_eq]; exact hd
          between := fun k x hk _ hx => hpi.after k x hk hx }⟩
    · refine List.pairwise_append.mpr ⟨h.sorted, List.pairwise_singleton _ _, fun a ha b hb => ?_⟩
      cases List.mem_singleton.mp hb
      exact hpi.newest a ha
  | rests hnd => exact ⟨h.n_eq, h.now_eq, fun q hq => ⟨h.pend q hq, hnd q hq⟩, h.fired, h.sorted⟩

theorem dstep_inv {wait hist s} (e : DEv) (h : DInv wait hist s) :
    DInv wait (hist ++ [e]) (dstep wait s e) := by
  rw [dstep_eq]; exact settle_inv (dpre_inv e h)

theorem drun_inv (wait : Nat) (evs : List DEv) : DInv wait evs (drun wait evs) :=
  foldl_inv (I := DInv wait) (fun _ _ e => dstep_inv e) evs [] {} (dinv_init wait)

theorem dstep_fired_prefix (wait : Nat) (s : DState) (e : DEv) : s.fired <+: (dstep wait s e).fired := by
  rw [dstep_eq, ← (dpre_keeps wait s e).fired]
  have hs := settle_settles (dpre wait s e)
  generalize (dpre wait s e).settle = s' at hs
  cases hs with
  | runs p _ _ => exact List.prefix_append _ _
  | rests _ => exact List.prefix_refl _

theorem pairwise_idx_inj {l : List Fire} (h : l.Pairwise (fun a b => a.idx < b.idx))
    {a b : Fire} (ha : a ∈ l) (hb : b ∈ l) (hab : a.idx = b.idx) : a = b := by
  induction l with
  | nil => cases ha
  | cons x r ih =>
    rw [List.pairwise_cons] at h
    rcases List.mem_cons.mp ha with rfl | ha' <;> rcases List.mem_cons.mp hb with rfl | hb'
    · rfl
    · have := h.1 b hb'; omega
    · have := h.1 a ha'; omega
    · exact ih h.2 ha' hb'

end GoguVerif.Lemmas.C20
