import GoguVerif.Lemmas.C19Handles
import GoguVerif.Lemmas.C19.DListOps
import GoguVerif.Lemmas.C19.DListMid
/-!
# C19 helper lemmas: the `DList` methods, the cell they work on given by its POSITION in the chain

As `Lemmas/C19Handles.lean` for `SList`; `plain_sim` and `handle_sim` put the methods together, the `prev` layer
(`InsertAfter`, `InsertBefore`, `Delete`, `relink`) included.
-/
namespace GoguVerif.Lemmas.C19H.DList
open GoguVerif.Model GoguVerif.Model.DList GoguVerif.Lemmas.C19 GoguVerif.Lemmas.C19.DList
open GoguVerif.Spec.C19 GoguVerif.Theorems.C19H GoguVerif.Theorems.C19H.DList

theorem find_none {h : Heap} {as xs} (r : Repr h as xs) {x : Int} (e : xs.idxOf? x = none) :
    find h x = .ok none := by
  rw [find_repr r x, addrOf_eq_idx r.chain.length_eq, e]
  rfl

theorem find_some {h : Heap} {as xs} (r : Repr h as xs) {x : Int} {p : Nat} (e : xs.idxOf? x = some p) :
    ∃ a, as[p]? = some a ∧ find h x = .ok (some a) := by
  obtain ⟨hp, -⟩ := List.idxOf?_eq_some_iff.mp e
  rw [← r.chain.length_eq] at hp
  refine ⟨as[p], List.getElem?_eq_getElem hp, ?_⟩
  rw [find_repr r x, addrOf_eq_idx r.chain.length_eq, e]
  simp [hp]

theorem find_isSome {h : Heap} {as xs} (r : Repr h as xs) (x : Int) :
    ∃ o, find h x = .ok o ∧ o.isSome = decide (x ∈ xs) := by
  cases e : xs.idxOf? x with
  | none => exact ⟨none, find_none r e, by simp [List.idxOf?_eq_none_iff.mp e]⟩
  | some p =>
    obtain ⟨a, -, hf⟩ := find_some r e
    exact ⟨some a, hf, by simp [mem_of_idxOf? e]⟩

/-- the guard of `Delete`/`InsertAfter`/`InsertBefore` -/
theorem find_mem {h : Heap} {as xs} (r : Repr h as xs) {x : Int} (hx : x ∈ xs) :
    ∃ b, find h x = .ok (some b) := by
  obtain ⟨p, e⟩ := idxOf?_of_mem hx
  obtain ⟨a, -, hf⟩ := find_some r e
  exact ⟨a, hf⟩

theorem insertAfterAt_repr {h : Heap} {as xs} {i a : Nat} (r : Repr h as xs) (hi : as[i]? = some a) (v : Int) :
    ∃ h', insertAfter h (some a) v = .ok (h', .ok) ∧
      Repr h' (as.take (i + 1) ++ h.length :: as.drop (i + 1)) (xs.take (i + 1) ++ v :: xs.drop (i + 1)) := by
  obtain ⟨x, hx, hp⟩ := r.chain.cell_at hi
  obtain ⟨h', hl, hch, -⟩ := insertAfterAt_chain (v := v) r.chain r.nodup hi hp
  obtain ⟨b, hf⟩ := find_mem r (List.mem_of_getElem? hx)
  have hne : as ≠ [] := List.ne_nil_of_mem (List.mem_of_getElem? hi)
  exact ⟨h', by simp only [DList.insertAfter, load, hp, hf, hl, ListRes.ok_bind],
    (head?_take_insert as i h.length hne).trans r.head,
    nodup_take_insert (i + 1) h.length r.nodup (fun q => Nat.lt_irrefl _ (r.chain.lt_length _ q)), hch⟩

theorem deleteH_of_gt {xs : List Int} {i : Nat} (hl : xs.length > 1) :
    nextH xs (.deleteH i) = (.ok, xs.eraseIdx i) ∧ editOfH xs (.deleteH i) = .del i :=
  ⟨if_pos hl, if_pos hl⟩

/-- `Delete` of the `i`-th cell: that cell goes — or, for the embedded head, the SECOND cell (its contents are copied
into the head) -/
theorem deleteAt_repr {h : Heap} {as xs} {i a : Nat} (r : Repr h as xs) (hi : as[i]? = some a) :
    ∃ h' as', delete h (some a) = .ok (h', (nextH xs (.deleteH i)).1) ∧ Repr h' as' (nextH xs (.deleteH i)).2 ∧
      Tracks true (editOfH xs (.deleteH i)) as as' := by
  obtain ⟨as', y, xs', rfl, rfl, h0, hc, hnot⟩ := r.cons
  cases i with
  | zero =>
    obtain rfl : 0 = a := by simpa using hi
    obtain ⟨b, hf⟩ := find_mem (x := y) r List.mem_cons_self
    cases as' with
    | nil =>
      obtain rfl := chain_nil.mp hc
      refine ⟨h, [0], ?_, r, Tracks.refl⟩
      -- the only cell (`head.next == nil && head.prev == nil`): refused
      simp only [delete, load, h0, hf, ListRes.ok_bind, List.head?_nil, Option.isNone_none, Bool.and_self, if_true,
        ListRes.pure_eq]
      rfl
    | cons b' bs =>
      obtain ⟨z, zs, rfl, -, -⟩ := chain_cons hc
      obtain ⟨bn, h', hb, hr, hrep⟩ := takeover_head r
      obtain ⟨e1, e2⟩ := deleteH_of_gt (xs := y :: z :: zs) (i := 0) (by simp)
      rw [e1, e2]
      -- `head == node`: the head takes over the second cell, then `relink`
      exact ⟨h', (0 :: b' :: bs).eraseIdx 1, by simp only [delete, load, h0, List.head?_cons, ListRes.pure_eq,
        Bool.and_eq_true, Option.isNone_iff_eq_none, ↓reduceIte, ListRes.deref, ListRes.ok_bind, reduceCtorEq, and_true,
        hb, hr, hf], hrep, Tracks.del (.inr ⟨rfl, .inl rfl⟩)⟩
  | succ k =>
    obtain ⟨nd, h', hp, hv, hl, hch, -⟩ := deleteAt_chain r.chain r.nodup hi
    obtain ⟨b, hf⟩ := find_mem r (List.mem_of_getElem? (i := k + 1) hv)
    have hne : ¬ (0 = a) := by
      rintro rfl
      exact hnot (List.mem_of_getElem? hi)
    obtain ⟨b', bs, rfl⟩ :=
      List.exists_cons_of_ne_nil (List.ne_nil_of_mem (List.mem_of_getElem? (l := as') (i := k) hi))
    obtain ⟨z, zs, rfl, -, -⟩ := chain_cons hc
    obtain ⟨e1, e2⟩ := deleteH_of_gt (xs := y :: z :: zs) (i := k + 1) (by simp)
    rw [e1, e2]
    -- any other cell: neither guard holds (`hne`, and the head has a successor), the cell is unlinked
    exact ⟨h', (0 :: b' :: bs).eraseIdx (k + 1), by simp only [delete, load, hp, ListRes.pure_eq, h0, List.head?_cons,
      Bool.and_eq_true, Option.isNone_iff_eq_none, hne, ↓reduceIte, ListRes.ok_bind, reduceCtorEq, and_true, hf, hl],
      ⟨rfl, (List.eraseIdx_sublist _ _).nodup r.nodup, hch⟩, Tracks.del (.inl rfl)⟩

/-- `InsertBefore` the `i`-th cell: the fresh cell goes in at `i` — before the first element the new value is written into
the embedded head and the old first element moves to the fresh cell `h.length + 1`, which goes in behind the head
(`h.length` is `newNode`, off the chain once its contents are in the head: `insertBeforeLink_head`) -/
theorem insertBeforeAt_repr {h : Heap} {as xs} {i a : Nat} (r : Repr h as xs) (hi : as[i]? = some a) (v : Int) :
    ∃ h' as', insertBefore h (some a) v = .ok (h', .ok) ∧ Repr h' as' (xs.take i ++ v :: xs.drop i) ∧
      Tracks true (.ins i) as as' := by
  have hil := lt_of_get hi
  obtain ⟨as', y, xs', rfl, rfl, h0, -⟩ := r.cons
  cases i with
  | zero =>
    obtain rfl : 0 = a := by simpa using hi
    obtain ⟨h', hl, hrep⟩ := insertBeforeLink_head (v := v) r
    obtain ⟨b, hf⟩ := find_mem (x := y) r List.mem_cons_self
    exact ⟨h', _, by simp only [DList.insertBefore, load, h0, hf, hl, ListRes.ok_bind], hrep,
      Tracks.ins (as := 0 :: as') (q := 1) _ (.inr ⟨rfl, rfl⟩) hil⟩
  | succ k =>
    obtain ⟨nd, h', hp, hv, hl, hch⟩ := insertBeforeAt_chain (v := v) ⟨y, as'.head?, none⟩ r.chain r.nodup hi
    obtain ⟨b, hf⟩ := find_mem r (List.mem_of_getElem? (i := k + 1) hv)
    exact ⟨h', _, by simp only [DList.insertBefore, load, h0, hp, hf, hl, ListRes.ok_bind],
      ⟨rfl, nodup_take_insert (k + 1) h.length r.nodup (fun q => Nat.lt_irrefl _ (r.chain.lt_length _ q)), hch⟩,
      Tracks.ins _ (.inl rfl) (Nat.le_of_lt hil)⟩

/-- the new value is written into the embedded head, the old first element moves to the fresh cell -/
theorem unshift_repr {h : Heap} {as xs} (r : Repr h as xs) (v : Int) :
    ∃ h', unshift h v = .ok h' ∧ Repr h' (as.take 1 ++ h.length :: as.drop 1) (v :: xs) := by
  obtain ⟨as', x, xs', rfl, rfl, h0, hc, hnot⟩ := r.cons
  have hl0 : 0 < h.length := lt_of_get h0
  obtain ⟨h', hr, hrep⟩ := relink_front (v := v) r (Nat.le_refl _)
    (hf := (h ++ [(⟨x, as'.head?, none⟩ : Node)]).set 0 ⟨v, some h.length, none⟩)
    (get_set_self hl0) (get_set_new hl0)
    (fun b hb => get_set_append (fun e => hnot (e ▸ hb)) (hc.lt_length b hb))
  exact ⟨h', by simpa [unshift, load, h0] using hr, hrep⟩

theorem append_repr {h : Heap} {as xs} (r : Repr h as xs) (v : Int) :
    ∃ h', append h v = .ok h' ∧ Repr h' (as ++ [h.length]) (xs ++ [v]) := by
  have hlt := r.chain.lt_length
  obtain ⟨as', x, xs', rfl, rfl, h0, -⟩ := r.cons
  have hla := lastAddr_chain r.chain (h.length + 1) (Nat.lt_of_succ_lt r.fuel)
  obtain ⟨n, hn, hnn, hch⟩ := Chain.snoc v (by simp) r.nodup r.chain
  refine ⟨_, ?_, rfl, ?_, hch⟩
  · simp only [append, load, h0, ListRes.ok_bind]
    split <;> simp only [set_self h0, hla, hn, hnn, ListRes.ok_bind, ListRes.pure_eq]
  · exact nodup_snoc r.nodup (fun q => Nat.lt_irrefl _ (hlt _ q))

/-- the SECOND cell disappears (its contents move into the head); on a one-element list the value is reset -/
theorem shift_repr {h : Heap} {as xs} (r : Repr h as xs) :
    ∃ h' n, shift h = .ok (h', n) ∧ n.val = xs.head?.getD 0 ∧
      Repr h' (if xs.length > 1 then as.eraseIdx 1 else as) (if xs.length > 1 then xs.tail else [0]) := by
  obtain ⟨as', x, xs', rfl, rfl, h0, hc, -⟩ := r.cons
  cases as' with
  | nil =>
    obtain rfl := chain_nil.mp hc
    exact ⟨h.set 0 ⟨0, none, none⟩, ⟨x, none, none⟩, by simp [shift, load, h0], rfl, rfl, by simp,
      List.getElem?_set_self (lt_of_get h0), trivial⟩
  | cons b bs =>
    obtain ⟨y, ys, rfl, -, -⟩ := chain_cons hc
    obtain ⟨bn, h', hb, hr, hrep⟩ := takeover_head r
    exact ⟨h', ⟨x, some b, none⟩, by simp [shift, load, h0, hb, hr], rfl, hrep⟩

/-- the node handed out is a copy of the NEW last node -/
theorem pop_repr {h : Heap} {as xs} (r : Repr h as xs) :
    ∃ h' n, pop h = .ok (h', n) ∧
      Repr h' (if xs.length > 1 then as.dropLast else as) (if xs.length > 1 then xs.dropLast else xs) ∧
      n.val = (if xs.length > 1 then xs.dropLast.getLast?.getD 0 else 0) := by
  obtain ⟨as', x, xs', rfl, rfl, h0, hc, -⟩ := r.cons
  cases as' with
  | nil =>
    obtain rfl := chain_nil.mp hc
    exact ⟨h, ⟨0, none, none⟩, by simp [pop, load, h0], r, rfl⟩
  | cons b bs =>
    obtain ⟨y, ys, rfl, -, -⟩ := chain_cons hc
    obtain ⟨t, tn, nd, hp, ht, -, hval, hch⟩ := popLoop_chain ⟨x, some b, none⟩ rfl r.chain r.nodup
      (h.length + 1) r.fuel
    exact ⟨h.set t { tn with next := none }, nd,
      by simp only [pop, load, h0, List.head?_cons, ListRes.ok_bind, hp, ht, ListRes.pure_eq],
      ⟨rfl, (List.dropLast_sublist _).nodup r.nodup, hch⟩, hval⟩

theorem handle_sim {h : Heap} {as xs} (r : Repr h as xs) {p a : Nat} (hp : as[p]? = some a) (s : HShape) :
    ∃ h' as', stepItem h (.handle a s) = .ok (h', (nextH xs (s.at p)).1) ∧ Repr h' as' (nextH xs (s.at p)).2 ∧
      Tracks true (editOfH xs (s.at p)) as as' := by
  cases s with
  | delete => exact deleteAt_repr r hp
  | insertAfter v =>
    obtain ⟨h', he, hr⟩ := insertAfterAt_repr r hp v
    exact ⟨h', _, he, hr, Tracks.ins _ (.inl rfl) (lt_of_get hp)⟩
  | insertBefore v => exact insertBeforeAt_repr r hp v

theorem nextD_of_ne {xs : List Int} {op : Op} (h : op ≠ .shift) : nextD xs op = next true xs op :=
  if_neg fun q => h q.1

theorem nextD_of_gt {xs : List Int} {op : Op} (h : xs.length > 1) : nextD xs op = next true xs op :=
  if_neg fun q => q.2 h

theorem nextD_shift (xs : List Int) :
    nextD xs .shift = (.val (xs.head?.getD 0), if xs.length > 1 then xs.tail else [0]) := by
  by_cases hl : xs.length > 1 <;> simp [nextD, next, hl]

/-- an operation that looks a value up and then works through the handle `Find` gives it (`hstep` holds by `rfl`) -/
theorem via_sim {h : Heap} {as xs} (r : Repr h as xs) {op : Op} {x : Int} {s : HShape}
    (hv : viaFind op = some (x, s))
    (hstep : step h op = (find h x >>= fun o => match o with
      | none => pure (h, .notFound)
      | some a => stepItem h (.handle a s))) :
    ∃ h' as', step h op = .ok (h', (nextD xs op).1) ∧ Repr h' as' (nextD xs op).2 ∧
      Tracks true (editOf xs op) as as' := by
  have hn := next_viaFind (sv := true) (xs := xs) hv
  rw [nextD_of_ne (by rintro rfl; cases hv), hstep]
  cases e : xs.idxOf? x with
  | none =>
    rw [e] at hn
    obtain ⟨h1, h2⟩ := Prod.mk.inj hn
    rw [h1, h2, find_none r e]
    exact ⟨h, as, rfl, r, Tracks.refl⟩
  | some p =>
    rw [e] at hn
    obtain ⟨h1, h2⟩ := Prod.mk.inj hn
    obtain ⟨a, ha, hf⟩ := find_some r e
    rw [h1, h2, hf]
    exact handle_sim r ha s

theorem plain_sim {h : Heap} {as xs} (r : Repr h as xs) (op : Op) :
    ∃ h' as', step h op = .ok (h', (nextD xs op).1) ∧ Repr h' as' (nextD xs op).2 ∧
      Tracks true (editOf xs op) as as' := by
  cases op with
  | insertAfter x v => exact via_sim r (s := .insertAfter v) rfl rfl
  | insertBefore x v => exact via_sim r (s := .insertBefore v) rfl rfl
  | delete x => exact via_sim r (s := .delete) rfl rfl
  | unshift v =>
    obtain ⟨h', he, hr⟩ := unshift_repr r v
    exact ⟨h', _, by show (unshift h v >>= _) = _; rw [he]; rfl, hr,
      Tracks.ins _ (.inr ⟨rfl, rfl⟩) (lt_of_get r.get_zero)⟩
  | append v =>
    obtain ⟨h', he, hr⟩ := append_repr r v
    exact ⟨h', _, by show (append h v >>= _) = _; rw [he]; rfl, hr, Tracks.append _⟩
  | shift =>
    obtain ⟨h', n, he, hn, hr⟩ := shift_repr r
    rw [nextD_shift]
    exact ⟨h', _, by show (shift h >>= _) = _; rw [he, ← hn]; rfl, hr, (Tracks.del (.inr ⟨rfl, .inl rfl⟩)).of_if⟩
  | pop =>
    obtain ⟨h', n, he, hr, -⟩ := pop_repr r
    exact ⟨h', _, by show (pop h >>= _) = _; rw [he]; rfl, hr, Tracks.dropLast r.chain.length_eq⟩
  | replace o n =>
    obtain ⟨h', he, hr⟩ := replace_repr r o n true
    exact ⟨h', as, he, hr, Tracks.refl⟩
  | find x =>
    obtain ⟨o, hf, ho⟩ := find_isSome r x
    exact ⟨h, as, by show (find h x >>= _) = _; rw [hf]; exact congrArg (fun b => ListRes.ok (h, Ans.bool b)) ho, r,
      Tracks.refl⟩
  | first => exact ⟨h, as, by show (first h >>= _) = _; rw [first_repr r]; rfl, r, Tracks.refl⟩
  | last => exact ⟨h, as, by show (last h >>= _) = _; rw [last_repr r]; rfl, r, Tracks.refl⟩
  | each => exact ⟨h, as, rfl, r, Tracks.refl⟩

end GoguVerif.Lemmas.C19H.DList

namespace GoguVerif.Theorems.C19H.DList
open GoguVerif.Spec.C19 GoguVerif.Lemmas.C19H

/-- `nextD` is an outcome the specification allows (declared into `Theorems.C19H.DList`, beside `nextD` of
`Lemmas/C19/Items.lean`) -/
theorem nextD_allowed (xs : List Int) (op : Op) : Allowed true xs op (nextD xs op).1 (nextD xs op).2 := by
  unfold nextD
  split
  · rename_i hc
    exact allowed_iff.mpr (.inr ⟨hc.1, hc.2, by rw [hc.1]; rfl⟩)
  · exact allowed_iff.mpr (.inl rfl)

end GoguVerif.Theorems.C19H.DList
