import GoguVerif.Spec.C17
import GoguVerif.Lemmas.C17Hist
/-!
# C17 — the run of the LTS as the monitor sees it, and the cache-history bridge

`specExecs` / `specCallsOn` render the event log of a run in the format `Spec.C17.check` evaluates.  In a
`Settled` state the entries `Spec.C17.history` computes from the rendered executions are the cells the
offers `h.sets` produced: the successful executions of a key, in start order, are the leaders of its offers
(`leaders_eq`), and `historyOf` follows the specification's own recursion over the executions with the offers beside it
(`history_settled`; member by member `history_of_offer` / `offer_of_history`, at the end `finalEntry_is_cache`).  This
ties the monitor's cache clauses to what the callers' reads saw (`ReadInv`).  The declarations from `absCell`
on are in namespace `Theorems.C17`, which `Theorems/C17.lean` continues.
-/
namespace GoguVerif.Lemmas.C17

/-- the executions `history` looks at: successful ones of key `k` -/
def okOfKey (k : Int) (e : Spec.C17.Exec) : Bool := e.key == k && e.success

theorem history_go_cons (exp k i : Int) (cur : Spec.C17.Entry) (e : Spec.C17.Exec) (r : List Spec.C17.Exec) :
    Spec.C17.history.go exp k i cur (e :: r) =
      if okOfKey k e then (i, Spec.C17.offer exp e.endT cur e.val) ::
        Spec.C17.history.go exp k (i + 1) (Spec.C17.offer exp e.endT cur e.val) r
      else Spec.C17.history.go exp k (i + 1) cur r := by
  simp only [Spec.C17.history.go, okOfKey]
  by_cases h : (e.key == k && e.success) = true
  · simp only [h, if_true]
  · simp only [h]

theorem filterMap_eq_map {α β : Type} (f : α → Option β) (d : α → β) :
    ∀ (L : List α), (∀ x ∈ L, f x = some (d x)) → L.filterMap f = L.map d
  | [], _ => rfl
  | x :: L, hx => by
    rw [List.filterMap_cons, hx x List.mem_cons_self, List.map_cons,
      filterMap_eq_map f d L (fun y hy => hx y (List.mem_cons_of_mem _ hy))]

end GoguVerif.Lemmas.C17

namespace GoguVerif.Theorems.C17
open Model.C17 Lemmas.C17

variable {cfg : Cfg} {c0 : Nat → Cell} {now0 : Int} {s : State} {g : EvLog} {h : HLog}

/-- the model's cache cell seen as the specification's entry -/
def absCell : Cell → Spec.C17.Entry
  | none => none
  | some (v, exp) => some (v, if exp > 0 then some exp else none)

theorem live_abs (now : Int) (c : Cell) : Spec.C17.live now (absCell c) = cellGet now c := by
  obtain _ | ⟨v, e⟩ := c
  · rfl
  · show _ = Model.Funcs.cellGet now (some (v, e))
    rw [Lemmas.CacheCell.cellGet_some]
    by_cases he : e > 0
    · simp only [absCell, he, if_true, Spec.C17.live, Int.not_le.2 he, false_or]
    · simp only [absCell, he, if_false, Spec.C17.live, Int.not_lt.1 he, true_or, if_true]

/-- an offer to the specification's entry is `SetDefault` on the cell (instants are not negative: a deadline
`now + expTime` counts as one only if positive) -/
theorem offer_abs (expTime now : Int) (c : Cell) (v : Int) (h0 : 0 ≤ now) :
    Spec.C17.offer expTime now (absCell c) v = absCell (cellSet expTime now c v) := by
  unfold Spec.C17.offer
  rw [live_abs]
  cases hg : cellGet now c with
  | some w =>
    have e : cellSet expTime now c v = c := Lemmas.CacheCell.cellSet_of_live hg (Int.le_refl _)
    rw [e]
  | none =>
    have e : cellSet expTime now c v = some (v, defaultExp expTime now) :=
      Lemmas.CacheCell.cellSet_of_get_none expTime now v c hg
    rw [e]
    show some (v, _) = some (v, if Model.Funcs.defaultExp expTime now > 0 then some (Model.Funcs.defaultExp expTime now)
      else none)
    by_cases he : expTime > 0
    · rw [Lemmas.CacheCell.defaultExp_pos he, if_pos he, if_pos (by omega)]
    · rw [if_neg he, if_neg (Int.not_lt.2 (Lemmas.CacheCell.defaultExp_nonpos he now))]

/-- how `d` renders the execution behind an offer: with the offer's value and instant, which is not negative -/
structure OfferExec (d : Nat → Spec.C17.Exec) (p : Nat × Int × Int) : Prop where
  val : (d p.1).val = p.2.1
  endT : (d p.1).endT = p.2.2
  nonneg : 0 ≤ p.2.2

/-- what `Spec.C17.history` computes for key `k` on the executions `O.map d`, from index `i` and the cell `cell`, when the
successful executions of `k` among them are, in this order, those of the offers `T` -/
structure HistoryOf (E k : Int) (d : Nat → Spec.C17.Exec) (O : List Nat) (T : List (Nat × Int × Int)) (i : Int)
    (cell : Cell) : Prop where
  /-- an offer stands in it at the place of its leader, with the cell the offers up to and including it have produced -/
  ofOffer : ∀ U p W, T = U ++ p :: W → ∃ A B, O = A ++ p.1 :: B ∧
    (i + (A.length : Int), absCell (foldSets E cell (U ++ [p]))) ∈ Spec.C17.history.go E k i (absCell cell) (O.map d)
  /-- and it has no other members -/
  toOffer : ∀ j en, (j, en) ∈ Spec.C17.history.go E k i (absCell cell) (O.map d) →
    ∃ A l B, O = A ++ l :: B ∧ j = i + (A.length : Int) ∧ okOfKey k (d l) = true ∧
      ∀ U p W, T = U ++ p :: W → p.1 = l → en = absCell (foldSets E cell (U ++ [p]))
  /-- what `Spec.C17.finalEntry` reads off it is the cell after all the offers -/
  last : (match (Spec.C17.history.go E k i (absCell cell) (O.map d)).getLast? with
          | some (_, e) => e
          | none => absCell cell) = absCell (foldSets E cell T)

/-- one pass over the executions, the offers being consumed as their leaders come by -/
theorem historyOf (E k : Int) (d : Nat → Spec.C17.Exec) :
    ∀ (O : List Nat) (T : List (Nat × Int × Int)) (i : Int) (cell : Cell),
    O.filter (fun l => okOfKey k (d l)) = T.map (·.1) → (T.map (·.1)).Nodup →
    (∀ p ∈ T, OfferExec d p) → HistoryOf E k d O T i cell
  | [], T, i, cell, hf, _, _ => by
    cases List.map_eq_nil_iff.1 hf.symm
    exact ⟨fun U p W h => (by cases U <;> cases h), fun _ _ h => absurd h List.not_mem_nil, rfl⟩
  | o :: O, T, i, cell, hf, hn, hT => by
    have len : ∀ A : List Nat, i + ((o :: A).length : Int) = i + 1 + (A.length : Int) := fun A => by
      rw [List.length_cons]; omega
    by_cases ho : okOfKey k (d o) = true
    · rw [List.filter_cons_of_pos (p := fun l => okOfKey k (d l)) ho] at hf
      obtain ⟨p0, T', rfl, hp0, hf'⟩ := List.map_eq_cons_iff.1 hf.symm
      subst hp0
      have R := hT p0 List.mem_cons_self
      have hn' : p0.1 ∉ T'.map (·.1) ∧ (T'.map (·.1)).Nodup := List.nodup_cons.1 hn
      have IH := historyOf E k d O T' (i + 1) (cellSet E p0.2.2 cell p0.2.1) hf'.symm hn'.2
        fun p hp => hT p (List.mem_cons_of_mem _ hp)
      have hgo : Spec.C17.history.go E k i (absCell cell) ((p0.1 :: O).map d) =
          (i, absCell (cellSet E p0.2.2 cell p0.2.1)) ::
            Spec.C17.history.go E k (i + 1) (absCell (cellSet E p0.2.2 cell p0.2.1)) (O.map d) := by
        rw [List.map_cons, history_go_cons, if_pos ho, R.val, R.endT, offer_abs _ _ _ _ R.nonneg]
      refine ⟨fun U p W h => ?_, fun j en h => ?_, ?_⟩
      · rw [hgo]
        cases U with
        | nil => cases h; exact ⟨[], O, rfl, List.mem_cons.2 (Or.inl (congrArg (·, _) (Int.add_zero i)))⟩
        | cons u U' =>
          cases h
          obtain ⟨A, B, hO, hm⟩ := IH.ofOffer U' p W rfl
          exact ⟨p0.1 :: A, B, by rw [hO]; rfl, List.mem_cons_of_mem _ (len A ▸ hm)⟩
      · rw [hgo] at h
        rcases List.mem_cons.1 h with h | h
        · cases h
          refine ⟨[], p0.1, O, rfl, (Int.add_zero i).symm, ho, fun U p W hT' hp => ?_⟩
          cases U with
          | nil => cases hT'; rfl
          | cons u U' =>
            cases hT'
            exact absurd (List.mem_map.2 ⟨p, List.mem_append_right _ List.mem_cons_self, hp⟩) hn'.1
        · obtain ⟨A, l, B, hO, hj, hl, hen⟩ := IH.toOffer j en h
          refine ⟨p0.1 :: A, l, B, by rw [hO]; rfl, hj.trans (len A).symm, hl, fun U p W hT' hp => ?_⟩
          cases U with
          | nil =>
            -- `l` comes later in `O` and counts for `k`: it leads one of the other offers, not the first as well
            cases hT'
            have : l ∈ T'.map (·.1) :=
              hf' ▸ List.mem_filter.2 ⟨hO ▸ List.mem_append_right A List.mem_cons_self, hl⟩
            exact absurd (hp.symm ▸ this) hn'.1
          | cons u U' => cases hT'; exact hen U' p W rfl hp
      · rw [hgo, List.getLast?_cons]
        refine Eq.trans ?_ IH.last
        cases (Spec.C17.history.go E k (i + 1) (absCell (cellSet E p0.2.2 cell p0.2.1)) (O.map d)).getLast? <;> rfl
    · rw [List.filter_cons_of_neg (p := fun l => okOfKey k (d l)) ho] at hf
      have IH := historyOf E k d O T (i + 1) cell hf hn hT
      have hgo : Spec.C17.history.go E k i (absCell cell) ((o :: O).map d) =
          Spec.C17.history.go E k (i + 1) (absCell cell) (O.map d) := by
        rw [List.map_cons, history_go_cons, if_neg ho]
      refine ⟨fun U p W h => ?_, fun j en h => ?_, hgo ▸ IH.last⟩
      · obtain ⟨A, B, hO, hm⟩ := IH.ofOffer U p W h
        exact ⟨o :: A, B, by rw [hO]; rfl, hgo ▸ len A ▸ hm⟩
      · obtain ⟨A, l, B, hO, hj, hl, hen⟩ := IH.toOffer j en (hgo ▸ h)
        exact ⟨o :: A, l, B, by rw [hO]; rfl, hj.trans (len A).symm, hl, hen⟩

def resOut : Res → Int
  | .ok _ => 0
  | .err => 1

def resVal : Res → Int
  | .ok v => v
  | .err => 0

/-- the completed execution of `l`'s function as the monitor sees it -/
def specExec (cfg : Cfg) (s : State) (g : EvLog) (l : Nat) : Option Spec.C17.Exec :=
  match g.startAt l, g.endAt l, s.execRes l, g.startT l, g.endT l with
  | some a, some b, some r, some ta, some tb =>
    some { key := cfg.key l, startSeq := a, startT := ta, endSeq := b, endT := tb, leader := l,
           out := resOut r, val := resVal r }
  | _, _, _, _, _ => none

def specExecs (cfg : Cfg) (s : State) (g : EvLog) (ids : List Nat) : List Spec.C17.Exec :=
  ids.filterMap (specExec cfg s g)

/-- `e` is `l`'s execution as `specExec` renders it -/
structure ExecOf (cfg : Cfg) (s : State) (g : EvLog) (l : Nat) (e : Spec.C17.Exec) (a b : Nat) (r : Res) : Prop where
  startAt : g.startAt l = some a
  endAt : g.endAt l = some b
  execRes : s.execRes l = some r
  key : e.key = cfg.key l
  startSeq : e.startSeq = a
  endSeq : e.endSeq = b
  leader : e.leader = l
  out : e.out = resOut r
  val : e.val = resVal r
  startT : g.startT l = some e.startT
  endT : g.endT l = some e.endT

theorem specExec_some {l : Nat} {e : Spec.C17.Exec} (h : specExec cfg s g l = some e) :
    ∃ a b r, ExecOf cfg s g l e a b r := by
  unfold specExec at h
  split at h
  · rename_i a b r ta tb h1 h2 h3 h4 h5
    simp only [Option.some.injEq] at h
    subst h
    exact ⟨a, b, r, h1, h2, h3, rfl, rfl, rfl, rfl, rfl, rfl, h4, h5⟩
  · cases h

theorem exclusive_of_pairwise (es : List Spec.C17.Exec)
    (h : es.Pairwise (fun e f => f.key ≠ e.key ∨ Spec.C17.disjoint e f = true)) :
    Spec.C17.exclusive es = true := by
  induction es with
  | nil => rfl
  | cons e r ih =>
    rw [List.pairwise_cons] at h
    simp only [Spec.C17.exclusive, Bool.and_eq_true, List.all_eq_true, Bool.or_eq_true, bne_iff_ne]
    exact ⟨fun f hf => h.1 f hf, ih h.2⟩

/-- the monitor's source index: position of the execution led by `l` among the rendered executions -/
def srcIndex (execs : List Spec.C17.Exec) : Option Src → Int
  | some (.exec l) =>
    match execs.findIdx? (fun e => e.leader == (l : Int)) with
    | some i => (i : Int)
    | none => -1
  | _ => -1

/-- a returned call as the monitor sees it -/
def specCall (cfg : Cfg) (s : State) (g : EvLog) (execs : List Spec.C17.Exec) (c : Nat) : Option Spec.C17.Call :=
  match s.pc c, g.invAt c, g.retAt c, g.invT c, g.retT c with
  | .done r, some i, some t, some ti, some tt =>
    some { id := c, key := cfg.key c, invSeq := i, invT := ti, retSeq := t, retT := tt,
           out := resOut r, val := resVal r, src := srcIndex execs (s.src c) }
  | _, _, _, _, _ => none

/-- the callers `ids` rendered against the executions of the callers `L` (for the source indices) -/
def specCallsOn (cfg : Cfg) (s : State) (g : EvLog) (L ids : List Nat) : List Spec.C17.Call :=
  ids.filterMap (specCall cfg s g (specExecs cfg s g L))

def specCalls (cfg : Cfg) (s : State) (g : EvLog) (ids : List Nat) : List Spec.C17.Call :=
  specCallsOn cfg s g ids ids

/-- `x` is `c`'s call as `specCall` renders it -/
structure CallOf (cfg : Cfg) (s : State) (g : EvLog) (execs : List Spec.C17.Exec) (c : Nat) (x : Spec.C17.Call)
    (r : Res) (i t : Nat) : Prop where
  pc : s.pc c = .done r
  invAt : g.invAt c = some i
  retAt : g.retAt c = some t
  id : x.id = c
  key : x.key = cfg.key c
  invSeq : x.invSeq = i
  retSeq : x.retSeq = t
  out : x.out = resOut r
  val : x.val = resVal r
  src : x.src = srcIndex execs (s.src c)
  invT : g.invT c = some x.invT
  retT : g.retT c = some x.retT

theorem specCall_some {execs : List Spec.C17.Exec} {c : Nat} {x : Spec.C17.Call}
    (h : specCall cfg s g execs c = some x) : ∃ r i t, CallOf cfg s g execs c x r i t := by
  unfold specCall at h
  split at h
  · rename_i r i t ti tt h1 h2 h3 h4 h5
    simp only [Option.some.injEq] at h
    subst h
    exact ⟨r, i, t, h1, h2, h3, rfl, rfl, rfl, rfl, rfl, rfl, rfl, h4, h5⟩
  · cases h

theorem mem_specExecs {L : List Nat} {e : Spec.C17.Exec} (he : e ∈ specExecs cfg s g L) :
    ∃ l a b r, l ∈ L ∧ ExecOf cfg s g l e a b r := by
  obtain ⟨l, hl, hle⟩ := List.mem_filterMap.1 he
  obtain ⟨a, b, r, E⟩ := specExec_some hle
  exact ⟨l, a, b, r, hl, E⟩

theorem mem_specCallsOn {L ids : List Nat} {x : Spec.C17.Call} (hx : x ∈ specCallsOn cfg s g L ids) :
    ∃ c r i t, specCall cfg s g (specExecs cfg s g L) c = some x ∧ CallOf cfg s g (specExecs cfg s g L) c x r i t := by
  obtain ⟨c, _, hcx⟩ := List.mem_filterMap.1 hx
  obtain ⟨r, i, t, R⟩ := specCall_some hcx
  exact ⟨c, r, i, t, hcx, R⟩

theorem result_render (r : Res) (e : Spec.C17.Exec) (ho : e.out = resOut r) (hv : e.val = resVal r) :
    ((resOut r, resVal r) == e.result) = true := by
  cases r with
  | ok v => simp [Spec.C17.Exec.result, ho, hv, resOut, resVal]
  | err => simp [Spec.C17.Exec.result, ho, resOut, resVal]

theorem call_served (hi : Inv cfg c0 s) {L : List Nat} {c : Nat} {x : Spec.C17.Call} {r : Res} {i t : Nat}
    (R : CallOf cfg s g (specExecs cfg s g L) c x r i t) :
    x.src = -1 ∨ ∃ (j l : Nat) (e : Spec.C17.Exec) (a b : Nat), x.src = (j : Int) ∧ s.src c = some (.exec l) ∧
      (specExecs cfg s g L)[j]? = some e ∧ l ∈ L ∧ ExecOf cfg s g l e a b r ∧ s.pc l = .done r ∧
      e.key = x.key ∧ (x.out, x.val) = e.result := by
  rw [R.src]
  cases hs : s.src c with
  | none => exact Or.inl rfl
  | some y =>
    cases y with
    | hit v => exact Or.inl rfl
    | lhit l v => exact Or.inl rfl
    | exec l =>
      simp only [srcIndex]
      split
      · rename_i j hf
        have hj := List.of_findIdx?_eq_some hf
        cases he : (specExecs cfg s g L)[j]? with
        | none => rw [he] at hj; cases hj
        | some e =>
          rw [he] at hj
          obtain ⟨l', a, b, r', hl', E⟩ := mem_specExecs (List.mem_of_getElem? he)
          cases Int.ofNat_inj.1 (E.leader.symm.trans (beq_iff_eq.1 hj))
          obtain ⟨hr, hd, _, hk⟩ := src_exec_done hi R.pc hs
          cases hr.symm.trans E.execRes
          exact Or.inr ⟨j, l, e, a, b, rfl, rfl, he, hl', E, hd, by rw [E.key, R.key, hk],
            by rw [R.out, R.val]; exact eq_of_beq (result_render r e E.out E.val)⟩
      · exact Or.inl rfl

theorem specCall_complete (hsi : SInv cfg s g) (execs : List Spec.C17.Exec) (c : Nat) (r : Res)
    (hd : s.pc c = .done r) : ∃ x, specCall cfg s g execs c = some x := by
  obtain ⟨i, t, h1, h2⟩ := stamps_of_done hsi hd
  obtain ⟨ti, hti⟩ : ∃ ti, g.invT c = some ti := hsi.timed (e := .inv) h1
  obtain ⟨tt, htt⟩ : ∃ tt, g.retT c = some tt := hsi.timed (e := .ret) h2
  simp only [specCall, hd, h1, h2, hti, htt]
  exact ⟨_, rfl⟩

/-- the scenario's callers have all returned (or were never invoked) -/
def Quiescent (s : State) (ids : List Nat) : Prop := ∀ c ∈ ids, s.pc c = .idle ∨ ∃ r, s.pc c = .done r

theorem leaders_nodup (ids : List Nat) (hn : ids.Nodup) :
    ((specExecs cfg s g ids).map (·.leader)).Nodup := by
  unfold specExecs
  rw [List.Nodup, List.pairwise_map]
  refine List.Pairwise.filterMap (R := fun a b => a ≠ b) _ ?_ hn
  intro l l' hne e he e' he'
  obtain ⟨_, _, _, E⟩ := specExec_some he
  obtain ⟨_, _, _, E'⟩ := specExec_some he'
  rw [E.leader, E'.leader]
  intro hc
  exact hne (by omega)

theorem leaderRet_of_done (h : SInv cfg s g) (L ids : List Nat) (l : Nat) (hl : l ∈ ids)
    (r : Res) (tl : Nat) (hd : s.pc l = .done r) (hr : g.retAt l = some tl) (e : Spec.C17.Exec)
    (he : e.leader = (l : Int)) :
    Spec.C17.leaderRet (specCallsOn cfg s g L ids) e = some (tl : Int) := by
  obtain ⟨x, hx⟩ := specCall_complete h (specExecs cfg s g L) l r hd
  have hmem : x ∈ specCallsOn cfg s g L ids := List.mem_filterMap.2 ⟨l, hl, hx⟩
  obtain ⟨_, _, t, R⟩ := specCall_some hx
  cases hr.symm.trans R.retAt
  unfold Spec.C17.leaderRet
  cases hf : (specCallsOn cfg s g L ids).find? (fun c => c.id == e.leader) with
  | none =>
    rw [List.find?_eq_none] at hf
    exact absurd (by simp [R.id, he]) (hf x hmem)
  | some y =>
    have hy := List.find?_some hf
    have hym := List.mem_of_find?_eq_some hf
    simp only [beq_iff_eq] at hy
    obtain ⟨c', _, _, _, hc', R'⟩ := mem_specCallsOn hym
    have : c' = l := by rw [R'.id, he] at hy; exact Int.ofNat_inj.1 hy
    subst this
    rw [hx] at hc'; cases hc'
    simp [R.retSeq]

theorem specExec_complete (hi : Inv cfg c0 s) (hs : SInv cfg s g) (l : Nat) (r : Res) (h3 : s.execRes l = some r) :
    ∃ e, specExec cfg s g l = some e := by
  obtain ⟨b, he⟩ := endAt_of_execRes hs h3
  obtain ⟨a, h2⟩ := startAt_of_execRes hi hs h3
  obtain ⟨ta, hta⟩ : ∃ ta, g.startT l = some ta := hs.timed (e := .start) h2
  obtain ⟨tb, htb⟩ : ∃ tb, g.endT l = some tb := hs.timed (e := .end) he
  simp only [specExec, h2, he, h3, hta, htb]
  exact ⟨_, rfl⟩

/-- `specExec` made total: in a settled state every member of `h.order` is rendered (`order_rendered`), so that
`specExecs` is a `map` (`execs_eq_map`) -/
def execD (cfg : Cfg) (s : State) (g : EvLog) (l : Nat) : Spec.C17.Exec :=
  match specExec cfg s g l with
  | some e => e
  | none => default

/-- the hypotheses under which the rendered log is complete.  `sub`: `ids` contains every caller whose function ran
(`execOwned` looks the leader of an execution up among the rendered callers) -/
structure Settled (cfg : Cfg) (c0 : Nat → Cell) (now0 : Int) (s : State) (g : EvLog) (h : HLog) (ids : List Nat) :
    Prop where
  run : ReachableH cfg (init c0 now0) s g h
  now0 : 0 ≤ now0
  quiet : Quiescent s ids
  sub : ∀ l ∈ h.order, l ∈ ids

theorem Settled.all {ids : List Nat} (st : Settled cfg c0 now0 s g h ids) : AllInv cfg c0 now0 s g h :=
  allinv_reachable st.run

theorem Settled.logP {ids : List Nat} (st : Settled cfg c0 now0 s g h ids) :
    ReachableLogP cfg (init c0 now0) s g := reachableH_logP st.run

theorem Settled.log {ids : List Nat} (st : Settled cfg c0 now0 s g h ids) :
    ReachableLog cfg (init c0 now0) s g := reachableLogP_reachableLog st.logP

theorem settled_leader_done {ids : List Nat} (st : Settled cfg c0 now0 s g h ids) (l : Nat) (hl : l ∈ h.order) :
    ∃ r, s.pc l = .done r ∧ s.src l = some (.exec l) ∧ s.execRes l = some r := by
  have A := st.all
  obtain ⟨a, ha⟩ := (A.ord.mem l).1 hl
  have S := (A.inv.loc l).toStarted (A.sinv.of_cell (e := .start) ha)
  rcases st.quiet l (st.sub l hl) with hp | ⟨r, hp⟩
  · exact absurd hp S.invoked
  · exact ⟨r, hp, S.src, (src_exec_done A.inv hp S.src).1⟩

theorem order_rendered {ids : List Nat} (st : Settled cfg c0 now0 s g h ids) (l : Nat) (hl : l ∈ h.order) :
    specExec cfg s g l = some (execD cfg s g l) := by
  obtain ⟨r, _, _, hr⟩ := settled_leader_done st l hl
  obtain ⟨e, he⟩ := specExec_complete st.all.inv st.all.sinv l r hr
  simp only [execD, he]

theorem execs_eq_map {ids : List Nat} (st : Settled cfg c0 now0 s g h ids) :
    specExecs cfg s g h.order = h.order.map (execD cfg s g) :=
  filterMap_eq_map _ _ _ (fun l hl => order_rendered st l hl)

theorem okOfKey_execD_iff {ids : List Nat} (st : Settled cfg c0 now0 s g h ids) (k l : Nat) (hl : l ∈ h.order) :
    okOfKey (k : Int) (execD cfg s g l) = true ↔ (cfg.key l = k ∧ ∃ v, s.execRes l = some (.ok v)) := by
  obtain ⟨_, _, r, E⟩ := specExec_some (order_rendered st l hl)
  have h3 := E.execRes
  simp only [okOfKey, Spec.C17.Exec.success, Bool.and_eq_true, beq_iff_eq, bne_iff_ne, ne_eq, E.key, E.out]
  constructor
  · rintro ⟨h1, h2⟩
    refine ⟨by omega, ?_⟩
    cases r with
    | ok v => exact ⟨v, h3⟩
    | err => simp [resOut] at h2
  · rintro ⟨h1, v, h2⟩
    rw [h3] at h2; cases h2
    exact ⟨by omega, by simp [resOut]⟩

theorem setLeader_mem_iff {ids : List Nat} (st : Settled cfg c0 now0 s g h ids) (k x : Nat) :
    x ∈ (h.sets.filter (fun p => cfg.key p.1 == k)).map (·.1) ↔
      (x ∈ h.order ∧ cfg.key x = k ∧ ∃ v, s.execRes x = some (.ok v)) := by
  have A := st.all
  simp only [List.mem_map, List.mem_filter, beq_iff_eq]
  constructor
  · rintro ⟨p, ⟨hp, hk⟩, rfl⟩
    obtain ⟨f1, _⟩ := A.sets.fact p hp
    exact ⟨(A.ord.mem _).2 (startAt_of_execRes A.inv A.sinv f1), hk, p.2.1, f1⟩
  · rintro ⟨hx, hk, v, hv⟩
    obtain ⟨r, h1, h2, h3⟩ := settled_leader_done st x hx
    rw [hv] at h3; cases h3
    obtain ⟨p, hp, hpx⟩ := A.sets.compl x (Or.inr ⟨v, h1, h2⟩)
    exact ⟨p, ⟨hp, by rw [hpx]; exact hk⟩, hpx⟩

theorem startsBefore_asym {ids : List Nat} (st : Settled cfg c0 now0 s g h ids) (a b : Nat) (ha : a ∈ h.order)
    (hb : b ∈ h.order) (h1 : startsBefore g a b) (h2 : startsBefore g b a) : False := by
  obtain ⟨x, hx⟩ := (st.all.ord.mem a).1 ha
  obtain ⟨y, hy⟩ := (st.all.ord.mem b).1 hb
  have := h1 x y hx hy
  have := h2 y x hy hx
  omega

theorem setLeaders_sorted {ids : List Nat} (st : Settled cfg c0 now0 s g h ids) (k : Nat) :
    ((h.sets.filter (fun p => cfg.key p.1 == k)).map (·.1)).Pairwise (startsBefore g) := by
  rw [List.pairwise_map]
  have := st.all.sets.sorted.sublist (List.filter_sublist (p := fun p => cfg.key p.1 == k))
  refine List.Pairwise.imp_of_mem ?_ this
  intro p q hp hq hpq
  simp only [List.mem_filter, beq_iff_eq] at hp hq
  exact hpq (by rw [hp.2, hq.2])

theorem setLeaders_nodup {ids : List Nat} (st : Settled cfg c0 now0 s g h ids) (k : Nat) :
    ((h.sets.filter (fun p => cfg.key p.1 == k)).map (·.1)).Nodup :=
  (setLeaders_sorted st k).imp_of_mem fun {a b} ha _ hab e => by
    subst e
    have := ((setLeader_mem_iff st k a).1 ha).1
    exact startsBefore_asym st a a this this hab hab

theorem order_nodup {ids : List Nat} (st : Settled cfg c0 now0 s g h ids) : h.order.Nodup := by
  refine List.Pairwise.imp_of_mem ?_ st.all.ord.sorted
  intro a b ha _ hab heq
  subst heq
  exact startsBefore_asym st a a ha ha hab hab

/-- two lists sorted by the start stamps, with the same members -/
theorem leaders_eq {ids : List Nat} (st : Settled cfg c0 now0 s g h ids) (k : Nat) :
    h.order.filter (fun l => okOfKey (k : Int) (execD cfg s g l)) =
      (h.sets.filter (fun p => cfg.key p.1 == k)).map (·.1) := by
  have mem : ∀ x, x ∈ (h.sets.filter (fun p => cfg.key p.1 == k)).map (·.1) → x ∈ h.order :=
    fun x hx => ((setLeader_mem_iff st k x).1 hx).1
  refine List.Perm.eq_of_pairwise (le := startsBefore g)
    (fun a b ha hb h1 h2 => (startsBefore_asym st a b (List.filter_sublist.subset ha) (mem b hb) h1 h2).elim)
    (st.all.ord.sorted.sublist List.filter_sublist) (setLeaders_sorted st k)
    ((List.perm_ext_iff_of_nodup ((order_nodup st).sublist List.filter_sublist) (setLeaders_nodup st k)).2 fun x => ?_)
  rw [setLeader_mem_iff st k x, List.mem_filter]
  exact ⟨fun ⟨h1, h2⟩ => ⟨h1, (okOfKey_execD_iff st k x h1).1 h2⟩, fun ⟨h1, h2⟩ => ⟨h1, (okOfKey_execD_iff st k x h1).2 h2⟩⟩

theorem set_render {ids : List Nat} (st : Settled cfg c0 now0 s g h ids) (p : Nat × Int × Int) (hp : p ∈ h.sets) :
    OfferExec (execD cfg s g) p := by
  have A := st.all
  obtain ⟨f1, f2, _⟩ := A.sets.fact p hp
  obtain ⟨_, _, r, E⟩ := specExec_some (order_rendered st p.1 ((A.ord.mem _).2 (startAt_of_execRes A.inv A.sinv f1)))
  cases f1.symm.trans E.execRes
  exact ⟨by rw [E.val]; rfl, Option.some.inj (E.endT.symm.trans f2), Int.le_trans st.now0 (A.sets.after p hp)⟩

theorem history_settled {ids : List Nat} (st : Settled cfg c0 now0 s g h ids) (k : Nat) :
    HistoryOf cfg.expTime k (execD cfg s g) h.order (h.sets.filter (fun p => cfg.key p.1 == k)) 0 (c0 k) :=
  historyOf _ _ _ _ _ _ _ (leaders_eq st k) (setLeaders_nodup st k) fun q hq =>
    set_render st q (List.filter_sublist.subset hq)

theorem offers_split {c m : Nat} {T1 T2 : List (Nat × Int × Int)} {p : Nat × Int × Int}
    (hsplit : offersSeen cfg h c m = T1 ++ p :: T2) :
    h.sets.filter (fun q => cfg.key q.1 == cfg.key c) =
      T1 ++ p :: (T2 ++ (h.sets.drop m).filter (fun q => cfg.key q.1 == cfg.key c)) := by
  conv => lhs; rw [← List.take_append_drop m h.sets]
  rw [List.filter_append]
  have : (h.sets.take m).filter (fun q => cfg.key q.1 == cfg.key c) = T1 ++ p :: T2 := hsplit
  rw [this]; simp

/-- the cache before the run, as the monitor's initial entries -/
def e0Of (c0 : Nat → Cell) : Int → Spec.C17.Entry := fun k => absCell (c0 k.toNat)

/-- the executions in start order, as the harness prints them -/
def execsH (cfg : Cfg) (s : State) (g : EvLog) (h : HLog) : List Spec.C17.Exec := specExecs cfg s g h.order

/-- the callers `ids`, with source indices into `execsH` -/
def callsH (cfg : Cfg) (s : State) (g : EvLog) (h : HLog) (ids : List Nat) : List Spec.C17.Call :=
  specCallsOn cfg s g h.order ids

theorem history_of_offer {ids : List Nat} (st : Settled cfg c0 now0 s g h ids) (k : Nat)
    (U W : List (Nat × Int × Int)) (p : Nat × Int × Int)
    (hT : h.sets.filter (fun p => cfg.key p.1 == k) = U ++ p :: W) :
    ∃ A B, h.order = A ++ p.1 :: B ∧ (execsH cfg s g h)[A.length]? = some (execD cfg s g p.1) ∧
      ((A.length : Int), absCell (foldSets cfg.expTime (c0 k) (U ++ [p]))) ∈
        Spec.C17.history cfg.expTime (k : Int) (absCell (c0 k)) (execsH cfg s g h) := by
  obtain ⟨A, B, hO, hm⟩ := (history_settled st k).ofOffer U p W hT
  rw [Int.zero_add] at hm
  rw [execsH, execs_eq_map st]
  exact ⟨A, B, hO, by rw [hO]; simp, hm⟩

theorem offer_of_history {ids : List Nat} (st : Settled cfg c0 now0 s g h ids) (k : Nat) (i : Int)
    (en : Spec.C17.Entry)
    (hm : (i, en) ∈ Spec.C17.history cfg.expTime (k : Int) (absCell (c0 k)) (execsH cfg s g h)) :
    ∃ A B l, h.order = A ++ l :: B ∧ i = A.length ∧ (execsH cfg s g h)[A.length]? = some (execD cfg s g l) ∧
      cfg.key l = k ∧ (∃ w, s.execRes l = some (.ok w)) ∧
      ∀ U p W, h.sets.filter (fun p => cfg.key p.1 == k) = U ++ p :: W → p.1 = l →
        en = absCell (foldSets cfg.expTime (c0 k) (U ++ [p])) := by
  rw [execsH, execs_eq_map st] at hm ⊢
  obtain ⟨A, l, B, hO, hi, hl, hen⟩ := (history_settled st k).toOffer i en hm
  obtain ⟨hkl, hw⟩ := (okOfKey_execD_iff st k l (hO ▸ List.mem_append_right A List.mem_cons_self)).1 hl
  exact ⟨A, B, l, hO, hi.trans (Int.zero_add _), by rw [hO]; simp, hkl, hw, hen⟩

theorem finalEntry_is_cache {ids : List Nat} (st : Settled cfg c0 now0 s g h ids) (k : Nat) :
    Spec.C17.finalEntry cfg.expTime (k : Int) (e0Of c0 (k : Int)) (execsH cfg s g h) = absCell (s.cache k) := by
  rw [execsH, execs_eq_map st, st.all.sets.cacheA k, show e0Of c0 (k : Int) = absCell (c0 k) by simp [e0Of]]
  exact (history_settled st k).last

theorem noStart_not_leads {ids : List Nat} (st : Settled cfg c0 now0 s g h ids) (c : Nat)
    (hns : g.startAt c = none) (x : Spec.C17.Call) (hid : x.id = (c : Int)) :
    Spec.C17.leads x (execsH cfg s g h) = false := by
  cases hl : Spec.C17.leads x (execsH cfg s g h) with
  | false => rfl
  | true =>
    simp only [Spec.C17.leads, List.any_eq_true, beq_iff_eq] at hl
    obtain ⟨e, he, hel⟩ := hl
    obtain ⟨l, _, _, _, hlo, E⟩ := mem_specExecs he
    have : l = c := by rw [E.leader, hid] at hel; exact Int.ofNat_inj.1 hel
    subst this
    obtain ⟨a, ha⟩ := (st.all.ord.mem l).1 hlo
    rw [hns] at ha; cases ha

theorem cached_served {ids : List Nat} (st : Settled cfg c0 now0 s g h ids) {c : Nat} {v : Int}
    (hv : hitVal (s.src c) = some v) {x : Spec.C17.Call} {r : Res} {i t : Nat}
    (R : CallOf cfg s g (execsH cfg s g h) c x r i t) :
    x.out = 0 ∧ x.val = v ∧ x.src = -1 ∧ x.retT = x.invT ∧ Spec.C17.leads x (execsH cfg s g h) = false := by
  have A := st.all
  have c3 : x.retT = x.invT := Option.some.inj ((A.clock.hit c v x.retT hv R.retT).symm.trans R.invT)
  rcases done_source A.inv R.pc with ⟨w, k1, k2, k3⟩ | ⟨l, k2, _⟩ | ⟨l, w, k1, k2, _, _, _, k3⟩ <;> rw [k2] at hv <;>
    cases hv <;> subst k1 <;>
    exact ⟨R.out, R.val, by rw [R.src, k2]; rfl, c3, noStart_not_leads st c ((A.sinv.startAt_none c).2 k3) x R.id⟩

theorem call_read {ids : List Nat} (st : Settled cfg c0 now0 s g h ids) {execs : List Spec.C17.Exec} {c : Nat}
    {x : Spec.C17.Call} {r : Res} {i t : Nat} (R : CallOf cfg s g execs c x r i t) :
    ∃ m, h.readLen c = some m ∧
      cellGet x.invT (foldSets cfg.expTime (c0 (cfg.key c)) (offersSeen cfg h c m)) = hitVal (s.src c) := by
  obtain ⟨m, hm⟩ := st.all.read.has c (by rw [R.pc]; nofun) (by rw [R.pc]; nofun)
  obtain ⟨ti, hti, _, hread⟩ := (st.all.read.seen c m hm).fact
  cases R.invT.symm.trans hti
  exact ⟨m, hm, hread⟩

/-- `Spec.C17.fromCache` for both kinds of cached source, `Src.hit` and `Src.lhit` (`Theorems/C17`: `monitor_fromCache`,
`monitor_fromCache_lead` are its two cases) -/
theorem fromCache_of_cached {ids : List Nat} (st : Settled cfg c0 now0 s g h ids) (c : Nat) (v : Int)
    (hv : hitVal (s.src c) = some v) (x : Spec.C17.Call)
    (hx : specCall cfg s g (execsH cfg s g h) c = some x) :
    Spec.C17.fromCache x (e0Of c0 x.key)
      (Spec.C17.history cfg.expTime x.key (e0Of c0 x.key) (execsH cfg s g h)) (execsH cfg s g h) = true := by
  obtain ⟨r, i, t, R⟩ := specCall_some hx
  obtain ⟨c1, cv, c2, c3, c4⟩ := cached_served st hv R
  obtain ⟨m, hm, hread⟩ := call_read st R
  rw [hv] at hread
  have he0 : e0Of c0 x.key = absCell (c0 (cfg.key c)) := by simp [e0Of, R.key]
  unfold Spec.C17.fromCache
  simp only [c1, c2, c3, c4, beq_self_eq_true, Bool.not_false, Bool.true_and, Bool.or_eq_true, beq_iff_eq,
    List.any_eq_true]
  -- the read saw the cell after the offers `offersSeen`: with none of them the witness is the entry before the run,
  -- otherwise the member of `history` that stands for the last of them
  rcases List.eq_nil_or_concat (offersSeen cfg h c m) with hnil | ⟨U, p, hcat⟩
  · left
    rw [hnil] at hread
    rw [he0, live_abs, cv]
    exact hread
  · right
    rw [List.concat_eq_append] at hcat
    have hptake : p ∈ h.sets.take m := List.filter_sublist.subset (hcat ▸ List.mem_append_right U List.mem_cons_self)
    obtain ⟨Ao, Bo, hO, hget, hmem⟩ := history_of_offer st (cfg.key c) U _ p (offers_split (T2 := []) hcat)
    rw [hcat] at hread
    rw [he0, R.key]
    refine ⟨_, hmem, ?_⟩
    simp only [Bool.and_eq_true, beq_iff_eq, Int.toNat_natCast, hget]
    refine ⟨by rw [live_abs, cv]; exact hread, ?_⟩
    obtain ⟨b, hb, hbt⟩ := (st.all.read.seen c m hm).seenEnd t R.retAt p hptake
    obtain ⟨_, b', _, E⟩ := specExec_some (order_rendered st p.1 (hO ▸ List.mem_append_right Ao List.mem_cons_self))
    cases hb.symm.trans E.endAt
    simp only [decide_eq_true_eq, E.endSeq, R.retSeq]
    exact Int.ofNat_lt.2 hbt

theorem srcIndex_nonneg {ids : List Nat} (st : Settled cfg c0 now0 s g h ids) (c l : Nat) (r : Res)
    (hd : s.pc c = .done r) (hs : s.src c = some (.exec l)) :
    0 ≤ srcIndex (execsH cfg s g h) (some (.exec l)) := by
  simp only [srcIndex]
  split
  · omega
  · rename_i hf
    exfalso
    rw [List.findIdx?_eq_none_iff] at hf
    -- the serving execution returned a result, so it is in the log and in the start order
    have A := st.all
    have hlo : l ∈ h.order := (A.ord.mem l).2 (startAt_of_execRes A.inv A.sinv (src_exec_done A.inv hd hs).1)
    have hmem : execD cfg s g l ∈ execsH cfg s g h := by
      rw [execsH, execs_eq_map st]; exact List.mem_map.2 ⟨l, hlo, rfl⟩
    obtain ⟨_, _, _, E⟩ := specExec_some (order_rendered st l hlo)
    have := hf _ hmem
    simp [E.leader] at this

/-- the rendered log of a run: callers `ids`, executions in start order, the in-flight maxima and the
final `Cache.Get` of the keys `0 … nkeys-1` -/
def specLog (cfg : Cfg) (s : State) (g : EvLog) (h : HLog) (ids : List Nat) (nkeys : Nat) : Spec.C17.Log :=
  { callers := callsH cfg s g h ids
    execs := execsH cfg s g h
    maxIn := (List.range nkeys).map (fun k => (h.maxIn k : Int))
    gets := (List.range nkeys).map (fun k => cellGet s.now (s.cache k))
    endT := s.now }

end GoguVerif.Theorems.C17
