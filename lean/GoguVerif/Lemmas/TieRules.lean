/-!
# Rules for walking two program texts side by side

A tie theorem relates a term printed by the translator to the hand-written model's term; both follow the same Go text, so
a proof walks the two in step.  What holds for EVERY relation between the two sides is stated here once; it needs nothing
of any generated file, so every tie module may import it.
-/
namespace GoguVerif

/-- An `if` of the regenerated code against the `if` of the model: the conditions are equivalent and the branches are
related.  Applied as `ite_rel (R := …) hc ht he` with `R` the form of the module's tie; a nest of `if`s is one term. -/
theorem ite_rel {α β : Type} {R : α → β → Prop} {c c' : Prop} [Decidable c] [Decidable c'] (hc : c ↔ c')
    {a b : α} {a' b' : β} (ht : c → R a a') (he : ¬ c → R b b') :
    R (if c then a else b) (if c' then a' else b') := by
  by_cases h : c
  · rw [if_pos h, if_pos (hc.1 h)]; exact ht h
  · rw [if_neg h, if_neg (mt hc.2 h)]; exact he h

/-- `ite_rel` for a test that one side writes negated (Go's `if !comp(…) { break }` against `if comp(…) { … }`): the
branches change places. -/
theorem ite_rel_not {α β : Type} {R : α → β → Prop} {c c' : Prop} [Decidable c] [Decidable c'] (hc : c ↔ ¬ c')
    {a b : α} {a' b' : β} (ht : c → R a b') (he : ¬ c → R b a') :
    R (if c then a else b) (if c' then a' else b') := by
  by_cases h : c
  · rw [if_pos h, if_neg (hc.1 h)]; exact ht h
  · rw [if_neg h, if_pos (Decidable.not_not.mp (mt hc.2 h))]; exact he h

/-- the `hc` of `ite_rel_not` when one side tests `b` and the other `!b` -/
theorem eq_true_iff_not_not (b : Bool) : b = true ↔ ¬ (!b) = true := by cases b <;> decide

end GoguVerif
