import GoguVerif.Lemmas.GoMap
import GoguVerif.Lemmas.Dedup
import GoguVerif.Lemmas.ListFacts
/-!
# Helper lemmas for C14: what the loops of `Model/C14.lean` compute

Seven of the loops store into a map entry by entry (`mapValuesLoop`, `mapKeysLoop`, `invertLoop`, `filterMapLoop`,
`pickByLoop`, `sliceToMapLoop`, and `pickLoop` through `pickLoop_eq_pickByLoop`); each of them is `foldPut` of a list
that can be written down (for every input: the `…Loop_eq` lemmas whose right-hand side is a `foldPut`), and `foldPut`
is described by `get?_foldPut` (the last store under a key wins) and `foldPut_fresh` (entries with fresh, distinct keys
are appended).  `omitByLoop` deletes while it ranges and is not of that form: `omitByLoop_eq` is its invariant.  The
loops that fill a slice made beforehand (`Keys`, `Values`, the first loop of `Find`) are `padLoop_eq`; the others have
closed forms over `List` functions.
-/
set_option autoImplicit false
namespace GoguVerif.Lemmas.C14
open GoguVerif.Model.C14 GoguVerif.Spec.C14

variable {K V R α : Type}

theorem storeAt_eq (s : List α) (i : Nat) (x : α) :
    storeAt s i x = if i < s.length then .ok (s.set i x) else .panic := by
  induction s generalizing i with
  | nil => rfl
  | cons y r ih =>
    cases i with
    | zero => simp [storeAt]
    | succ n =>
      simp only [storeAt, ih n, List.length_cons, Nat.add_lt_add_iff_right, List.set_cons_succ]
      by_cases h : n < r.length <;> simp [h]

theorem storeAt_append (pre : List α) (d : α) (rest : List α) (x : α) :
    storeAt (pre ++ d :: rest) pre.length x = .ok (pre ++ x :: rest) := by
  rw [storeAt_eq, if_pos (by simp), List.set_append_right _ _ (Nat.le_refl _), Nat.sub_self]
  rfl

/-- `for … := range m { out[idx] = f(entry); idx++ }` into a slice made long enough beforehand -/
theorem padLoop_eq {β γ : Type} (f : γ → β) (L : List γ → List β → Nat → Outcome (List β))
    (h0 : ∀ out i, L [] out i = .ok out)
    (h1 : ∀ e r out i, L (e :: r) out i =
      match storeAt out i (f e) with | .panic => .panic | .ok out' => L r out' (i + 1))
    (d : β) (r : List γ) (pre : List β) :
    L r (pre ++ List.replicate r.length d) pre.length = .ok (pre ++ r.map f) := by
  induction r generalizing pre with
  | nil => rw [h0]; rfl
  | cons e r ih =>
    have h := ih (pre ++ [f e])
    rw [List.length_append, List.length_singleton, ← List.append_cons, ← List.append_cons] at h
    rw [h1, List.length_cons, List.replicate_succ, storeAt_append]
    exact h

theorem keys_eq [Inhabited K] (m : GoMap K V) : Keys m = .ok (m.map Prod.fst) :=
  padLoop_eq Prod.fst keysLoop (fun _ _ => rfl) (fun ⟨_, _⟩ _ _ _ => rfl) default m []

theorem values_eq [Inhabited V] (m : GoMap K V) : Values m = .ok (m.map Prod.snd) :=
  padLoop_eq Prod.snd valuesLoop (fun _ _ => rfl) (fun ⟨_, _⟩ _ _ _ => rfl) default m []

theorem selectSpec_filter {m : AMap K V} (h : WF m) (sel : K × V → Bool) :
    SelectSpec m sel (m.filter sel) :=
  ⟨WF.sublist List.filter_sublist h, fun _ he => List.mem_filter.mp he,
    fun _ he hs => List.mem_filter.mpr ⟨he, hs⟩⟩

section fold
variable [DecidableEq K]

/-- storing a list of (key, value) pairs one after the other (not part of the model: the closed form
of the loops that write into a map, see the `…Loop_eq` lemmas) -/
def foldPut (l : List (K × V)) (acc : GoMap K V) : GoMap K V :=
  l.foldl (fun a e => put a e.1 e.2) acc

theorem foldPut_nil (acc : GoMap K V) : foldPut [] acc = acc := rfl
theorem foldPut_cons (e : K × V) (l : List (K × V)) (acc : GoMap K V) :
    foldPut (e :: l) acc = foldPut l (put acc e.1 e.2) := rfl

theorem wf_foldPut (l : List (K × V)) {acc : GoMap K V} (h : WF acc) : WF (foldPut l acc) := by
  induction l generalizing acc with
  | nil => exact h
  | cons e l ih => exact ih (wf_put h _ _)

theorem get?_foldPut (l : List (K × V)) (acc : GoMap K V) (k : K) :
    get? (foldPut l acc) k = (get? l.reverse k).or (get? acc k) := by
  induction l generalizing acc with
  | nil => rfl
  | cons e l ih =>
    obtain ⟨k0, v0⟩ := e
    rw [foldPut_cons, ih, List.reverse_cons, get?_append, get?_put, Option.or_assoc]
    simp only [get?]
    split <;> rfl

theorem get?_of_mem_foldPut_nil {l : List (K × V)} {e : K × V} (he : e ∈ foldPut l []) :
    get? l.reverse e.1 = some e.2 := by
  have := get?_eq_some_of_mem (wf_foldPut l wf_nil) he
  rwa [get?_foldPut, show get? ([] : GoMap K V) e.1 = none from rfl, Option.or_none] at this

theorem mem_of_mem_foldPut_nil {l : List (K × V)} {e : K × V} (he : e ∈ foldPut l []) : e ∈ l :=
  List.mem_reverse.mp (mem_of_get?_eq_some (get?_of_mem_foldPut_nil he))

theorem key_mem_foldPut {l : List (K × V)} {acc : GoMap K V} {k : K} (hk : k ∈ l.map Prod.fst) :
    ∃ e ∈ foldPut l acc, e.1 = k := by
  cases hg : get? (foldPut l acc) k with
  | some v => exact ⟨(k, v), mem_of_get?_eq_some hg, rfl⟩
  | none =>
    rw [get?_foldPut, Option.or_eq_none_iff, get?_eq_none_iff, List.map_reverse, List.mem_reverse] at hg
    exact absurd hk hg.1

theorem foldPut_fresh (l : List (K × V)) (acc : GoMap K V) (h : WF (acc ++ l)) :
    foldPut l acc = acc ++ l := by
  induction l generalizing acc with
  | nil => exact (List.append_nil acc).symm
  | cons e l ih =>
    obtain ⟨k, v⟩ := e
    rw [foldPut_cons, put_of_not_mem v (not_mem_keys_of_wf h), ih _ (wf_snoc_append h), ← List.append_cons]

theorem foldPut_nil_fresh {l : List (K × V)} (h : WF l) : foldPut l [] = l :=
  foldPut_fresh l [] h

end fold

theorem mapValuesLoop_eq [DecidableEq K] (fn : V → R) (it : GoMap K V) (acc : GoMap K R) :
    mapValuesLoop fn it acc = foldPut (it.map fun e => (e.1, fn e.2)) acc := by
  induction it generalizing acc with
  | nil => rfl
  | cons e r ih => obtain ⟨k, v⟩ := e; simp only [mapValuesLoop, ih, List.map_cons, foldPut_cons]

theorem mapKeysLoop_eq [DecidableEq R] (fn : K → V → R) (it : GoMap K V) (acc : GoMap R V) :
    mapKeysLoop fn it acc = foldPut (it.map fun e => (fn e.1 e.2, e.2)) acc := by
  induction it generalizing acc with
  | nil => rfl
  | cons e r ih => obtain ⟨k, v⟩ := e; simp only [mapKeysLoop, ih, List.map_cons, foldPut_cons]

theorem invertLoop_eq [DecidableEq K] [DecidableEq V] [Inhabited V] (m : GoMap K V) (ks : List K)
    (acc : GoMap V K) :
    invertLoop m ks acc = foldPut (ks.map fun k => (idx m k, k)) acc := by
  induction ks generalizing acc with
  | nil => rfl
  | cons k r ih => simp only [invertLoop, ih, List.map_cons, foldPut_cons]

theorem filterMapLoop_eq [DecidableEq K] (fn : V → Bool) (it acc : GoMap K V) :
    filterMapLoop fn it acc = foldPut (it.filter fun e => fn e.2) acc := by
  induction it generalizing acc with
  | nil => rfl
  | cons e r ih =>
    obtain ⟨k, v⟩ := e
    simp only [filterMapLoop, List.filter_cons, ih]
    split <;> rfl

theorem pickByLoop_eq [DecidableEq K] [Inhabited V] (coll : GoMap K V) (fn : K → V → Bool)
    (it acc : GoMap K V) :
    pickByLoop coll fn it acc
      = foldPut ((it.filter fun e => fn e.1 e.2).map fun e => (e.1, idx coll e.1)) acc := by
  induction it generalizing acc with
  | nil => rfl
  | cons e r ih =>
    obtain ⟨k, v⟩ := e
    simp only [pickByLoop, List.filter_cons, ih]
    split <;> rfl

/-- `Pick` is `PickBy` at the membership test: the two loops unfold to the same term (the unifier has to be told
to unfold a structural recursion on a variable) -/
theorem pickLoop_eq_pickByLoop [DecidableEq K] [Inhabited V] (coll : GoMap K V) (keys : List K)
    (it acc : GoMap K V) :
    pickLoop coll keys it acc = pickByLoop coll (fun k _ => Contains keys k) it acc := by
  set_option smartUnfolding false in rfl

/-- the positions already visited are a prefix of both slices -/
theorem sliceToMapLoop_eq [DecidableEq K] (p1 s1 : List K) (p2 s2 : List V) (i : Nat)
    (h1 : p1.length = i) (h2 : p2.length = i) (hs : s1.length = s2.length) (acc : GoMap K V) :
    sliceToMapLoop (p1 ++ s1) (p2 ++ s2) s1.length i acc = .ok (foldPut (s1.zip s2) acc) := by
  induction s1 generalizing p1 p2 s2 i acc with
  | nil => rfl
  | cons k s1 ih =>
    cases s2 with
    | nil => cases hs
    | cons v s2 =>
      have e1 : (p1 ++ k :: s1)[i]? = some k := by
        rw [← h1, List.getElem?_append_right (Nat.le_refl _), Nat.sub_self]; rfl
      have e2 : (p2 ++ v :: s2)[i]? = some v := by
        rw [← h2, List.getElem?_append_right (Nat.le_refl _), Nat.sub_self]; rfl
      simp only [List.length_cons, sliceToMapLoop, e1, e2]
      rw [List.append_cons p1, List.append_cons p2]
      exact ih _ _ _ _ (by rw [List.length_append, h1]; rfl) (by rw [List.length_append, h2]; rfl)
        (Nat.succ.inj hs) _

theorem omitLoop_eq_omitByLoop [DecidableEq K] (keys : List K) (it c : GoMap K V) :
    omitLoop keys it c = omitByLoop (fun k _ => Contains keys k) it c := by
  set_option smartUnfolding false in rfl

/-- `pre`: the entries visited and kept; only the entry being visited is ever deleted -/
theorem omitByLoop_eq [DecidableEq K] (fn : K → V → Bool) (it pre : GoMap K V) (h : WF (pre ++ it)) :
    omitByLoop fn it (pre ++ it) = pre ++ it.filter (fun e => !fn e.1 e.2) := by
  induction it generalizing pre with
  | nil => rfl
  | cons e r ih =>
    obtain ⟨k, v⟩ := e
    simp only [omitByLoop, List.filter_cons]
    cases fn k v
    · have h2 := ih (pre ++ [(k, v)]) (wf_snoc_append h)
      rw [← List.append_cons, ← List.append_cons] at h2
      exact h2
    · rw [if_pos rfl, del_append_cons (not_mem_keys_of_wf h)]
      exact ih pre (wf_append_cons_left h)

theorem contains_eq [DecidableEq α] (l : List α) (x : α) : Contains l x = decide (x ∈ l) := by
  induction l with
  | nil => rfl
  | cons y r ih =>
    simp only [Contains, ih]
    split
    · next h => exact (decide_eq_true (h ▸ List.mem_cons_self)).symm
    · next h =>
      exact decide_eq_decide.mpr ⟨List.mem_cons_of_mem _, fun h' => (List.mem_cons.mp h').resolve_left (Ne.symm h)⟩

theorem find?_cases (p : α → Bool) (l : List α) :
    (∃ e ∈ l, p e = true ∧ l.find? p = some e) ∨ ((∀ e ∈ l, ¬ p e = true) ∧ l.find? p = none) := by
  cases hf : l.find? p with
  | some e => exact Or.inl ⟨e, List.mem_of_find?_eq_some hf, List.find?_some hf, rfl⟩
  | none => exact Or.inr ⟨List.find?_eq_none.mp hf, rfl⟩

theorem find?_sorted_le {l : List Int} (hs : l.Pairwise (· ≤ ·)) {p : Int → Bool} {k k' : Int}
    (hf : l.find? p = some k) (hk' : k' ∈ l) (hp : p k' = true) : k ≤ k' := by
  obtain ⟨as, bs, rfl, has⟩ := (List.find?_eq_some_iff_append.mp hf).2
  rcases List.mem_append.mp hk' with h | h
  · have := has k' h
    rw [hp] at this
    cases this
  · rcases List.mem_cons.mp h with rfl | h
    · exact Int.le_refl _
    · exact (List.pairwise_cons.mp (List.pairwise_append.mp hs).2.1).1 k' h

theorem mapEvery_eq (fn : V → Bool) (m : GoMap K V) : MapEvery fn m = m.all (fun e => fn e.2) := by
  induction m with
  | nil => rfl
  | cons e r ih => obtain ⟨k, v⟩ := e; cases h : fn v <;> simp [MapEvery, h, ih]

theorem mapSome_eq (fn : V → Bool) (m : GoMap K V) : MapSome fn m = m.any (fun e => fn e.2) := by
  induction m with
  | nil => rfl
  | cons e r ih => obtain ⟨k, v⟩ := e; cases h : fn v <;> simp [MapSome, h, ih]

theorem mapContains_eq_mapSome [DecidableEq V] (x : V) (m : GoMap K V) :
    MapContains x m = MapSome (fun v => decide (v = x)) m := by
  induction m with
  | nil => rfl
  | cons e r ih => obtain ⟨k, v⟩ := e; simp only [MapContains, MapSome, ih, decide_eq_true_eq]

theorem findKey_eq [Inhabited K] (fn : V → Bool) (m : GoMap K V) :
    FindKey fn m = match m.find? (fun e => fn e.2) with | some e => e.1 | none => default := by
  induction m with
  | nil => rfl
  | cons e r ih => obtain ⟨k, v⟩ := e; cases h : fn v <;> simp [FindKey, h, ih]

theorem findByKey_eq [DecidableEq K] (fn : K → Bool) (m : GoMap K V) :
    FindByKey fn m = match m.find? (fun e => fn e.1) with | some e => [e] | none => [] := by
  induction m with
  | nil => rfl
  | cons e r ih => obtain ⟨k, v⟩ := e; cases h : fn k <;> simp [FindByKey, h, ih, put]

theorem findLoop_eq [Inhabited V] (m : GoMap Int V) (fn : V → Bool) (ks : List Int) :
    findLoop m fn ks =
      match ks.find? (fun k => fn (idx m k)) with | some k => [(k, idx m k)] | none => [] := by
  induction ks with
  | nil => rfl
  | cons k r ih => cases h : fn (idx m k) <;> simp [findLoop, h, ih, put]

-- `sortKeys` models `sort.Slice`; that it permutes and sorts ascending is all the proofs use of it
theorem insertSorted_perm (x : Int) (l : List Int) : (insertSorted x l).Perm (x :: l) :=
  ListFacts.insert_perm (ins := insertSorted) (c := (· ≤ ·)) (fun _ => rfl) (fun _ _ _ => rfl) x l

theorem insertSorted_sorted (x : Int) (l : List Int) (hl : l.Pairwise (· ≤ ·)) :
    (insertSorted x l).Pairwise (· ≤ ·) :=
  ListFacts.insert_sorted (ins := insertSorted) (c := (· ≤ ·)) (fun _ => rfl) (fun _ _ _ => rfl)
    (fun _ _ _ => Int.le_trans) (fun _ _ h => Int.le_of_lt (Int.not_le.mp h)) x hl

theorem sortKeys_perm (ks : List Int) : (sortKeys ks).Perm ks := by
  induction ks with
  | nil => exact List.Perm.refl _
  | cons k r ih => exact (insertSorted_perm k _).trans (List.Perm.cons k ih)

theorem sortKeys_sorted (ks : List Int) : (sortKeys ks).Pairwise (· ≤ ·) := by
  induction ks with
  | nil => exact List.Pairwise.nil
  | cons k r ih => exact insertSorted_sorted k _ ih

theorem sortKeys_congr {a b : List Int} (h : a.Perm b) : sortKeys a = sortKeys b :=
  List.Perm.eq_of_pairwise (fun _ _ _ _ => Int.le_antisymm) (sortKeys_sorted a) (sortKeys_sorted b)
    ((sortKeys_perm a).trans (h.trans (sortKeys_perm b).symm))

theorem get?_findByKey [DecidableEq K] (key : K) (m : GoMap K V) :
    get? (FindByKey (fun k => decide (k = key)) m) key = Spec.C14.lookup m key := by
  rw [findByKey_eq]
  unfold Spec.C14.lookup
  rcases find?_cases (fun e : K × V => decide (e.1 = key)) m with ⟨e, _, hq, hf⟩ | ⟨_, hf⟩
  · rw [hf]
    simp only [get?, if_pos (of_decide_eq_true hq), Option.map_some]
  · rw [hf]; rfl

theorem pluckLoop_eq [DecidableEq K] [Inhabited V] (key : K) (ms : List (GoMap K V)) (res : List V) :
    pluckLoop key ms res = res ++ ms.filterMap (fun m => Spec.C14.lookup m key) := by
  induction ms generalizing res with
  | nil => exact (List.append_nil res).symm
  | cons m r ih =>
    simp only [pluckLoop, idx, get?_findByKey, List.filterMap_cons]
    cases Spec.C14.lookup m key with
    | none => exact ih res
    | some v => simp only [ih, List.append_assoc, List.singleton_append]

theorem breakLoop_eq {α β : Type} (p : α → Bool) (hit miss : β) {L : List α → β} (L0 : L [] = miss)
    (Ls : ∀ e r, L (e :: r) = if p e then hit else L r) (it : List α) :
    L it = if it.any p then hit else miss := by
  induction it with
  | nil => exact L0
  | cons e r ih =>
    rw [Ls, List.any_cons, ih]
    cases p e
    · rw [if_neg Bool.false_ne_true, Bool.false_or]
    · rw [if_pos rfl, Bool.true_or, if_pos rfl]

theorem filterInner_eq (fn : V → Bool) (item it : GoMap K V) (filtered : List (GoMap K V)) :
    filterInner fn item it filtered =
      if hasQualifying fn it = true then filtered ++ [item] else filtered :=
  breakLoop_eq (fun e : K × V => fn e.2) _ _ (L := fun it => filterInner fn item it filtered) rfl (fun _ _ => rfl) it

theorem filterCollLoop_eq (fn : V → Bool) (coll filtered : List (GoMap K V)) :
    filterCollLoop fn coll filtered = filtered ++ coll.filter (hasQualifying fn) := by
  induction coll generalizing filtered with
  | nil => exact (List.append_nil filtered).symm
  | cons item r ih =>
    simp only [filterCollLoop, filterInner_eq, ih, List.filter_cons]
    split <;> simp only [List.append_assoc, List.singleton_append]

theorem partitionLoop_eq [DecidableEq K] (fn : GoMap K V → Bool) (coll : List (GoMap K V))
    (res : List (GoMap K V) × List (GoMap K V)) :
    partitionLoop fn coll res =
      (res.1 ++ coll.filter (fun m => !m.isEmpty && fn m), res.2 ++ coll.filter (fun m => !m.isEmpty && !fn m)) := by
  induction coll generalizing res with
  | nil => simp only [partitionLoop, List.filter_nil, List.append_nil]
  | cons m r ih =>
    cases m with
    | nil => simp only [partitionLoop, ih, List.filter_cons, List.isEmpty_nil, Bool.not_true, Bool.false_and,
        Bool.false_eq_true, if_false]
    | cons e t =>
      obtain ⟨k, v⟩ := e
      simp only [partitionLoop, put, if_true, ih, List.filter_cons, List.isEmpty_cons, Bool.not_false, Bool.true_and]
      cases fn ((k, v) :: t) <;> simp

/-! `MapUnique` is the de-duplicating loop (`Lemmas/Dedup.lean`) over the entries, keyed by value. -/

/-- the Go `ref` map holding the values seen so far (`keys`, most recent first) -/
def refOf (keys : List V) : GoMap V Bool := keys.reverse.map (·, true)

theorem get?_refOf_eq_none [DecidableEq V] (keys : List V) (v : V) :
    get? (refOf keys) v = none ↔ v ∉ keys := by
  rw [get?_eq_none_iff, refOf, List.map_map, show (Prod.fst ∘ fun x : V => (x, true)) = id from rfl, List.map_id,
    List.mem_reverse]

theorem mapUniqueLoop_cons [DecidableEq K] [DecidableEq V] (keys : List V) (r : GoMap K V) (e : K × V)
    (s : GoMap K V) (h : WF (r ++ e :: s)) :
    mapUniqueLoop (e :: s) r (refOf keys) =
      if e.2 ∈ keys then mapUniqueLoop s r (refOf keys) else mapUniqueLoop s (r ++ [e]) (refOf (e.2 :: keys)) := by
  obtain ⟨k, v⟩ := e
  rw [mapUniqueLoop]
  cases hg : get? (refOf keys) v with
  | some b => exact (if_pos (Decidable.not_not.mp fun hv => nomatch hg ▸ (get?_refOf_eq_none keys v).mpr hv)).symm
  | none =>
    have hv := (get?_refOf_eq_none keys v).mp hg
    rw [if_neg hv, put_of_not_mem v (not_mem_keys_of_wf h), put_of_not_mem true (get?_eq_none_iff.mp hg)]
    simp only [refOf, List.reverse_cons, List.map_append, List.map_cons, List.map_nil]

theorem mapUnique_eq [DecidableEq K] [DecidableEq V] {m : GoMap K V} (h : WF m) :
    MapUnique m = Dedup.firstByG Prod.snd m :=
  Dedup.dedupLoop_all Prod.snd (fun k r s => mapUniqueLoop s r (refOf k)) m
    (fun _ _ => rfl) (fun k r e s _ hs => mapUniqueLoop_cons k r e s (WF.sublist hs h))

end GoguVerif.Lemmas.C14
