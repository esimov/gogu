import GoguVerif.Lemmas.C16Helpers
import GoguVerif.Lemmas.C16MStore
import GoguVerif.Lemmas.C11
import GoguVerif.Lemmas.C14
/-!
# Lemmas for the store-level models of `heap.FromSlice`, `heap.Sort`, `Omit`, `OmitBy` (C16)

* `Step σ σ' s`: what a run of an in-place helper on `s` is — `InPlace σ σ' s`, the elements of `s` are
  permuted, and `σ'` is reached from `σ` by indexed writes through the one register holding `s`
  (`Model.Store.runInPlace`).  Reflexive, transitive; every `swap(data, i, j)` that does not panic is one.
* the loops of `heap.FromSlice` / `heap.Sort` are compositions of swaps on `data`: every run that ends is
  a `Step` — for an ARBITRARY comparator, whatever the inner loop leaves in the outer loop variable, and on any
  header: a swap that returned has read both cells, which is all that is used.
* the `Omit` / `OmitBy` loops over the map store (`Lemmas/C16MStore.lean`) do to the one map object what the
  value-level loops of `Model/C14.lean` do, whatever entries they are given to visit; deletions commute, so the
  visiting order does not matter.
Core Lean only.
-/
set_option autoImplicit false
namespace GoguVerif.Lemmas.C16Helpers3
open Model.Store Model.StoreHelpers Model.StoreHelpers3 Lemmas.C16Store Lemmas.C16Helpers

theorem runInPlace_none (m : Machine) (r : Nat) (ws : List (Nat × Int)) (h : m.regs[r]? = none) :
    runInPlace m r ws = m := by
  cases ws with
  | nil => rfl
  | cons w ws => obtain ⟨i, v⟩ := w; simp only [runInPlace, h]

theorem runInPlace_append (m : Machine) (r : Nat) (ws ws' : List (Nat × Int)) :
    runInPlace m r (ws ++ ws') = runInPlace (runInPlace m r ws) r ws' := by
  induction ws generalizing m with
  | nil => rfl
  | cons w ws ih =>
    obtain ⟨i, v⟩ := w
    cases hr : m.regs[r]? with
    | none => simp only [List.cons_append, runInPlace, hr]; exact (runInPlace_none m r ws' hr).symm
    | some s =>
      simp only [List.cons_append, runInPlace, hr]
      cases Model.Store.write m.σ s i v with
      | none => exact ih m
      | some σ' => exact ih _

/-- a WHOLE run of an in-place helper on `s`, not a single step (one instruction is `Model.Store.step`, what it may
do `Lemmas.C16Store.Stepped`); `writes` speaks of EVERY register file that holds `s`, so that
`Theorems.C16.runInPlace_frame` can be applied at whichever one the caller has -/
structure Step (σ σ' : Store) (s : Slice) : Prop where
  inplace : InPlace σ σ' s
  perm : (elems σ' s).Perm (elems σ s)
  writes : ∀ (regs : List Slice) (r : Nat), regs[r]? = some s →
    ∃ ws, runInPlace { σ := σ, regs := regs } r ws = { σ := σ', regs := regs }

theorem Step.refl (σ : Store) (s : Slice) : Step σ σ s :=
  ⟨InPlace.refl σ s, List.Perm.refl _, fun _ _ _ => ⟨[], rfl⟩⟩

theorem Step.trans {σ σ1 σ2 : Store} {s : Slice} (h1 : Step σ σ1 s) (h2 : Step σ1 σ2 s) : Step σ σ2 s := by
  refine ⟨InPlace.trans h1.inplace h2.inplace, h2.perm.trans h1.perm, ?_⟩
  intro regs r hr
  obtain ⟨ws1, e1⟩ := h1.writes regs r hr
  obtain ⟨ws2, e2⟩ := h2.writes regs r hr
  exact ⟨ws1 ++ ws2, by rw [runInPlace_append, e1, e2]⟩

theorem Step.wf {σ σ' : Store} {s : Slice} (h : Step σ σ' s) (hw : WF σ s) : WF σ' s := InPlace.wf h.inplace hw

theorem Step.length_eq {σ σ' : Store} {s : Slice} (h : Step σ σ' s) : σ'.length = σ.length :=
  InPlace.length_eq h.inplace

/-- `data[i], data[j] = data[j], data[i]` that does not panic, on any header: the two reads that succeeded are
the two elements, the two writes set them the other way round -/
theorem swapStore_step {σ σ' : Store} {s : Slice} {i j : Nat} (hs : swapStore σ s i j = some σ') : Step σ σ' s := by
  obtain ⟨a, b, σ1, ra, rb, w1, w2⟩ := swapStore_some hs
  refine ⟨InPlace.trans (InPlace.of_write w1) (InPlace.of_write w2), ?_,
    fun regs r hr => ⟨[(i, b), (j, a)], by simp only [runInPlace, hr, w1, w2]⟩⟩
  obtain ⟨hi, ea⟩ := List.getElem?_eq_some_iff.mp ((read_eq i).symm.trans ra)
  obtain ⟨hj, eb⟩ := List.getElem?_eq_some_iff.mp ((read_eq j).symm.trans rb)
  rw [(write_eq w2).2, (write_eq w1).2, elems_setCell, elems_setCell, ← ea, ← eb]
  exact List.set_set_perm hi hj

theorem swapI_step {σ σ' : Store} {s : Slice} {i j : Int} (hs : swapI σ s i j = some σ') : Step σ σ' s := by
  unfold swapI at hs
  split at hs
  · exact swapStore_step hs
  · cases hs

/-! One case per path through the body of the Go loop: a path that panics or runs out of fuel is no run that ends, a
`break` leaves the store as it is, and the one path that goes on has swapped first. -/

theorem siftLoop_step (comp : Int → Int → Bool) {data : Slice} (f : Nat) (i : Int) (σ : Store)
    {σ' : Store} {i' : Int} (hr : siftLoop comp data f i σ = some (σ', i')) : Step σ σ' data := by
  fun_induction siftLoop comp data f i σ with
  | case1 => cases hr
  | case2 => cases hr; exact Step.refl _ _                            -- no left child: `break`
  | case3 => cases hr
  | case4 => cases hr
  | case5 => cases hr
  | case6 => rename_i hsw ih; exact (swapI_step hsw).trans (ih hr)    -- `swap(data, i, current); i = current`
  | case7 => cases hr; exact Step.refl _ _                            -- `!comp(data[current], data[i])`: `break`

theorem fromSliceLoop_step (comp : Int → Int → Bool) {data : Slice} (f n : Nat) (i : Int) (σ : Store)
    {σ' : Store} (hr : fromSliceLoop comp data f n i σ = some σ') : Step σ σ' data := by
  fun_induction fromSliceLoop comp data f n i σ with
  | case1 => cases hr
  | case2 => cases hr; exact Step.refl _ _                            -- `i < 0` as the fuel runs out: the loop ends
  | case3 => cases hr
  | case4 => rename_i hs ih; exact (siftLoop_step comp f _ _ hs).trans (ih hr)   -- the inner loop ended; `i--`
  | case5 => cases hr; exact Step.refl _ _                            -- `i < 0`: the loop ends

theorem moveDownStore_step (comp : Int → Int → Bool) {data : Slice} (f : Nat) (n i : Int) (σ : Store)
    {σ' : Store} (hr : moveDownStore comp data f n i σ = some σ') : Step σ σ' data := by
  fun_induction moveDownStore comp data f n i σ with
  | case1 => cases hr
  | case2 => cases hr
  | case3 => cases hr
  | case4 => cases hr
  | case5 => rename_i hsw ih; exact (swapI_step hsw).trans (ih hr)    -- `current != i`: swap, `h.moveDown(n, current)`
  | case6 => cases hr; exact Step.refl _ _                            -- `current == i`: nothing to do

theorem sortLoop_step (comp : Int → Int → Bool) {data : Slice} (f k : Nat) (σ : Store)
    {σ' : Store} (hr : sortLoop comp data f k σ = some σ') : Step σ σ' data := by
  fun_induction sortLoop comp data f k σ with
  | case1 => cases hr; exact Step.refl _ _                            -- `i == 0`: the loop ends
  | case2 => cases hr
  | case3 => cases hr
  | case4 =>                                                          -- `swap(data, 0, i); heap.moveDown(i, 0)`
    rename_i hsw _ hmd ih
    exact ((swapI_step hsw).trans (moveDownStore_step comp f _ 0 _ hmd)).trans (ih hr)

/-- `heap.GetValues()` never panics: a fresh array showing what `data` shows; every array that existed is
unchanged -/
theorem getValuesStore_spec {σ : Store} {data : Slice} (h : WF σ data) :
    ∃ σ' res, getValuesStore σ data = some (σ', res) ∧ elems σ' res = elems σ data ∧ Frame σ σ' ∧
      res.arr = σ.length ∧ σ'.length = σ.length + 1 ∧ WF σ' res := by
  obtain ⟨σ1, hcopy, e1, i1, hl⟩ := copy_fresh h
  exact ⟨σ1, (alloc σ data.len data.len).2, by simp only [getValuesStore, hcopy], e1, i1.frame, rfl, hl, i1.wf⟩

/-- deletions commute: the value-level loop of `OmitBy` leaves the same map in whatever order the entries are
visited.  `hf` writes the loop as a `foldl`, the form in which `List.Perm.foldl_eq'` says exactly this of a step
function whose applications commute -/
theorem omitByLoop_perm (fn : Int → Int → Bool) {it it' : List (Int × Int)} (hp : it.Perm it')
    (c : List (Int × Int)) : Model.C14.omitByLoop fn it c = Model.C14.omitByLoop fn it' c := by
  have hf : ∀ it c, Model.C14.omitByLoop fn it c =
      it.foldl (fun c e => if fn e.1 e.2 then Model.C14.del c e.1 else c) c := by
    intro it
    induction it with
    | nil => intro _; rfl
    | cons e r ih => intro c; obtain ⟨k, v⟩ := e; simp only [Model.C14.omitByLoop, List.foldl_cons]; split <;> exact ih _
  rw [hf, hf]
  refine hp.foldl_eq' (fun x _ y _ z => ?_) c
  by_cases hx : fn x.1 x.2 = true <;> by_cases hy : fn y.1 y.2 = true <;> simp [hx, hy, Lemmas.C14.del_comm z x.1 y.1]

/-- for ANY list `it` of entries to visit; the presence test skips deletions that would do nothing -/
theorem omitByLoopM_spec (fn : Int → Int → Bool) (id : Nat) (it : List (Int × Int)) (μ : MStore) :
    mget (omitByLoopM fn id it μ) id = Model.C14.omitByLoop fn it (mget μ id) ∧
    (omitByLoopM fn id it μ).length = μ.length ∧ ∀ j, j ≠ id → (omitByLoopM fn id it μ)[j]? = μ[j]? := by
  induction it generalizing μ with
  | nil => exact ⟨rfl, rfl, fun _ _ => rfl⟩
  | cons e r ih =>
    obtain ⟨k, v⟩ := e
    simp only [omitByLoopM, Model.C14.omitByLoop]
    by_cases hf : fn k v = true
    · by_cases hp : present μ id k = true
      · obtain ⟨g1, g2, g3⟩ := ih (mdelete μ id k)
        simp only [hp, hf, if_true]
        exact ⟨by rw [g1, mget_mdelete_same], by rw [g2, mdelete_length],
          fun j hj => by rw [g3 j hj, mdelete_other μ id j k hj]⟩
      · have hn : Model.C14.get? (mget μ id) k = none := by simpa [present] using hp
        simp only [hp, hf, if_true, Lemmas.C14.del_of_not_mem (Lemmas.C14.get?_eq_none_iff.mp hn)]
        exact ih μ
    · simp only [hf, Bool.false_eq_true, if_false, ite_self]
      exact ih μ

/-- the loop of `Omit` is the loop of `OmitBy` with `fn = (k ∈ keys)`; with a well-formed `keys` slice
`Contains` never panics -/
theorem omitLoopM_eq {σ : Store} {keys : Slice} (hk : WF σ keys) (id : Nat) (it : List (Int × Int)) (μ : MStore) :
    omitLoopM σ keys id it μ = some (omitByLoopM (fun k _ => decide (k ∈ elems σ keys)) id it μ) := by
  induction it generalizing μ with
  | nil => rfl
  | cons e r ih =>
    obtain ⟨k, v⟩ := e
    have hc : containsStore σ keys k = some (decide (k ∈ elems σ keys)) := by
      rw [containsStore_eq hk, Lemmas.C11.contains_eq]
    simp only [omitLoopM, omitByLoopM, hc]
    split
    · by_cases hm : k ∈ elems σ keys
      · simp only [hm, decide_true, if_true]; exact ih _
      · simp only [hm, decide_false]; exact ih _
    · exact ih _

end GoguVerif.Lemmas.C16Helpers3
