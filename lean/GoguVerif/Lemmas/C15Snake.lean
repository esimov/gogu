import GoguVerif.Lemmas.C15Case
/-!
Each word is cut at the matches of `[a-zö][A-ZÖ]+`; the loop writes the `join`, by the delimiter, of the lower-cased
pieces of all words.  Such a join is a fixed point: scanning it again finds the same pieces, and a piece has no match.
-/
namespace GoguVerif.Lemmas.C15
open GoguVerif.Go.Utf8 GoguVerif.Model.C15 GoguVerif.Spec.C15

theorem upperRun_le (t : Str) : upperRun t ≤ t.length := by
  fun_induction upperRun t with
  | case1 rest ih => simp only [List.length_cons]; omega
  | case2 b rest _ h ih => simp only [List.length_cons]; omega
  | case3 b rest _ h => omega
  | case4 => omega

theorem lowerAt_pos (t : Str) (k : Nat) (h : lowerAt t = some k) : 1 ≤ k := by
  unfold lowerAt at h
  split at h
  · simp only [Option.some.injEq] at h; subst h; simp
  · split at h
    · simp only [Option.some.injEq] at h; subst h; simp
    · exact nomatch h
  · exact nomatch h

/-- match starts: strictly increasing, every match (≥ 2 bytes) lies inside the word of length `n` -/
def Starts (n : Nat) : List Nat → Prop
  | [] => True
  | [m] => m + 2 ≤ n
  | m :: m' :: ms => m < m' ∧ Starts n (m' :: ms)

theorem Starts.tail {n m : Nat} {ms : List Nat} (h : Starts n (m :: ms)) : Starts n ms := by
  cases ms with
  | nil => trivial
  | cons m' ms => exact h.2

/-- The invariant of the scan (`findCamel_starts`): the first start is at least `lo`, the position the scan has reached,
every later one lies behind its predecessor, and every match (≥ 2 bytes) lies inside the word of length `n`.  It is
also what `cutsFrom lo` needs for non-empty pieces.  Every proof below uses this predicate; `Starts` is what is left of
it when `lo` is forgotten (`StartsGe.starts`). -/
def StartsGe (lo n : Nat) : List Nat → Prop
  | [] => True
  | m :: ms => lo ≤ m ∧ m + 2 ≤ n ∧ StartsGe (m + 1) n ms

theorem StartsGe.mono {lo lo' n : Nat} {L : List Nat} (h : StartsGe lo n L) (hle : lo' ≤ lo) : StartsGe lo' n L := by
  cases L with
  | nil => trivial
  | cons m ms => exact ⟨Nat.le_trans hle h.1, h.2⟩

theorem StartsGe.starts {lo n : Nat} {L : List Nat} (h : StartsGe lo n L) : Starts n L := by
  induction L generalizing lo with
  | nil => trivial
  | cons m ms ih =>
    cases ms with
    | nil => exact h.2.1
    | cons m' ms => exact ⟨h.2.2.1, ih h.2.2⟩

theorem findCamel_starts (t : Str) (i k : Nat) :
    StartsGe (i + k) (i + t.length) ((findCamel i k t).map (·.1)) := by
  induction t generalizing i k with
  | nil => trivial
  | cons b rest ih =>
    have e : i + (rest.length + 1) = i + 1 + rest.length := by omega
    rw [List.length_cons, e]
    cases k with
    | succ k => exact (ih (i + 1) k).mono (by omega)
    | zero =>
      have h0 := (ih (i + 1) 0).mono (lo' := i + 0) (by omega)
      simp only [findCamel]
      split
      · rename_i w hw
        have hwle := lowerAt_pos _ _ hw
        have hu := upperRun_le ((b :: rest).drop w)
        rw [List.length_drop, List.length_cons] at hu
        split
        · simp only [List.map_cons]
          exact ⟨by omega, by omega, (ih (i + 1) _).mono (by omega)⟩
        · exact h0
      · exact h0

def matchStarts (w : Str) : List Nat := (findCamel 0 0 w).map (·.1)

theorem matchStarts_ok (w : Str) : StartsGe 0 w.length (matchStarts w) := by
  have := findCamel_starts w 0 0
  rwa [Nat.zero_add, Nat.zero_add] at this

/-- `List.intercalate`, written out so that it unfolds like the loop that writes `piece, delimiter, piece, …` -/
def join (d : Str) : List Str → Str
  | [] => []
  | [p] => p
  | p :: q :: r => p ++ d ++ join d (q :: r)

/-- the first piece, then every further one behind a delimiter: the form in which `join` meets `filter`, `map`, `∈` -/
theorem join_cons (d p : Str) (qs : List Str) : join d (p :: qs) = p ++ qs.flatMap (d ++ ·) := by
  induction qs generalizing p with
  | nil => exact (List.append_nil p).symm
  | cons q r ih => rw [join, ih, List.flatMap_cons, List.append_assoc, List.append_assoc]

/-- `w` from position `a` on, cut behind every match start `m`: the matched lower-case byte stays with the piece on its
left (`Substr(str, 0, m0+1)`, then `Substr(str, m+1, m'-m)`, the last piece to the end of the word).  `StartsGe a` is
what makes every piece non-empty. -/
def cutsFrom (w : Str) (a : Nat) : List Nat → List Str
  | [] => [w.drop a]
  | m :: ms => (w.drop a).take (m + 1 - a) :: cutsFrom w (m + 1) ms

theorem cutsFrom_ne_nil (w : Str) (a : Nat) (L : List Nat) : cutsFrom w a L ≠ [] := by
  cases L <;> exact List.cons_ne_nil _ _

theorem cutsFrom_spec (w : Str) (a : Nat) (L : List Nat) (h : StartsGe a w.length L) :
    (cutsFrom w a L).flatten = w.drop a ∧ (a < w.length → ∀ p ∈ cutsFrom w a L, p ≠ []) := by
  induction L generalizing a with
  | nil =>
    refine ⟨List.append_nil _, fun ha => List.forall_mem_singleton.mpr (List.ne_nil_of_length_pos ?_)⟩
    rw [List.length_drop]; omega
  | cons m ms ih =>
    obtain ⟨h1, h2, h3⟩ := h
    obtain ⟨i1, i2⟩ := ih (m + 1) h3
    refine ⟨?_, fun ha => List.forall_mem_cons.mpr ⟨List.ne_nil_of_length_pos ?_, i2 (by omega)⟩⟩
    · have e : w.drop (m + 1) = (w.drop a).drop (m + 1 - a) := by rw [List.drop_drop]; congr 1; omega
      rw [cutsFrom, List.flatten_cons, i1, e, List.take_append_drop]
    · rw [List.length_take, List.length_drop]; omega

theorem snakePieces_eval (lo : Rune → Rune) (d w : Str) (m : Nat) (ms : List Nat) (hm : m + 2 ≤ w.length)
    (h : StartsGe (m + 1) w.length ms) :
    snakePieces lo d w (m :: ms) = .ok (join d ((cutsFrom w (m + 1) ms).map (toLower lo))) := by
  induction ms generalizing m with
  | nil =>
    have e : ((w.length : Int) - m + 1) = ((w.length - m + 1 : Nat) : Int) := by omega
    rw [snakePieces, ← Int.natCast_add_one, e, substr_nat, List.take_of_length_le (by rw [List.length_drop]; omega),
      map_ok]
    rfl
  | cons m' ms ih =>
    obtain ⟨h1, h2, h3⟩ := h
    obtain ⟨q, r, hq⟩ := List.exists_cons_of_ne_nil (cutsFrom_ne_nil w (m' + 1) ms)
    rw [snakePieces, ← Int.natCast_add_one, ← Int.ofNat_sub (Nat.le_of_lt h1), substr_nat, ih m' h2 h3, bind_ok, map_ok,
      cutsFrom, hq, Nat.add_sub_add_right]
    rfl

theorem snakeWord_eval (lo : Rune → Rune) (d w : Str) (more : Bool) :
    snakeWord lo d w more =
      .ok (join d ((cutsFrom w 0 (matchStarts w)).map (toLower lo)) ++ (if more then d else [])) := by
  have h := matchStarts_ok w
  unfold snakeWord
  rw [← matchStarts]
  generalize matchStarts w = L at h
  cases L with
  | nil => rfl
  | cons m0 ms =>
    obtain ⟨_, hm0, hms⟩ := h
    obtain ⟨q, r, hq⟩ := List.exists_cons_of_ne_nil (cutsFrom_ne_nil w (m0 + 1) ms)
    have : substr w 0 ((m0 + 1 : Nat) : Int) = .ok (w.take (m0 + 1)) := substr_nat w 0 (m0 + 1)
    dsimp only
    rw [← Int.natCast_add_one, this, snakePieces_eval lo d w m0 ms hm0 hms, bind_ok, map_ok, cutsFrom, hq]
    rfl

theorem cuts_matchStarts (w : Str) :
    (cutsFrom w 0 (matchStarts w)).flatten = w ∧ (w ≠ [] → ∀ p ∈ cutsFrom w 0 (matchStarts w), p ≠ []) :=
  have ⟨h1, h2⟩ := cutsFrom_spec w 0 _ (matchStarts_ok w)
  ⟨h1, fun hne => h2 (List.length_pos_iff.mpr hne)⟩

def piecesB (w : Str) : List Str := (cutsFrom w 0 (matchStarts w)).map (·.map lowerB)

structure Piece (p : Str) : Prop where
  ne : p ≠ []
  lower : ∀ b ∈ p, isLowerAlnum b = true

theorem Piece.word {p : Str} (h : Piece p) : Word p := fun b hb => isAlnum_of_lowerAlnum (h.lower b hb)

theorem piecesB_ne_nil (w : Str) : piecesB w ≠ [] :=
  fun h => cutsFrom_ne_nil w 0 _ (List.map_eq_nil_iff.mp h)

theorem piecesB_piece {w : Str} (hw : Word w) (hne : w ≠ []) : ∀ p ∈ piecesB w, Piece p := by
  intro p hp
  obtain ⟨c, hc, rfl⟩ := List.mem_map.mp hp
  obtain ⟨hflat, hnil⟩ := cuts_matchStarts w
  exact ⟨fun h => hnil hne c hc (List.map_eq_nil_iff.mp h), List.forall_mem_map.mpr fun x hx =>
    isLowerAlnum_lowerB (hw x (hflat ▸ List.mem_flatten.mpr ⟨c, hc, hx⟩))⟩

theorem snakeWord_word {lo up : Rune → Rune} (ht : AsciiTable lo up) (d : Str) {w : Str} (hw : Word w) (more : Bool) :
    snakeWord lo d w more = .ok (join d (piecesB w) ++ (if more then d else [])) := by
  have : (cutsFrom w 0 (matchStarts w)).map (toLower lo) = piecesB w :=
    List.map_congr_left fun p hp => toLower_word ht fun b hb =>
      hw b ((cuts_matchStarts w).1 ▸ List.mem_flatten.mpr ⟨p, hp, hb⟩)
  rw [snakeWord_eval, this]

theorem join_append (d : Str) (ps qs : List Str) (hp : ps ≠ []) (hq : qs ≠ []) :
    join d (ps ++ qs) = join d ps ++ d ++ join d qs := by
  obtain ⟨p, r, rfl⟩ := List.exists_cons_of_ne_nil hp
  obtain ⟨q, s, rfl⟩ := List.exists_cons_of_ne_nil hq
  simp only [List.cons_append, join_cons, List.flatMap_append, List.flatMap_cons, List.append_assoc]

theorem join_filter (d : UInt8) (hd : isAlnum d = false) (ps : List Str) :
    (join [d] ps).filter isAlnum = ps.flatten.filter isAlnum := by
  cases ps with
  | nil => rfl
  | cons p qs =>
    rw [join_cons, List.filter_append, List.filter_flatMap, List.flatten_cons, List.filter_append, List.filter_flatten,
      ← List.flatMap_def]
    simp only [List.singleton_append, List.filter_cons_of_neg (Bool.eq_false_iff.mp hd)]

theorem join_bytes (d : UInt8) (ps : List Str) : ∀ b ∈ join [d] ps, b = d ∨ ∃ p ∈ ps, b ∈ p := by
  cases ps with
  | nil => exact nofun
  | cons p qs =>
    intro b hb
    rw [join_cons] at hb
    rcases List.mem_append.mp hb with hb | hb
    · exact Or.inr ⟨p, List.mem_cons_self, hb⟩
    · obtain ⟨q, hq, hbq⟩ := List.mem_flatMap.mp hb
      exact (List.mem_cons.mp hbq).imp id fun h => ⟨q, List.mem_cons_of_mem _ hq, h⟩

theorem join_map (f : UInt8 → UInt8) (d : UInt8) (ps : List Str) :
    (join [d] ps).map f = join [f d] (ps.map (·.map f)) := by
  cases ps with
  | nil => rfl
  | cons p qs => rw [join_cons, List.map_append, List.map_flatMap, List.map_cons, join_cons, List.flatMap_map]; rfl

def allPieces (ws : List Str) : List Str := ws.flatMap fun w => if w = [] then [] else piecesB w

theorem allPieces_piece (ws : List Str) (hw : ∀ w ∈ ws, Word w) : ∀ p ∈ allPieces ws, Piece p := by
  intro p hp
  obtain ⟨w, hwm, hpw⟩ := List.mem_flatMap.mp hp
  by_cases he : w = []
  · rw [if_pos he] at hpw; exact nomatch hpw
  · rw [if_neg he] at hpw
    exact piecesB_piece (hw w hwm) he p hpw

theorem allPieces_flatten (ws : List Str) : (allPieces ws).flatten = ws.flatten.map lowerB := by
  induction ws with
  | nil => rfl
  | cons w rest ih =>
    rw [allPieces, List.flatMap_cons, ← allPieces, List.flatten_append, ih, List.flatten_cons, List.map_append]
    congr 1
    split
    · subst w; rfl
    · rw [piecesB, ← List.map_flatten, (cuts_matchStarts w).1]

/-- The loop's test for writing the delimiter after word `i`, `len(chars) > 1 && i != len(chars)-1`: true exactly
when words are still to come (`k` of them). -/
theorem delimAfter_eq {n i k : Nat} (h : i + (k + 1) = n) : (decide (n > 1) && decide (i ≠ n - 1)) = decide (0 < k) := by
  subst h
  cases k <;> simp <;> omega

/-- If the last word is not empty no delimiter is left hanging: the loop writes the join of all pieces.  Every word
but the last has `more = true`. -/
theorem snakeLoop_join {lo up : Rune → Rune} (ht : AsciiTable lo up) (d : UInt8) (n : Nat) (init : List Str) (wl : Str)
    (hw : ∀ w ∈ init ++ [wl], Word w) (hwl : wl ≠ []) (i : Nat) (sb : Str) (hi : i + (init ++ [wl]).length = n) :
    snakeLoop lo [d] n (init ++ [wl]) i sb = .ok (sb ++ join [d] (allPieces (init ++ [wl]))) := by
  induction init generalizing i sb with
  | nil =>
    have hww : Word wl := hw wl List.mem_cons_self
    rw [List.nil_append, snakeLoop, runes_length_word hww, if_neg (fun h => hwl (List.length_eq_zero_iff.mp h)),
      delimAfter_eq (k := 0) hi, snakeWord_word ht [d] hww, bind_ok, snakeLoop]
    simp [allPieces, hwl]
  | cons w rest ih =>
    obtain ⟨hww, hrest⟩ := List.forall_mem_cons.mp hw
    rw [List.cons_append, List.length_cons] at hi
    rw [List.cons_append, snakeLoop, runes_length_word hww, allPieces, List.flatMap_cons, ← allPieces]
    by_cases he : w = []
    · subst he
      rw [if_pos rfl, List.length_nil, if_pos rfl]
      exact ih hrest (i + 1) sb (by omega)
    · have hne : allPieces (rest ++ [wl]) ≠ [] := by
        rw [allPieces, List.flatMap_append, List.flatMap_singleton, if_neg hwl]
        exact List.append_ne_nil_of_right_ne_nil _ (piecesB_ne_nil wl)
      rw [if_neg (fun h => he (List.length_eq_zero_iff.mp h)), if_neg he, delimAfter_eq hi,
        decide_eq_true (List.length_pos_iff.mpr (List.append_ne_nil_of_right_ne_nil _ (List.cons_ne_nil _ _))),
        snakeWord_word ht [d] hww, bind_ok, ih hrest (i + 1) _ (by omega), join_append _ _ _ (piecesB_ne_nil w) hne]
      simp only [if_true, List.append_assoc]

theorem replaceSeps_word_append (p : Str) (hp : Word p) (hne : p ≠ []) (rest : Str) (f : Bool) :
    replaceSeps f (p ++ rest) = p ++ replaceSeps false rest := by
  induction p generalizing f with
  | nil => exact absurd rfl hne
  | cons b t ih =>
    rw [List.cons_append, replaceSeps_cons_of_not_sep (isSep_of_alnum hp.head)]
    cases t with
    | nil => rfl
    | cons c t' => rw [ih hp.tail (List.cons_ne_nil _ _) false]; rfl

theorem splitSpace_word_append (p : Str) (hp : Word p) (rest cur : Str) :
    splitSpace cur (p ++ rest) = splitSpace (cur ++ p) rest := by
  induction p generalizing cur with
  | nil => rw [List.nil_append, List.append_nil]
  | cons b t ih =>
    rw [List.cons_append, splitSpace_cons_of_ne (not_space_of_alnum hp.head), ih hp.tail, List.append_assoc]
    rfl

theorem splitSpace_replaceSeps_join (d : UInt8) (hd : isSep d = true) (p : Str) (qs : List Str) (hps : ∀ x ∈ p :: qs, Piece x)
    (f : Bool) : splitSpace [] (replaceSeps f (join [d] (p :: qs))) = p :: qs := by
  induction qs generalizing p f with
  | nil =>
    have hp := hps p List.mem_cons_self
    rw [show join [d] [p] = p ++ [] from (List.append_nil p).symm, replaceSeps_word_append p hp.word hp.ne,
      splitSpace_word_append p hp.word]
    rfl
  | cons q r ih =>
    obtain ⟨hp, hr⟩ := List.forall_mem_cons.mp hps
    rw [join, List.append_assoc, replaceSeps_word_append p hp.word hp.ne, splitSpace_word_append p hp.word,
      List.singleton_append, replaceSeps_cons_sep hd]
    exact congrArg (_ :: ·) (ih q hr true)

-- a lower-case letter or digit is neither the lead byte `0xC3` of `Ö` nor in `A`–`Z`
theorem upperRun_lower (t : Str) (h : ∀ b ∈ t, isLowerAlnum b = true) : upperRun t = 0 := by
  fun_cases upperRun t with
  | case1 rest =>
    have := (isLowerAlnum_iff 0xC3).mp (h _ List.mem_cons_self)
    have e : (0xC3 : UInt8).toNat = 0xC3 := rfl
    omega
  | case2 b rest _ hb =>
    have := (isLowerAlnum_iff b).mp (h _ List.mem_cons_self)
    simp only [Bool.and_eq_true, decide_eq_true_eq] at hb
    omega
  | case3 => rfl
  | case4 => rfl

theorem findCamel_lower (t : Str) (h : ∀ b ∈ t, isLowerAlnum b = true) (i k : Nat) : findCamel i k t = [] := by
  induction t generalizing i k with
  | nil => rfl
  | cons b rest ih =>
    have hr := (List.forall_mem_cons.mp h).2
    cases k with
    | succ k => exact ih hr _ _
    | zero =>
      simp only [findCamel]
      split
      · rename_i w _
        rw [upperRun_lower _ (fun c hc => h c (List.mem_of_mem_drop hc)), if_neg (Nat.lt_irrefl 0)]
        exact ih hr _ _
      · exact ih hr _ _

theorem piecesB_eq_singleton {p : Str} (hp : Piece p) : piecesB p = [p] := by
  rw [piecesB, matchStarts, findCamel_lower p hp.lower]
  exact congrArg (· :: []) ((List.map_congr_left fun b hb => lowerB_lower (hp.lower b hb)).trans (List.map_id p))

theorem allPieces_eq_self (ps : List Str) (hps : ∀ p ∈ ps, Piece p) : allPieces ps = ps := by
  induction ps with
  | nil => rfl
  | cons p r ih =>
    obtain ⟨hp, hr⟩ := List.forall_mem_cons.mp hps
    rw [allPieces, List.flatMap_cons, ← allPieces, ih hr, if_neg hp.ne, piecesB_eq_singleton hp]
    rfl

theorem join_pieces_fixed {lo up : Rune → Rune} (ht : AsciiTable lo up) (d : UInt8) (hd : isSep d = true)
    (ps : List Str) (hps : ∀ p ∈ ps, Piece p) :
    splitStringWithDelimiter lo (join [d] ps) [d] = .ok (join [d] ps) := by
  cases ps with
  | nil => rfl
  | cons p qs =>
    have hwords : ∀ x ∈ p :: qs, Word x := fun x hx => (hps x hx).word
    -- every byte of the text is a printable ASCII byte, so TrimSpace changes nothing
    have hpr : ∀ b ∈ join [d] (p :: qs), 0x21 ≤ b.toNat ∧ b.toNat ≤ 0x7E := by
      intro b hb
      rcases join_bytes d _ b hb with rfl | ⟨x, hx, hbx⟩
      · rw [isSep_iff] at hd; omega
      · exact alnum_printable (hwords x hx b hbx)
    obtain ⟨init, wl, hinit⟩ : ∃ init wl, p :: qs = init ++ [wl] :=
      ⟨_, _, (List.dropLast_concat_getLast (List.cons_ne_nil _ _)).symm⟩
    have hwl : wl ≠ [] := (hps wl (by rw [hinit]; simp)).ne
    unfold splitStringWithDelimiter
    dsimp only
    rw [trimSpace_id _ (fun b hb => hpr b (List.mem_of_head? hb)) (fun z hz => hpr z (List.mem_of_getLast? hz)),
      splitSpace_replaceSeps_join d hd _ _ hps false, hinit, snakeLoop_join ht d _ init wl (hinit ▸ hwords) hwl 0 [] (Nat.zero_add _), List.nil_append, ← hinit,
      allPieces_eq_self _ hps]

/-- the first two clauses of `delimOk`, the second with the letters as the pieces give them (`domain_pieces` has
`ps.flatten = letters s`) -/
theorem join_pieces_ok (d : UInt8) (hd : isSep d = true) (ps : List Str) (hps : ∀ p ∈ ps, Piece p) :
    (join [d] ps).all (fun b => isDigit b || isLower b || b == d) = true ∧
    (join [d] ps).filter isAlnum = ps.flatten := by
  constructor
  · rw [List.all_eq_true]
    intro b hb
    rcases join_bytes d ps b hb with rfl | ⟨p, hp, hbp⟩
    · rw [beq_self_eq_true, Bool.or_true]
    · rw [show (isDigit b || isLower b) = true from (hps p hp).lower b hbp, Bool.true_or]
  · rw [join_filter d (sepB_cases ((isSepB_iff d).mpr (.inr hd))).1, List.filter_eq_self]
    intro b hb
    obtain ⟨p, hp, hbp⟩ := List.mem_flatten.mp hb
    exact (hps p hp).word b hbp

theorem join_pieces_swap (ps : List Str) (hps : ∀ p ∈ ps, Piece p) :
    (join [0x5F] ps).map (fun b => if b == 0x5F then 0x2D else b) = join [0x2D] ps := by
  rw [join_map]
  refine congrArg _ ((List.map_congr_left fun p hp => ?_).trans (List.map_id ps))
  refine (List.map_congr_left fun b hb => ?_).trans (List.map_id p)
  have := (isLowerAlnum_iff b).mp ((hps p hp).lower b hb)
  have hne : ¬ b = 0x5F := fun e => by subst e; have e : (0x5F : UInt8).toNat = 0x5F := rfl; omega
  simp only [beq_iff_eq, hne, if_false, id]

/-- Snake and Kebab return the join, each by its own delimiter, of one and the same list of pieces. -/
theorem domain_pieces {lo up : Rune → Rune} (ht : AsciiTable lo up) (s : Str) (h : inDomain s = true) :
    ∃ ps, (∀ p ∈ ps, Piece p) ∧ ps.flatten = letters s ∧
      ∀ d, splitStringWithDelimiter lo s [d] = .ok (join [d] ps) := by
  obtain ⟨hw, hflat, _⟩ := domain_words s h
  refine ⟨_, allPieces_piece _ hw, by rw [allPieces_flatten, hflat, letters], fun d => ?_⟩
  unfold splitStringWithDelimiter
  dsimp only
  by_cases hne : s = []
  · subst hne; rfl
  · obtain ⟨init, wl, hc, hwl⟩ := domain_last_word_ne_nil s h hne
    rw [hc] at hw ⊢
    rw [snakeLoop_join ht d _ init wl hw hwl 0 [] (Nat.zero_add _), List.nil_append]

end GoguVerif.Lemmas.C15
