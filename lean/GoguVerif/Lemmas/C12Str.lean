import GoguVerif.Model.C12
import GoguVerif.Spec.C12
/-!
# C12 — helper lemmas for ReverseStr: Go's rune decoding inverts UTF-8 encoding of scalar values

Both decoders (the model's lenient one and the strict one of the specification) are compared with one
description of the well-formed byte sequences, `First`, which speaks of the six-bit digits of the value and of the
rows of table 3-7 as `first?` tests them: walking through a decoder needs no division.  Rows and value ranges
meet in `row3_iff`, `row4_iff`; digits and `utf8` in `utf8_2`, `utf8_3`, `utf8_4`.
-/
namespace GoguVerif.Lemmas.C12
open GoguVerif.Model.C12 GoguVerif.Spec.C12

theorem trail_iff (b : Nat) : trail b = true ↔ 0x80 ≤ b ∧ b ≤ 0xBF := by simp [trail]

theorem trail_add {y : Nat} : trail (0x80 + y) = true ↔ y < 0x40 := by rw [trail_iff]; omega

/-- second byte of a three-byte sequence with lead byte `b0` (table 3-7): the test of `first?`, verbatim.  `First.of_first?`
hands the decoder's hypothesis over as a `Row3`, which is why this stays an `abbrev` of exactly that text. -/
abbrev Row3 (b0 b1 : Nat) : Prop :=
  (b0 = 0xE0 ∧ 0xA0 ≤ b1 ∧ b1 ≤ 0xBF) ∨ (0xE1 ≤ b0 ∧ b0 ≤ 0xEC ∧ trail b1) ∨
    (b0 = 0xED ∧ 0x80 ≤ b1 ∧ b1 ≤ 0x9F) ∨ (0xEE ≤ b0 ∧ trail b1)

/-- second byte of a four-byte sequence, likewise -/
abbrev Row4 (b0 b1 : Nat) : Prop :=
  (b0 = 0xF0 ∧ 0x90 ≤ b1 ∧ b1 ≤ 0xBF) ∨ (0xF1 ≤ b0 ∧ b0 ≤ 0xF3 ∧ trail b1) ∨ (b0 = 0xF4 ∧ 0x80 ≤ b1 ∧ b1 ≤ 0x8F)

/-- `b0 :: rest` starts with a well-formed sequence of value `d.1` and width `d.2`: the lead byte is a width marker
plus the high bits `a`, every trail byte `0x80` plus six bits, the second byte in the row of its lead byte.  `w3` and
`w4` bound neither `x` nor (`w4`) `a`: the row does. -/
inductive First : Nat → List Nat → Nat × Nat → Prop
  | w1 {r t} : r ≤ 0x7F → First r t (r, 1)
  | w2 {a x t} : 2 ≤ a → a < 0x20 → x < 0x40 → First (0xC0 + a) ((0x80 + x) :: t) (a * 0x40 + x, 2)
  | w3 {a x y t} : a < 0x10 → y < 0x40 → Row3 (0xE0 + a) (0x80 + x) →
      First (0xE0 + a) ((0x80 + x) :: (0x80 + y) :: t) (a * 0x1000 + x * 0x40 + y, 3)
  | w4 {a x y z t} : y < 0x40 → z < 0x40 → Row4 (0xF0 + a) (0x80 + x) →
      First (0xF0 + a) ((0x80 + x) :: (0x80 + y) :: (0x80 + z) :: t)
        (a * 0x40000 + x * 0x1000 + y * 0x40 + z, 4)

theorem First.of_first? {b0 : Nat} {rest : List Nat} {d : Nat × Nat} (h : first? b0 rest = some d) :
    First b0 rest d := by
  revert h
  fun_cases first? b0 rest <;> intro h
  -- ASCII
  case case1 c1 => cases Option.some.inj h; exact .w1 c1
  -- two bytes
  case case3 _ b1 _ c2 t1 =>
    obtain ⟨a, rfl⟩ := Nat.exists_eq_add_of_le (show 0xC0 ≤ b0 by omega)
    obtain ⟨x, rfl⟩ := Nat.exists_eq_add_of_le ((trail_iff _).mp t1).1
    cases Option.some.inj h
    simp only [Nat.add_sub_cancel_left]
    exact .w2 (by omega) (by omega) (trail_add.mp t1)
  -- three bytes
  case case6 _ b1 _ b2 _ c3 hc =>
    obtain ⟨a, rfl⟩ := Nat.exists_eq_add_of_le c3.1
    obtain ⟨x, rfl⟩ := Nat.exists_eq_add_of_le
      (show 0x80 ≤ b1 by have := hc.1; simp only [trail_iff] at this; omega)
    obtain ⟨y, rfl⟩ := Nat.exists_eq_add_of_le ((trail_iff _).mp hc.2).1
    cases Option.some.inj h
    simp only [Nat.add_sub_cancel_left]
    exact .w3 (by omega) (trail_add.mp hc.2) hc.1
  -- four bytes
  case case9 _ b1 _ b2 _ b3 _ hc =>
    have hb := hc.1
    simp only [trail_iff] at hb
    obtain ⟨a, rfl⟩ := Nat.exists_eq_add_of_le (show 0xF0 ≤ b0 by omega)
    obtain ⟨x, rfl⟩ := Nat.exists_eq_add_of_le (show 0x80 ≤ b1 by omega)
    obtain ⟨y, rfl⟩ := Nat.exists_eq_add_of_le ((trail_iff _).mp hc.2.1).1
    obtain ⟨z, rfl⟩ := Nat.exists_eq_add_of_le ((trail_iff _).mp hc.2.2).1
    cases Option.some.inj h
    simp only [Nat.add_sub_cancel_left]
    exact .w4 (trail_add.mp hc.2.1) (trail_add.mp hc.2.2) hc.1
  -- the other six branches answer `none`
  all_goals cases h

theorem First.first?_eq {b0 : Nat} {rest : List Nat} {d : Nat × Nat} (h : First b0 rest d) :
    first? b0 rest = some d := by
  unfold first?
  cases h with
  | w1 h0 => exact if_pos h0
  | w2 _ _ hx =>
    rw [if_neg (by omega)]; dsimp only
    rw [if_pos (by omega), if_pos (trail_add.mpr hx), Nat.add_sub_cancel_left, Nat.add_sub_cancel_left]
  | w3 _ hy h3 =>
    rw [if_neg (by omega)]; dsimp only
    rw [if_neg (by omega), if_pos (by omega), if_pos ⟨h3, trail_add.mpr hy⟩]
    simp only [Nat.add_sub_cancel_left]
  | w4 hy hz h4 =>
    rw [if_neg (by omega)]; dsimp only
    rw [if_neg (by omega), if_neg (by omega), if_pos ⟨h4, trail_add.mpr hy, trail_add.mpr hz⟩]
    simp only [Nat.add_sub_cancel_left]

theorem First.decodeFirst_eq {b0 : Nat} {rest : List Nat} {d : Nat × Nat} (h : First b0 rest d) :
    decodeFirst b0 rest = d := by
  -- the model's `isCont` is the specification's `trail` by unfolding, so `trail_add` answers the decoder's tests too
  unfold decodeFirst
  cases h with
  | w1 h0 => exact if_pos (by omega)
  | w2 _ _ hx =>
    rw [if_neg (by omega), if_pos (by omega)]
    exact (if_pos (trail_add.mpr hx)).trans (by rw [Nat.add_sub_cancel_left, Nat.add_sub_cancel_left])
  | w3 _ hy h3 =>
    rw [if_neg (by omega), if_neg (by omega), if_pos (by omega)]
    simp only [Row3, trail_iff] at h3
    refine (if_pos ⟨?_, ?_, trail_add.mpr hy⟩).trans (by simp only [Nat.add_sub_cancel_left])
    · split <;> omega
    · split <;> omega
  | w4 hy hz h4 =>
    simp only [Row4, trail_iff] at h4
    rw [if_neg (by omega), if_neg (by omega), if_neg (by omega), if_pos (by omega)]
    refine (if_pos ⟨?_, ?_, trail_add.mpr hy, trail_add.mpr hz⟩).trans (by simp only [Nat.add_sub_cancel_left])
    · split <;> omega
    · split <;> omega

-- Every bound on the value (0x800, 0xD800, 0xE000; 0x10000, 0x110000) is a multiple of 64^(k-2) for a sequence of
-- k bytes, so comparing the value with it is comparing its two leading digits `a`, `x`: that is what a row says.
theorem row3_iff {a x y : Nat} (ha : a < 0x10) (hy : y < 0x40) :
    Row3 (0xE0 + a) (0x80 + x) ↔
      x < 0x40 ∧ 0x800 ≤ a * 0x1000 + x * 0x40 + y ∧ Scalar (a * 0x1000 + x * 0x40 + y) := by
  simp only [Row3, trail_iff, Scalar]; omega

theorem row4_iff {a x y z : Nat} (hy : y < 0x40) (hz : z < 0x40) :
    Row4 (0xF0 + a) (0x80 + x) ↔
      x < 0x40 ∧ 0x10000 ≤ a * 0x40000 + x * 0x1000 + y * 0x40 + z ∧
        a * 0x40000 + x * 0x1000 + y * 0x40 + z ≤ 0x10FFFF := by
  simp only [Row4, trail_iff]; omega

theorem digit_div (q m b : Nat) (hm : m < b) : (q * b + m) / b = q := by
  rw [Nat.mul_comm, Nat.mul_add_div (Nat.zero_lt_of_lt hm), Nat.div_eq_of_lt hm]; rfl

theorem digit_mod (q m b : Nat) (hm : m < b) : (q * b + m) % b = m :=
  Nat.mul_add_mod_of_lt hm

theorem pack3 (a x y : Nat) (hx : x < 0x40) (hy : y < 0x40) :
    (a * 0x1000 + x * 0x40 + y) / 0x1000 = a ∧ (a * 0x1000 + x * 0x40 + y) / 0x40 % 0x40 = x ∧
      (a * 0x1000 + x * 0x40 + y) % 0x40 = y := by
  have e : a * 0x1000 + x * 0x40 + y = (a * 0x40 + x) * 0x40 + y := by omega
  refine ⟨?_, ?_, ?_⟩
  · rw [Nat.add_assoc]; exact digit_div a (x * 0x40 + y) 0x1000 (by omega)
  · rw [e, digit_div _ y 0x40 hy]; exact digit_mod a x 0x40 hx
  · rw [e]; exact digit_mod _ y 0x40 hy

theorem pack4 (a x y z : Nat) (hx : x < 0x40) (hy : y < 0x40) (hz : z < 0x40) :
    (a * 0x40000 + x * 0x1000 + y * 0x40 + z) / 0x40000 = a ∧
      (a * 0x40000 + x * 0x1000 + y * 0x40 + z) / 0x1000 % 0x40 = x ∧
      (a * 0x40000 + x * 0x1000 + y * 0x40 + z) / 0x40 % 0x40 = y ∧
      (a * 0x40000 + x * 0x1000 + y * 0x40 + z) % 0x40 = z := by
  have e : a * 0x40000 + x * 0x1000 = (a * 0x40 + x) * 0x1000 := by omega
  obtain ⟨h1, h2, h3⟩ := pack3 (a * 0x40 + x) y z hy hz
  rw [e]
  refine ⟨?_, ?_, h2, h3⟩
  · rw [← Nat.div_div_eq_div_mul _ 0x1000 0x40, h1]; exact digit_div a x 0x40 hx
  · rw [h1]; exact digit_mod a x 0x40 hx

theorem digits3 (r : Nat) : ∃ a x y, x < 0x40 ∧ y < 0x40 ∧ r = a * 0x1000 + x * 0x40 + y := by
  refine ⟨r / 0x1000, r / 0x40 % 0x40, r % 0x40, Nat.mod_lt _ (by decide), Nat.mod_lt _ (by decide), ?_⟩
  have h := Nat.div_add_mod' r 0x40
  have hq := Nat.div_add_mod' (r / 0x40) 0x40
  rw [Nat.div_div_eq_div_mul] at hq
  rw [← hq, Nat.add_mul, Nat.mul_assoc] at h
  exact h.symm

theorem digits4 (r : Nat) :
    ∃ a x y z, x < 0x40 ∧ y < 0x40 ∧ z < 0x40 ∧ r = a * 0x40000 + x * 0x1000 + y * 0x40 + z := by
  obtain ⟨q, y, z, hy, hz, rfl⟩ := digits3 r
  exact ⟨q / 0x40, q % 0x40, y, z, Nat.mod_lt _ (by decide), hy, hz, by
    rw [show (0x40000 : Nat) = 0x40 * 0x1000 from rfl, ← Nat.mul_assoc, ← Nat.add_mul, Nat.div_add_mod']⟩

/-! `utf8` on the digits (table 3-6) -/

theorem not_le_of_lt_le {k m r : Nat} (h : k < m) (lo : m ≤ r) : ¬ r ≤ k :=
  Nat.not_le.mpr (Nat.lt_of_lt_of_le h lo)

theorem utf8_2 {a x : Nat} (hx : x < 0x40) (lo : 0x80 ≤ a * 0x40 + x) (hi : a < 0x20) :
    utf8 (a * 0x40 + x) = [0xC0 + a, 0x80 + x] := by
  unfold utf8
  rw [if_neg (by omega), if_pos (by omega), digit_div a x 0x40 hx, digit_mod a x 0x40 hx]

theorem utf8_3 {a x y : Nat} (hx : x < 0x40) (hy : y < 0x40) (lo : 0x800 ≤ a * 0x1000 + x * 0x40 + y)
    (hi : a < 0x10) : utf8 (a * 0x1000 + x * 0x40 + y) = [0xE0 + a, 0x80 + x, 0x80 + y] := by
  unfold utf8
  obtain ⟨e1, e2, e3⟩ := pack3 a x y hx hy
  rw [if_neg (not_le_of_lt_le (by decide) lo), if_neg (not_le_of_lt_le (by decide) lo), if_pos (by omega), e1, e2,
    e3]

theorem utf8_4 {a x y z : Nat} (hx : x < 0x40) (hy : y < 0x40) (hz : z < 0x40)
    (lo : 0x10000 ≤ a * 0x40000 + x * 0x1000 + y * 0x40 + z) :
    utf8 (a * 0x40000 + x * 0x1000 + y * 0x40 + z) = [0xF0 + a, 0x80 + x, 0x80 + y, 0x80 + z] := by
  unfold utf8
  obtain ⟨e1, e2, e3, e4⟩ := pack4 a x y z hx hy hz
  rw [if_neg (not_le_of_lt_le (by decide) lo), if_neg (not_le_of_lt_le (by decide) lo),
    if_neg (not_le_of_lt_le (by decide) lo), e1, e2, e3, e4]

theorem First.sound {b0 : Nat} {rest : List Nat} {d : Nat × Nat} (h : First b0 rest d) :
    Scalar d.1 ∧ b0 :: rest = utf8 d.1 ++ rest.drop (d.2 - 1) := by
  cases h with
  | w1 h0 => exact ⟨.inl (by omega), by unfold utf8; rw [if_pos h0]; rfl⟩
  | w2 lo ha hx => exact ⟨.inl (by omega), by rw [utf8_2 hx (by omega) ha]; rfl⟩
  | w3 ha hy h3 =>
    obtain ⟨hx, lo, hs⟩ := (row3_iff ha hy).mp h3
    exact ⟨hs, by rw [utf8_3 hx hy lo ha]; rfl⟩
  | w4 hy hz h4 =>
    obtain ⟨hx, lo, hi⟩ := (row4_iff hy hz).mp h4
    exact ⟨.inr ⟨by omega, hi⟩, by rw [utf8_4 hx hy hz lo]; rfl⟩

theorem First.of_scalar {r : Nat} (h : Scalar r) :
    ∃ b0 bs, utf8 r = b0 :: bs ∧ ∀ tail, First b0 (bs ++ tail) (r, bs.length + 1) := by
  by_cases h1 : r ≤ 0x7F
  · exact ⟨r, [], by unfold utf8; rw [if_pos h1], fun _ => .w1 h1⟩
  by_cases h2 : r ≤ 0x7FF
  · obtain ⟨a, x, hx, rfl⟩ : ∃ a x, x < 0x40 ∧ r = a * 0x40 + x :=
      ⟨_, _, Nat.mod_lt _ (by decide), (Nat.div_add_mod' r 0x40).symm⟩
    exact ⟨_, _, utf8_2 hx (by omega) (by omega), fun _ => .w2 (by omega) (by omega) hx⟩
  by_cases h3 : r ≤ 0xFFFF
  · obtain ⟨a, x, y, hx, hy, rfl⟩ := digits3 r
    have ha : a < 0x10 := by omega
    exact ⟨_, _, utf8_3 hx hy (by omega) ha, fun _ => .w3 ha hy ((row3_iff ha hy).mpr ⟨hx, by omega, h⟩)⟩
  · obtain ⟨a, x, y, z, hx, hy, hz, rfl⟩ := digits4 r
    exact ⟨_, _, utf8_4 hx hy hz (by omega), fun _ =>
      .w4 hy hz ((row4_iff hy hz).mpr ⟨hx, by omega, by unfold Scalar at h; omega⟩)⟩

theorem encodeRune_eq_utf8 (r : Nat) (h : Scalar r) : encodeRune r = utf8 r := by
  unfold Scalar at h
  unfold encodeRune utf8
  by_cases h1 : r ≤ 0x7F
  · rw [if_pos h1, if_pos (by omega)]
  rw [if_neg h1, if_neg (by omega)]
  by_cases h2 : r ≤ 0x7FF
  · rw [if_pos h2, if_pos (by omega)]
  rw [if_neg h2, if_neg (by omega), if_neg (by omega)]
  by_cases h3 : r ≤ 0xFFFF
  · rw [if_pos h3, if_pos (by omega)]
  · rw [if_neg h3, if_neg (by omega)]

theorem encodeRunes_eq_utf8All (rs : List Nat) (h : ∀ x ∈ rs, Scalar x) : encodeRunes rs = utf8All rs := by
  induction rs with
  | nil => rfl
  | cons r rest ih =>
    rw [encodeRunes, utf8All, encodeRune_eq_utf8 r (List.forall_mem_cons.mp h).1, ih (List.forall_mem_cons.mp h).2]

theorem parse?_utf8_append (r : Nat) (h : Scalar r) (tail : List Nat) :
    parse? (utf8 r ++ tail) = (parse? tail).map (r :: ·) := by
  obtain ⟨b0, bs, e, hf⟩ := First.of_scalar h
  rw [e, List.cons_append, parse?, (hf tail).first?_eq]
  simp only [Nat.add_sub_cancel, List.drop_left]
  cases parse? tail <;> rfl

theorem parse?_utf8All (rs : List Nat) (h : ∀ x ∈ rs, Scalar x) : parse? (utf8All rs) = some rs := by
  induction rs with
  | nil => simp [utf8All, parse?]
  | cons r rest ih =>
    simp only [utf8All]
    rw [parse?_utf8_append r (List.forall_mem_cons.mp h).1, ih (List.forall_mem_cons.mp h).2]
    rfl

/-- what it means that the strict decoder answers `rs` on `s` -/
structure Parsed (s rs : List Nat) : Prop where
  utf8 : s = utf8All rs
  scalar : ∀ x ∈ rs, Scalar x
  /-- Go's lenient decoder returns the same values -/
  decode : decodeRunes s = rs

theorem parse?_sound (s rs : List Nat) (h : parse? s = some rs) : Parsed s rs := by
  fun_induction parse? s generalizing rs with
  | case1 => cases h; exact ⟨rfl, by simp, by rw [decodeRunes]⟩
  | case2 b0 rest hf => cases h
  | case3 b0 rest d hf hp ih => cases h
  | case4 b0 rest d hf rs' hp ih =>
    cases h
    have hF := First.of_first? hf
    obtain ⟨hsc, heq⟩ := hF.sound
    have i := ih rs' hp
    refine ⟨?_, List.forall_mem_cons.mpr ⟨hsc, i.scalar⟩, by rw [decodeRunes, hF.decodeFirst_eq, i.decode]⟩
    rw [heq, utf8All, ← i.utf8]

end GoguVerif.Lemmas.C12
