import GoguVerif.Model.Bst
import GoguVerif.Lemmas.OrdMap
/-!
# C04 — helper lemmas: the tree functions of `Model.Bst` against the in-order traversal

`IsBst` is the binary-search-tree invariant as the package comment states it: the key of a node is
greater than all keys in its left subtree and less than all keys in its right subtree ("greater /
less" in the comparator's order).  On the traversal `get`, `upsertNode`, `delete` are `lookup`,
`insert`, `erase` of `Spec/OrdMap.lean` (their laws: `Lemmas/OrdMap.lean`).

The last section is about the specification alone: how `Spec.C04.Patched` and `Spec.C04` differ.
-/
namespace GoguVerif.Lemmas.C04
open GoguVerif.Spec GoguVerif.Spec.OrdMap
open GoguVerif.Model.Bst (Tree traverse)
open GoguVerif.Model

variable {κ ν : Type} {comp : κ → κ → Bool}

def IsBst (comp : κ → κ → Bool) : Tree κ ν → Prop
  | .nil => True
  | .node l k _ r =>
    IsBst comp l ∧ IsBst comp r ∧
    (∀ e ∈ traverse l, comp e.1 k = true) ∧ (∀ e ∈ traverse r, comp k e.1 = true)

theorem compare_eq_one {a b : κ} : Bst.compare comp a b = 1 ↔ comp a b = true := by
  unfold Bst.compare
  cases comp a b <;> cases comp b a <;> simp

theorem compare_eq_neg_one {a b : κ} :
    Bst.compare comp a b = -1 ↔ comp a b = false ∧ comp b a = true := by
  unfold Bst.compare
  cases comp a b <;> cases comp b a <;> simp

/-! The tree functions branch on `compare key k = 1`, then on `compare key k = -1`: under a strict
total order the three positions of `key` relative to `k` (`STO.tri`) pick the branch. -/
section cmp
variable {α : Type} {x y z : α} {a b : κ}

theorem cmp_lt (c : comp a b = true) :
    (if Bst.compare comp a b = 1 then x else if Bst.compare comp a b = -1 then y else z) = x :=
  if_pos (compare_eq_one.2 c)

theorem cmp_gt (h : STO comp) (c : comp b a = true) :
    (if Bst.compare comp a b = 1 then x else if Bst.compare comp a b = -1 then y else z) = y := by
  have c' := h.asymm c
  rw [if_neg (mt compare_eq_one.1 (ne_true_of_eq_false c')), if_pos (compare_eq_neg_one.2 ⟨c', c⟩)]

theorem cmp_refl (h : STO comp) :
    (if Bst.compare comp a a = 1 then x else if Bst.compare comp a a = -1 then y else z) = z := by
  have c := ne_true_of_eq_false (h.irrefl a)
  rw [if_neg (mt compare_eq_one.1 c), if_neg fun e => c (compare_eq_neg_one.1 e).2]

end cmp

/-! ## unfolding equations at a generic node (the generated ones split on the children) -/

theorem delete_node (comp : κ → κ → Bool) (key k : κ) (v : ν) (l r : Tree κ ν) :
  Bst.delete comp key (.node l k v r) =
    if Bst.compare comp key k = 1 then
      match Bst.delete comp key l with
      | none => none
      | some (l', e) => some (.node l' k v r, e)
    else if Bst.compare comp key k = -1 then
      match Bst.delete comp key r with
      | none => none
      | some (r', e) => some (.node l k v r', e)
    else
      match l, r with
      | .nil, .nil => some (.nil, true)
      | .node ll lk lv lr, .nil => some (.node ll lk lv lr, true)
      | .nil, .node rl rk rv rr => some (.node rl rk rv rr, true)
      | .node ll lk lv lr, .node rl rk rv rr =>
        match Bst.min (Tree.node rl rk rv rr) with
        | none => none
        | some (mk, mv) =>
          match Bst.delete comp mk (.node rl rk rv rr) with
          | none => none
          | some (r', e) => some (.node (.node ll lk lv lr) mk mv r', e) := by
  rw [Bst.delete.eq_def]; rfl

theorem upsertNode_node (comp : κ → κ → Bool) (key k : κ) (val v : ν) (l r : Tree κ ν) (size : Int) :
  Bst.upsertNode comp key val (.node l k v r) size =
    if Bst.compare comp key k = 1 then
      match l with
      | .nil => some (.node (.node .nil key val .nil) k v r, size + 1)
      | .node ll lk lv lr =>
        match Bst.upsertNode comp key val (.node ll lk lv lr) size with
        | none => none
        | some (l', size') => some (.node l' k v r, size')
    else if Bst.compare comp key k = -1 then
      match r with
      | .nil => some (.node l k v (.node .nil key val .nil), size + 1)
      | .node rl rk rv rr =>
        match Bst.upsertNode comp key val (.node rl rk rv rr) size with
        | none => none
        | some (r', size') => some (.node l k v r', size')
    else some (.node l k val r, size) := by
  rw [Bst.upsertNode.eq_def]; rfl

theorem isBst_iff_sorted (h : STO comp) (t : Tree κ ν) :
    IsBst comp t ↔ Sorted comp (traverse t) := by
  induction t with
  | nil => exact ⟨fun _ => trivial, fun _ => trivial⟩
  | node l k v r ihl ihr =>
    simp only [IsBst, traverse, sorted_append, Sorted, ihl, ihr]
    constructor
    · rintro ⟨hl, hr, hlk, hkr⟩
      refine ⟨hl, ⟨hkr, hr⟩, fun x hx y hy => ?_⟩
      rcases List.mem_cons.1 hy with rfl | hy
      · exact hlk x hx
      · exact h.trans _ _ _ (hlk x hx) (hkr y hy)
    · rintro ⟨hl, ⟨hkr, hr⟩, hall⟩
      exact ⟨hl, hr, fun e he => hall e he (k, v) List.mem_cons_self, hkr⟩

theorem get_spec (h : STO comp) (key : κ) (t : Tree κ ν) (hb : IsBst comp t) :
    (Bst.get comp key t).map (·.2) = lookup comp key (traverse t) := by
  induction t with
  | nil => rfl
  | node l k v r ihl ihr =>
    obtain ⟨hl, hr, hlk, hkr⟩ := hb
    rw [traverse, Bst.get]
    rcases h.tri key k with c | rfl | c
    · rw [cmp_lt c, ihl hl, lookup_append_left c]
    · rw [cmp_refl h, lookup_append_mid h hlk]; rfl
    · rw [cmp_gt h c, ihr hr, lookup_append_root_lt h hlk c]

theorem get_key (h : STO comp) (key : κ) (t : Tree κ ν) {k' : κ} {v' : ν}
    (hg : Bst.get comp key t = some (k', v')) : k' = key := by
  induction t with
  | nil => cases hg
  | node l k v r ihl ihr =>
    rw [Bst.get] at hg
    rcases h.tri key k with c | rfl | c
    · rw [cmp_lt c] at hg; exact ihl hg
    · rw [cmp_refl h] at hg; cases hg; rfl
    · rw [cmp_gt h c] at hg; exact ihr hg

theorem min_spec (t : Tree κ ν) (hne : t ≠ .nil) :
    ∃ e rest, Bst.min t = some e ∧ traverse t = e :: rest := by
  fun_induction Bst.min t with
  | case1 => exact absurd rfl hne
  | case2 k v r => exact ⟨(k, v), traverse r, rfl, rfl⟩
  | case3 ll lk lv lr k v r ih =>
    obtain ⟨e, rest, h1, h2⟩ := ih (fun e => nomatch e)
    exact ⟨e, rest ++ (k, v) :: traverse r, h1, by rw [traverse, h2]; rfl⟩

theorem upsertNode_spec (h : STO comp) (key : κ) (val : ν) (t : Tree κ ν) (size : Int)
    (hne : t ≠ .nil) (hb : IsBst comp t) :
    ∃ t', Bst.upsertNode comp key val t size =
            some (t', size + (if (lookup comp key (traverse t)).isSome then 0 else 1)) ∧
          traverse t' = OrdMap.insert comp key val (traverse t) := by
  induction t with
  | nil => exact absurd rfl hne
  | node l k v r ihl ihr =>
    obtain ⟨hl, hr, hlk, hkr⟩ := hb
    rw [traverse, upsertNode_node]
    rcases h.tri key k with c | rfl | c
    · rw [cmp_lt c, lookup_append_left c, insert_append_left c]
      cases l with
      | nil => exact ⟨_, rfl, rfl⟩
      | node ll lk lv lr =>
        obtain ⟨l', e1, e2⟩ := ihl (fun e => nomatch e) hl
        exact ⟨.node l' k v r, by simp only [e1], by rw [traverse, e2]⟩
    · rw [cmp_refl h, lookup_append_mid h hlk, insert_append_mid h hlk]
      exact ⟨_, congrArg (fun n => some (_, n)) (Int.add_zero size).symm, rfl⟩
    · rw [cmp_gt h c, lookup_append_root_lt h hlk c, insert_append_root_lt h hlk c]
      cases r with
      | nil => exact ⟨_, rfl, rfl⟩
      | node rl rk rv rr =>
        obtain ⟨r', e1, e2⟩ := ihr (fun e => nomatch e) hr
        exact ⟨.node l k v r', by simp only [e1], by rw [traverse, e2]⟩

/-- The two-children case of `delete` at the node holding the key, given what `delete` does on the
right subtree: the node takes over the item of its in-order successor (the first item of the right
subtree's traversal), which is deleted from the right subtree. -/
theorem delete_two_children (h : STO comp) (ll lr : Tree κ ν) (lk k : κ) (lv v : ν) {r : Tree κ ν}
    (hne : r ≠ .nil)
    (hr : ∀ key, ∃ r', Bst.delete comp key r = some (r', (lookup comp key (traverse r)).isSome) ∧
      traverse r' = erase comp key (traverse r)) :
    ∃ mk mv r', Bst.delete comp k (.node (.node ll lk lv lr) k v r) =
        some (.node (.node ll lk lv lr) mk mv r', true) ∧
      traverse r = (mk, mv) :: traverse r' := by
  obtain ⟨⟨mk, mv⟩, rest, hm, htr⟩ := min_spec r hne
  obtain ⟨r', e1, e2⟩ := hr mk
  rw [htr, lookup, ite_refl h] at e1
  rw [htr, erase, ite_refl h] at e2
  refine ⟨mk, mv, r', ?_, by rw [htr, e2]⟩
  cases r with
  | nil => exact absurd rfl hne
  | node rl rk rv rr => rw [delete_node, cmp_refl h]; simp only [hm, e1]; rfl

theorem delete_spec (h : STO comp) (t : Tree κ ν) : ∀ key : κ, IsBst comp t →
    ∃ t', Bst.delete comp key t = some (t', (lookup comp key (traverse t)).isSome) ∧
          traverse t' = erase comp key (traverse t) := by
  induction t with
  | nil => intro key _; exact ⟨.nil, rfl, rfl⟩
  | node l k v r ihl ihr =>
    intro key ⟨hl, hr, hlk, hkr⟩
    rw [traverse]
    rcases h.tri key k with c | rfl | c
    · rw [lookup_append_left c, erase_append_left c, delete_node, cmp_lt c]
      obtain ⟨l', e1, e2⟩ := ihl key hl
      exact ⟨.node l' k v r, by simp only [e1], by rw [traverse, e2]⟩
    · rw [lookup_append_mid h hlk, erase_append_mid h hlk]
      cases l with
      | nil =>
        rw [delete_node, cmp_refl h]
        cases r with
        | nil => exact ⟨.nil, rfl, rfl⟩
        | node rl rk rv rr => exact ⟨.node rl rk rv rr, rfl, rfl⟩
      | node ll lk lv lr =>
        cases r with
        | nil => rw [delete_node, cmp_refl h]; exact ⟨.node ll lk lv lr, rfl, (List.append_nil _).symm⟩
        | node rl rk rv rr =>
          obtain ⟨mk, mv, r', e, htr⟩ :=
            delete_two_children h ll lr lk key lv v (r := .node rl rk rv rr) (fun e => nomatch e)
              fun key => ihr key hr
          exact ⟨_, e, by rw [traverse, htr]⟩
    · rw [lookup_append_root_lt h hlk c, erase_append_root_lt h hlk c, delete_node, cmp_gt h c]
      obtain ⟨r', e1, e2⟩ := ihr key hr
      exact ⟨.node l k v r', by simp only [e1], by rw [traverse, e2]⟩

/-- `delete` of an absent key leaves the tree as it is (not only its traversal). -/
theorem delete_absent (h : STO comp) (t : Tree κ ν) (key : κ) (hb : IsBst comp t)
    (ha : lookup comp key (traverse t) = none) : Bst.delete comp key t = some (t, false) := by
  induction t with
  | nil => rfl
  | node l k v r ihl ihr =>
    obtain ⟨hl, hr, hlk, hkr⟩ := hb
    rw [traverse] at ha
    rw [delete_node]
    rcases h.tri key k with c | rfl | c
    · rw [lookup_append_left c] at ha
      rw [cmp_lt c, ihl hl ha]
    · rw [lookup_append_mid h hlk] at ha; cases ha
    · rw [lookup_append_root_lt h hlk c] at ha
      rw [cmp_gt h c, ihr hr ha]

/-! ## Patched vs unpatched specification

`Patched.step` is `Spec.C04.step` on the map; it adds `failed` to the counter of failed deletes and
takes the counter off what `Size` answers (`patched_step`).  `patched_run_state` and `patched_run_out`
say the same of whole histories; what the theorems state about `Size` follows from these two. -/

open GoguVerif.Spec.C04

/-- Forget what a `Size` call answered. -/
def maskSize : Out κ ν → Out κ ν
  | .int _ => .int 0
  | o => o

/-- what one call adds to the number of failed deletes: the summand in the body of `failedDeletes`, under a
name (`failedDeletes_cons` is the bridge) -/
def failed (comp : κ → κ → Bool) (m : List (κ × ν)) : Op κ ν → Nat
  | .delete k => if (lookup comp k m).isSome then 0 else 1
  | _ => 0

/-- Number of `Delete` calls of the history that hit an absent key (judged by the specification). -/
def failedDeletes (comp : κ → κ → Bool) : List (κ × ν) → List (Op κ ν) → Nat
  | _, [] => 0
  | m, op :: ops =>
    (match op with
      | .delete k => if (lookup comp k m).isSome then 0 else 1
      | _ => 0) + failedDeletes comp (Spec.C04.step comp m op).1 ops

/-- the patched answer: `Size` reports `d` less -/
def shiftSize (d : Int) : Out κ ν → Out κ ν
  | .int n => .int (n - d)
  | o => o

theorem maskSize_shiftSize (d : Int) (o : Out κ ν) : maskSize (shiftSize d o) = maskSize o := by
  cases o <;> rfl

theorem shiftSize_zero (o : Out κ ν) : shiftSize 0 o = o := by
  cases o <;> simp [shiftSize]

theorem patched_step (p : Patched.St κ ν) (op : Op κ ν) :
    Patched.step comp p op =
      (⟨(Spec.C04.step comp p.m op).1, p.failedDeletes + failed comp p.m op⟩,
        shiftSize p.failedDeletes (Spec.C04.step comp p.m op).2) := by
  -- only the counter needs an argument: `+ 0`, or `+ 1` after a failed delete
  cases op with
  | delete k =>
    refine Prod.ext (congrArg (Patched.St.mk _) ?_) rfl
    show (if (lookup comp k p.m).isSome = true then p.failedDeletes else p.failedDeletes + 1) =
      p.failedDeletes + ((if (lookup comp k p.m).isSome = true then 0 else 1 : Nat) : Int)
    split
    · exact (Int.add_zero _).symm
    · rfl
  | _ => exact Prod.ext (congrArg (Patched.St.mk _) (Int.add_zero _).symm) rfl

theorem failedDeletes_cons (m : List (κ × ν)) (op : Op κ ν) (ops : List (Op κ ν)) :
    failedDeletes comp m (op :: ops) =
      failed comp m op + failedDeletes comp (Spec.C04.step comp m op).1 ops := by
  cases op <;> rfl

theorem patched_run_state (p : Patched.St κ ν) (ops : List (Op κ ν)) :
    (Patched.run comp p ops).1 =
      ⟨(Spec.C04.run comp p.m ops).1, p.failedDeletes + failedDeletes comp p.m ops⟩ := by
  induction ops generalizing p with
  | nil => simp [Patched.run, C04.run, failedDeletes]
  | cons op ops ih =>
    simp only [Patched.run, C04.run, ih, patched_step, failedDeletes_cons, Int.natCast_add,
      Int.add_assoc]

/-- The patched answers are the unpatched ones, each `Size` answer shifted by the failed deletes so
far: under any `g` that does not see a shift in that range the two histories answer alike
(`maskSize` sees none; `id` sees none when no delete fails). -/
theorem patched_run_out (g : Out κ ν → Out κ ν) (ops : List (Op κ ν)) : ∀ (p : Patched.St κ ν),
    (∀ (d : Int) o, p.failedDeletes ≤ d → d ≤ p.failedDeletes + failedDeletes comp p.m ops →
      g (shiftSize d o) = g o) →
    (Patched.run comp p ops).2.map g = (Spec.C04.run comp p.m ops).2.map g := by
  induction ops with
  | nil => intro p _; rfl
  | cons op ops ih =>
    intro p hg
    rw [failedDeletes_cons, Int.natCast_add, ← Int.add_assoc] at hg
    have hle := Int.le_add_of_nonneg_right (a := p.failedDeletes) (Int.natCast_nonneg (failed comp p.m op))
    simp only [Patched.run, C04.run, List.map_cons, patched_step]
    rw [hg _ _ (Int.le_refl _) (Int.le_trans hle (Int.le_add_of_nonneg_right (Int.natCast_nonneg _))),
      ih ⟨_, _⟩ fun d o h1 h2 => hg d o (Int.le_trans hle h1) h2]

end GoguVerif.Lemmas.C04
