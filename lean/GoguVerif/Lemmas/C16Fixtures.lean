import GoguVerif.Model.StoreHelpers3
/-!
# Concrete stores for the examples of C16

The slice stores and the map store on which the `example`s of `Theorems/C16Helpers.lean` … `C16Helpers5.lean` run the
store-level models: arguments inside larger arrays, with sentinels in front and in the spare capacity behind, so that a
write outside the window would show.  They are declared in the namespaces of the theorem files that use them
(`Theorems.C16Helpers`, `Theorems.C16Helpers3`), where the audit lines and the examples name them.
-/
namespace GoguVerif.Theorems.C16Helpers
open Model.Store Model.StoreHelpers

/-- a concrete store for the non-vacuity examples: array 0 holds the argument `arg0 = [1,2,3,4]` at
offset 1 with two cells of spare capacity (sentinels `-777`) and a foreign cell in front; `other0`
is a second slice sharing that array (it sees the last element and the first spare cell); array 1
holds a second argument `[2,9]`. -/
def σx : Store := [[-555, 1, 2, 3, 4, -777, -777], [2, 9, -888]]
def arg0 : Slice := { arr := 0, off := 1, len := 4, cap := 6 }
def other0 : Slice := { arr := 0, off := 4, len := 2, cap := 3 }
def arg1 : Slice := { arr := 1, off := 0, len := 2, cap := 3 }

theorem wf_arg0 : WF σx arg0 := ⟨by decide, _, rfl, by decide⟩
theorem wf_other0 : WF σx other0 := ⟨by decide, _, rfl, by decide⟩
theorem wf_arg1 : WF σx arg1 := ⟨by decide, _, rfl, by decide⟩

end GoguVerif.Theorems.C16Helpers

namespace GoguVerif.Theorems.C16Helpers3
open Model.Store Model.StoreHelpers Model.StoreHelpers3

/-- the store of the heap examples: array 0 holds the argument `argh = [5, 3, 8, 1, 9, 2]` at offset 1 with two cells of
spare capacity (sentinels `-777`) and a foreign cell in front; array 1 holds `keysx` -/
def σh : Store := [[-555, 5, 3, 8, 1, 9, 2, -777, -777], [2, 9, -888]]
def argh : Slice := { arr := 0, off := 1, len := 6, cap := 8 }
theorem wf_argh : WF σh argh := ⟨by decide, _, rfl, by decide⟩

def μx : MStore := [[(7, 70)], [(1, 10), (2, 20), (3, 30), (4, 40)], [(2, 99)]]
def keysx : Slice := { arr := 1, off := 0, len := 2, cap := 3 }
theorem wf_keysx : WF σh keysx := ⟨by decide, _, rfl, by decide⟩

end GoguVerif.Theorems.C16Helpers3
