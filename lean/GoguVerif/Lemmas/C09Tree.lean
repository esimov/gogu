import GoguVerif.Lemmas.C09Ord
import GoguVerif.Model.Trie
/-!
# C09: the ternary tree against the ordered map

`ents n` is the abstraction of a (sub)tree: its (key, value) entries in in-order, keys relative to `n`;
`heads n` the bytes at `n`'s own level (closure under `left`/`right`); `Ord n` the search-tree order of
the bytes at every level.

A walk for a key with first byte `c` enters one part of a node; of the parts it does not enter it
needs to know the first bytes only (`Firsts`: below `c`, above `c`, hence skipped by lookup, insertion,
the prefix filter and the longest-prefix fold).  `lvl m v iv` is the map stored below a node's byte,
so that `ents_node` reads: left entries, the level under its byte, right entries.  `put_spec`: `put` is
`OrdMap.insert` on `ents` and keeps `Ord`.  `get_spec`: the node `get` returns gives the lookup
(`resVal`, for Get and the count in Put) and the stored keys with that prefix (`resKeys`, for
StartsWith).  `collect_spec`, `lpLoop_spec` (the loop of LongestPrefix is the specification's fold, on
lengths), `ents_sorted`.
-/
namespace GoguVerif.Lemmas.C09
open GoguVerif.Spec GoguVerif.Spec.C09 GoguVerif.Model.Trie

def ents : T → List (Key × Int)
  | .nil => []
  | .node c l m r v iv =>
    ents l ++ ((if iv then [([c], v)] else []) ++ ((ents m).map (consKey c) ++ ents r))

def heads : T → List UInt8
  | .nil => []
  | .node c l _ r _ _ => heads l ++ c :: heads r

def Ord : T → Prop
  | .nil => True
  | .node c l m r _ _ => (∀ b ∈ heads l, b < c) ∧ (∀ b ∈ heads r, c < b) ∧ Ord l ∧ Ord m ∧ Ord r

/-- The model walks `key` by an index `d`; the lemmas below see the remaining bytes `key.drop d = c :: ks`.
What the model reads at `d` (`key[d]`, the test `d < len(key)-1`, the guard `len(key) == 0`) in terms of
`c` and `ks`. -/
theorem drop_cons_facts {key : Key} {d : Nat} {c : UInt8} {ks : Key} (h : key.drop d = c :: ks) :
    key[d]? = some c ∧ key.drop (d + 1) = ks ∧ (d < key.length - 1 ↔ ks ≠ []) ∧ key.length ≠ 0 := by
  have hlen : d < key.length :=
    Nat.lt_of_not_le fun hle => by rw [List.drop_eq_nil_of_le hle] at h; cases h
  rw [List.drop_eq_getElem_cons hlen] at h
  obtain ⟨rfl, rfl⟩ := List.cons.inj h
  refine ⟨List.getElem?_eq_getElem hlen, rfl, ?_, Nat.ne_of_gt (Nat.zero_lt_of_lt hlen)⟩
  rw [Ne, List.drop_eq_nil_iff, Nat.not_le, Nat.lt_sub_iff_add_lt]

/-- Every key of `L` has a first byte, and it satisfies `P`.  At a node with byte `c` the left entries
satisfy `(· < c)`, the right ones `(c < ·)`, the rest `(· = c)`: all that `put`, `get` and `lpLoop` need to
know about the parts of the tree they do not enter. -/
def Firsts (P : UInt8 → Prop) (L : List (Key × Int)) : Prop := ∀ e ∈ L, ∃ b k, e.1 = b :: k ∧ P b

theorem Firsts.mono {P Q : UInt8 → Prop} {L : List (Key × Int)} (h : Firsts P L)
    (hpq : ∀ b, P b → Q b) : Firsts Q L :=
  fun e he => let ⟨b, k, hk, hb⟩ := h e he; ⟨b, k, hk, hpq b hb⟩

theorem Firsts.forall {P : UInt8 → Prop} {L : List (Key × Int)} (h : Firsts P L) (Q : Key → Prop)
    (hq : ∀ b k, P b → Q (b :: k)) : ∀ e ∈ L, Q e.1 :=
  fun e he => let ⟨b, k, hk, hb⟩ := h e he; hk ▸ hq b k hb

theorem firsts_append {P : UInt8 → Prop} {A B : List (Key × Int)} :
    Firsts P (A ++ B) ↔ Firsts P A ∧ Firsts P B := List.forall_mem_append

theorem firsts_map_consKey {P : UInt8 → Prop} {c : UInt8} (h : P c) (M : List (Key × Int)) :
    Firsts P (M.map (consKey c)) :=
  List.forall_mem_map.2 fun e' _ => ⟨c, e'.1, rfl, h⟩

section firsts
variable {P : UInt8 → Prop} {c : UInt8} {L : List (Key × Int)}

theorem Firsts.lt (h : Firsts (· < c) L) (ks : Key) : ∀ e ∈ L, lexLt e.1 (c :: ks) = true :=
  h.forall (lexLt · (c :: ks) = true) fun _ _ hb => lexLt_cons_lt hb _ _

theorem Firsts.gt (h : Firsts (c < ·) L) (ks : Key) : ∀ e ∈ L, lexLt (c :: ks) e.1 = true :=
  h.forall (lexLt (c :: ks) · = true) fun _ _ hb => lexLt_cons_lt hb _ _

theorem Firsts.nil_lt (h : Firsts P L) : ∀ e ∈ L, lexLt [] e.1 = true :=
  h.forall (lexLt [] · = true) fun _ _ _ => rfl

theorem Firsts.ne_of_lt (h : Firsts (· < c) L) : Firsts (· ≠ c) L := h.mono fun _ hb => UInt8.ne_of_lt hb

theorem Firsts.ne_of_gt (h : Firsts (c < ·) L) : Firsts (· ≠ c) L :=
  h.mono fun _ hb => Ne.symm (UInt8.ne_of_lt hb)

theorem Firsts.not_isPrefix (h : Firsts (· ≠ c) L) (ks : Key) :
    ∀ e ∈ L, isPrefix (c :: ks) e.1 = false ∧ isPrefix e.1 (c :: ks) = false :=
  h.forall (fun k => isPrefix (c :: ks) k = false ∧ isPrefix k (c :: ks) = false) fun _ _ hb =>
    ⟨isPrefix_cons_ne (Ne.symm hb) _ _, isPrefix_cons_ne hb _ _⟩

theorem Firsts.filter_isPrefix (h : Firsts (· ≠ c) L) (ks : Key) :
    (L.map (·.1)).filter (isPrefix (c :: ks)) = [] :=
  List.filter_eq_nil_iff.2 (List.forall_mem_map.2 fun e he => Bool.eq_false_iff.1 (h.not_isPrefix ks e he).1)

theorem Firsts.foldl_lfN (h : Firsts (· ≠ c) L) (qs : Key) (i b : Nat) :
    L.foldl (lfN (c :: qs) i) b = b :=
  foldl_lfN_none _ _ _ (fun e he => (h.not_isPrefix qs e he).2) b

end firsts

theorem firsts_lt {P Q : UInt8 → Prop} {A B : List (Key × Int)} (hA : Firsts P A) (hB : Firsts Q B)
    (h : ∀ x y, P x → Q y → x < y) : ∀ a ∈ A, ∀ b ∈ B, lexLt a.1 b.1 = true := by
  intro a ha b hb
  obtain ⟨x, k, hk, hx⟩ := hA a ha
  obtain ⟨y, k', hk', hy⟩ := hB b hb
  rw [hk, hk']; exact lexLt_cons_lt (h x y hx hy) _ _

/-- the map stored below a node's byte: the node's own value under the empty key, then the `mid` subtree -/
def lvl (m : T) (v : Int) (iv : Bool) : List (Key × Int) := (if iv then [([], v)] else []) ++ ents m

theorem ents_node (c : UInt8) (l m r : T) (v : Int) (iv : Bool) :
    ents (.node c l m r v iv) = ents l ++ ((lvl m v iv).map (consKey c) ++ ents r) := by
  cases iv <;> rfl

theorem firsts_ents (n : T) : Firsts (· ∈ heads n) (ents n) := by
  induction n with
  | nil => intro e he; cases he
  | node c l m r v iv ihl _ ihr =>
    rw [ents_node]
    exact firsts_append.2 ⟨ihl.mono fun b hb => List.mem_append_left _ hb,
      firsts_append.2 ⟨firsts_map_consKey (List.mem_append_right _ (List.mem_cons_self ..)) _,
        ihr.mono fun b hb => List.mem_append_right _ (List.mem_cons_of_mem _ hb)⟩⟩

theorem ents_ne_nil (n : T) : ∀ e ∈ ents n, e.1 ≠ [] :=
  (firsts_ents n).forall (· ≠ []) fun b k _ => List.cons_ne_nil b k

section node
variable {c : UInt8} {l m r : T} {v : Int} {iv : Bool} (ho : Ord (.node c l m r v iv))
include ho

theorem Ord.heads_lt : ∀ b ∈ heads l, b < c := ho.1

theorem Ord.lt_heads : ∀ b ∈ heads r, c < b := ho.2.1

theorem Ord.left : Ord l := ho.2.2.1

theorem Ord.mid : Ord m := ho.2.2.2.1

theorem Ord.right : Ord r := ho.2.2.2.2

theorem Ord.below : Firsts (· < c) (ents l) := (firsts_ents l).mono ho.heads_lt

theorem Ord.above : Firsts (c < ·) (ents r) := (firsts_ents r).mono ho.lt_heads

theorem Ord.above_of_lt {b : UInt8} (h : b < c) :
    Firsts (b < ·) ((lvl m v iv).map (consKey c) ++ ents r) :=
  firsts_append.2 ⟨firsts_map_consKey (P := (b < ·)) h _, ho.above.mono fun _ hx => UInt8.lt_trans h hx⟩

theorem Ord.below_of_gt {b : UInt8} (h : c < b) :
    Firsts (· < b) (ents l ++ (lvl m v iv).map (consKey c)) :=
  firsts_append.2 ⟨ho.below.mono fun _ hx => UInt8.lt_trans hx h, firsts_map_consKey (P := (· < b)) h _⟩

end node

theorem Ord.node {c : UInt8} {l m r : T} {v : Int} {iv : Bool} (hol : ∀ b ∈ heads l, b < c)
    (hor : ∀ b ∈ heads r, c < b) (hl : Ord l) (hm : Ord m) (hr : Ord r) : Ord (.node c l m r v iv) :=
  ⟨hol, hor, hl, hm, hr⟩

section lvl
variable (m : T) (v : Int) (iv : Bool)

theorem lvl_insert_nil (v' : Int) : OrdMap.insert lexLt [] v' (lvl m v iv) = lvl m v' true := by
  cases iv with
  | true => simp [lvl, OrdMap.insert]
  | false => exact C04.insert_all_gt v' (firsts_ents m).nil_lt

theorem lvl_lookup_nil : OrdMap.lookup lexLt [] (lvl m v iv) = if iv then some v else none := by
  cases iv with
  | true => simp [lvl, OrdMap.lookup]
  | false => exact C04.lookup_all_gt (firsts_ents m).nil_lt

theorem lvl_filter_nil : ((lvl m v iv).map (·.1)).filter (isPrefix []) =
    (if iv then [[]] else []) ++ (ents m).map (·.1) := by
  rw [List.filter_eq_self.mpr fun k _ => isPrefix_nil k]; cases iv <;> rfl

theorem lvl_foldl_lfN {qs : Key} {j len : Nat} (hle : len ≤ j) :
    (lvl m v iv).foldl (lfN qs j) len = (ents m).foldl (lfN qs j) (if iv then j else len) := by
  cases iv with
  | false => rfl
  | true =>
    have : lfN qs j len ([], v) = j := by
      simp only [lfN, isPrefix_nil, Bool.true_and, List.length_nil, Nat.add_zero, decide_eq_true_eq]
      split <;> omega
    simp only [lvl, if_true, List.singleton_append, List.foldl_cons, this]

variable (c : UInt8) (ks : Key)

theorem lvl_insert_cons (v' : Int) {m' : T}
    (h : ents m' = OrdMap.insert lexLt (c :: ks) v' (ents m)) :
    OrdMap.insert lexLt (c :: ks) v' (lvl m v iv) = lvl m' v iv := by
  cases iv <;> simp [lvl, OrdMap.insert, h]

theorem lvl_lookup_cons :
    OrdMap.lookup lexLt (c :: ks) (lvl m v iv) = OrdMap.lookup lexLt (c :: ks) (ents m) := by
  cases iv <;> simp [lvl, OrdMap.lookup]

theorem lvl_filter_cons : ((lvl m v iv).map (·.1)).filter (isPrefix (c :: ks)) =
    ((ents m).map (·.1)).filter (isPrefix (c :: ks)) := by
  cases iv <;> simp [lvl]

end lvl

theorem putNil_spec (v : Int) (c : UInt8) (ks : Key) :
    ∃ n', putNil v true (c :: ks) = some n' ∧ ents n' = [(c :: ks, v)] ∧ Ord n' ∧ heads n' = [c] := by
  induction ks generalizing c with
  | nil => exact ⟨_, rfl, rfl, .node nofun nofun trivial trivial trivial, rfl⟩
  | cons c' ks' ih =>
    obtain ⟨m, hm, he, ho, _⟩ := ih c'
    exact ⟨.node c .nil m .nil v false, by rw [putNil, hm], by rw [ents_node, lvl, he]; rfl,
      .node nofun nofun trivial ho trivial, rfl⟩

theorem forall_heads_node {P : UInt8 → Prop} {c : UInt8} {l m r : T} {v : Int} {iv : Bool} :
    (∀ b ∈ heads (.node c l m r v iv), P b) ↔ (∀ b ∈ heads l, P b) ∧ P c ∧ ∀ b ∈ heads r, P b := by
  simp [heads, or_imp, forall_and]

/-- `put` with `isValid = true` inserts `key[d:]` into the entries of the subtree, keeps the byte order
and adds at most the byte `key[d]` to the level (said of an arbitrary predicate on bytes, which is how
the caller re-establishes `Ord`).  `d`, `c`, `ks` go together: the model walks by the index `d`, the proof by
the remaining bytes `c :: ks` (`drop_cons_facts`); so in `get_spec` and `lpLoop_spec`. -/
theorem put_spec (key : Key) (v : Int) (n : T) : ∀ (d : Nat) (c : UInt8) (ks : Key),
    key.drop d = c :: ks → Ord n →
    ∃ n', put n key v d true = some n' ∧
      ents n' = OrdMap.insert lexLt (c :: ks) v (ents n) ∧ Ord n' ∧
      (∀ P : UInt8 → Prop, P c → (∀ b ∈ heads n, P b) → ∀ b ∈ heads n', P b) := by
  induction n with
  | nil =>
    intro d c ks hd _
    obtain ⟨n', h1, h2, h3, h4⟩ := putNil_spec v c ks
    refine ⟨n', by simp [put, hd, h1], by simp [h2, ents, OrdMap.insert], h3, ?_⟩
    intro P hc _ b hb
    rw [h4] at hb; exact List.mem_singleton.mp hb ▸ hc
  | node nc l m r nv niv ihl ihm ihr =>
    intro d c ks hd ho
    obtain ⟨hget, hdrop, hlt, _⟩ := drop_cons_facts hd
    simp only [put, hget]
    by_cases h1 : c < nc
    · obtain ⟨l', e1, e2, e3, e4⟩ := ihl d c ks hd ho.left
      refine ⟨.node nc l' m r nv niv, by rw [if_pos h1, e1], ?_, ?_, ?_⟩
      · rw [ents_node, ents_node, e2, C04.insert_append_all_gt v ((ho.above_of_lt h1).gt ks)]
      · exact .node (e4 (· < nc) h1 ho.heads_lt) ho.lt_heads e3 ho.mid ho.right
      · intro P hc hall
        rw [forall_heads_node] at hall ⊢
        exact ⟨e4 P hc hall.1, hall.2⟩
    · by_cases h2 : c > nc
      · obtain ⟨r', e1, e2, e3, e4⟩ := ihr d c ks hd ho.right
        refine ⟨.node nc l m r' nv niv, by rw [if_neg h1, if_pos h2, e1], ?_, ?_, ?_⟩
        · rw [ents_node, ents_node, e2, ← List.append_assoc, ← List.append_assoc,
            C04.insert_append_right lexLt_sto ((ho.below_of_gt h2).lt ks)]
        · exact .node ho.heads_lt (e4 (nc < ·) h2 ho.lt_heads) ho.left ho.mid e3
        · intro P hc hall
          rw [forall_heads_node] at hall ⊢
          exact ⟨hall.1, hall.2.1, e4 P hc hall.2.2⟩
      · have hc : c = nc := byte_eq_of_not_lt h1 h2
        subst hc
        have hins : OrdMap.insert lexLt (c :: ks) v (ents (.node c l m r nv niv)) =
            ents l ++ ((OrdMap.insert lexLt ks v (lvl m nv niv)).map (consKey c) ++ ents r) := by
          rw [ents_node, C04.insert_append_right lexLt_sto (ho.below.lt ks),
            C04.insert_append_all_gt v (ho.above.gt ks), insert_map_cons]
        cases ks with
        | nil =>
          -- terminal byte: n.isValid = true; n.val = val
          exact ⟨.node c l m r v true, by rw [if_neg h1, if_neg h2, if_neg fun h => hlt.mp h rfl],
            by rw [ents_node, hins, lvl_insert_nil], ho, fun P _ hall => hall⟩
        | cons c' ks' =>
          obtain ⟨m', e1, e2, e3, e4⟩ := ihm (d + 1) c' ks' hdrop ho.mid
          exact ⟨.node c l m' r nv niv,
            by rw [if_neg h1, if_neg h2, if_pos (hlt.mpr (List.cons_ne_nil _ _)), e1],
            by rw [ents_node, hins, lvl_insert_cons m nv niv c' ks' v e2],
            .node ho.heads_lt ho.lt_heads ho.left e3 ho.right, fun P _ hall => hall⟩

/-- the value `Get` reports from `get`'s result (`x == nil || err != nil || !x.isValid` ↦ absent) -/
def resVal : T → Bool → Option Int
  | .nil, _ => none
  | .node _ _ _ _ v iv, err => if err || !iv then none else some v

/-- the keys `StartsWith p` enqueues from `get`'s result -/
def resKeys (p : Key) : T → Bool → List Key
  | .node _ _ mid _ _ iv, false => (if iv then [p] else []) ++ (ents mid).map (fun e => p ++ e.1)
  | _, _ => []

theorem resKeys_cons (c : UInt8) (p : Key) (x : T) (err : Bool) :
    resKeys (c :: p) x err = (resKeys p x err).map (c :: ·) := by
  cases x with
  | nil => cases err <;> rfl
  | node xc l m r v iv =>
    cases err with
    | true => rfl
    | false => cases iv <;> simp [resKeys]

theorem get_spec (key : Key) (n : T) : ∀ (d : Nat) (c : UInt8) (ks : Key),
    key.drop d = c :: ks → Ord n →
    ∃ x err, get n key d = some (x, err) ∧
      OrdMap.lookup lexLt (c :: ks) (ents n) = resVal x err ∧
      ((ents n).map (·.1)).filter (isPrefix (c :: ks)) = resKeys (c :: ks) x err := by
  induction n with
  | nil => intro d c ks _ _; exact ⟨.nil, true, rfl, rfl, rfl⟩
  | node nc l m r nv niv ihl ihm ihr =>
    intro d c ks hd ho
    obtain ⟨hget, hdrop, hlt, hlen⟩ := drop_cons_facts hd
    simp only [Model.Trie.get, hlen, if_false, hget, ents_node, List.map_append, List.filter_append]
    by_cases h1 : c < nc
    · obtain ⟨x, err, e1, e2, e3⟩ := ihl d c ks hd ho.left
      have hR := ho.above_of_lt h1
      have hR' := firsts_append.1 hR.ne_of_gt
      refine ⟨x, err, by rw [if_pos h1, e1], ?_, ?_⟩
      · rw [C04.lookup_append_all_gt (hR.gt ks), e2]
      · rw [e3, hR'.1.filter_isPrefix, hR'.2.filter_isPrefix, List.append_nil, List.append_nil]
    · by_cases h2 : c > nc
      · obtain ⟨x, err, e1, e2, e3⟩ := ihr d c ks hd ho.right
        have hL := ho.below_of_gt h2
        have hL' := firsts_append.1 hL.ne_of_lt
        refine ⟨x, err, by rw [if_neg h1, if_pos h2, e1], ?_, ?_⟩
        · rw [← List.append_assoc, C04.lookup_append_right lexLt_sto (hL.lt ks), e2]
        · rw [e3, hL'.1.filter_isPrefix, hL'.2.filter_isPrefix]; rfl
      · have hc : c = nc := byte_eq_of_not_lt h1 h2
        subst hc
        rw [C04.lookup_append_right lexLt_sto (ho.below.lt ks), C04.lookup_append_all_gt (ho.above.gt ks),
          lookup_map_cons, ho.below.ne_of_lt.filter_isPrefix,
          ho.above.ne_of_gt.filter_isPrefix, filter_map_consKey,
          List.nil_append, List.append_nil]
        cases ks with
        | nil =>
          refine ⟨.node c l m r nv niv, false, by rw [if_neg h1, if_neg h2, if_neg fun h => hlt.mp h rfl],
            ?_, ?_⟩
          · rw [lvl_lookup_nil]; cases niv <;> rfl
          · rw [lvl_filter_nil]; cases niv <;> simp [resKeys]
        | cons c' ks' =>
          obtain ⟨x, err, e1, e2, e3⟩ := ihm (d + 1) c' ks' hdrop ho.mid
          exact ⟨x, err, by rw [if_neg h1, if_neg h2, if_pos (hlt.mpr (List.cons_ne_nil _ _)), e1],
            by rw [lvl_lookup_cons, e2],
            by rw [lvl_filter_cons, e3]; exact (resKeys_cons c _ x err).symm⟩

theorem collect_spec (n : T) : ∀ (pfx : Key) (q : List Key),
    collect n pfx q = q ++ (ents n).map (fun e => pfx ++ e.1) := by
  induction n with
  | nil => intro pfx q; simp [collect, ents]
  | node c l m r v iv ihl ihm ihr =>
    intro pfx q
    simp only [collect, ihl, ihm, ihr, ents, List.map_append, List.map_map]
    cases iv <;> simp [Function.comp_def, consKey]

/-- The loop of `LongestPrefix` folds `lfN` over the entries below `x`, which are relative to `query[i:]`.
`len ≤ i` makes the loop's unconditional `length = i` at a valid node agree with the fold's test. -/
theorem lpLoop_spec (q : Key) (n : T) : ∀ (i len : Nat), Ord n → len ≤ i →
    lpLoop n q i len = (ents n).foldl (lfN (q.drop i) i) len := by
  induction n with
  | nil => intro i len _ _; rfl
  | node xc l m r v iv ihl ihm ihr =>
    intro i len ho hle
    cases hd : q.drop i with
    | nil =>
      have hnone : q[i]? = none := List.getElem?_eq_none (List.drop_eq_nil_iff.mp hd)
      rw [foldl_lfN_none _ _ _ ((firsts_ents _).forall (isPrefix · [] = false) fun _ _ _ => rfl)]
      simp only [lpLoop, hnone]
    | cons c qs =>
      obtain ⟨hget, hdrop, _, _⟩ := drop_cons_facts hd
      simp only [lpLoop, hget, ents_node, List.foldl_append]
      by_cases h1 : c < xc
      · have hR := firsts_append.1 (ho.above_of_lt h1).ne_of_gt
        rw [if_pos h1, ihl i len ho.left hle, hd, hR.1.foldl_lfN, hR.2.foldl_lfN]
      · by_cases h2 : c > xc
        · have hL := firsts_append.1 (ho.below_of_gt h2).ne_of_lt
          rw [if_neg h1, if_pos h2, ihr i len ho.right hle, hd, hL.1.foldl_lfN, hL.2.foldl_lfN]
        · have hc : c = xc := byte_eq_of_not_lt h1 h2
          subst hc
          rw [if_neg h1, if_neg h2, ihm (i + 1) _ ho.mid (by split <;> omega), hdrop,
            ho.below.ne_of_lt.foldl_lfN, foldl_lfN_map_cons,
            lvl_foldl_lfN _ _ _ (Nat.le_succ_of_le hle),
            ho.above.ne_of_gt.foldl_lfN]

theorem ents_sorted (n : T) : Ord n → OrdMap.Sorted lexLt (ents n) := by
  induction n with
  | nil => intro _; trivial
  | node c l m r v iv ihl ihm ihr =>
    intro ho
    have hlvl : OrdMap.Sorted lexLt (lvl m v iv) := by
      cases iv with
      | false => exact ihm ho.mid
      | true => exact ⟨(firsts_ents m).nil_lt, ihm ho.mid⟩
    have hmid : Firsts (· = c) ((lvl m v iv).map (consKey c)) := firsts_map_consKey (P := (· = c)) rfl _
    rw [ents_node, C04.sorted_append, C04.sorted_append]
    refine ⟨ihl ho.left, ⟨sorted_map_consKey c _ hlvl, ihr ho.right,
      firsts_lt hmid ho.above fun _ _ hx hy => hx ▸ hy⟩, ?_⟩
    intro a ha b hb
    rcases List.mem_append.mp hb with hb | hb
    · exact firsts_lt ho.below hmid (fun _ _ hx hy => hy ▸ hx) a ha b hb
    · exact firsts_lt ho.below ho.above (fun _ _ hx hy => UInt8.lt_trans hx hy) a ha b hb

end GoguVerif.Lemmas.C09
