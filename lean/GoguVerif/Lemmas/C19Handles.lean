import GoguVerif.Lemmas.C19.SListOps
import GoguVerif.Lemmas.C19.Track
/-!
# C19 helper lemmas: the `SList` methods, the cell they work on given by its POSITION in the chain

Every method that works on a cell is stated for any address `a` with `as[i]? = some a` (the `i`-th cell, whatever values
the list holds — duplicates included), and the address list afterwards is given EXPLICITLY (`take`/`drop`/`eraseIdx`).
A handle fresh from `Find` is the case `i = xs.idxOf? x` (`find_some`).  `plain_sim` and `handle_sim` put the methods
together: whatever the specification says of a plain operation or of an operation through a handle, the pointer model
does, and the cells the specification still follows are where it says (`Tracks`).  The property theorems of
`Theorems/C19.lean`, `Theorems/C19Handles.lean` and the `SList` half of `Theorems/C19Handles2.lean` are read off them.
-/
namespace GoguVerif.Lemmas.C19H.SList
open GoguVerif.Model GoguVerif.Model.SList GoguVerif.Lemmas.C19 GoguVerif.Lemmas.C19.SList
open GoguVerif.Spec.C19 GoguVerif.Theorems.C19H GoguVerif.Theorems.C19H.SList

theorem addrOf_eq_idx {x : Int} {as : List Nat} {xs : List Int} (hl : as.length = xs.length) :
    addrOf x as xs = (xs.idxOf? x).bind (fun p => as[p]?) :=
  (addrOf_eq_dlist x as xs).trans (DList.addrOf_eq_idx hl)

theorem find_none {h : Heap} {as xs} (r : Repr h as xs) {x : Int} (e : xs.idxOf? x = none) :
    find h x = .ok (h, none) := by
  rw [find_repr r x, addrOf_eq_idx r.chain.length_eq, e]
  rfl

theorem find_some {h : Heap} {as xs} (r : Repr h as xs) {x : Int} {p : Nat} (e : xs.idxOf? x = some p) :
    ∃ a, as[p]? = some a ∧ find h x = .ok (h, some a) := by
  obtain ⟨hp, -⟩ := List.idxOf?_eq_some_iff.mp e
  rw [← r.chain.length_eq] at hp
  refine ⟨as[p], List.getElem?_eq_getElem hp, ?_⟩
  rw [find_repr r x, addrOf_eq_idx r.chain.length_eq, e]
  simp [hp]

theorem find_isSome {h : Heap} {as xs} (r : Repr h as xs) (x : Int) :
    ∃ o, find h x = .ok (h, o) ∧ o.isSome = decide (x ∈ xs) := by
  cases e : xs.idxOf? x with
  | none => exact ⟨none, find_none r e, by simp [List.idxOf?_eq_none_iff.mp e]⟩
  | some p =>
    obtain ⟨a, -, hf⟩ := find_some r e
    exact ⟨some a, hf, by simp [mem_of_idxOf? e]⟩

/-- the guard of `Delete`/`InsertAfter` -/
theorem find_mem {h : Heap} {as xs} (r : Repr h as xs) {x : Int} (hx : x ∈ xs) :
    ∃ b, find h x = .ok (h, some b) := by
  obtain ⟨p, e⟩ := idxOf?_of_mem hx
  obtain ⟨a, -, hf⟩ := find_some r e
  exact ⟨a, hf⟩

theorem pop_repr' {h : Heap} {as xs} (r : Repr h as xs) :
    ∃ h', pop h = .ok h' ∧
      Repr h' (if xs.length > 1 then as.dropLast else as) (if xs.length > 1 then xs.dropLast else xs) := by
  obtain ⟨as', x, xs', rfl, rfl, h0, hc, -⟩ := r.cons
  cases as' with
  | nil =>
    obtain rfl := chain_nil.mp hc
    exact ⟨h, by simp [pop, load, h0], r⟩
  | cons b bs =>
    obtain ⟨y, ys, rfl, -, -⟩ := chain_cons hc
    obtain ⟨t, tn, hp, ht, -, hch⟩ := popLoop_chain r.chain r.nodup (h.length + 1) r.fuel
    exact ⟨h.set t { tn with next := none },
      by simp only [pop, load, h0, List.head?_cons, ListRes.ok_bind, hp, ht, ListRes.pure_eq],
      rfl, (List.dropLast_sublist _).nodup r.nodup, hch⟩

/-- the old first element moves to the fresh cell `h.length` -/
theorem unshift_repr' {h : Heap} {as xs} (r : Repr h as xs) (v : Int) :
    ∃ h', unshift h v = .ok h' ∧ Repr h' (as.take 1 ++ h.length :: as.drop 1) (v :: xs) := by
  obtain ⟨as', x, xs', rfl, rfl, h0, hc, hnot⟩ := r.cons
  have hlt := hc.lt_length
  have hl0 : 0 < h.length := lt_of_get h0
  exact ⟨(h ++ [(⟨x, as'.head?⟩ : Node)]).set 0 ⟨v, some h.length⟩, by simp [unshift, load, h0],
    rfl, nodup_take_insert 1 h.length r.nodup (fun q => Nat.lt_irrefl _ (r.chain.lt_length _ q)),
    get_set_self hl0, get_set_new hl0,
    hc.frame (fun b hb => get_set_append (fun e => hnot (e ▸ hb)) (hlt b hb))⟩

theorem append_repr' {h : Heap} {as xs} (r : Repr h as xs) (v : Int) :
    ∃ h', append h v = .ok h' ∧ Repr h' (as ++ [h.length]) (xs ++ [v]) := by
  have hlt := r.chain.lt_length
  obtain ⟨as', x, xs', rfl, rfl, h0, -⟩ := r.cons
  have hla := lastAddr_chain r.chain (h.length + 1) (Nat.lt_of_succ_lt r.fuel)
  obtain ⟨n, hn, hch⟩ := Chain.snoc v (by simp) r.nodup r.chain
  refine ⟨_, ?_, rfl, ?_, hch⟩
  · simp only [append, load, h0, ListRes.ok_bind]
    split <;> simp only [set_self h0, hla, hn, ListRes.ok_bind, ListRes.pure_eq]
  · exact nodup_snoc r.nodup (fun q => Nat.lt_irrefl _ (hlt _ q))

/-- `Shift`, and `Delete` of any cell but the last -/
theorem takeover_repr {h : Heap} {as xs} {i a s : Nat} {sn : Node} (r : Repr h as xs) (hi : as[i]? = some a)
    (hs : as[i + 1]? = some s) (hsn : h[s]? = some sn) :
    Repr (h.set a sn) (as.eraseIdx (i + 1)) (xs.eraseIdx i) := by
  refine ⟨?_, (List.eraseIdx_sublist _ _).nodup r.nodup, takeoverAt_chain r.chain r.nodup hi hs hsn⟩
  rw [List.head?_eq_getElem?, List.getElem?_eraseIdx_of_lt (Nat.succ_pos i)]
  exact r.get_zero

/-- the SECOND cell disappears (its contents move into the head) -/
theorem shift_repr' {h : Heap} {as xs} (r : Repr h as xs) :
    ∃ h', shift h = .ok h' ∧
      Repr h' (if xs.length > 1 then as.eraseIdx 1 else as) (if xs.length > 1 then xs.tail else xs) := by
  obtain ⟨as', x, xs', rfl, rfl, h0, hc, -⟩ := r.cons
  cases as' with
  | nil =>
    obtain rfl := chain_nil.mp hc
    exact ⟨h, by simp [shift, load, h0], r⟩
  | cons b bs =>
    obtain ⟨y, ys, rfl, hb, -⟩ := chain_cons hc
    exact ⟨h.set 0 ⟨y, bs.head?⟩, by simp [shift, load, h0, hb], takeover_repr (i := 0) r rfl rfl hb⟩

theorem insertAfterAt_repr {h : Heap} {as xs} {i a : Nat} (r : Repr h as xs) (hi : as[i]? = some a) (v : Int) :
    ∃ h', insertAfter h (some a) v = .ok (h', .ok) ∧
      Repr h' (as.take (i + 1) ++ h.length :: as.drop (i + 1)) (xs.take (i + 1) ++ v :: xs.drop (i + 1)) := by
  obtain ⟨x, hx, hp⟩ := r.chain.cell_at hi
  obtain ⟨b, hf⟩ := find_mem r (List.mem_of_getElem? hx)
  have hne : as ≠ [] := List.ne_nil_of_mem (List.mem_of_getElem? hi)
  refine ⟨_, by simp only [SList.insertAfter, load, hp, hf, ListRes.ok_bind, ListRes.pure_eq],
    (head?_take_insert as i h.length hne).trans r.head,
    nodup_take_insert (i + 1) h.length r.nodup (fun q => Nat.lt_irrefl _ (r.chain.lt_length _ q)),
    insertAfterAt_chain r.chain r.nodup hi hp⟩

/-- the address list after `Delete` of the `i`-th cell: the successor's CELL disappears (its contents are copied over
the `i`-th cell), or — when the `i`-th cell is the last one — that cell itself -/
def delAddrs (i : Nat) (as : List Nat) : List Nat :=
  if as.length ≤ 1 then as else if i + 1 < as.length then as.eraseIdx (i + 1) else as.dropLast

theorem delAddrs_of_le {i : Nat} {as : List Nat} (h : as.length ≤ 1) : delAddrs i as = as :=
  if_pos h

theorem delAddrs_of_lt {i : Nat} {as : List Nat} (h : i + 1 < as.length) : delAddrs i as = as.eraseIdx (i + 1) := by
  rw [delAddrs, if_neg (by omega), if_pos h]

theorem delAddrs_last {i : Nat} {as : List Nat} (h1 : 1 < as.length) (h : as.length ≤ i + 1) :
    delAddrs i as = as.dropLast := by
  rw [delAddrs, if_neg (by omega), if_neg (by omega)]

theorem delAddrs_tracks {as : List Nat} {n i : Nat} (hn : as.length = n) (hi : i < as.length) :
    Tracks false (if n > 1 then .del i else .none) as (delAddrs i as) := by
  by_cases hl : n > 1
  · rw [if_pos hl]
    by_cases h1 : i + 1 < as.length
    · rw [delAddrs_of_lt h1]
      exact Tracks.del (.inr ⟨rfl, .inr rfl⟩)
    · rw [delAddrs_last (hn ▸ hl) (Nat.le_of_not_lt h1), ← eraseIdx_last as i (Nat.le_antisymm hi (Nat.le_of_not_lt h1))]
      exact Tracks.del (.inl rfl)
  · rw [if_neg hl, delAddrs_of_le (by omega)]
    exact Tracks.refl

/-- what `Delete` does with a cell of the chain: the cell takes over its successor; without one, the embedded head is
refused (it is the only cell) and any other cell is popped -/
theorem delete_cell {h : Heap} {as xs} {i a : Nat} (r : Repr h as xs) (hi : as[i]? = some a) :
    delete h (some a) = match as[i + 1]? with
      | some s => load h s >>= fun sn => pure (h.set a sn, .ok)
      | none => if 0 = a then pure (h, .err) else pop h >>= fun h' => pure (h', .ok) := by
  obtain ⟨x, hx, hp⟩ := r.chain.cell_at hi
  obtain ⟨b, hf⟩ := find_mem r (List.mem_of_getElem? hx)
  by_cases ha0 : 0 = a
  · subst ha0
    simp only [delete, load, hp, hf, ListRes.ok_bind, if_true, ListRes.pure_eq]
    cases as[i + 1]? <;> rfl
  · -- a cell other than the embedded head: the walk of `Delete` stops at it
    obtain ⟨as', y, xs', rfl, rfl, -⟩ := r.cons
    obtain ⟨pv, hdl⟩ := deleteLoop_chain ⟨0, none⟩ r.chain ha0 (List.mem_of_getElem? hi) (h.length + 1) r.fuel
    simp only [delete, load, hp, hf, ha0, hdl, ListRes.deref, ListRes.ok_bind, if_false, ListRes.pure_eq]
    cases (0 :: as')[i + 1]? <;> rfl

theorem deleteAt_repr {h : Heap} {as xs} {i a : Nat} (r : Repr h as xs) (hi : as[i]? = some a) :
    ∃ h', delete h (some a) = .ok (h', if xs.length > 1 then .ok else .err) ∧
      Repr h' (delAddrs i as) (if xs.length > 1 then xs.eraseIdx i else xs) := by
  have hleq := r.chain.length_eq
  have hilt : i < as.length := lt_of_get hi
  rw [delete_cell r hi]
  cases e1 : as[i + 1]? with
  | some s =>
    obtain ⟨z, -, hsn⟩ := r.chain.cell_at e1
    have hl1 : i + 1 < as.length := lt_of_get e1
    have hl : xs.length > 1 := hleq ▸ Nat.lt_of_le_of_lt (Nat.le_add_left 1 i) hl1
    rw [if_pos hl, if_pos hl, delAddrs_of_lt hl1]
    exact ⟨_, by simp only [load, hsn, ListRes.ok_bind, ListRes.pure_eq], takeover_repr r hi e1 hsn⟩
  | none =>
    have hil : as.length ≤ i + 1 := List.getElem?_eq_none_iff.mp e1
    have h0i := r.get_zero
    by_cases ha0 : 0 = a
    · -- the only cell
      subst ha0
      obtain rfl : i = 0 := (List.getElem?_inj hilt r.nodup).mp (hi.trans h0i.symm)
      have hnl : ¬ xs.length > 1 := hleq ▸ Nat.not_lt_of_le hil
      rw [if_neg hnl, if_neg hnl, delAddrs_of_le hil]
      exact ⟨h, rfl, r⟩
    · -- the last cell of several: `Pop`
      have hi0 : i ≠ 0 := by
        rintro rfl
        exact ha0 (Option.some.inj (h0i.symm.trans hi))
      have hal : 1 < as.length := Nat.lt_of_le_of_lt (Nat.pos_of_ne_zero hi0) hilt
      have hl : xs.length > 1 := hleq ▸ hal
      obtain ⟨h', hpop, hrep⟩ := pop_repr' r
      rw [if_pos hl, if_pos hl] at hrep
      rw [if_pos hl, if_pos hl, delAddrs_last hal hil, eraseIdx_last xs i (hleq ▸ Nat.le_antisymm hilt hil)]
      exact ⟨h', by simp only [if_neg ha0, hpop, ListRes.ok_bind, ListRes.pure_eq], hrep⟩

theorem handle_sim {h : Heap} {as xs} (r : Repr h as xs) {p a : Nat} (hp : as[p]? = some a) (s : HShape)
    (hs : supportedItem (.handle a s) = true) :
    ∃ h' as', stepItem h (.handle a s) = .ok (h', (nextH xs (s.at p)).1) ∧ Repr h' as' (nextH xs (s.at p)).2 ∧
      Tracks false (editOfH xs (s.at p)) as as' := by
  have hpl : p < as.length := lt_of_get hp
  cases s with
  | delete =>
    obtain ⟨h', he, hr⟩ := deleteAt_repr r hp
    rw [nextH_delete]
    exact ⟨h', delAddrs p as, he, hr, delAddrs_tracks r.chain.length_eq hpl⟩
  | insertAfter v =>
    obtain ⟨h', he, hr⟩ := insertAfterAt_repr r hp v
    exact ⟨h', _, he, hr, Tracks.ins _ (.inl rfl) hpl⟩
  | insertBefore v => cases hs

/-- an operation that looks a value up and then works through the handle `Find` gives it (`hstep` holds by `rfl`) -/
theorem via_sim {h : Heap} {as xs} (r : Repr h as xs) {op : Op} {x : Int} {s : HShape}
    (hv : viaFind op = some (x, s)) (hs : ∀ a, supportedItem (.handle a s) = true)
    (hstep : step h op = (find h x >>= fun o => match o.2 with
      | none => pure (o.1, .notFound)
      | some a => stepItem o.1 (.handle a s))) :
    ∃ h' as', step h op = .ok (h', (next false xs op).1) ∧ Repr h' as' (next false xs op).2 ∧
      Tracks false (editOf xs op) as as' := by
  have hn := next_viaFind (sv := false) (xs := xs) hv
  rw [hstep]
  cases e : xs.idxOf? x with
  | none =>
    rw [e] at hn
    obtain ⟨h1, h2⟩ := Prod.mk.inj hn
    rw [h1, h2, find_none r e]
    exact ⟨h, as, rfl, r, Tracks.refl⟩
  | some p =>
    rw [e] at hn
    obtain ⟨h1, h2⟩ := Prod.mk.inj hn
    obtain ⟨a, ha, hf⟩ := find_some r e
    rw [h1, h2, hf]
    exact handle_sim r ha s (hs a)

theorem plain_sim {h : Heap} {as xs} (r : Repr h as xs) (op : Op) (hs : supported op = true) :
    ∃ h' as', step h op = .ok (h', (next false xs op).1) ∧ Repr h' as' (next false xs op).2 ∧
      Tracks false (editOf xs op) as as' := by
  cases op with
  | insertAfter x v => exact via_sim r (s := .insertAfter v) rfl (fun _ => rfl) rfl
  | delete x => exact via_sim r (s := .delete) rfl (fun _ => rfl) rfl
  | insertBefore x v | first | last => cases hs
  | unshift v =>
    obtain ⟨h', he, hr⟩ := unshift_repr' r v
    exact ⟨h', _, by show (unshift h v >>= _) = _; rw [he]; rfl, hr,
      Tracks.ins _ (.inr ⟨rfl, rfl⟩) (lt_of_get r.get_zero)⟩
  | append v =>
    obtain ⟨h', he, hr⟩ := append_repr' r v
    exact ⟨h', _, by show (append h v >>= _) = _; rw [he]; rfl, hr, Tracks.append _⟩
  | shift =>
    obtain ⟨h', he, hr⟩ := shift_repr' r
    exact ⟨h', _, by show (shift h >>= _) = _; rw [he]; rfl, hr, (Tracks.del (.inr ⟨rfl, .inl rfl⟩)).of_if⟩
  | pop =>
    obtain ⟨h', he, hr⟩ := pop_repr' r
    exact ⟨h', _, by show (pop h >>= _) = _; rw [he]; rfl, hr, Tracks.dropLast r.chain.length_eq⟩
  | replace o n =>
    obtain ⟨h', he, hr⟩ := replace_repr r o n false
    exact ⟨h', as, he, hr, Tracks.refl⟩
  | find x =>
    obtain ⟨o, hf, ho⟩ := find_isSome r x
    exact ⟨h, as, by show (find h x >>= _) = _; rw [hf]; exact congrArg (fun b => ListRes.ok (h, Ans.bool b)) ho, r,
      Tracks.refl⟩
  | each => exact ⟨h, as, rfl, r, Tracks.refl⟩

end GoguVerif.Lemmas.C19H.SList
