import GoguVerif.Lemmas.C09Tree
/-!
# C09: representation invariant, abstraction function, one call of each operation

`Inv t` — the byte search-tree order holds in the whole tree and the counter `n` equals the number of
entries; `abs t` — the entries of the tree in in-order = the specification's sorted association list.
-/
namespace GoguVerif.Lemmas.C09
open GoguVerif.Spec GoguVerif.Spec.C09 GoguVerif.Model.Trie

def Inv (t : Trie) : Prop := Ord t.root ∧ t.n = ((ents t.root).length : Int)

def abs (t : Trie) : Map := ents t.root

/-- the property speaks about `Put` with non-empty keys only -/
def ValidOp : Op → Prop
  | .put k _ => k ≠ []
  | _ => True

theorem Inv.ord {t : Trie} (hi : Inv t) : Ord t.root := hi.1

theorem Inv.count {t : Trie} (hi : Inv t) : t.n = ((ents t.root).length : Int) := hi.2

theorem inv_init : Inv {} := ⟨trivial, rfl⟩
theorem abs_init : abs {} = [] := rfl

theorem notFound_eq (x : T) (err : Bool) : notFound x err = (resVal x err).isNone := by
  cases x with
  | nil => rfl
  | node c l m r v iv => cases err <;> cases iv <;> rfl

section step
variable (t : Trie) (hi : Inv t)
include hi

theorem step_put (c : UInt8) (ks : Key) (v : Int) :
    ∃ t', Model.Trie.step t (.put (c :: ks) v) = some (t', .unit) ∧
      abs t' = OrdMap.insert lexLt (c :: ks) v (abs t) ∧ Inv t' := by
  obtain ⟨x, err, g1, g2, _⟩ := get_spec (c :: ks) t.root 0 c ks rfl hi.ord
  obtain ⟨n', p1, p2, p3, _⟩ := put_spec (c :: ks) v t.root 0 c ks rfl hi.ord
  refine ⟨{ t with root := n', n := if notFound x err then t.n + 1 else t.n }, ?_, p2, ⟨p3, ?_⟩⟩
  · simp only [Model.Trie.step, Put, g1, p1]
  · simp only [p2, C04.length_insert, g2, notFound_eq, hi.count]
    cases resVal x err <;> simp

theorem Get_cons (c : UInt8) (ks : Key) :
    Get t (c :: ks) = some (OrdMap.lookup lexLt (c :: ks) (abs t)) := by
  obtain ⟨x, err, g1, g2, _⟩ := get_spec (c :: ks) t.root 0 c ks rfl hi.ord
  simp only [Get, List.length_cons, Nat.add_one_ne_zero, if_false, g1, abs, g2]
  cases x with
  | nil => rfl
  | node xc l m r xv iv => cases err <;> cases iv <;> rfl

theorem step_get (k : Key) : Model.Trie.step t (.get k) =
    some (t, .got (if k.isEmpty then none else OrdMap.lookup lexLt k (abs t))) := by
  cases k with
  | nil => rfl
  | cons c ks => simp only [Model.Trie.step, Get_cons t hi]; rfl

theorem step_contains (k : Key) : Model.Trie.step t (.contains k) =
    some (t, .bool (if k.isEmpty then false else (OrdMap.lookup lexLt k (abs t)).isSome)) := by
  cases k with
  | nil => rfl
  | cons c ks =>
    simp only [Model.Trie.step, Contains, List.length_cons, Nat.add_one_ne_zero, if_false,
      Get_cons t hi]
    rfl

theorem step_size : Model.Trie.step t .size = some (t, .int (abs t).length) := by
  simp only [Model.Trie.step, hi.count, abs]

theorem step_startsWith (p : Key) : ∃ q, Model.Trie.step t (.startsWith p) =
    some ({ t with q := q }, (Spec.C09.step (abs t) (.startsWith p)).2) := by
  cases p with
  | nil => exact ⟨[], rfl⟩
  | cons c ks =>
    obtain ⟨x, err, g1, _, g3⟩ := get_spec (c :: ks) t.root 0 c ks rfl hi.ord
    simp only [Spec.C09.step, List.isEmpty_cons, Bool.false_eq_true, if_false, abs, g3]
    simp only [Model.Trie.step, StartsWith, List.length_cons, Nat.add_one_ne_zero, if_false, g1]
    cases x with
    | nil => exact ⟨_, by cases err <;> rfl⟩
    | node xc l m r xv iv =>
      cases err with
      | true => exact ⟨_, rfl⟩
      | false =>
        refine ⟨resKeys (c :: ks) (.node xc l m r xv iv) false, ?_⟩
        simp only [collect_spec, resKeys]
        cases iv <;> rfl

theorem step_longestPrefix (q : Key) : Model.Trie.step t (.longestPrefix q) =
    some (t, (Spec.C09.step (abs t) (.longestPrefix q)).2) := by
  cases q with
  | nil => rfl
  | cons c qs =>
    simp only [Model.Trie.step, LongestPrefix, List.length_cons, Nat.add_one_ne_zero, if_false,
      Spec.C09.step, List.isEmpty_cons, Bool.false_eq_true]
    rw [lpLoop_spec (c :: qs) t.root 0 0 hi.ord (Nat.le_refl 0)]
    exact congrArg (fun k => some (t, Out.key k false))
      ((longest_take (c :: qs) (ents t.root)).trans
        (congrArg (List.take · (c :: qs)) (length_foldl_lf (c :: qs) (ents t.root) []))).symm

end step

theorem step_keys (t : Trie) : Model.Trie.step t .keys =
    some ({ t with q := keys (abs t) }, .keyList (keys (abs t)) false) := by
  simp [Model.Trie.step, Keys, collect_spec, abs, keys]

/-- the specification run over a history: final abstract state and the prescribed answers -/
def specRun (m : Map) : List Op → Map × List Out
  | [] => (m, [])
  | op :: ops =>
    let r := Spec.C09.step m op
    let rs := specRun r.1 ops
    (rs.1, r.2 :: rs.2)

def putsOf : List Op → List (Key × Int)
  | [] => []
  | .put k v :: ops => (k, v) :: putsOf ops
  | _ :: ops => putsOf ops

theorem spec_step_state (m : Map) (op : Op) :
    (Spec.C09.step m op).1 = match op with
      | .put k v => OrdMap.insert lexLt k v m
      | _ => m := by
  cases op <;> first | rfl | (simp only [Spec.C09.step]; split <;> rfl)

theorem specRun_state (ops : List Op) : ∀ m,
    (specRun m ops).1 = (putsOf ops).foldl (fun m p => OrdMap.insert lexLt p.1 p.2 m) m := by
  induction ops with
  | nil => intro m; rfl
  | cons op ops ih =>
    intro m
    simp only [specRun, ih, spec_step_state]
    cases op <;> rfl

end GoguVerif.Lemmas.C09
