import GoguVerif.Model.Fine2
import GoguVerif.Lemmas.RWLock
/-! Methods made of critical sections refine the atomic system (C02).

One refinement proof for `Model/Fine2`, under a condition `CondOn` that asks for `Cond.final` and
`Cond.early` only at the local states `L op` a call of `op` can be in when it takes a section.
`Fine2.Cond` is the case `L = fun _ _ => True`.  `Model/Fine` is the case "no pre-section", where the
local state at the one acquisition is the initial one: `emb` maps its states into those of `Fine2`,
steps to steps, so its refinement theorem is the one of `Fine2` read through `emb`. -/
namespace GoguVerif.Lemmas.Sections
open GoguVerif.Model GoguVerif.Model.Fine2
open GoguVerif.Model.Fine (runSteps)
open GoguVerif.Model.Lock (Mode)
open GoguVerif.Lemmas.RWLock

variable {σ lam Op Ret : Type}

theorem runSteps_cons (f : σ × lam → σ × lam) (rest) (p : σ × lam) :
    runSteps (f :: rest) p = runSteps rest (f p) := rfl

theorem runSteps_ro (steps : List (σ × lam → σ × lam)) (h : RO steps) (p : σ × lam) :
    (runSteps steps p).1 = p.1 := by
  induction steps generalizing p with
  | nil => rfl
  | cons f rest ih =>
    rw [runSteps_cons, ih (fun g hg => h g (List.mem_cons_of_mem _ hg)), h f List.mem_cons_self]

theorem runSteps_ro_eq {steps : List (σ × lam → σ × lam)} (h : RO steps) (s : σ) (loc : lam) :
    runSteps steps (s, loc) = (s, (runSteps steps (s, loc)).2) :=
  Prod.ext (runSteps_ro steps h _) rfl

/-- a read-only first step leaves the shared state, so the run goes on from `(sh, _)` -/
theorem runSteps_ro_head {f : σ × lam → σ × lam} {rest} (h : RO (f :: rest)) (sh : σ) (loc : lam) :
    (f (sh, loc)).1 = sh ∧ runSteps (f :: rest) (sh, loc) = runSteps rest (sh, (f (sh, loc)).2) := by
  have hf : (f (sh, loc)).1 = sh := h f List.mem_cons_self _
  refine ⟨hf, ?_⟩
  rw [runSteps_cons, show f (sh, loc) = (sh, (f (sh, loc)).2) from Prod.ext hf rfl]

theorem ro_tail {f : σ × lam → σ × lam} {rest} (h : RO (f :: rest)) : RO rest :=
  fun g hg p => h g (List.mem_cons_of_mem _ hg) p

/-- `Fine2.Cond` relative to an invariant `L` of the call's local state between sections -/
structure CondOn (meth : Op → Meth σ lam Ret) (step : σ → Op → σ × Ret) (L : Op → lam → Prop) : Prop where
  preRO : ∀ op, ∀ sec ∈ (meth op).pre, RO sec.steps
  finalRO : ∀ op, (meth op).mode = .r → RO (meth op).steps
  init : ∀ op, L op (meth op).init
  pre : ∀ op, ∀ sec ∈ (meth op).pre, ∀ s loc, L op loc → L op (runSteps sec.steps (s, loc)).2
  final : ∀ op s loc, L op loc → finalAtomic (meth op) s loc = step s op
  early : ∀ op, ∀ sec ∈ (meth op).pre, ∀ s loc r, L op loc →
    sec.early (runSteps sec.steps (s, loc)).2 = some r → step s op = (s, r)

theorem CondOn.of_cond {meth : Op → Meth σ lam Ret} {step : σ → Op → σ × Ret} (c : Cond meth step) :
    CondOn meth step fun _ _ => True where
  preRO := c.preRO
  finalRO := c.finalRO
  init _ := trivial
  pre _ _ _ _ _ _ := trivial
  final op s loc _ := c.final op s loc
  early op sec h s loc r _ := c.early op sec h s loc r

/-- What a thread's state must satisfy, given the shared state `sh` and the abstract state `ab`.  Inside a section the
clauses speak of `runSteps rest (sh, loc)`, the state the section will have reached when it is left: under the read
lock `rest` is read-only, under the write lock nobody else moves, so that state is determined now.  The proofs read the
clauses in this order: `inPre`: abs, ro, sub (the pre-sections left are the method's), loc, early; `inFinal`: mode, res,
reader, writer. -/
def GoodOn (meth : Op → Meth σ lam Ret) (step : σ → Op → σ × Ret) (L : Op → lam → Prop) (sh ab : σ) :
    TState σ lam Op Ret → Prop
  | .idle => True
  | .waiting _ op pre loc => (∀ x ∈ pre, x ∈ (meth op).pre) ∧ L op loc
  | .inPre _ op rest sec pre loc =>
      ab = sh ∧ RO rest ∧ (∀ x ∈ pre, x ∈ (meth op).pre) ∧ L op (runSteps rest (sh, loc)).2 ∧
      (∀ r, sec.early (runSteps rest (sh, loc)).2 = some r → step sh op = (sh, r))
  | .inFinal _ op m rest loc r =>
      m = (meth op).mode ∧ (meth op).result (runSteps rest (sh, loc)).2 = r ∧
      (m = .r → RO rest ∧ ab = sh) ∧ (m = .w → ab = (runSteps rest (sh, loc)).1)
  | .finished _ _ _ => True

abbrev InvOn (meth : Op → Meth σ lam Ret) (step : σ → Op → σ × Ret) (L : Op → lam → Prop)
    (s : State σ lam Op Ret) : Prop :=
  RWInv holds (GoodOn meth step L) s.shared s.absObj s.th

variable {meth : Op → Meth σ lam Ret} {step : σ → Op → σ × Ret} {L : Op → lam → Prop}

theorem goodOn_frame {sh ab sh' ab' : σ} {t : TState σ lam Op Ret} (hn : holds t = none)
    (g : GoodOn meth step L sh ab t) : GoodOn meth step L sh' ab' t := by
  cases t with
  | idle => trivial
  | waiting c op pre loc => exact g
  | inPre c op rest sec pre loc => cases hn
  | inFinal c op m rest loc r => cases hn
  | finished c op r => trivial

theorem invOn_init (init : σ) : InvOn meth step L (initState init : State σ lam Op Ret) :=
  ⟨nofun, fun _ => trivial, fun _ => rfl⟩

theorem no_writer_of_canEnter {s : State σ lam Op Ret} {t : Nat} {m : Mode} (ok : canEnter s t m) :
    ∀ i, i ≠ t → holds (s.th i) ≠ some .w := by
  intro i ei hw
  cases m with
  | r => exact ok i ei hw
  | w => exact no_writer_of_free ok i ei hw

theorem abs_upd (s : State σ lam Op Ret) (t : Nat) (x : TState σ lam Op Ret) (sh ab : σ) (n : Nat) :
    abs ⟨sh, ab, Lin.upd s.th t x, n⟩ = ⟨ab, Lin.upd (abs s).pcs t (absPc x), n⟩ :=
  congrArg (fun p => (⟨ab, p, n⟩ : Lin.CState σ Op Ret)) (comp_upd absPc s.th t x)

/-- a step that changes neither the abstract object nor the thread's abstract program counter is
invisible in the atomic system -/
theorem abs_upd_same (s : State σ lam Op Ret) (t : Nat) (x : TState σ lam Op Ret) (sh' : σ)
    (h : absPc x = absPc (s.th t)) : abs { s with shared := sh', th := Lin.upd s.th t x } = abs s := by
  rw [abs_upd, h]; exact congrArg (fun p => (⟨s.absObj, p, s.next⟩ : Lin.CState σ Op Ret)) (upd_eq_self _ t)

/-- the `lin` step of the atomic system, with the outcome of `step` named -/
theorem lin_step_of_eq {O : Lin.Obj σ Op Ret} (s : Lin.CState σ Op Ret) (t c : Nat) (op : Op)
    (hp : s.pcs t = .pending c op) (s1 : σ) (r : Ret) (hs : O.step s.obj op = (s1, r)) :
    Lin.Step O s (.lin t c op r) { s with obj := s1, pcs := Lin.upd s.pcs t (.done c op r) } := by
  have := Lin.Step.lin (O := O) s t c op hp
  rw [hs] at this
  exact this

/-- what a step of the fine-grained system amounts to in the atomic system of `O`: its step with the same event, or,
without an event, nothing -/
def AtomicStep (O : Lin.Obj σ Op Ret) (a : Lin.CState σ Op Ret) : Option (Lin.Ev Op Ret) → Lin.CState σ Op Ret → Prop
  | some e, a' => Lin.Step O a e a'
  | none, a' => a' = a

theorem AtomicStep.some_iff {O : Lin.Obj σ Op Ret} {a a' : Lin.CState σ Op Ret} {e : Lin.Ev Op Ret} :
    AtomicStep O a (Option.some e) a' ↔ Lin.Step O a e a' := Iff.rfl

theorem AtomicStep.none_iff {O : Lin.Obj σ Op Ret} {a a' : Lin.CState σ Op Ret} :
    AtomicStep O a Option.none a' ↔ a' = a := Iff.rfl

/-- A step keeps the invariant and is a step of the atomic system, or invisible there.  A step under the read lock keeps `sh` (`RO`),
hence `ab = sh`; a step of the writer changes `sh`, but everybody else holds nothing and `goodOn_frame` applies to
them; an acquisition finds no writer, so `ab = sh` by `abs_eq_of_no_writer`, and what the section will compute is
fixed there from `cond`: the final section's acquisition, or the release that returns early, is the `lin` step.
`init` is there only because `Lin.Step` asks for an object, of which it reads the step function alone. -/
theorem sim_step (cond : CondOn meth step L) (init : σ) {s s' : State σ lam Op Ret} {e}
    (hr : InvOn meth step L s) (st : Step meth s e s') :
    InvOn meth step L s' ∧ AtomicStep ⟨init, step⟩ (abs s) e (abs s') := by
  cases st with
  | inv t op h =>
    refine ⟨hr.upd_none rfl ⟨fun x hx => hx, cond.init op⟩
      (hr.abs_eq_of_no_writer (by rw [h]; nofun)), ?_⟩
    rw [abs_upd]; exact Lin.Step.inv _ t op (congrArg absPc h)
  | acquirePre t c op sec pre loc h ok =>
    obtain ⟨hsub, hloc⟩ := hr.good_at h
    have habs : s.absObj = s.shared := hr.abs_eq_of_no_writer (by rw [h]; nofun) ok
    have hsec := hsub sec List.mem_cons_self
    refine ⟨hr.upd_r rfl ok
      ⟨habs, cond.preRO op sec hsec, fun x hx => hsub x (List.mem_cons_of_mem _ hx),
       cond.pre op sec hsec s.shared loc hloc, fun r he => cond.early op sec hsec s.shared loc r hloc he⟩ habs, ?_⟩
    rw [abs_upd_same s t _ s.shared (by rw [h]; rfl)]
    exact Lin.Step.tau _ t c op (congrArg absPc h)
  | microPre t c op f rest sec pre loc h =>
    obtain ⟨habs, hro, hsub, hloc, hearly⟩ := hr.good_at h
    obtain ⟨hf, hrun⟩ := runSteps_ro_head hro s.shared loc
    rw [hrun] at hloc hearly
    refine ⟨?_, abs_upd_same s t _ _ (by rw [h]; rfl)⟩
    exact hr.upd_reader (by rw [h]; rfl) rfl hf ⟨habs, ro_tail hro, hsub, hloc, hearly⟩ habs
  | releaseEarly t c op sec pre loc r h e =>
    obtain ⟨habs, -, -, -, hearly⟩ := hr.good_at h
    refine ⟨hr.upd_none rfl trivial fun _ => habs, ?_⟩
    rw [abs_upd]
    exact lin_step_of_eq _ t c op (congrArg absPc h) _ r (show step s.absObj op = (s.absObj, r) from habs ▸ hearly r e)
  | releaseCont t c op sec pre loc h e =>
    obtain ⟨habs, -, hsub, hloc, -⟩ := hr.good_at h
    exact ⟨hr.upd_none rfl ⟨hsub, hloc⟩ fun _ => habs,
      abs_upd_same s t _ s.shared (by rw [h]; rfl)⟩
  | acquireFinal t c op loc h ok =>
    obtain ⟨-, hloc⟩ := hr.good_at h
    have hnw := no_writer_of_canEnter ok
    have habs : s.absObj = s.shared := hr.abs_eq_of_no_writer (by rw [h]; nofun) hnw
    refine ⟨?_, ?_⟩
    · cases hm : (meth op).mode with
      | r =>
        have hro : (finalAtomic (meth op) s.absObj loc).1 = s.absObj :=
          runSteps_ro _ (cond.finalRO op hm) _
        rw [hro]
        exact hr.upd_r rfl hnw
          ⟨hm.symm, by rw [habs]; rfl, fun _ => ⟨cond.finalRO op hm, habs⟩, nofun⟩ habs
      | w =>
        rw [hm] at ok
        exact hr.upd_w rfl ok (fun _ => goodOn_frame)
          ⟨hm.symm, by rw [habs]; rfl, nofun, fun _ => by rw [habs]; rfl⟩
    · rw [abs_upd]
      exact lin_step_of_eq _ t c op (congrArg absPc h) _ _ (cond.final op s.absObj loc hloc).symm
  | microFinal t c op m f rest loc r h =>
    obtain ⟨hmode, hres, hreader, hwriter⟩ := hr.good_at h
    refine ⟨?_, abs_upd_same s t _ _ (by rw [h]; rfl)⟩
    cases m with
    | w =>
      have free : ∀ j, j ≠ t → holds (s.th j) = none := fun j hj =>
        hr.excl t j (Ne.symm hj) (by rw [h]; rfl)
      exact hr.upd_w rfl free (fun _ => goodOn_frame) ⟨hmode, hres, nofun, hwriter⟩
    | r =>
      obtain ⟨hro, habs⟩ := hreader rfl
      obtain ⟨hf, hrun⟩ := runSteps_ro_head hro s.shared loc
      rw [hrun] at hres
      exact hr.upd_reader (by rw [h]; rfl) rfl hf ⟨hmode, hres, fun _ => ⟨ro_tail hro, habs⟩, nofun⟩ habs
  | releaseFinal t c op m loc r h =>
    obtain ⟨-, hres, hreader, hwriter⟩ := hr.good_at h
    refine ⟨hr.upd_none rfl trivial fun _ => ?_,
      abs_upd_same s t _ s.shared (by rw [h, show (meth op).result loc = r from hres]; rfl)⟩
    cases m with
    | w => exact hwriter rfl
    | r => exact (hreader rfl).2
  | ret t c op r h =>
    refine ⟨hr.upd_none rfl trivial (hr.abs_eq_of_no_writer (by rw [h]; nofun)), ?_⟩
    rw [abs_upd]; exact Lin.Step.ret _ t c op r (congrArg absPc h)

theorem invOn_step (cond : CondOn meth step L) {s s' : State σ lam Op Ret} {e}
    (hr : InvOn meth step L s) (st : Step meth s e s') : InvOn meth step L s' :=
  (sim_step cond s.shared hr st).1  -- `Lin.Step` does not look at the initial state: any will do

/-- Every fine-grained execution is an execution of the atomic system of `step` with the same events,
and the invariant holds in every reachable state. -/
theorem refines_on (cond : CondOn meth step L) {init : σ} {h s} (r : Fine2.Reach meth init h s) :
    InvOn meth step L s ∧ Lin.Reach ⟨init, step⟩ h (abs s) := by
  induction r with
  | init => exact ⟨invOn_init init, Lin.Reach.init⟩
  | step _ st ih => exact (sim_step cond init ih.1 st).imp_right fun a => ih.2.step (AtomicStep.some_iff.1 a)
  | silent _ st ih =>
    obtain ⟨hi, e⟩ := sim_step cond init ih.1 st
    exact ⟨hi, AtomicStep.none_iff.1 e ▸ ih.2⟩

/-- a thread of the one-section system as a thread of the several-section system -/
def emb (meth : Op → Fine.Meth σ lam Ret) : Fine.TState σ lam Op Ret → TState σ lam Op Ret
  | .idle => .idle
  | .invoked c op => .waiting c op [] (meth op).init
  | .inside c op m rest loc r => .inFinal c op m rest loc r
  | .finished c op r => .finished c op r

def embState (meth : Op → Fine.Meth σ lam Ret) (s : Fine.State σ lam Op Ret) : State σ lam Op Ret :=
  ⟨s.shared, s.absObj, fun i => emb meth (s.th i), s.next⟩

variable {fmeth : Op → Fine.Meth σ lam Ret}

theorem holds_emb (ts : Fine.TState σ lam Op Ret) : holds (emb fmeth ts) = Fine.holds ts := by
  cases ts <;> rfl

theorem absPc_emb (ts : Fine.TState σ lam Op Ret) : absPc (emb fmeth ts) = Fine.absPc ts := by
  cases ts <;> rfl

theorem abs_embState (s : Fine.State σ lam Op Ret) : abs (embState fmeth s) = Fine.abs s :=
  congrArg (fun p => (⟨s.absObj, p, s.next⟩ : Lin.CState σ Op Ret)) (funext fun i => absPc_emb (s.th i))

theorem canEnter_emb {s : Fine.State σ lam Op Ret} {t : Nat} {m : Mode} (ok : Fine.canEnter s t m) :
    canEnter (embState fmeth s) t m := by
  cases m with
  | r => exact fun j hj => (holds_emb (s.th j)).symm ▸ ok j hj
  | w => exact fun j hj => (holds_emb (s.th j)).trans (ok j hj)

theorem embState_upd (s : Fine.State σ lam Op Ret) (t : Nat) (x : Fine.TState σ lam Op Ret) (sh ab : σ)
    (n : Nat) : embState fmeth ⟨sh, ab, Lin.upd s.th t x, n⟩ =
      ⟨sh, ab, Lin.upd (embState fmeth s).th t (emb fmeth x), n⟩ :=
  congrArg (fun p => (⟨sh, ab, p, n⟩ : State σ lam Op Ret)) (comp_upd (emb fmeth) s.th t x)

theorem step_emb {s s' : Fine.State σ lam Op Ret} {e} (st : Fine.Step fmeth s e s') :
    Step (fun op => ofFine (fmeth op)) (embState fmeth s) e (embState fmeth s') := by
  cases st with
  | inv t op h => rw [embState_upd]; exact .inv (embState fmeth s) t op (congrArg (emb fmeth) h)
  | acquire t c op h ok =>
    rw [embState_upd]
    exact .acquireFinal (embState fmeth s) t c op _ (congrArg (emb fmeth) h) (canEnter_emb ok)
  | micro t c op m f rest loc r h =>
    rw [embState_upd]; exact .microFinal (embState fmeth s) t c op m f rest loc r (congrArg (emb fmeth) h)
  | release t c op m loc r h =>
    rw [embState_upd]; exact .releaseFinal (embState fmeth s) t c op m loc r (congrArg (emb fmeth) h)
  | ret t c op r h => rw [embState_upd]; exact .ret (embState fmeth s) t c op r (congrArg (emb fmeth) h)

theorem reach_emb {init : σ} {h s} (r : Fine.Reach fmeth init h s) :
    Fine2.Reach (fun op => ofFine (fmeth op)) init h (embState fmeth s) := by
  induction r with
  | init => exact .init
  | step _ st ih => exact ih.step (step_emb st)
  | silent _ st ih => exact ih.silent (step_emb st)

/-- the local state at the one acquisition is the initial one, so `Cond.final` is needed there only -/
theorem condOn_ofFine (ro : Fine.ReadOnly fmeth) :
    CondOn (fun op => ofFine (fmeth op)) (fun s op => Fine.atomic (fmeth op) s)
      fun op loc => loc = (fmeth op).init where
  preRO _ _ h := nomatch h
  finalRO := ro
  init _ := rfl
  pre _ _ h := nomatch h
  final _ _ _ e := e ▸ rfl
  early _ _ h := nomatch h

end GoguVerif.Lemmas.Sections
