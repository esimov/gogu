import GoguVerif.Lemmas.C20
/-!
# C20 — helper lemmas: the Delay invariant (history positions, timer ids, at most once, served)
-/
namespace GoguVerif.Lemmas.C20L
open GoguVerif.Spec.C20 GoguVerif.Model.C20 GoguVerif.Lemmas.C20

/-- number of `delay` events of a history = the next timer id -/
def cnt : List LEv → Nat
  | [] => 0
  | .delay _ :: r => cnt r + 1
  | .stop _ :: r => cnt r
  | .advance _ :: r => cnt r

theorem cnt_append (a b : List LEv) : cnt (a ++ b) = cnt a + cnt b := by
  induction a with
  | nil => simp [cnt]
  | cons e r ih => cases e <;> simp only [List.cons_append, cnt, ih] <;> omega

theorem cnt_take_le (hist : List LEv) (k : Nat) : cnt (hist.take k) ≤ cnt hist := by
  have h := cnt_append (hist.take k) (hist.drop k)
  rw [List.take_append_drop] at h
  omega

theorem cnt_take_lt (hist : List LEv) (i j : Nat) (d : Int) (hi : hist[i]? = some (LEv.delay d))
    (hij : i < j) : cnt (hist.take i) < cnt (hist.take j) := by
  have h1 : cnt (hist.take (i + 1)) = cnt (hist.take i) + 1 := by
    rw [List.take_add_one, hi, cnt_append]; rfl
  have h2 := cnt_take_le (hist.take j) (i + 1)
  rw [List.take_take, Nat.min_eq_left (show i + 1 ≤ j from hij)] at h2
  omega

theorem lclock_take_le (a : List LEv) (k : Nat) : lclock (a.take k) ≤ lclock a :=
  clk_take_le rfl (fun _ _ => rfl) a k

theorem lclock_snoc (pre : List LEv) (e : LEv) : lclock (pre ++ [e]) = lclock pre + e.dt :=
  clk_snoc rfl (fun _ _ => rfl) pre e

/-- event `i` of `hist` is `delay d`; it happens at instant `tc` and is handed the timer id `id` -/
structure DelayAt (hist : List LEv) (i : Nat) (d tc : Int) (id : Nat) : Prop where
  isDelay : hist[i]? = some (LEv.delay d)
  callTime : lclock (hist.take i) = tc
  id_eq : id = cnt (hist.take i)

theorem DelayAt.snoc {hist i d tc id} (e : LEv) (h : DelayAt hist i d tc id) :
    DelayAt (hist ++ [e]) i d tc id := by
  have hi := Nat.le_of_lt (get_lt h.isDelay)
  exact ⟨get_snoc_old _ _ _ h.isDelay, by rw [List.take_append_of_le_length hi]; exact h.callTime,
    by rw [List.take_append_of_le_length hi]; exact h.id_eq⟩

theorem DelayAt.last {hist : List LEv} {i : Nat} {d tc : Int} {id : Nat} (hi : i = hist.length)
    (htc : tc = lclock hist) (hid : id = cnt hist) : DelayAt (hist ++ [LEv.delay d]) i d tc id := by
  subst hi htc hid
  exact ⟨List.getElem?_concat_length, by rw [List.take_left], by rw [List.take_left]⟩

theorem DelayAt.of_take {evs k i d tc id} (h : DelayAt (evs.take k) i d tc id) : i < k ∧ DelayAt evs i d tc id := by
  have hik : i < k := by have := get_lt h.isDelay; rw [List.length_take] at this; omega
  have ht : (evs.take k).take i = evs.take i := by rw [List.take_take, Nat.min_eq_left (Nat.le_of_lt hik)]
  have h1 := h.isDelay
  rw [List.getElem?_take, if_pos hik] at h1
  exact ⟨hik, h1, ht ▸ h.callTime, ht ▸ h.id_eq⟩

theorem DelayAt.unique {hist i d tc id d' tc' id'} (h : DelayAt hist i d tc id)
    (h' : DelayAt hist i d' tc' id') : d = d' ∧ tc = tc' ∧ id = id' := by
  have := h.isDelay.symm.trans h'.isDelay
  cases this
  exact ⟨rfl, h.callTime.symm.trans h'.callTime, h.id_eq.trans h'.id_eq.symm⟩

theorem DelayAt.idx_inj {hist i d tc id j d' tc' id'} (h : DelayAt hist i d tc id)
    (h' : DelayAt hist j d' tc' id') (hid : id = id') : i = j := by
  have heq := h.id_eq.symm.trans (hid.trans h'.id_eq)
  rcases Nat.lt_trichotomy i j with hlt | heq' | hgt
  · have := cnt_take_lt hist i j d h.isDelay hlt; omega
  · exact heq'
  · have := cnt_take_lt hist j i d' h'.isDelay hgt; omega

theorem DelayAt.id_lt {hist i d tc id} (h : DelayAt hist i d tc id) : id < cnt hist := by
  have := cnt_take_lt hist i hist.length d h.isDelay (get_lt h.isDelay)
  rwa [List.take_length, ← h.id_eq] at this

/-- the model's executions with position `i` -/
def firedAt (i : Nat) (l : List LFire) : Nat := l.countP (fun fr => fr.idx == i)
def pendingAt (i : Nat) (l : List LPending) : Nat := l.countP (fun t => t.idx == i)

structure LTimerInv (hist : List LEv) (t : LPending) : Prop where
  idx_lt : t.idx < hist.length
  isDelay : hist[t.idx]? = some (LEv.delay t.d)
  callTime : lclock (hist.take t.idx) = t.tc
  exact : t.deadline = t.tc + max t.d 0
  id_eq : t.id = cnt (hist.take t.idx)
  nostop : ∀ k, t.idx < k → hist[k]? ≠ some (LEv.stop t.id)

structure LFireInv (hist : List LEv) (now : Int) (fr : LFire) : Prop where
  idx_lt : fr.idx < hist.length
  isDelay : hist[fr.idx]? = some (LEv.delay fr.d)
  callTime : lclock (hist.take fr.idx) = fr.tc
  exact : fr.f = fr.tc + max fr.d 0
  id_eq : fr.id = cnt (hist.take fr.idx)
  le_now : fr.f ≤ now
  nostop : ∀ k, fr.idx < k → hist[k]? = some (LEv.stop fr.id) → fr.f ≤ lclock (hist.take k)

/-- the `delay` event at position `i` has been dealt with: its timer is pending, it has run, or it
was stopped before its deadline -/
def Served (hist : List LEv) (s : LState) (i : Nat) (d : Int) : Prop :=
  (∃ t ∈ s.timers, t.idx = i) ∨ (∃ fr ∈ s.fired, fr.idx = i) ∨
  (∃ k, i < k ∧ hist[k]? = some (LEv.stop (cnt (hist.take i))) ∧
    lclock (hist.take k) < lclock (hist.take i) + max d 0)

/-- invariant in the middle of a step (current event already in `hist`, due timers not yet run) -/
structure LPre (hist : List LEv) (s : LState) : Prop where
  n_eq : s.n + 1 = hist.length
  now_eq : s.now = lclock hist
  next_eq : s.nextId = cnt hist
  timers : ∀ t ∈ s.timers, LTimerInv hist t ∧ t.id < s.nextId
  fired : ∀ fr ∈ s.fired, LFireInv hist s.now fr
  once : ∀ i, pendingAt i s.timers + firedAt i s.fired ≤ 1
  served : ∀ i d, hist[i]? = some (LEv.delay d) → Served hist s i d

/-- invariant between steps -/
structure LInvH (hist : List LEv) (s : LState) : Prop where
  n_eq : s.n = hist.length
  now_eq : s.now = lclock hist
  next_eq : s.nextId = cnt hist
  timers : ∀ t ∈ s.timers, (LTimerInv hist t ∧ t.id < s.nextId) ∧ s.now < t.deadline
  fired : ∀ fr ∈ s.fired, LFireInv hist s.now fr
  once : ∀ i, pendingAt i s.timers + firedAt i s.fired ≤ 1
  served : ∀ i d, hist[i]? = some (LEv.delay d) → Served hist s i d

theorem LTimerInv.delayAt {hist t} (h : LTimerInv hist t) : DelayAt hist t.idx t.d t.tc t.id :=
  ⟨h.isDelay, h.callTime, h.id_eq⟩

theorem LFireInv.delayAt {hist now fr} (h : LFireInv hist now fr) : DelayAt hist fr.idx fr.d fr.tc fr.id :=
  ⟨h.isDelay, h.callTime, h.id_eq⟩

theorem LInvH.pending_ahead {hist s} (h : LInvH hist s) {t : LPending} (ht : t ∈ s.timers) {d : Int}
    (hx : hist[t.idx]? = some (LEv.delay d)) : lclock hist < lclock (hist.take t.idx) + max d 0 := by
  obtain ⟨⟨hT, _⟩, hlt⟩ := h.timers t ht
  cases hT.isDelay.symm.trans hx
  rw [hT.callTime, ← hT.exact, ← h.now_eq]; exact hlt

theorem LTimerInv.snoc {hist t} (e : LEv) (h : LTimerInv hist t) (he : e ≠ LEv.stop t.id) :
    LTimerInv (hist ++ [e]) t :=
  have a := h.delayAt.snoc e
  { idx_lt := get_lt a.isDelay, isDelay := a.isDelay, callTime := a.callTime, exact := h.exact, id_eq := a.id_eq
    nostop := by
      intro k hk hx
      rcases ListFacts.getElem?_snoc_cases hx with ⟨_, hx'⟩ | ⟨_, hxe⟩
      · exact h.nostop k hk hx'
      · exact he hxe.symm }

theorem LFireInv.snoc {hist now fr} (e : LEv) (now' : Int) (h : LFireInv hist now fr)
    (hnow : now ≤ now') (hn : now = lclock hist) : LFireInv (hist ++ [e]) now' fr :=
  have a := h.delayAt.snoc e
  { idx_lt := get_lt a.isDelay, isDelay := a.isDelay, callTime := a.callTime, exact := h.exact, id_eq := a.id_eq
    le_now := Int.le_trans h.le_now hnow
    nostop := by
      intro k hk hx
      rcases ListFacts.getElem?_snoc_cases hx with ⟨hkl, hx'⟩ | ⟨hkl, _⟩
      · rw [List.take_append_of_le_length (Nat.le_of_lt hkl)]; exact h.nostop k hk hx'
      · rw [hkl, List.take_left, ← hn]; exact h.le_now }

/-- `ht`: a pending timer of the event stays pending, or `e` stops it before its deadline -/
theorem Served.snoc {hist s i d} (e : LEv) (s' : LState) (h : Served hist s i d) (hi : i < hist.length)
    (ht : (∃ t ∈ s.timers, t.idx = i) → (∃ t ∈ s'.timers, t.idx = i) ∨
      (e = LEv.stop (cnt (hist.take i)) ∧ lclock hist < lclock (hist.take i) + max d 0))
    (hf : ∀ fr ∈ s.fired, fr ∈ s'.fired) : Served (hist ++ [e]) s' i d := by
  have hti := List.take_append_of_le_length (l₂ := [e]) (Nat.le_of_lt hi)
  rcases h with h | ⟨fr, hfr, hi'⟩ | ⟨k, hk, hx, hlt⟩
  · rcases ht h with h' | ⟨he, hlt⟩
    · exact Or.inl h'
    · refine Or.inr (Or.inr ⟨hist.length, hi, ?_, ?_⟩)
      · rw [List.getElem?_concat_length, hti, he]
      · rw [List.take_left, hti]; exact hlt
  · exact Or.inr (Or.inl ⟨fr, hf fr hfr, hi'⟩)
  · refine Or.inr (Or.inr ⟨k, hk, ?_, ?_⟩)
    · rw [hti]; exact get_snoc_old _ _ _ hx
    · rw [List.take_append_of_le_length (Nat.le_of_lt (get_lt hx)), hti]; exact hlt

theorem linvh_init : LInvH [] {} where
  n_eq := rfl
  now_eq := rfl
  next_eq := rfl
  timers := by intro t h; cases h
  fired := by intro t h; cases h
  once := by intro i; simp [pendingAt, firedAt]
  served := by intro i d h; simp at h

/-- the pre-action of an event: the `let s1 := match e …` of `lstep`, copied (`lstep_eq`) -/
def lpre (s : LState) (e : LEv) : LState :=
  match e with
  | .delay d =>
    { s with timers := s.timers ++ [{ id := s.nextId, deadline := s.now + max d 0, idx := s.n, tc := s.now, d := d }],
             nextId := s.nextId + 1 }
  | .stop id =>
    if id < s.nextId then
      { s with lastStop := some (s.timers.any (·.id == id)), timers := s.timers.filter (·.id != id) }
    else { s with lastStop := none }
  | .advance dt => { s with now := s.now + dt }

theorem lstep_eq (s : LState) (e : LEv) :
    lstep s e = { (lpre s e).settle with n := (lpre s e).settle.n + 1 } := by
  cases e <;> rfl

structure LPreKeeps (s s' : LState) (e : LEv) : Prop where
  n : s'.n = s.n
  fired : s'.fired = s.fired
  now : s'.now = s.now + e.dt
  nextId : s'.nextId = s.nextId + cnt [e]

theorem lpre_keeps (s : LState) (e : LEv) : LPreKeeps s (lpre s e) e := by
  cases e with
  | delay d => exact ⟨rfl, rfl, (Int.add_zero _).symm, rfl⟩
  | advance dt => exact ⟨rfl, rfl, rfl, rfl⟩
  | stop id =>
    show LPreKeeps s (if id < s.nextId then _ else _) _
    by_cases h : id < s.nextId
    · rw [if_pos h]; exact ⟨rfl, rfl, (Int.add_zero _).symm, rfl⟩
    · rw [if_neg h]; exact ⟨rfl, rfl, (Int.add_zero _).symm, rfl⟩

theorem countP_idx_eq_zero {α} (f : α → Nat) {l : List α} {n : Nat} (h : ∀ a ∈ l, f a < n) :
    l.countP (fun a => f a == n) = 0 :=
  List.countP_eq_zero.mpr fun a ha hc => Nat.ne_of_lt (h a ha) (beq_iff_eq.mp hc)

def created (s : LState) : LEv → List LPending
  | .delay d => [{ id := s.nextId, deadline := s.now + max d 0, idx := s.n, tc := s.now, d := d }]
  | _ => []

theorem lpre_timers {s : LState} (hid : ∀ t ∈ s.timers, t.id < s.nextId) (e : LEv) :
    (lpre s e).timers = s.timers.filter (fun t => decide (e ≠ .stop t.id)) ++ created s e := by
  have keep : ∀ e : LEv, (∀ id, e ≠ .stop id) → s.timers.filter (fun t => decide (e ≠ .stop t.id)) = s.timers :=
    fun e he => List.filter_eq_self.mpr fun t _ => decide_eq_true (he t.id)
  cases e with
  | delay d => rw [keep (.delay d) fun _ => nofun]; rfl
  | advance dt => rw [keep (.advance dt) fun _ => nofun]; exact (List.append_nil _).symm
  | stop id =>
    refine Eq.trans ?_ (List.append_nil _).symm
    simp only [lpre]
    split
    · exact List.filter_congr fun t _ => by
        by_cases hti : id = t.id
        · simp [hti]
        · simp [hti, Ne.symm hti]
    · rename_i hge
      exact (List.filter_eq_self.mpr fun t ht => decide_eq_true fun (h' : LEv.stop id = LEv.stop t.id) =>
        hge (LEv.stop.inj h' ▸ hid t ht)).symm

theorem lpre_inv {hist s} (e : LEv) (h : LInvH hist s) : LPre (hist ++ [e]) (lpre s e) := by
  have hid : ∀ t ∈ s.timers, t.id < s.nextId := by
    intro t ht
    obtain ⟨⟨_, hlt⟩, _⟩ := h.timers t ht
    exact hlt
  have hT := lpre_timers hid e
  -- a created timer is that of the event itself, at the fresh position `s.n`
  have hnew : ∀ t ∈ created s e, (LTimerInv (hist ++ [e]) t ∧ t.id < (lpre s e).nextId) ∧ t.idx = s.n := by
    intro t ht
    cases e with
    | delay d =>
      cases List.mem_singleton.mp ht
      have a := DelayAt.last (d := d) h.n_eq h.now_eq h.next_eq
      refine ⟨⟨?_, Nat.lt_succ_self _⟩, rfl⟩
      exact { idx_lt := get_lt a.isDelay, isDelay := a.isDelay, callTime := a.callTime, exact := rfl, id_eq := a.id_eq
              nostop := fun k hk => get_snoc_beyond (h.n_eq ▸ hk) }
    | stop id => cases ht
    | advance dt => cases ht
  have hfresh : pendingAt s.n s.timers + firedAt s.n s.fired = 0 := by
    have h1 : pendingAt s.n s.timers = 0 :=
      countP_idx_eq_zero LPending.idx fun t ht => by
        obtain ⟨⟨hT, _⟩, _⟩ := h.timers t ht
        exact h.n_eq ▸ hT.idx_lt
    have h2 : firedAt s.n s.fired = 0 := countP_idx_eq_zero LFire.idx fun fr hfr => h.n_eq ▸ (h.fired fr hfr).idx_lt
    rw [h1, h2]
  exact
    { n_eq := by rw [(lpre_keeps s e).n, h.n_eq, List.length_append, List.length_singleton]
      now_eq := by rw [(lpre_keeps s e).now, lclock_snoc, h.now_eq]
      next_eq := by rw [(lpre_keeps s e).nextId, cnt_append, h.next_eq]
      fired := by
        rw [(lpre_keeps s e).fired, (lpre_keeps s e).now]
        exact fun fr hfr => (h.fired fr hfr).snoc e _ (Int.le_add_of_nonneg_right (Int.natCast_nonneg _)) h.now_eq
      timers := by
        rw [hT]
        intro t ht
        rcases List.mem_append.mp ht with ht | ht
        · obtain ⟨ht, hne⟩ := List.mem_filter.mp ht
          obtain ⟨⟨hT, _⟩, _⟩ := h.timers t ht
          exact ⟨hT.snoc e (of_decide_eq_true hne),
            by rw [(lpre_keeps s e).nextId]; exact Nat.lt_add_right _ (hid t ht)⟩
        · exact (hnew t ht).1
      once := by
        intro i
        rw [hT, (lpre_keeps s e).fired, pendingAt, List.countP_append]
        have hkept : (s.timers.filter fun t => decide (e ≠ .stop t.id)).countP (fun t => t.idx == i) ≤
            pendingAt i s.timers := List.filter_sublist.countP_le
        have hlen : (created s e).length ≤ 1 := by cases e <;> simp [created]
        by_cases hi : i = s.n
        · have := List.countP_le_length (p := fun t : LPending => t.idx == i) (l := created s e)
          subst hi
          omega
        · rw [List.countP_eq_zero.mpr fun t ht hc => hi ((beq_iff_eq.mp hc).symm.trans (hnew t ht).2)]
          exact Nat.le_trans (Nat.add_le_add_right hkept _) (h.once i)
      served := by
        intro i d hx
        rcases ListFacts.getElem?_snoc_cases hx with ⟨hil, hx'⟩ | ⟨hil, rfl⟩
        · refine (h.served i d hx').snoc e _ hil (fun ⟨t, ht, hti⟩ => ?_) fun fr hfr => by rw [(lpre_keeps s e).fired]; exact hfr
          by_cases hst : e = LEv.stop t.id
          · -- the timer is stopped now, before its deadline
            obtain ⟨⟨hT', _⟩, _⟩ := h.timers t ht
            subst hti
            exact Or.inr ⟨by rw [hst, hT'.id_eq], h.pending_ahead ht hx'⟩
          · exact Or.inl ⟨t, hT ▸ List.mem_append_left _ (List.mem_filter.mpr ⟨ht, decide_eq_true hst⟩), hti⟩
        · exact Or.inl ⟨_, hT ▸ List.mem_append_right _ (List.mem_singleton_self _), h.n_eq.trans hil.symm⟩ }

theorem mem_settle_timers {s : LState} {t : LPending} :
    t ∈ s.settle.timers ↔ t ∈ s.timers ∧ s.now < t.deadline := by
  simp only [LState.settle, List.mem_filter, Bool.not_eq_true', decide_eq_false_iff_not, Int.not_le]

theorem mem_settle_fired {s : LState} {fr : LFire} :
    fr ∈ s.settle.fired ↔ fr ∈ s.fired ∨
      ∃ t, (t ∈ s.timers ∧ t.deadline ≤ s.now) ∧ ⟨t.deadline, t.id, t.idx, t.tc, t.d⟩ = fr := by
  simp only [LState.settle, List.mem_append, List.mem_map, List.mem_filter, decide_eq_true_eq]

theorem settle_once (s : LState) (i : Nat) :
    pendingAt i s.settle.timers + firedAt i s.settle.fired = pendingAt i s.timers + firedAt i s.fired := by
  have hs := List.countP_eq_countP_filter_add s.timers (fun t : LPending => t.idx == i)
    (fun t => decide (t.deadline ≤ s.now))
  have hf : firedAt i s.settle.fired = firedAt i s.fired +
      (s.timers.filter fun t => decide (t.deadline ≤ s.now)).countP (fun t => t.idx == i) := by
    show (s.fired ++ List.map _ _).countP _ = _
    rw [List.countP_append, List.countP_map]; rfl
  rw [hf, pendingAt, pendingAt]
  show (s.timers.filter _).countP _ + _ = _
  omega

theorem lsettle_invh {hist s} (h : LPre hist s) :
    LInvH hist { s.settle with n := s.settle.n + 1 } where
  n_eq := h.n_eq
  now_eq := h.now_eq
  next_eq := h.next_eq
  timers := fun t ht => have ht := mem_settle_timers.mp ht; ⟨h.timers t ht.1, ht.2⟩
  fired := by
    intro fr hfr
    rcases mem_settle_fired.mp hfr with hfr | ⟨t, ⟨ht, hdue⟩, rfl⟩
    · exact h.fired fr hfr
    · have hT := (h.timers t ht).1
      exact
        { idx_lt := hT.idx_lt, isDelay := hT.isDelay, callTime := hT.callTime, exact := hT.exact,
          id_eq := hT.id_eq, le_now := hdue
          nostop := fun k hk hx => absurd hx (hT.nostop k hk) }
  once := fun i => (settle_once s i).symm ▸ h.once i
  served := by
    intro i d hx
    rcases h.served i d hx with ⟨t, ht, hti⟩ | ⟨fr, hfr, hi⟩ | h3
    · by_cases hdue : t.deadline ≤ s.now
      · exact Or.inr (Or.inl ⟨_, mem_settle_fired.mpr (Or.inr ⟨t, ⟨ht, hdue⟩, rfl⟩), hti⟩)
      · exact Or.inl ⟨t, mem_settle_timers.mpr ⟨ht, Int.not_le.mp hdue⟩, hti⟩
    · exact Or.inr (Or.inl ⟨fr, mem_settle_fired.mpr (Or.inl hfr), hi⟩)
    · exact Or.inr (Or.inr h3)

theorem lstep_invh {hist s} (e : LEv) (h : LInvH hist s) : LInvH (hist ++ [e]) (lstep s e) := by
  rw [lstep_eq]; exact lsettle_invh (lpre_inv e h)

theorem lrun_invh (evs : List LEv) : LInvH evs (lrun evs) :=
  foldl_inv (I := LInvH) (fun _ _ e => lstep_invh e) evs [] {} linvh_init

theorem lstep_fired_mono (s : LState) (e : LEv) : ∀ fr ∈ s.fired, fr ∈ (lstep s e).fired := by
  intro fr hfr
  rw [lstep_eq]
  exact mem_settle_fired.mpr (Or.inl ((lpre_keeps s e).fired ▸ hfr))

end GoguVerif.Lemmas.C20L
