import GoguVerif.Model.StoreHelpers5
import GoguVerif.Lemmas.C16Helpers
import GoguVerif.Lemmas.C16MStore
import GoguVerif.Lemmas.C11
import GoguVerif.Lemmas.C14
/-!
# Lemmas for the fifth batch of store-level helper models (C16): map-returning helpers

A helper that returns a map makes it first: `mnew` appends an empty object, so the store is `μ0 ++ [[]]` and the
result id is `μ0.length`; every `result[k] = v` keeps that shape (`mput_push`).  Each loop lemma is therefore
stated at the store `μ0 ++ [acc]` with result id `μ0.length`, where `acc` is the accumulator of the value-level
loop of `Model/C14.lean`, and says that the store-level loop answers `μ0 ++ [value-level loop on acc]`.

The last part (`HInv` on) is about `GroupBy` and `DuplicateWithIndex`, which build a local map of slice headers:
frame and freshness only.
-/
set_option autoImplicit false
namespace GoguVerif.Lemmas.C16Helpers5
open Model.Store Model.StoreHelpers Model.StoreHelpers3 Model.StoreHelpers5
open Lemmas.C16Store Lemmas.C16Helpers

theorem modify_concat_length {α : Type} (l : List α) (a : α) (f : α → α) :
    (l ++ [a]).modify l.length f = l ++ [f a] := by
  induction l with
  | nil => rfl
  | cons x l ih => simp only [List.cons_append, List.length_cons, List.modify_succ_cons, ih]

theorem mput_push (μ0 : MStore) (acc : List (Int × Int)) (k v : Int) :
    mput (μ0 ++ [acc]) μ0.length k v = some (μ0 ++ [Model.C14.put acc k v]) := by
  rw [mput, if_pos (by rw [List.length_append]; exact Nat.lt_succ_self _), modify_concat_length]

/-- `Theorems.C16Helpers5.MFresh.arg` at `MFresh.push`, for the loop lemmas, which come before `MFresh`
(`mstore_push` is in `Lemmas/C16MStore.lean`, under the namespace of its audit line) -/
theorem mget_push_old {μ0 : MStore} (acc : List (Int × Int)) {m : Nat} (hm : m < μ0.length) :
    mget (μ0 ++ [acc]) m = mget μ0 m :=
  C16Helpers3.mget_congr ((Theorems.C16Helpers4.mstore_push μ0 acc).2 m hm)

theorem mindex_push_old {μ0 : MStore} (acc : List (Int × Int)) {m : Nat} (hm : m < μ0.length) (k : Int) :
    mindex (μ0 ++ [acc]) m k = Model.C14.idx (mget μ0 m) k := by
  rw [mindex, mget_push_old acc hm]

theorem filterMapLoopM_eq (fn : Int → Bool) (μ0 : MStore) (it acc : List (Int × Int)) :
    filterMapLoopM fn μ0.length it (μ0 ++ [acc]) = some (μ0 ++ [Model.C14.filterMapLoop fn it acc]) := by
  induction it generalizing acc with
  | nil => rfl
  | cons e r ih =>
    obtain ⟨k, v⟩ := e
    by_cases h : fn v = true
    · simp only [filterMapLoopM, Model.C14.filterMapLoop, h, if_true, mput_push]
      exact ih _
    · simp only [filterMapLoopM, Model.C14.filterMapLoop, h, if_false, Bool.false_eq_true]
      exact ih _

theorem mapValuesLoopM_eq (fn : Int → Int) (μ0 : MStore) (it acc : List (Int × Int)) :
    mapValuesLoopM fn μ0.length it (μ0 ++ [acc]) = some (μ0 ++ [Model.C14.mapValuesLoop fn it acc]) := by
  induction it generalizing acc with
  | nil => rfl
  | cons e r ih =>
    obtain ⟨k, v⟩ := e
    simp only [mapValuesLoopM, Model.C14.mapValuesLoop, mput_push]
    exact ih _

theorem mapKeysLoopM_eq (fn : Int → Int → Int) (μ0 : MStore) (it acc : List (Int × Int)) :
    mapKeysLoopM fn μ0.length it (μ0 ++ [acc]) = some (μ0 ++ [Model.C14.mapKeysLoop fn it acc]) := by
  induction it generalizing acc with
  | nil => rfl
  | cons e r ih =>
    obtain ⟨k, v⟩ := e
    simp only [mapKeysLoopM, Model.C14.mapKeysLoop, mput_push]
    exact ih _

theorem mapUniqueLoopM_eq (μ0 : MStore) (it acc : List (Int × Int)) (ref : List (Int × Bool)) :
    mapUniqueLoopM μ0.length it ref (μ0 ++ [acc]) = some (μ0 ++ [Model.C14.mapUniqueLoop it acc ref]) := by
  induction it generalizing acc ref with
  | nil => rfl
  | cons e r ih =>
    obtain ⟨k, v⟩ := e
    cases hg : Model.C14.get? ref v with
    | some b =>
      simp only [mapUniqueLoopM, Model.C14.mapUniqueLoop, hg]
      exact ih _ _
    | none =>
      simp only [mapUniqueLoopM, Model.C14.mapUniqueLoop, hg, mput_push]
      exact ih _ _

theorem findByKeyLoopM_eq (fn : Int → Bool) (μ0 : MStore) (it : List (Int × Int)) :
    findByKeyLoopM fn μ0.length it (μ0 ++ [[]]) = some (μ0 ++ [Model.C14.FindByKey fn it]) := by
  induction it with
  | nil => rfl
  | cons e r ih =>
    obtain ⟨k, v⟩ := e
    by_cases h : fn k = true
    · simp only [findByKeyLoopM, Model.C14.FindByKey, h, if_true, mput_push]
    · simp only [findByKeyLoopM, Model.C14.FindByKey, h, if_false, Bool.false_eq_true]
      exact ih

/-! The loops below read the argument map again, through `m[k]` on the current store.  They compute the value-level
loop for ANY list `m'` that answers every lookup as the argument object does (`hm'`): the value-level model is
applied to the entries in the order visited, the store holds them in the order of the representation. -/

theorem pickByLoopM_eq (fn : Int → Int → Bool) (μ0 : MStore) {c : Nat} (hc : c < μ0.length) {m' : List (Int × Int)}
    (hm' : ∀ k, Model.C14.idx (mget μ0 c) k = Model.C14.idx m' k) (it acc : List (Int × Int)) :
    pickByLoopM fn c μ0.length it (μ0 ++ [acc]) = some (μ0 ++ [Model.C14.pickByLoop m' fn it acc]) := by
  induction it generalizing acc with
  | nil => rfl
  | cons e r ih =>
    obtain ⟨k, v⟩ := e
    by_cases h : fn k v = true
    · simp only [pickByLoopM, Model.C14.pickByLoop, h, if_true, mput_push, mindex_push_old _ hc, hm']
      exact ih _
    · simp only [pickByLoopM, Model.C14.pickByLoop, h, if_false, Bool.false_eq_true]
      exact ih _

theorem pickLoopM_eq {σ : Store} {keys : Slice} (hk : WF σ keys) (μ0 : MStore) {c : Nat} (hc : c < μ0.length)
    {m' : List (Int × Int)} (hm' : ∀ k, Model.C14.idx (mget μ0 c) k = Model.C14.idx m' k)
    (it acc : List (Int × Int)) :
    pickLoopM σ keys c μ0.length it (μ0 ++ [acc]) =
      some (μ0 ++ [Model.C14.pickLoop m' (elems σ keys) it acc]) := by
  induction it generalizing acc with
  | nil => rfl
  | cons e r ih =>
    obtain ⟨k, v⟩ := e
    simp only [pickLoopM, Model.C14.pickLoop, containsStore_eq hk, Lemmas.C11.contains_eq, Lemmas.C14.contains_eq]
    cases decide (k ∈ elems σ keys) with
    | true =>
      simp only [mput_push, mindex_push_old _ hc, hm', if_true]
      exact ih _
    | false =>
      simp only [Bool.false_eq_true, if_false]
      exact ih _

theorem findLoopM_eq (fn : Int → Bool) {σ : Store} {keys : Slice} (hk : WF σ keys) (μ0 : MStore) {m : Nat}
    (hm : m < μ0.length) {m' : List (Int × Int)} (hm' : ∀ k, Model.C14.idx (mget μ0 m) k = Model.C14.idx m' k) :
    findLoopM fn σ keys m μ0.length keys.len 0 (μ0 ++ [[]]) =
      some (μ0 ++ [Model.C14.findLoop m' fn (elems σ keys)]) :=
  range_loop hk
    (motive := fun n i l => findLoopM fn σ keys m μ0.length n i (μ0 ++ [[]]) =
      some (μ0 ++ [Model.C14.findLoop m' fn l]))
    (fun _ => rfl)
    (fun n i k l hr ih => by
      simp only [findLoopM, hr σ (Frame.refl σ), Model.C14.findLoop, mindex_push_old _ hm, hm']
      by_cases h : fn (Model.C14.idx m' k) = true
      · simp only [h, if_true, mput_push]
      · simp only [h, if_false, Bool.false_eq_true]
        exact ih)

theorem invertLoopM_eq {σ : Store} {keys : Slice} (hk : WF σ keys) (μ0 : MStore) {m : Nat}
    (hm : m < μ0.length) {m' : List (Int × Int)} (hm' : ∀ k, Model.C14.idx (mget μ0 m) k = Model.C14.idx m' k)
    (acc : List (Int × Int)) :
    invertLoopM σ keys m μ0.length keys.len 0 (μ0 ++ [acc]) =
      some (μ0 ++ [Model.C14.invertLoop m' (elems σ keys) acc]) :=
  range_loop hk
    (motive := fun n i l => ∀ acc, invertLoopM σ keys m μ0.length n i (μ0 ++ [acc]) =
      some (μ0 ++ [Model.C14.invertLoop m' l acc]))
    (fun _ _ => rfl)
    (fun n i k l hr ih acc => by
      simp only [invertLoopM, hr σ (Frame.refl σ), Model.C14.invertLoop, mindex_push_old _ hm, hm', mput_push]
      exact ih _) acc

theorem filterInnerM_eq (fn : Int → Bool) (item : Nat) (it : List (Int × Int)) (filtered : List Nat) :
    filterInnerM fn item it filtered = if it.any (fun e => fn e.2) then filtered ++ [item] else filtered :=
  Lemmas.C14.breakLoop_eq (fun e => fn e.2) _ _ (L := fun it => filterInnerM fn item it filtered) rfl (fun _ _ => rfl) it

theorem filterCollLoopM_eq (orders : Nat → Order) (ho : ∀ i l, (orders i l).Perm l) (μ : MStore) (fn : Int → Bool)
    (coll : List Nat) (i : Nat) (filtered : List Nat) :
    filterCollLoopM orders μ fn coll i filtered =
      filtered ++ coll.filter (fun id => (mget μ id).any (fun e => fn e.2)) := by
  induction coll generalizing i filtered with
  | nil => simp [filterCollLoopM]
  | cons item r ih =>
    simp only [filterCollLoopM, filterInnerM_eq, ih, List.filter_cons, (ho i (mget μ item)).any_eq]
    split <;> simp

theorem filter2DInnerM_eq (μ : MStore) (fn : List (Int × Int) → Bool) (item : Nat) (it : List (Int × Nat))
    (filtered : List Nat) :
    filter2DInnerM μ fn item it filtered =
      if it.any (fun e => fn (mget μ e.2)) then filtered ++ [item] else filtered :=
  Lemmas.C14.breakLoop_eq (fun e => fn (mget μ e.2)) _ _ (L := fun it => filter2DInnerM μ fn item it filtered) rfl
    (fun _ _ => rfl) it

theorem filter2DLoopM_eq (orders : Nat → List (Int × Nat) → List (Int × Nat)) (ho : ∀ i l, (orders i l).Perm l)
    (μ2 : M2Store) (μ : MStore) (fn : List (Int × Int) → Bool) (coll : List Nat) (i : Nat) (filtered : List Nat) :
    filter2DLoopM orders μ2 μ fn coll i filtered =
      filtered ++ coll.filter (fun id => (m2get μ2 id).any (fun e => fn (mget μ e.2))) := by
  induction coll generalizing i filtered with
  | nil => simp [filter2DLoopM]
  | cons item r ih =>
    simp only [filter2DLoopM, filter2DInnerM_eq, ih, List.filter_cons, (ho i (m2get μ2 item)).any_eq]
    split <;> simp

theorem mput_self {μ : MStore} {m : Nat} {k v : Int} (hwf : Spec.C14.WF (mget μ m)) (hm : (k, v) ∈ mget μ m) :
    mput μ m k v = some μ := by
  have hlt : m < μ.length := by
    rcases Nat.lt_or_ge m μ.length with h | h
    · exact h
    · simp [mget, List.getElem?_eq_none h] at hm
  unfold mput
  rw [if_pos hlt]
  congr 1
  apply List.ext_getElem?
  intro j
  rw [List.getElem?_modify]
  by_cases hj : m = j
  · subst hj
    have hg : μ[m]? = some (mget μ m) := by simp [mget, List.getElem?_eq_getElem hlt]
    rw [hg]
    simp [Lemmas.C14.put_of_mem hwf hm]
  · simp [hj]

theorem partitionMapLoopM_eq (orders : Nat → Order) (ho : ∀ i l, (orders i l).Perm l)
    (fn : List (Int × Int) → Bool) (μ : MStore) (ms : List Nat) (hwf : ∀ m ∈ ms, Spec.C14.WF (mget μ m))
    (i : Nat) (r0 r1 : List Nat) :
    partitionMapLoopM orders fn ms i μ r0 r1 =
      some (μ, r0 ++ ms.filter (fun m => !(mget μ m).isEmpty && fn (mget μ m)),
        r1 ++ ms.filter (fun m => !(mget μ m).isEmpty && !fn (mget μ m))) := by
  induction ms generalizing i r0 r1 with
  | nil => simp [partitionMapLoopM]
  | cons m ms ih =>
    have hwf' : ∀ m ∈ ms, Spec.C14.WF (mget μ m) := fun x hx => hwf x (List.mem_cons_of_mem _ hx)
    have hp := ho i (mget μ m)
    unfold partitionMapLoopM
    cases hv : orders i (mget μ m) with
    | nil =>
      rw [hv] at hp
      have he : mget μ m = [] := hp.symm.eq_nil
      simp only [ih hwf', List.filter_cons, he, List.isEmpty_nil, Bool.not_true, Bool.false_and,
        Bool.false_eq_true, if_false]
    | cons e t =>
      obtain ⟨k, v⟩ := e
      rw [hv] at hp
      have hmem : (k, v) ∈ mget μ m := hp.mem_iff.mp (List.mem_cons_self ..)
      have hne : (mget μ m).isEmpty = false := List.isEmpty_eq_false_iff.mpr (List.ne_nil_of_mem hmem)
      simp only [mput_self (hwf m (List.mem_cons_self ..)) hmem, List.filter_cons, hne, Bool.not_false,
        Bool.true_and]
      cases hf : fn (mget μ m) with
      | true =>
        simp only [if_true, Bool.not_true, Bool.false_eq_true, if_false, ih hwf', List.append_assoc,
          List.singleton_append]
      | false =>
        simp only [Bool.false_eq_true, if_false, Bool.not_false, if_true, ih hwf', List.append_assoc,
          List.singleton_append]

theorem hput_push (η0 : HStore) (acc : List (Int × Slice)) (k : Int) (h : Slice) :
    hput (η0 ++ [acc]) η0.length k h = some (η0 ++ [Model.C14.put acc k h]) := by
  rw [hput, if_pos (by rw [List.length_append]; exact Nat.lt_succ_self _), modify_concat_length]

theorem hget_push (η0 : HStore) (acc : List (Int × Slice)) : hget (η0 ++ [acc]) η0.length = acc := by
  simp [hget]

/-- the invariant of a helper that builds a LOCAL map of slices: the header-map store is the initial one, `η0`,
and ONE more object, the local map; every array of the initial store `σ0` is unchanged in `σ`; every header in the
local map points into storage that did not exist in `σ0`.  These are the conclusions of the two frame theorems -/
structure HInv (σ0 : Store) (η0 : HStore) (σ : Store) (η : HStore) : Prop where
  frame : Frame σ0 σ
  last : ∃ kv, η = η0 ++ [kv] ∧ ∀ e ∈ kv, σ0.length ≤ e.2.arr

theorem HInv.new (σ : Store) (η : HStore) : HInv σ η σ (hnew η).1 :=
  ⟨Frame.refl σ, [], rfl, fun _ he => by cases he⟩

theorem HInv.store {σ0 σ σ1 : Store} {η0 η : HStore} (h : HInv σ0 η0 σ η)
    (hf : ∀ a, a < σ0.length → σ1[a]? = σ[a]?) : HInv σ0 η0 σ1 η :=
  ⟨fun a ha => (hf a ha).trans (h.frame a ha), h.last⟩

theorem HInv.fresh {σ0 σ : Store} {η0 η : HStore} (h : HInv σ0 η0 σ η) {k : Int} {s : Slice}
    (hs : Model.C14.get? (hget η η0.length) k = some s) : σ0.length ≤ s.arr := by
  obtain ⟨kv, rfl, hf⟩ := h.last
  rw [hget_push] at hs
  exact hf _ (Lemmas.C14.mem_of_get?_eq_some hs)

/-- `m[k] = s` for a fresh header: afterwards the key is in the map -/
theorem HInv.put {σ0 σ : Store} {η0 η η1 : HStore} (h : HInv σ0 η0 σ η) {k : Int} {s : Slice}
    (hs : σ0.length ≤ s.arr) (hp : hput η η0.length k s = some η1) :
    HInv σ0 η0 σ η1 ∧ Model.C14.get? (hget η1 η0.length) k = some s := by
  obtain ⟨kv, rfl, hf⟩ := h.last
  rw [hput_push] at hp
  cases hp
  refine ⟨⟨h.frame, _, rfl, fun e he => ?_⟩,
    by rw [hget_push]; exact (Lemmas.C14.get?_put _ _ _ _).trans (if_pos rfl)⟩
  rcases Lemmas.C14.mem_put_imp he with rfl | he
  · exact hs
  · exact hf e he

theorem HInv.alloc {σ0 σ : Store} {η0 η : HStore} (h : HInv σ0 η0 σ η) (len cap : Nat) :
    HInv σ0 η0 (alloc σ len cap).1 η ∧ σ0.length ≤ (alloc σ len cap).2.arr :=
  ⟨h.store fun a ha => alloc_frame σ len cap a (Nat.lt_of_lt_of_le ha (Frame.length_le h.frame)),
    Frame.length_le h.frame⟩

/-- `if _, ok := result[v]; !ok { result[v] = make(…) }`: afterwards the key is in the map -/
theorem mbiEnsure_hinv {σ0 σ σ1 : Store} {η0 η η1 : HStore} (hinv : HInv σ0 η0 σ η) {v : Int} {cap : Nat}
    (h : mbiEnsure σ η η0.length v cap = some (σ1, η1)) :
    HInv σ0 η0 σ1 η1 ∧ ∃ s, Model.C14.get? (hget η1 η0.length) v = some s := by
  simp only [mbiEnsure] at h
  split at h
  · rename_i s hg
    cases h
    exact ⟨hinv, s, hg⟩
  · split at h
    · cases h
    · rename_i hp
      cases h
      obtain ⟨h1, h2⟩ := hinv.alloc 0 cap
      exact ⟨(h1.put h2 hp).1, _, (h1.put h2 hp).2⟩

/-- `result[v] = append(result[v], x)` for a key that is in the map: an `append` through a header into new storage -/
theorem mbiAppend_hinv {σ0 σ σ1 : Store} {η0 η η1 : HStore} (hinv : HInv σ0 η0 σ η) {v : Int} {s : Slice}
    (hs : Model.C14.get? (hget η η0.length) v = some s) {x : Int}
    (h : mbiAppend σ η η0.length v x = some (σ1, η1)) : HInv σ0 η0 σ1 η1 := by
  have hf := hinv.fresh hs
  have hl := Frame.length_le hinv.frame
  simp only [mbiAppend, hindex, hs, Option.getD_some] at h
  split at h
  · cases h
  · rename_i hp
    cases h
    exact ((hinv.store fun _ => append_other _ _ _ hf hl).put (append_arr_ge _ _ _ _ hf hl) hp).1

/-! One case per path through the body of the Go loop: a path on which an index expression or a map write panics is no
call that returns, and on the one path (for `DuplicateWithIndex` two) that goes round again every statement has kept
the invariant. -/

theorem mapByIndexLoopS_hinv {σ0 : Store} {η0 : HStore} (orig ms : Slice) (n idx : Nat) (σ : Store) (η : HStore)
    (hinv : HInv σ0 η0 σ η) {σ' : Store} {η' : HStore}
    (h : mapByIndexLoopS orig ms η0.length n idx σ η = some (σ', η')) : HInv σ0 η0 σ' η' := by
  fun_induction mapByIndexLoopS orig ms η0.length n idx σ η with
  | case1 => cases h; exact hinv                                      -- the loop ends
  | case2 => cases h
  | case3 => cases h
  | case4 => cases h
  | case5 => cases h
  | case6 =>
    -- both reads in range: the key is made sure of (`he`), then `append` through its header (`ha`)
    rename_i he _ _ _ _ ha ih
    obtain ⟨hinv1, s, hs⟩ := mbiEnsure_hinv hinv he
    exact ih (mbiAppend_hinv hinv1 hs ha) h

/-- `kvMap[k][i] = x` for a key that is in the map: a write through a header into new storage -/
theorem hwrite_hinv {σ0 σ σ1 : Store} {η0 η : HStore} (hinv : HInv σ0 η0 σ η) {k : Int} {s : Slice}
    (hs : Model.C14.get? (hget η η0.length) k = some s) {i : Nat} {x : Int}
    (h : hwrite σ η η0.length k i x = some σ1) : HInv σ0 η0 σ1 η := by
  have hf := hinv.fresh hs
  simp only [hwrite, hindex, hs, Option.getD_some] at h
  exact hinv.store fun _ => write_other h hf

theorem dupIdxLoopS_hinv {σ0 : Store} {η0 : HStore} (slice : Slice) (n idx : Nat) (count : Int) (σ : Store)
    (η : HStore) (hinv : HInv σ0 η0 σ η) {σ' : Store} {η' : HStore}
    (h : dupIdxLoopS slice η0.length n idx count σ η = some (σ', η')) : HInv σ0 η0 σ' η' := by
  fun_induction dupIdxLoopS slice η0.length n idx count σ η with
  | case1 => cases h; exact hinv                                      -- the loop ends
  | case2 => cases h
  | case3 => cases h
  | case4 => cases h
  | case5 => cases h
  | case6 =>
    -- a value not seen before: `make`, the header stored under it, two writes through the header read back
    rename_i hp _ hw0 _ hw1 ih
    obtain ⟨h1, h2⟩ := hinv.alloc 2 2
    obtain ⟨h3, hs⟩ := h1.put h2 hp
    exact ih (hwrite_hinv (hwrite_hinv h3 hs hw0) hs hw1) h
  | case7 => cases h
  | case8 =>
    -- a value seen before (`hs`): `count++`, one write through its header
    rename_i hs _ hw ih
    exact ih (hwrite_hinv hinv hs hw) h

theorem dupIdxCollectM_push (σ : Store) (μ0 : MStore) (it : List (Int × Slice)) (acc : List (Int × Int))
    {μ' : MStore} (h : dupIdxCollectM σ μ0.length it (μ0 ++ [acc]) = some μ') : ∃ obj, μ' = μ0 ++ [obj] := by
  induction it generalizing acc with
  | nil => simp only [dupIdxCollectM, Option.some.injEq] at h; exact ⟨acc, h.symm⟩
  | cons e r ih =>
    obtain ⟨k, v⟩ := e
    simp only [dupIdxCollectM] at h
    split at h
    · cases h
    · split at h
      · split at h
        · cases h
        · rw [mput_push] at h
          exact ih _ h
      · exact ih _ h

end GoguVerif.Lemmas.C16Helpers5
