import GoguVerif.Lemmas.C15
/-! On a domain string one byte is one rune, `TrimSpace` does nothing, and the separator scanner and the split
leave words of letters and digits: the case styles become facts about that list of words. -/
namespace GoguVerif.Lemmas.C15
open GoguVerif.Go.Utf8 GoguVerif.Model.C15 GoguVerif.Spec.C15

/-- Hypothesis on the case tables: on ASCII letters and digits they are the ASCII case mapping. -/
def AsciiTable (lo up : Rune → Rune) : Prop :=
  ∀ b : UInt8, isAlnum b = true → lo b.toNat = (lowerB b).toNat ∧ up b.toNat = (upperB b).toNat

-- byte classes as ranges of `toNat`: `omega` then sees how they lie to each other

theorem isDigit_iff (b : UInt8) : isDigit b = true ↔ 0x30 ≤ b.toNat ∧ b.toNat ≤ 0x39 := by simp [isDigit]
theorem isUpper_iff (b : UInt8) : isUpper b = true ↔ 0x41 ≤ b.toNat ∧ b.toNat ≤ 0x5A := by simp [isUpper]
theorem isLower_iff (b : UInt8) : isLower b = true ↔ 0x61 ≤ b.toNat ∧ b.toNat ≤ 0x7A := by simp [isLower]

theorem isAlnum_iff (b : UInt8) : isAlnum b = true ↔
    (0x30 ≤ b.toNat ∧ b.toNat ≤ 0x39) ∨ (0x41 ≤ b.toNat ∧ b.toNat ≤ 0x5A) ∨ (0x61 ≤ b.toNat ∧ b.toNat ≤ 0x7A) := by
  simp only [isAlnum, Bool.or_eq_true, isDigit_iff, isUpper_iff, isLower_iff, or_assoc]

theorem isSep_iff (b : UInt8) : isSep b = true ↔ b.toNat = 0x2D ∨ b.toNat = 0x5F ∨ b.toNat = 0x26 := by
  simp [isSep, ← UInt8.toNat_inj, or_assoc]

theorem isSepB_iff (b : UInt8) : isSepB b = true ↔ b.toNat = 0x20 ∨ isSep b = true := by
  simp [isSepB, isSep, ← UInt8.toNat_inj, or_assoc]

theorem isSep_of_alnum {b : UInt8} (h : isAlnum b = true) : isSep b = false := by
  rw [isAlnum_iff] at h
  rw [Bool.eq_false_iff, Ne, isSep_iff]
  omega

theorem not_space_of_alnum {b : UInt8} (h : isAlnum b = true) : (b == 0x20) = false := by
  rw [isAlnum_iff] at h
  rw [beq_eq_false_iff_ne, Ne, ← UInt8.toNat_inj]
  show ¬ b.toNat = 0x20
  omega

theorem sepB_cases {b : UInt8} (h : isSepB b = true) : isAlnum b = false ∧ (b = 0x20 ∨ isSep b = true) := by
  rw [isSepB_iff] at h
  refine ⟨?_, h.imp (fun h => UInt8.toNat_inj.mp h) id⟩
  rw [Bool.eq_false_iff, Ne, isAlnum_iff]
  rw [isSep_iff] at h
  omega

theorem lowerB_toNat (b : UInt8) :
    (lowerB b).toNat = if 0x41 ≤ b.toNat ∧ b.toNat ≤ 0x5A then b.toNat + 32 else b.toNat := by
  unfold lowerB
  simp only [apply_ite UInt8.toNat, isUpper_iff]
  split
  · rw [UInt8.toNat_add]; simp; omega
  · rfl

theorem upperB_toNat (b : UInt8) :
    (upperB b).toNat = if 0x61 ≤ b.toNat ∧ b.toNat ≤ 0x7A then b.toNat - 32 else b.toNat := by
  unfold upperB
  simp only [apply_ite UInt8.toNat, isLower_iff]
  split
  · exact UInt8.toNat_sub_of_le _ _ (UInt8.le_iff_toNat_le.mpr (by show 32 ≤ b.toNat; omega))
  · rfl

def isLowerAlnum (b : UInt8) : Bool := isDigit b || isLower b

theorem isLowerAlnum_iff (b : UInt8) : isLowerAlnum b = true ↔
    (0x30 ≤ b.toNat ∧ b.toNat ≤ 0x39) ∨ (0x61 ≤ b.toNat ∧ b.toNat ≤ 0x7A) := by
  simp only [isLowerAlnum, Bool.or_eq_true, isDigit_iff, isLower_iff]

theorem isAlnum_of_lowerAlnum {b : UInt8} (h : isLowerAlnum b = true) : isAlnum b = true := by
  simp only [isLowerAlnum, Bool.or_eq_true] at h
  simp only [isAlnum, Bool.or_eq_true]
  exact h.elim (Or.inl ∘ Or.inl) Or.inr

theorem isLowerAlnum_lowerB {b : UInt8} (h : isAlnum b = true) : isLowerAlnum (lowerB b) = true := by
  rw [isAlnum_iff] at h
  rw [isLowerAlnum_iff, lowerB_toNat]
  split <;> omega

theorem isAlnum_lowerB {b : UInt8} (h : isAlnum b = true) : isAlnum (lowerB b) = true :=
  isAlnum_of_lowerAlnum (isLowerAlnum_lowerB h)

theorem isAlnum_upperB {b : UInt8} (h : isAlnum b = true) : isAlnum (upperB b) = true := by
  rw [isAlnum_iff] at h ⊢
  rw [upperB_toNat]
  split <;> omega

theorem isUpper_lowerB (b : UInt8) : isUpper (lowerB b) = false := by
  rw [Bool.eq_false_iff, Ne, isUpper_iff, lowerB_toNat]
  split <;> omega

theorem lowerB_of_not_upper {b : UInt8} (h : isUpper b = false) : lowerB b = b := by
  unfold lowerB; rw [h]; rfl

theorem lowerB_lowerB (b : UInt8) : lowerB (lowerB b) = lowerB b :=
  lowerB_of_not_upper (isUpper_lowerB b)

theorem lowerB_lower {b : UInt8} (h : isLowerAlnum b = true) : lowerB b = b := by
  apply lowerB_of_not_upper
  rw [isLowerAlnum_iff] at h
  rw [Bool.eq_false_iff, Ne, isUpper_iff]
  omega

theorem lowerB_upperB (b : UInt8) : lowerB (upperB b) = lowerB b := by
  by_cases hl : isLower b = true
  · have hl' := (isLower_iff b).mp hl
    apply UInt8.toNat_inj.mp
    rw [lowerB_toNat, lowerB_toNat, upperB_toNat, if_pos hl', if_pos (by omega), if_neg (by omega)]
    omega
  · rw [show upperB b = b from if_neg hl]

/-- Letters and digits only.  `Word []` holds, and the split does leave empty words (a space next to a run of
separators): the word loops skip them. -/
def Word (w : Str) : Prop := ∀ b ∈ w, isAlnum b = true

theorem Word.nil : Word [] := fun _ h => nomatch h
theorem Word.tail {b : UInt8} {w : Str} (h : Word (b :: w)) : Word w := fun c hc => h c (List.mem_cons_of_mem _ hc)
theorem Word.head {b : UInt8} {w : Str} (h : Word (b :: w)) : isAlnum b = true := h b (List.mem_cons_self)
theorem Word.append {u v : Str} (hu : Word u) (hv : Word v) : Word (u ++ v) :=
  List.forall_mem_append.mpr ⟨hu, hv⟩

theorem Word.map_lowerB {w : Str} (h : Word w) : Word (w.map lowerB) :=
  List.forall_mem_map.mpr fun c hc => isAlnum_lowerB (h c hc)

/-- what `Capitalize` writes for a word of ASCII letters and digits (`capitalize_word`) -/
def capB : Str → Str
  | [] => []
  | c :: t => upperB c :: t.map lowerB

theorem word_capB {w : Str} (h : Word w) : Word (capB w) := by
  cases w with
  | nil => exact Word.nil
  | cons c t => exact List.forall_mem_cons.mpr ⟨isAlnum_upperB h.head, h.tail.map_lowerB⟩

theorem letters_word {w : Str} (h : Word w) : letters w = w.map lowerB := by
  unfold letters
  rw [List.filter_eq_self.mpr h]

theorem Word.ascii {w : Str} (h : Word w) : ∀ b ∈ w, b.toNat < 0x80 := by
  intro b hb
  have := (isAlnum_iff b).mp (h b hb)
  omega

theorem rangeAux_ascii (s : Str) (h : ∀ b ∈ s, b.toNat < 0x80) (i : Nat) :
    (rangeAux i 0 s).map (·.2) = s.map (·.toNat) := by
  induction s generalizing i with
  | nil => rfl
  | cons b rest ih =>
    obtain ⟨hb, hr⟩ := List.forall_mem_cons.mp h
    have hd : decodeRune b rest = (b.toNat, 1) := if_pos hb
    simp only [rangeAux, hd, List.map_cons]
    rw [ih hr]

theorem runes_ascii (s : Str) (h : ∀ b ∈ s, b.toNat < 0x80) : runes s = s.map (·.toNat) :=
  rangeAux_ascii s h 0

theorem encodeAll_ascii (s : Str) (h : ∀ b ∈ s, b.toNat < 0x80) : encodeAll (s.map (·.toNat)) = s := by
  induction s with
  | nil => rfl
  | cons b rest ih =>
    obtain ⟨hb, hr⟩ := List.forall_mem_cons.mp h
    have hb' : encodeRune b.toNat = [b] := by unfold encodeRune; rw [if_pos hb]; simp [Nat.toUInt8]
    unfold encodeAll at ih ⊢
    rw [List.map_cons, List.flatMap_cons, ih hr, hb']
    rfl

theorem runes_length_word {w : Str} (h : Word w) : (runes w).length = w.length := by
  rw [runes_ascii w h.ascii, List.length_map]

theorem toLower_word {lo up : Rune → Rune} (ht : AsciiTable lo up) {w : Str} (h : Word w) :
    toLower lo w = w.map lowerB := by
  have e : (w.map (·.toNat)).map lo = (w.map lowerB).map (·.toNat) := by
    rw [List.map_map, List.map_map]
    exact List.map_congr_left fun b hb => (ht b (h b hb)).1
  rw [toLower_eq_map, runes_ascii w h.ascii, e, encodeAll_ascii _ h.map_lowerB.ascii]

theorem capitalize_word {lo up : Rune → Rune} (ht : AsciiTable lo up) {w : Str} (h : Word w) :
    capitalize lo up w = capB w := by
  rw [capitalize_eq_capSpec, capSpec, runes_ascii w h.ascii]
  cases w with
  | nil => rfl
  | cons c t =>
    have e : up c.toNat :: (t.map (·.toNat)).map lo = (capB (c :: t)).map (·.toNat) := by
      rw [capB, List.map_cons, (ht c h.head).2, List.map_map, List.map_map]
      exact congrArg _ (List.map_congr_left fun b hb => (ht b (h.tail b hb)).1)
    show encodeAll (up c.toNat :: (t.map (·.toNat)).map lo) = _
    rw [e, encodeAll_ascii _ (word_capB h).ascii]

theorem isSpace_printable {n : Nat} (h : 0x21 ≤ n ∧ n ≤ 0x7E) : isSpace n = false := by
  simp only [isSpace, Bool.or_eq_false_iff, Bool.and_eq_false_iff, decide_eq_false_iff_not, beq_eq_false_iff_ne,
    ne_eq, Nat.not_le]
  omega

theorem alnum_printable {b : UInt8} (h : isAlnum b = true) : 0x21 ≤ b.toNat ∧ b.toNat ≤ 0x7E := by
  rw [isAlnum_iff] at h; omega

theorem trimSpace_id (s : Str) (hh : ∀ b, s.head? = some b → 0x21 ≤ b.toNat ∧ b.toNat ≤ 0x7E)
    (hl : ∀ z, s.getLast? = some z → 0x21 ≤ z.toNat ∧ z.toNat ≤ 0x7E) : trimSpace s = s := by
  have h1 : ∀ fuel, trimLeft fuel s = s := by
    intro fuel
    cases fuel with
    | zero => unfold trimLeft; rfl
    | succ f =>
      cases s with
      | nil => rfl
      | cons b rest =>
        have hb := hh b rfl
        have hd : decodeRune b rest = (b.toNat, 1) := if_pos (by omega)
        simp only [trimLeft, hd, isSpace_printable hb, Bool.false_eq_true, if_false]
  have h2 : ∀ fuel, trimRight fuel s = s := by
    intro fuel
    cases fuel with
    | zero => rfl
    | succ f =>
      unfold trimRight
      cases hz : s.getLast? with
      | none => exact (List.getLast?_eq_none_iff.mp hz).symm
      | some z =>
        have hz' := hl z hz
        simp only [decodeLastRune, if_pos (show z.toNat < 0x80 by omega), isSpace_printable hz', Bool.false_eq_true,
          if_false]
  unfold trimSpace
  simp only [h1, h2]

def DomBytes (s : Str) : Prop := ∀ b ∈ s, isAlnum b = true ∨ isSepB b = true

theorem replaceSeps_cons_of_not_sep {b : UInt8} (h : isSep b = false) (f : Bool) (rest : Str) :
    replaceSeps f (b :: rest) = b :: replaceSeps false rest := by
  rw [replaceSeps, h]; rfl

theorem replaceSeps_cons_sep {b : UInt8} (h : isSep b = true) (f : Bool) (rest : Str) :
    replaceSeps f (b :: rest) = (if f then [] else [0x20]) ++ replaceSeps true rest := by
  rw [replaceSeps, if_pos h]; cases f <;> rfl

theorem replaceSeps_snoc (s : Str) (z : UInt8) (hz : isSep z = false) (f : Bool) :
    replaceSeps f (s ++ [z]) = replaceSeps f s ++ [z] := by
  induction s generalizing f with
  | nil => exact replaceSeps_cons_of_not_sep hz f []
  | cons b rest ih =>
    cases hb : isSep b with
    | false => rw [List.cons_append, replaceSeps_cons_of_not_sep hb, replaceSeps_cons_of_not_sep hb, ih]; rfl
    | true => rw [List.cons_append, replaceSeps_cons_sep hb, replaceSeps_cons_sep hb, ih, List.append_assoc]

theorem splitSpace_cons_of_ne {b : UInt8} (h : (b == 0x20) = false) (cur rest : Str) :
    splitSpace cur (b :: rest) = splitSpace (cur ++ [b]) rest := by
  rw [splitSpace, h]; rfl

/-- the flags of one word: its first byte is an initial -/
def flagsOf : Str → List Bool
  | [] => []
  | _ :: t => true :: t.map (fun _ => false)

def wordFlags (ws : List Str) : List Bool := ws.flatMap flagsOf

theorem flagsOf_snoc (cur : Str) (b : UInt8) : flagsOf (cur ++ [b]) = flagsOf cur ++ [decide (cur = [])] := by
  cases cur <;> simp [flagsOf]

/-- `strings.Split(re.ReplaceAllString(s, " "), " ")` read as one scanner with the state `cur` (the word being
collected) and `f` (inside a run of separators, whose space has been put down: then `cur = []`).  Third clause: the next
letter begins a word exactly when `cur` is still empty. -/
theorem splitSpace_replaceSeps_inv (s : Str) (h : DomBytes s) (cur : Str) (hc : Word cur) (f : Bool) :
    (∀ w ∈ splitSpace cur (replaceSeps f s), Word w) ∧
    (splitSpace cur (replaceSeps f s)).flatten = cur ++ s.filter isAlnum ∧
    ((f = true → cur = []) →
      wordFlags (splitSpace cur (replaceSeps f s)) = flagsOf cur ++ initials (decide (cur = [])) s) := by
  induction s generalizing cur f with
  | nil => exact ⟨List.forall_mem_singleton.mpr hc, by simp [replaceSeps, splitSpace],
      fun _ => by simp [replaceSeps, splitSpace, wordFlags, initials]⟩
  | cons b rest ih =>
    obtain ⟨hb, hr⟩ := List.forall_mem_cons.mp h
    have ih := ih hr
    -- after a space or a separator a new word is collected
    have next : ∀ f', (∀ w ∈ cur :: splitSpace [] (replaceSeps f' rest), Word w) ∧
        (cur :: splitSpace [] (replaceSeps f' rest)).flatten = cur ++ rest.filter isAlnum ∧
        wordFlags (cur :: splitSpace [] (replaceSeps f' rest)) = flagsOf cur ++ initials true rest := fun f' => by
      obtain ⟨i1, i2, i3⟩ := ih [] Word.nil f'
      exact ⟨List.forall_mem_cons.mpr ⟨hc, i1⟩, congrArg (cur ++ ·) i2, congrArg (flagsOf cur ++ ·) (i3 fun _ => rfl)⟩
    rcases hb with ha | hs
    · obtain ⟨i1, i2, i3⟩ := ih (cur ++ [b]) (hc.append (List.forall_mem_singleton.mpr ha)) false
      rw [replaceSeps_cons_of_not_sep (isSep_of_alnum ha), splitSpace_cons_of_ne (not_space_of_alnum ha)]
      refine ⟨i1, ?_, fun _ => ?_⟩
      · rw [i2, List.filter_cons_of_pos ha, List.append_assoc]; rfl
      · rw [i3 nofun, flagsOf_snoc]; simp [initials, ha]
    · obtain ⟨hna, rfl | hsep⟩ := sepB_cases hs
      · rw [replaceSeps_cons_of_not_sep (by decide), List.filter_cons_of_neg (Bool.eq_false_iff.mp hna)]
        simp only [initials, hna, Bool.false_eq_true, if_false]
        obtain ⟨n1, n2, n3⟩ := next false
        exact ⟨n1, n2, fun _ => n3⟩
      · rw [replaceSeps_cons_sep hsep, List.filter_cons_of_neg (Bool.eq_false_iff.mp hna)]
        simp only [initials, hna, Bool.false_eq_true, if_false]
        cases f with
        | false =>
          obtain ⟨n1, n2, n3⟩ := next true
          exact ⟨n1, n2, fun _ => n3⟩
        | true =>
          obtain ⟨i1, i2, i3⟩ := ih cur hc true
          refine ⟨i1, i2, fun hf => ?_⟩
          obtain rfl := hf rfl
          exact i3 fun _ => rfl

theorem splitSpace_snoc (t : Str) (z : UInt8) (hz : (z == 0x20) = false) (cur : Str) :
    ∃ init w, splitSpace cur (t ++ [z]) = init ++ [w ++ [z]] := by
  induction t generalizing cur with
  | nil => exact ⟨[], cur, splitSpace_cons_of_ne hz cur []⟩
  | cons b rest ih =>
    simp only [List.cons_append, splitSpace]
    split
    · obtain ⟨init, w, hw⟩ := ih []
      exact ⟨cur :: init, w, by rw [hw]; rfl⟩
    · exact ih _

/-- `inDomain` as propositions -/
structure Dom (s : Str) : Prop where
  bytes : DomBytes s
  head : ∀ b, s.head? = some b → isAlnum b = true
  last : ∀ z, s.getLast? = some z → isAlnum z = true

theorem Dom.of_inDomain {s : Str} (h : inDomain s = true) : Dom s := by
  simp only [inDomain, Bool.and_eq_true, List.all_eq_true, Bool.or_eq_true] at h
  obtain ⟨⟨hall, hhead⟩, hlast⟩ := h
  exact ⟨hall, fun b hb => by rw [hb] at hhead; exact hhead, fun z hz => by rw [hz] at hlast; exact hlast⟩

theorem trimSpace_domain (s : Str) (h : inDomain s = true) : trimSpace s = s :=
  have d := Dom.of_inDomain h
  trimSpace_id s (fun b hb => alnum_printable (d.head b hb)) (fun z hz => alnum_printable (d.last z hz))

/-- The words that the loops of `CamelCase` and `splitStringWithDelimiter` run over (`strings.Split(newstr, " ")`). -/
theorem domain_words (s : Str) (h : inDomain s = true) :
    (∀ w ∈ splitSpace [] (replaceSeps false (trimSpace s)), Word w) ∧
    (splitSpace [] (replaceSeps false (trimSpace s))).flatten = s.filter isAlnum ∧
    wordFlags (splitSpace [] (replaceSeps false (trimSpace s))) = initials true s := by
  obtain ⟨w1, w2, w3⟩ := splitSpace_replaceSeps_inv s (Dom.of_inDomain h).bytes [] Word.nil false
  rw [trimSpace_domain s h]
  exact ⟨w1, w2, w3 nofun⟩

theorem domain_last_word_ne_nil (s : Str) (h : inDomain s = true) (hne : s ≠ []) :
    ∃ init wl, splitSpace [] (replaceSeps false (trimSpace s)) = init ++ [wl] ∧ wl ≠ [] := by
  obtain ⟨s', hs'⟩ := List.getLast?_eq_some_iff.mp (List.getLast?_eq_some_getLast hne)
  have hza := (Dom.of_inDomain h).last _ (List.getLast?_eq_some_getLast hne)
  rw [trimSpace_domain s h, hs', replaceSeps_snoc s' _ (isSep_of_alnum hza) false]
  obtain ⟨init, w, hw⟩ := splitSpace_snoc (replaceSeps false s') _ (not_space_of_alnum hza) []
  exact ⟨init, _, hw, List.append_ne_nil_of_right_ne_nil _ (List.cons_ne_nil _ _)⟩

/-- what the loop writes: the first non-empty word lower-cased, every later one capitalised -/
def camelWords : Bool → List Str → Str
  | _, [] => []
  | first, w :: ws =>
    if w = [] then camelWords first ws
    else (if first then w.map lowerB else capB w) ++ camelWords false ws

/-- The loop does `idx++` on every empty word and `i++` on every word, so `idx ≤ i`, with equality exactly as long as no
non-empty word has been seen: the test `i == idx` finds the first non-empty word. -/
theorem camelLoop_words {lo up : Rune → Rune} (ht : AsciiTable lo up) (ws : List Str) (hw : ∀ w ∈ ws, Word w)
    (i idx : Nat) (sb : Str) (hi : idx ≤ i) :
    camelLoop lo up ws i idx sb = sb ++ camelWords (decide (i = idx)) ws := by
  induction ws generalizing i idx sb with
  | nil => exact (List.append_nil _).symm
  | cons w rest ih =>
    obtain ⟨hww, hrest⟩ := List.forall_mem_cons.mp hw
    unfold camelLoop camelWords
    rw [runes_length_word hww]
    by_cases he : w = []
    · subst he
      rw [if_pos rfl, List.length_nil, if_pos rfl, ih hrest (i + 1) (idx + 1) sb (Nat.succ_le_succ hi)]
      simp only [Nat.add_right_cancel_iff]
    · rw [if_neg (fun h => he (List.length_eq_zero_iff.mp h)), if_neg he]
      by_cases hf : i = idx
      · rw [if_pos (Or.inr hf), toLower_word ht hww, ih hrest _ _ _ (Nat.le_succ_of_le hi),
          decide_eq_true hf, decide_eq_false (by omega), List.append_assoc]
        rfl
      · rw [if_neg (by omega), capitalize_word ht hww, ih hrest _ _ _ (Nat.le_succ_of_le hi),
          decide_eq_false hf, decide_eq_false (by omega), List.append_assoc]
        rfl

theorem camelCase_words {lo up : Rune → Rune} (ht : AsciiTable lo up) (s : Str) (h : inDomain s = true) :
    camelCase lo up s = camelWords true (splitSpace [] (replaceSeps false (trimSpace s))) := by
  unfold camelCase
  rw [camelLoop_words ht _ (domain_words s h).1 0 0 [] (Nat.le_refl 0)]
  rfl

theorem lowered_no_upper (w : Str) (fl : List Bool) :
    ((w.map lowerB).zip fl).all (fun p => !isUpper p.1 || p.2) = true := by
  rw [List.all_eq_true]
  intro p hp
  obtain ⟨c, _, hc⟩ := List.mem_map.mp (List.of_mem_zip hp).1
  rw [← hc, isUpper_lowerB]; rfl

theorem camelWords_spec (ws : List Str) (hw : ∀ w ∈ ws, Word w) (first : Bool) :
    Word (camelWords first ws) ∧ letters (camelWords first ws) = ws.flatten.map lowerB ∧
    ((camelWords first ws).zip (wordFlags ws)).all (fun p => !isUpper p.1 || p.2) = true := by
  induction ws generalizing first with
  | nil => exact ⟨Word.nil, rfl, rfl⟩
  | cons w rest ih =>
    obtain ⟨hww, hrest⟩ := List.forall_mem_cons.mp hw
    unfold camelWords
    cases w with
    | nil => exact ih hrest first
    | cons c t =>
      obtain ⟨i1, i2, i3⟩ := ih hrest false
      rw [if_neg (List.cons_ne_nil c t)]
      -- the word as written: `g c :: t.map lowerB` with `g` one of `lowerB`, `upperB`
      obtain ⟨g, hg, hga, hgl⟩ : ∃ g : UInt8 → UInt8, (if first = true then (c :: t).map lowerB else capB (c :: t)) =
          g c :: t.map lowerB ∧ isAlnum (g c) = true ∧ lowerB (g c) = lowerB c := by
        cases first
        · exact ⟨upperB, rfl, isAlnum_upperB hww.head, lowerB_upperB c⟩
        · exact ⟨lowerB, rfl, isAlnum_lowerB hww.head, lowerB_lowerB c⟩
      have hword : Word (g c :: t.map lowerB) := List.forall_mem_cons.mpr ⟨hga, hww.tail.map_lowerB⟩
      rw [hg]
      refine ⟨hword.append i1, ?_, ?_⟩
      · rw [letters, List.filter_append, List.map_append, ← letters, ← letters, i2, letters_word hword]
        simp [hgl, lowerB_lowerB]
      · rw [wordFlags, List.flatMap_cons, ← wordFlags,
          List.zip_append (by simp [flagsOf]), List.all_append, i3, Bool.and_true]
        simp only [flagsOf, List.zip_cons_cons, List.all_cons, Bool.or_true, Bool.true_and]
        exact lowered_no_upper t _

end GoguVerif.Lemmas.C15
