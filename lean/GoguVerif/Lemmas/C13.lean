import GoguVerif.Model.C13
/-!
# C13 — what the loops of `Model/C13.lean` compute (closed forms where there is one, else the invariant)
-/
namespace GoguVerif.Lemmas.C13
open GoguVerif.Spec.C13 (AtIdx Out GoMap)

theorem atIdx_iff {s : List Int} {i : Nat} {q : Int → Prop} :
    AtIdx s i q ↔ ∃ x, s[i]? = some x ∧ q x := by
  unfold AtIdx
  constructor
  · rintro ⟨h, hq⟩
    exact ⟨s[i], List.getElem?_eq_getElem h, hq⟩
  · rintro ⟨x, hx, hq⟩
    obtain ⟨h, e⟩ := List.getElem?_eq_some_iff.mp hx
    exact ⟨h, e ▸ hq⟩

theorem atIdx_zero {x : Int} {r : List Int} {q : Int → Prop} (h : q x) : AtIdx (x :: r) 0 q :=
  ⟨Nat.succ_pos _, h⟩

theorem atIdx_succ {x : Int} {r : List Int} {i : Nat} {q : Int → Prop} (h : AtIdx r i q) :
    AtIdx (x :: r) (i + 1) q :=
  ⟨Nat.succ_lt_succ h.1, h.2⟩

theorem atIdx_mem {s : List Int} {i : Nat} {q : Int → Prop} (h : AtIdx s i q) : ∃ x ∈ s, q x := by
  obtain ⟨hi, hq⟩ := h
  exact ⟨s[i], List.getElem_mem hi, hq⟩

theorem atIdx_middle (a b : List Int) {x : Int} {q : Int → Prop} (h : q x) : AtIdx (a ++ x :: b) a.length q :=
  atIdx_iff.mpr ⟨x, by rw [List.getElem?_append_right (Nat.le_refl _), Nat.sub_self]; rfl, h⟩

theorem le_of_atIdx_take_free {s : List Int} {i j : Nat} {q : Int → Prop} (h : AtIdx s i q)
    (hj : ∀ x ∈ s.take j, ¬ q x) : j ≤ i := by
  obtain ⟨hi, hq⟩ := h
  exact Nat.le_of_not_lt fun hlt => hj _ (List.mem_take_iff_getElem.mpr ⟨i, by omega, rfl⟩) hq

theorem le_of_atIdx_drop_free {s : List Int} {i j : Nat} {q : Int → Prop} (h : AtIdx s i q)
    (hj : ∀ x ∈ s.drop (j + 1), ¬ q x) : i ≤ j := by
  obtain ⟨hi, hq⟩ := h
  refine Nat.le_of_not_lt fun hlt => hj _ (List.mem_drop_iff_getElem.mpr ⟨i - (j + 1), by omega, ?_⟩) hq
  congr 1; omega

theorem some_eq_any (p : Int → Bool) (s : List Int) : Model.C13.Some p s = s.any p := by
  induction s with
  | nil => rfl
  | cons v r ih => rw [Model.C13.Some, List.any_cons, ih]; cases p v <;> rfl

theorem every_eq_all (p : Int → Bool) (s : List Int) : Model.C13.Every p s = s.all p := by
  induction s with
  | nil => rfl
  | cons v r ih => rw [Model.C13.Every, List.all_cons, ih]; cases p v <;> rfl

theorem contains_eq_some (s : List Int) (v : Int) : Model.C13.Contains s v = Model.C13.Some (· == v) s := by
  induction s with
  | nil => rfl
  | cons x r ih => simp only [Model.C13.Contains, Model.C13.Some, ih, beq_iff_eq]

/-- scanning on behind a prefix `pre` in which nothing matches -/
theorem findIndexLoop_spec (p : Int → Bool) (pre s : List Int) (hpre : ∀ x ∈ pre, p x = false) :
    Spec.C13.FirstIdx p (pre ++ s) (Model.C13.findIndexLoop p s pre.length) := by
  induction s generalizing pre with
  | nil => exact Or.inl ⟨rfl, by rwa [List.append_nil]⟩
  | cons v r ih =>
    rw [Model.C13.findIndexLoop]
    cases hv : p v
    · rw [if_neg Bool.false_ne_true, List.append_cons]
      have := ih (pre ++ [v]) fun x hx => (List.mem_append.mp hx).elim (hpre x) fun h => List.mem_singleton.mp h ▸ hv
      rwa [List.length_append] at this
    · have hi := atIdx_middle pre r (q := fun x => p x = true) hv
      exact Or.inr ⟨pre.length, hi.1, if_pos rfl, hi, by rwa [List.take_left]⟩

theorem indexOfLoop_eq (val : Int) (s : List Int) (k : Nat) :
    Model.C13.indexOfLoop val s k = Model.C13.findIndexLoop (fun x => x == val) s k := by
  induction s generalizing k with
  | nil => rfl
  | cons v r ih =>
    simp only [Model.C13.indexOfLoop, Model.C13.findIndexLoop, ih]
    by_cases h : v = val <;> simp [h]

/-- counting down from `n`, nothing behind `n` matches -/
theorem findLastIndexLoop_spec (p : Int → Bool) (s : List Int) (n : Nat) (hn : n ≤ s.length)
    (hsuf : ∀ x ∈ s.drop n, p x = false) :
    ∃ r, Model.C13.findLastIndexLoop p s n = .ok r ∧ Spec.C13.LastIdx p s r := by
  induction n with
  | zero => exact ⟨-1, rfl, Or.inl ⟨rfl, hsuf⟩⟩
  | succ n ih =>
    have hlt : n < s.length := hn
    rw [Model.C13.findLastIndexLoop, List.getElem?_eq_getElem hlt]
    dsimp only
    cases hv : p s[n] with
    | true => exact ⟨n, if_pos rfl, Or.inr ⟨n, hlt, rfl, ⟨hlt, hv⟩, hsuf⟩⟩
    | false =>
      rw [if_neg Bool.false_ne_true]
      refine ih (Nat.le_of_lt hlt) ?_
      rw [List.drop_eq_getElem_cons hlt]
      exact List.forall_mem_cons.mpr ⟨hv, hsuf⟩

theorem lastIndexOfLoop_eq (val : Int) (s : List Int) (n : Nat) :
    Model.C13.lastIndexOfLoop val s n = Model.C13.findLastIndexLoop (fun x => x == val) s n := by
  induction n with
  | zero => rfl
  | succ n ih =>
    simp only [Model.C13.lastIndexOfLoop, Model.C13.findLastIndexLoop, ih, beq_iff_eq]

theorem findAllLoop_eq (p : Int → Bool) (s : List Int) (k : Nat) (m : List (Int × Int)) :
    Model.C13.findAllLoop p s k m =
      m ++ ((s.zipIdx k).filter fun e => p e.1).map fun e => ((e.2 : Int), e.1) := by
  induction s generalizing k m with
  | nil => exact (List.append_nil m).symm
  | cons v r ih =>
    rw [Model.C13.findAllLoop, List.zipIdx_cons, List.filter_cons, ih, ih]
    split
    · rw [List.append_assoc]; rfl
    · rfl

theorem zipIdx_pairwise (s : List Int) : (s.zipIdx).Pairwise (fun a b => a.2 < b.2) :=
  List.pairwise_map.mp (List.zipIdx_map_snd 0 s ▸ List.pairwise_lt_range')

/-- `c` is the first element of `l` whose key is minimal -/
def FirstMin (f : Int → Int) (l : List Int) (c : Int) : Prop :=
  ∃ a b, l = a ++ c :: b ∧ (∀ y ∈ a, f c < f y) ∧ ∀ y ∈ b, f c ≤ f y

theorem FirstMin.single (f : Int → Int) (m : Int) : FirstMin f [m] m :=
  ⟨[], [], rfl, fun _ h => absurd h List.not_mem_nil, fun _ h => absurd h List.not_mem_nil⟩

theorem FirstMin.mem {f : Int → Int} {l : List Int} {c : Int} (h : FirstMin f l c) : c ∈ l := by
  obtain ⟨a, b, rfl, _, _⟩ := h
  exact List.mem_append_right a List.mem_cons_self

theorem FirstMin.le {f : Int → Int} {l : List Int} {c x : Int} (h : FirstMin f l c) (hx : x ∈ l) : f c ≤ f x := by
  obtain ⟨a, b, rfl, ha, hb⟩ := h
  exact List.forall_mem_append.mpr
    ⟨fun y hy => Int.le_of_lt (ha y hy), List.forall_mem_cons.mpr ⟨Int.le_refl _, hb⟩⟩ x hx

theorem FirstMin.isMinBy {f : Int → Int} {l : List Int} {c : Int} (h : FirstMin f l c) :
    Spec.C13.IsMinBy f l c := by
  obtain ⟨a, b, e, ha, _⟩ := id h
  subst e
  have hi := atIdx_middle a b (q := fun x => x = c) rfl
  exact Or.inr ⟨a.length, hi.1, hi, fun x => h.le, by rwa [List.take_left]⟩

/-- `l`: the elements seen so far, `c` the loop's candidate among them -/
theorem minByLoop_firstMin (f : Int → Int) (s l : List Int) (c : Int) (h : FirstMin f l c) :
    FirstMin f (l ++ s) (Model.C13.minByLoop f s c) := by
  induction s generalizing l c with
  | nil => rwa [List.append_nil]
  | cons x t ih =>
    rw [Model.C13.minByLoop, List.append_cons]
    by_cases hx : f x < f c
    · -- a new minimum: everything seen so far has a larger key
      rw [if_pos hx]
      exact ih _ x ⟨l, [], rfl, fun y hy => Int.lt_of_lt_of_le hx (h.le hy), fun _ h => absurd h List.not_mem_nil⟩
    · rw [if_neg hx]
      obtain ⟨a, b, rfl, ha, hb⟩ := h
      exact ih _ c ⟨a, b ++ [x], by rw [List.append_assoc]; rfl, ha,
        List.forall_mem_append.mpr ⟨hb, List.forall_mem_singleton.mpr (Int.not_lt.mp hx)⟩⟩

theorem maxByLoop_eq_minByLoop (f : Int → Int) (s : List Int) (m : Int) :
    Model.C13.maxByLoop f s m = Model.C13.minByLoop (fun x => -f x) s m := by
  induction s generalizing m with
  | nil => rfl
  | cons x t ih => simp only [Model.C13.maxByLoop, Model.C13.minByLoop, ih, Int.neg_lt_neg_iff, gt_iff_lt]

theorem isMaxBy_iff_isMinBy_neg (f : Int → Int) (s : List Int) (r : Int) :
    Spec.C13.IsMaxBy f s r ↔ Spec.C13.IsMinBy (fun x => -f x) s r := by
  simp only [Spec.C13.IsMaxBy, Spec.C13.IsMinBy, Int.neg_le_neg_iff, Int.neg_lt_neg_iff]

/-- the plain loops are the keyed ones at the identity, by unfolding (the unifier has to be told to unfold a
structural recursion on a variable) -/
theorem minLoop_eq_minByLoop (s : List Int) (m : Int) :
    Model.C13.minLoop s m = Model.C13.minByLoop id s m := by
  set_option smartUnfolding false in rfl

theorem maxLoop_eq_maxByLoop (s : List Int) (m : Int) :
    Model.C13.maxLoop s m = Model.C13.maxByLoop id s m := by
  set_option smartUnfolding false in rfl

theorem maxLoop_eq_minByLoop (s : List Int) (m : Int) :
    Model.C13.maxLoop s m = Model.C13.minByLoop (fun x => -x) s m :=
  (maxLoop_eq_maxByLoop s m).trans (maxByLoop_eq_minByLoop id s m)

/-- the first round, on the loop's own seed, changes nothing -/
theorem findMinBy_firstMin (f : Int → Int) (s : List Int) :
    (s = [] ∧ Model.C13.FindMinBy s f = 0) ∨ FirstMin f s (Model.C13.FindMinBy s f) := by
  cases s with
  | nil => exact .inl ⟨rfl, rfl⟩
  | cons x r =>
    rw [Model.C13.FindMinBy, Model.C13.seed, Model.C13.minByLoop, if_neg (Int.lt_irrefl _)]
    exact .inr (minByLoop_firstMin f r [x] x (.single f x))

theorem min_eq_findMin (s : List Int) : Model.C13.Min s = Model.C13.FindMin s := by cases s <;> rfl
theorem max_eq_findMax (s : List Int) : Model.C13.Max s = Model.C13.FindMax s := by cases s <;> rfl

/-- `mapped[key]` after `mapped := FindByKey(m, k == key)` is the map read `m[key]` -/
theorem mapGet_findByKey (key : Int) (m : GoMap) :
    Model.C13.mapGet key (Model.C13.FindByKey (fun k => k == key) m) = Spec.C13.lookup key m := by
  induction m with
  | nil => rfl
  | cons e r ih =>
    obtain ⟨k, v⟩ := e
    by_cases hk : k = key
    · simp [Model.C13.FindByKey, Model.C13.mapGet, Spec.C13.lookup, hk]
    · simp [Model.C13.FindByKey, Spec.C13.lookup, hk, ih]

theorem mapGet_eq_lookup (key : Int) (m : GoMap) : Model.C13.mapGet key m = Spec.C13.lookup key m := by
  induction m with
  | nil => rfl
  | cons e r ih =>
    obtain ⟨k, v⟩ := e
    by_cases hk : k = key <;> simp [Model.C13.mapGet, Spec.C13.lookup, hk, ih]

/-- `minByKeyLoop` / `maxByKeyLoop` (`L`, preferring `better`, reading a map with `get`) run the plain extremum
loop `E` over the values read; the first value found seeds it (`found = false` is how the loop is started). -/
theorem byKeyLoop_eq (get : GoMap → Option Int) (better : Int → Int → Prop) [DecidableRel better]
    (L : List GoMap → Bool → Int → Bool × Int) (E : List Int → Int → Int)
    (hL0 : ∀ f m, L [] f m = (f, m))
    (hL1 : ∀ g r f m, L (g :: r) f m =
      match get g with
      | some v => if !f || decide (better v m) then L r true v else L r true m
      | none => L r f m)
    (hE0 : ∀ m, E [] m = m)
    (hE1 : ∀ x r m, E (x :: r) m = if better x m then E r x else E r m)
    (ms : List GoMap) (found : Bool) (m : Int) :
    L ms found m = match found, ms.filterMap get with
      | true, vs => (true, E vs m)
      | false, [] => (false, m)
      | false, v :: vs => (true, E vs v) := by
  induction ms generalizing found m with
  | nil =>
    rw [hL0]
    cases found with
    | false => rfl
    | true => exact congrArg (Prod.mk true) (hE0 m).symm
  | cons g r ih =>
    rw [hL1, List.filterMap_cons]
    cases get g with
    | none => exact ih found m
    | some v =>
      cases found with
      | false => exact ih true v
      | true =>
        show (if (!true || decide (better v m)) = true then _ else _) = (true, E (v :: _) m)
        rw [hE1, Bool.not_true, Bool.false_or]
        by_cases hb : better v m
        · rw [if_pos (decide_eq_true hb), if_pos hb]; exact ih true v
        · rw [if_neg (mt of_decide_eq_true hb), if_neg hb]; exact ih true m

/-- what the by-key loops read from the maps are the values the specification collects -/
theorem keyVals_eq (key : Int) (ms : List GoMap) :
    ms.filterMap (fun g => Model.C13.mapGet key (Model.C13.FindByKey (fun k => k == key) g))
      = Spec.C13.keyVals key ms :=
  congrArg (List.filterMap · ms) (funext (mapGet_findByKey key))

theorem findMinByKey_eq (ms : List GoMap) (key : Int) : Model.C13.FindMinByKey ms key =
    ((Spec.C13.keyVals key ms).isEmpty, Model.C13.FindMin (Spec.C13.keyVals key ms)) := by
  cases ms with
  | nil => rfl
  | cons m0 r =>
    rw [Model.C13.FindMinByKey, byKeyLoop_eq _ (· < ·) (Model.C13.minByKeyLoop key) Model.C13.minLoop
      (fun _ _ => rfl) (fun _ _ _ _ => rfl) (fun _ => rfl) (fun _ _ _ => rfl) (m0 :: r) false 0, keyVals_eq]
    cases Spec.C13.keyVals key (m0 :: r) with
    | nil => rfl
    -- `FindMin` runs its first round on its own seed
    | cons v vs => exact congrArg (Prod.mk false) (ite_self _).symm

theorem findMaxByKey_eq (ms : List GoMap) (key : Int) : Model.C13.FindMaxByKey ms key =
    ((Spec.C13.keyVals key ms).isEmpty, Model.C13.FindMax (Spec.C13.keyVals key ms)) := by
  cases ms with
  | nil => rfl
  | cons m0 r =>
    rw [Model.C13.FindMaxByKey, byKeyLoop_eq _ (· > ·) (Model.C13.maxByKeyLoop key) Model.C13.maxLoop
      (fun _ _ => rfl) (fun _ _ _ _ => rfl) (fun _ => rfl) (fun _ _ _ => rfl) (m0 :: r) false 0, keyVals_eq]
    cases Spec.C13.keyVals key (m0 :: r) with
    | nil => rfl
    | cons v vs => exact congrArg (Prod.mk false) (ite_self _).symm

theorem abs_of_nonneg {i : Int} (h : 0 ≤ i) : Model.C13.Abs i = i := if_neg (Int.not_lt.mpr h)
theorem abs_of_neg {i : Int} (h : i < 0) : Model.C13.Abs i = -i := if_pos h

theorem index_ok (s : List Int) (j : Int) (h0 : 0 ≤ j) (h1 : j < s.length) :
    ∃ v, Model.C13.index s j = .ok v ∧ s[j.toNat]? = some v := by
  have hl : j.toNat < s.length := by omega
  refine ⟨s[j.toNat], ?_, List.getElem?_eq_getElem hl⟩
  rw [Model.C13.index, if_neg (Int.not_lt.mpr h0), List.getElem?_eq_getElem hl]

/-- the definition with its `let`s expanded, to rewrite with -/
theorem nth_eq (s : List Int) (i : Int) : Model.C13.Nth s i =
    if (i ≥ 0 ∧ i > (s.length : Int) - 1) ∨ (i < 0 ∧ (s.length : Int) - Model.C13.Abs i < 0) then .err
    else if Model.C13.enclose 0 s.length i && decide (i ≥ 0) then Model.C13.index s i
    else Model.C13.index s ((s.length : Int) - Model.C13.Abs i) := rfl

theorem nth_nonneg (s : List Int) (i : Int) (h0 : 0 ≤ i) (h1 : i < s.length) :
    Model.C13.Nth s i = Model.C13.index s i := by
  have c1 : ¬ ((i ≥ 0 ∧ i > (s.length : Int) - 1) ∨ (i < 0 ∧ (s.length : Int) - Model.C13.Abs i < 0)) :=
    fun h => h.elim (fun a => Int.not_lt.mpr (Int.le_sub_one_of_lt h1) a.2) (fun a => Int.not_lt.mpr h0 a.1)
  have c2 : (Model.C13.enclose 0 s.length i && decide (i ≥ 0)) = true := by
    rw [Model.C13.enclose, abs_of_nonneg h0, if_pos ⟨h0, Int.le_of_lt h1⟩, decide_eq_true h0]; rfl
  rw [nth_eq, if_neg c1, if_pos c2]

theorem nth_neg (s : List Int) (i : Int) (h0 : -(s.length : Int) ≤ i) (h1 : i < 0) :
    Model.C13.Nth s i = Model.C13.index s (s.length + i) := by
  have c1 : ¬ ((i ≥ 0 ∧ i > (s.length : Int) - 1) ∨ (i < 0 ∧ (s.length : Int) - Model.C13.Abs i < 0)) :=
    fun h => h.elim (fun a => Int.not_lt.mpr a.1 h1) (fun a => by rw [abs_of_neg h1] at a; omega)
  have c2 : ¬ (Model.C13.enclose 0 s.length i && decide (i ≥ 0)) = true := by
    rw [decide_eq_false (Int.not_le.mpr h1), Bool.and_false]; exact Bool.false_ne_true
  rw [nth_eq, if_neg c1, if_neg c2, abs_of_neg h1, Int.sub_neg]

theorem nth_err (s : List Int) (i : Int) (h : i ≥ s.length ∨ i < -(s.length : Int)) :
    Model.C13.Nth s i = .err := by
  have c1 : (i ≥ 0 ∧ i > (s.length : Int) - 1) ∨ (i < 0 ∧ (s.length : Int) - Model.C13.Abs i < 0) := by
    rcases h with h | h
    · exact Or.inl (by omega)
    · exact Or.inr (by rw [abs_of_neg (by omega)]; omega)
  rw [nth_eq, if_pos c1]

theorem sumByLoop_eq (f : Int → Int) (s : List Int) (acc : Int) :
    Model.C13.sumByLoop f s acc = acc + Spec.C13.total (s.map f) := by
  induction s generalizing acc with
  | nil => simp [Model.C13.sumByLoop, Spec.C13.total]
  | cons v r ih => simp only [Model.C13.sumByLoop, List.map_cons, Spec.C13.total, ih]; omega

theorem sumLoop_eq (s : List Int) (acc : Int) : Model.C13.sumLoop s acc = acc + Spec.C13.total s := by
  have h : Model.C13.sumLoop s acc = Model.C13.sumByLoop id s acc := by set_option smartUnfolding false in rfl
  rw [h, sumByLoop_eq, List.map_id]

/-- Go's integer division is the truncated quotient -/
theorem tdiv_isTruncQuot (t n : Int) (hn : 0 < n) : Spec.C13.IsTruncQuot t n (t.tdiv n) := by
  unfold Spec.C13.IsTruncQuot
  rw [← Int.tmod_def]
  refine ⟨Int.lt_tmod_of_pos t hn, Int.tmod_lt_of_pos t hn, fun h => Int.tmod_nonneg n h, fun h => ?_⟩
  have h1 : 0 ≤ (-t).tmod n := Int.tmod_nonneg n (by omega)
  rw [Int.neg_tmod] at h1
  omega

theorem succ_mul_int (j : Nat) (d : Int) : ((j + 1 : Nat) : Int) * d = (j : Int) * d + d := by
  rw [Int.natCast_add, Int.add_mul, Int.natCast_one, Int.one_mul]

theorem prog_nil (start d : Int) (before : Int → Bool) (h : before start = false) :
    Spec.C13.Prog start d before [] :=
  ⟨nofun, nofun, by rw [List.length_nil, Int.natCast_zero, Int.zero_mul, Int.add_zero]; exact h⟩

theorem prog_cons (i d : Int) (before : Int → Bool) (l : List Int) (hb : before i = true)
    (h : Spec.C13.Prog (i + d) d before l) : Spec.C13.Prog i d before (i :: l) := by
  obtain ⟨h1, h2, h3⟩ := h
  refine ⟨fun j hj => ?_, List.forall_mem_cons.mpr ⟨hb, h2⟩, ?_⟩
  · cases j with
    | zero => exact atIdx_zero (by rw [Int.natCast_zero, Int.zero_mul, Int.add_zero])
    | succ j =>
      obtain ⟨hj', hx⟩ := h1 j (Nat.lt_of_succ_lt_succ hj)
      refine atIdx_succ ⟨hj', ?_⟩
      rw [hx, succ_mul_int]; omega
  · rw [List.length_cons, succ_mul_int]
    rw [Int.add_comm _ d, ← Int.add_assoc]; exact h3

/-- `rangeUp` / `rangeDown` (`L`): the fuel suffices when it exceeds a measure every round decreases -/
theorem progLoop_spec (d : Int) (before : Int → Prop) [DecidablePred before]
    (L : Nat → Int → List Int → Out (List Int)) (μ : Int → Nat)
    (hL : ∀ fuel i acc, L (fuel + 1) i acc
      = if before i then L fuel (i + d) (acc ++ [i]) else .ok acc)
    (hμ : ∀ i, before i → μ (i + d) < μ i)
    (fuel : Nat) (i : Int) (acc : List Int) (hf : μ i < fuel) :
    ∃ l, L fuel i acc = .ok (acc ++ l) ∧ Spec.C13.Prog i d (fun x => decide (before x)) l := by
  induction fuel generalizing i acc with
  | zero => exact absurd hf (Nat.not_lt_zero _)
  | succ fuel ih =>
    rw [hL]
    by_cases hi : before i
    · obtain ⟨l, h1, h2⟩ := ih (i + d) (acc ++ [i]) (Nat.lt_of_lt_of_le (hμ i hi) (Nat.le_of_lt_succ hf))
      exact ⟨i :: l, by rw [if_pos hi, h1, List.append_assoc]; rfl, prog_cons _ _ _ _ (decide_eq_true hi) h2⟩
    · exact ⟨[], by rw [if_neg hi, List.append_nil], prog_nil _ _ _ (decide_eq_false hi)⟩

theorem abs_eq_absI (x : Int) : Model.C13.Abs x = Spec.C13.absI x := rfl

/-- the distance to the end shrinks with every step toward it, and the model's fuel exceeds it -/
theorem toNat_step {a d : Int} (ha : 0 < a) (hd : 0 < d) : (a - d).toNat < a.toNat :=
  (Int.toNat_lt_toNat ha).mpr (Int.sub_lt_self a hd)
theorem toNat_lt_fuel (a : Int) : a.toNat < a.natAbs + 1 :=
  (Int.toNat_lt' (Nat.succ_pos _)).mpr (Int.lt_add_one_of_le Int.le_natAbs)

/-- the step matters only for a loop that starts: positive for the ascending one, non-zero for the
descending one (which steps by `|step|`) -/
theorem rangeLoops_spec (start step end_ : Int) (hup : 0 < end_ → start < end_ → 0 < step)
    (hdown : end_ ≤ 0 → end_ < start → step ≠ 0) :
    ∃ l, Model.C13.rangeLoops start step end_ = .ok l ∧ Spec.C13.IsRange start step end_ l := by
  unfold Model.C13.rangeLoops Spec.C13.IsRange Model.C13.rangeFuel
  by_cases he : end_ > 0
  · simp only [if_pos he]
    by_cases hlt : start < end_
    · have hs : 0 < step := hup he hlt
      rw [show Spec.C13.absI step = step from abs_of_nonneg (Int.le_of_lt hs)]
      exact progLoop_spec step (· < end_) (fun f i acc => Model.C13.rangeUp f i step end_ acc)
        (fun i => (end_ - i).toNat) (fun _ _ _ => rfl)
        (fun i hi => by rw [← Int.sub_sub]; exact toNat_step (Int.sub_pos_of_lt hi) hs) _ start []
        (toNat_lt_fuel _)
    · exact ⟨[], by rw [Model.C13.rangeUp, if_neg hlt], prog_nil _ _ _ (decide_eq_false hlt)⟩
  · simp only [if_neg he]
    by_cases hlt : end_ < start
    · have hs : 0 < Spec.C13.absI step := by
        have := hdown (Int.not_lt.mp he) hlt
        unfold Spec.C13.absI; split <;> omega
      exact progLoop_spec (-Spec.C13.absI step) (end_ < ·)
        (fun f i acc => Model.C13.rangeDown f i step end_ acc)
        (fun i => (i - end_).toNat) (fun _ _ _ => rfl)
        (fun i hi => by
          rw [Int.add_comm, Int.add_sub_assoc, Int.add_comm, ← Int.sub_eq_add_neg]
          exact toNat_step (Int.sub_pos_of_lt hi) hs) _ start []
        (by rw [← Int.natAbs_neg, Int.neg_sub]; exact toNat_lt_fuel _)
    · exact ⟨[], by rw [Model.C13.rangeDown, if_neg hlt], prog_nil _ _ _ (decide_eq_false hlt)⟩

end GoguVerif.Lemmas.C13
