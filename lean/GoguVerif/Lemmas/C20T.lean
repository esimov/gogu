import GoguVerif.Model.C20
import GoguVerif.Lemmas.ListFacts
/-!
# C20 — helper lemmas: the throttle's transition functions and its invariant

The transition functions get their equations here.  What `wake`, `Call` and `Next` do is also stated as a relation with
one constructor per outcome (`WakeUp`, `CallDoes`, `NextDoes`): a proof about one of them analyses the relation and
finds the next state spelt out in each case.

`TInv cfg s` holds in every reachable state of the throttle model, for every choice function, and is
preserved by every sub-operation separately (`tcall`, `tnext`, `tcancel`, `advanceTo`), also in the
middle of a step.  It says which trigger a permission answers: a trigger travels
`Call → (timer armed →) waiting → permission` and carries the same justification `Just` at every stage.
It is stated over the components of the state it reads (`TCore`): a transition that leaves those alone
keeps it by definition (`exact h`), one that changes a component re-establishes exactly the clauses that
mention it (`{ h with .. }`).  The spacing of the permissions is an invariant of its own (`Lemmas/C20Code.lean`).
-/
namespace GoguVerif.Lemmas.C20T
open GoguVerif.Spec.C20 GoguVerif.Model.C20

theorem forall_mem_snoc {α} {p : α → Prop} {l : List α} {x : α} (hl : ∀ t ∈ l, p t) (hx : p x) : ∀ t ∈ l ++ [x], p t :=
  fun t ht => (List.mem_append.mp ht).elim (hl t) fun ht => List.mem_singleton.mp ht ▸ hx

theorem after_period {l now : Int} {dur : Nat} (h : now - l > dur) : l + dur < now := by omega

theorem in_period {l now : Int} {dur : Nat} : now - l ≤ dur ↔ now ≤ l + dur := by omega

theorem deadline_eq (l now : Int) (dur : Nat) : now + (dur - (now - l)) = l + dur := by omega

theorem gapOK_iff {dur : Nat} {trailing : Bool} {l t : Int} :
    gapOK dur trailing l t = true ↔ l + dur ≤ t ∧ (trailing = false → l + dur < t) := by
  unfold gapOK
  cases trailing <;> simp <;> omega

theorem gapOK_mono {dur : Nat} {trailing : Bool} {l t t' : Int}
    (h : gapOK dur trailing l t = true) (ht : t ≤ t') : gapOK dur trailing l t' = true := by
  rw [gapOK_iff] at *
  exact ⟨by omega, fun htr => by have := h.2 htr; omega⟩

theorem gapOK_of_lt {dur : Nat} {trailing : Bool} {l t : Int} (h : l + dur < t) :
    gapOK dur trailing l t = true :=
  gapOK_iff.mpr ⟨by omega, fun _ => h⟩

theorem spacedOK_snoc (dur : Nat) (trailing : Bool) (l : List Int) (x : Int) :
    spacedOK dur trailing (l ++ [x]) =
      (spacedOK dur trailing l &&
        (match l.getLast? with | none => true | some y => gapOK dur trailing y x)) := by
  induction l with
  | nil => simp [spacedOK]
  | cons a r ih =>
    cases r with
    | nil => simp [spacedOK]
    | cons b r =>
      have : (a :: b :: r) ++ [x] = a :: b :: (r ++ [x]) := rfl
      rw [this]
      simp only [spacedOK]
      have ih' : spacedOK dur trailing (b :: (r ++ [x])) = _ := ih
      rw [ih', List.getLast?_cons_cons, Bool.and_assoc]

theorem spacedOK_get (dur : Nat) (trailing : Bool) :
    ∀ (l : List Int) (k : Nat) (a b : Int), spacedOK dur trailing l = true →
      l[k]? = some a → l[k + 1]? = some b → gapOK dur trailing a b = true := by
  intro l
  induction l with
  | nil => intro k a b _ h; cases h
  | cons x r ih =>
    intro k a b hs ha hb
    cases r with
    | nil => cases hb
    | cons y r =>
      rw [spacedOK, Bool.and_eq_true] at hs
      cases k with
      | zero => cases ha; cases hb; exact hs.1
      | succ k => exact ih k a b hs.2 ha hb

theorem spaced_grants_get {dur : Nat} {trailing : Bool} {G : List Grant}
    (h : spacedOK dur trailing (G.map (·.t)) = true) {k : Nat} {a b : Grant} (ha : G[k]? = some a)
    (hb : G[k + 1]? = some b) : a.t + dur ≤ b.t ∧ (trailing = false → a.t + dur < b.t) :=
  gapOK_iff.mp (spacedOK_get dur trailing _ k a.t b.t h (by rw [List.getElem?_map, ha]; rfl)
    (by rw [List.getElem?_map, hb]; rfl))

theorem getLast?_snoc_map {α β} (l : List α) (x : α) (f : α → β) :
    ((l ++ [x]).getLast?).map f = some (f x) := by
  simp

theorem wake_nil {s : TState} (ch : Choice) (w : Int × Nat) (h : s.blocked = []) :
    wake ch s w = { s with waiting := true, wsrc := w } := by
  unfold wake; rw [h]

theorem wake_cons {s : TState} (ch : Choice) (w : Int × Nat) {b : Nat} {bs : List Nat} (h : s.blocked = b :: bs) :
    wake ch s w = grantTo { s with waiting := true, wsrc := w, blocked := (pickFrom (ch s.n (b :: bs)) b bs).2 }
      (pickFrom (ch s.n (b :: bs)) b bs).1 := by
  unfold wake; rw [h]

theorem pickFrom_fst_mem : ∀ (c b : Nat) (bs : List Nat), (pickFrom c b bs).1 ∈ b :: bs
  | 0, _, _ => List.mem_cons_self
  | _ + 1, _, [] => List.mem_cons_self
  | c + 1, _, b' :: bs => List.mem_cons_of_mem _ (pickFrom_fst_mem c b' bs)

theorem pickFrom_length : ∀ (c b : Nat) (bs : List Nat), (pickFrom c b bs).2.length = bs.length
  | 0, _, _ => rfl
  | _ + 1, _, [] => rfl
  | c + 1, _, b' :: bs => congrArg (· + 1) (pickFrom_length c b' bs)

theorem pickFrom_snd : ∀ (c b : Nat) (bs : List Nat), (b :: bs).Nodup →
    (pickFrom c b bs).2 = (b :: bs).filter (fun x => x != (pickFrom c b bs).1) := by
  intro c
  induction c with
  | zero =>
    intro b bs hnd
    rw [List.nodup_cons] at hnd
    simp only [pickFrom, List.filter_cons, bne_self_eq_false, Bool.false_eq_true, if_false]
    exact (ListFacts.filter_ne_of_not_mem hnd.1).symm
  | succ c ih =>
    intro b bs hnd
    cases bs with
    | nil => simp [pickFrom]
    | cons b' bs =>
      rw [List.nodup_cons] at hnd
      have hne : (b != (pickFrom c b' bs).1) = true := by
        simp; intro h; exact hnd.1 (h ▸ pickFrom_fst_mem c b' bs)
      simp only [pickFrom]
      rw [List.filter_cons, if_pos hne, ← ih b' bs hnd.2]

/-- the two outcomes of a wake-up for the trigger `w`: nobody is blocked and the permission waits, or one blocked
caller `id` takes it at once and the others (`rest`) go on waiting -/
inductive WakeUp (s : TState) (w : Int × Nat) : TState → Prop
  | waits (hb : s.blocked = []) : WakeUp s w { s with waiting := true, wsrc := w }
  | grants (id : Nat) (rest : List Nat) (hid : id ∈ s.blocked) (hlen : rest.length + 1 = s.blocked.length)
      (hrest : s.blocked.Nodup → rest = s.blocked.filter (fun x => x != id)) :
      WakeUp s w { s with waiting := false, wsrc := w, blocked := rest, last := some s.now,
                          grants := s.grants ++ [{ t := s.now, id := id, ctime := w.1, cepoch := w.2, prevT := s.last }],
                          doneLog := s.doneLog ++ [(id, s.now, true)] }

theorem wake_up (ch : Choice) (s : TState) (w : Int × Nat) : WakeUp s w (wake ch s w) := by
  cases hb : s.blocked with
  | nil => rw [wake_nil ch w hb]; exact .waits hb
  | cons b bs =>
    rw [wake_cons ch w hb]
    exact .grants _ (pickFrom (ch s.n (b :: bs)) b bs).2 (by rw [hb]; exact pickFrom_fst_mem _ b bs)
      (by rw [pickFrom_length, hb]; rfl) (fun hnd => by rw [hb] at hnd ⊢; exact pickFrom_snd _ b bs hnd)

theorem tnext_grant {s : TState} (id : Nat) (hw : s.waiting = true) (hs : s.stop = false) :
    tnext s id = grantTo s id := by
  unfold tnext; rw [if_pos (Or.inl hw), if_pos hs]

theorem tnext_false {s : TState} (id : Nat) (hs : s.stop = true) :
    tnext s id = { s with falses := s.falses ++ [(s.now, id)], doneLog := s.doneLog ++ [(id, s.now, false)] } := by
  unfold tnext; rw [if_pos (Or.inr hs), if_neg (by rw [hs]; decide)]

theorem tnext_block {s : TState} (id : Nat) (hw : s.waiting = false) (hs : s.stop = false) :
    tnext s id = { s with blocked := s.blocked ++ [id] } := by
  unfold tnext; rw [if_neg (by rw [hw, hs]; decide)]

inductive NextDoes (s : TState) (id : Nat) : TState → Prop
  | refused (hs : s.stop = true) :
      NextDoes s id { s with falses := s.falses ++ [(s.now, id)], doneLog := s.doneLog ++ [(id, s.now, false)] }
  | granted (hw : s.waiting = true) (hs : s.stop = false) : NextDoes s id (grantTo s id)
  | blocks (hw : s.waiting = false) (hs : s.stop = false) : NextDoes s id { s with blocked := s.blocked ++ [id] }

theorem tnext_does (s : TState) (id : Nat) : NextDoes s id (tnext s id) := by
  rcases Bool.eq_false_or_eq_true s.stop with hs | hs
  · rw [tnext_false id hs]; exact .refused hs
  · rcases Bool.eq_false_or_eq_true s.waiting with hw | hw
    · rw [tnext_grant id hw hs]; exact .granted hw hs
    · rw [tnext_block id hw hs]; exact .blocks hw hs

theorem tcall_skip {s : TState} (cfg : TCfg) (ch : Choice) (h : s.waiting = true ∨ s.stop = true) :
    tcall cfg ch s = logCall s := by
  have hc : ¬ ((logCall s).waiting = false ∧ (logCall s).stop = false) := by
    show ¬ (s.waiting = false ∧ s.stop = false)
    rcases h with h | h <;> rw [h] <;> simp
  unfold tcall; exact if_neg hc

theorem tcall_wake {s : TState} (cfg : TCfg) (ch : Choice) (hw : s.waiting = false) (hs : s.stop = false)
    (h : ∀ l, s.last = some l → s.now - l > cfg.dur) :
    tcall cfg ch s = wake ch (logCall s) (s.now, s.grants.length) := by
  have hc : (logCall s).waiting = false ∧ (logCall s).stop = false := ⟨hw, hs⟩
  unfold tcall
  rw [if_pos hc]
  cases hl : (logCall s).last with
  | none => rfl
  | some l => exact if_pos (h l hl)

/-- the timer is armed for the end of the period -/
theorem tcall_arm {s : TState} (cfg : TCfg) (ch : Choice) {l : Int} (hw : s.waiting = false) (hs : s.stop = false)
    (hl : s.last = some l) (hin : s.now - l ≤ cfg.dur) (htr : cfg.trailing = true) (hsc : s.scheduled = none) :
    tcall cfg ch s = { logCall s with
      scheduled := some { deadline := l + cfg.dur, ctime := s.now, cepoch := s.grants.length } } := by
  have hc : (logCall s).waiting = false ∧ (logCall s).stop = false := ⟨hw, hs⟩
  have hl' : (logCall s).last = some l := hl
  have hd : ¬ ((logCall s).now - l > cfg.dur) := Int.not_lt.mpr hin
  have ht : cfg.trailing = true ∧ (logCall s).scheduled = none := ⟨htr, hsc⟩
  unfold tcall
  dsimp only
  rw [if_pos hc, hl', ← deadline_eq l s.now cfg.dur]
  exact (if_neg hd).trans (if_pos ht)

theorem tcall_drop {s : TState} (cfg : TCfg) (ch : Choice) {l : Int} (hw : s.waiting = false) (hs : s.stop = false)
    (hl : s.last = some l) (hin : s.now - l ≤ cfg.dur) (h : ¬ (cfg.trailing = true ∧ s.scheduled = none)) :
    tcall cfg ch s = logCall s := by
  have hc : (logCall s).waiting = false ∧ (logCall s).stop = false := ⟨hw, hs⟩
  have hl' : (logCall s).last = some l := hl
  have hd : ¬ ((logCall s).now - l > cfg.dur) := Int.not_lt.mpr hin
  have ht : ¬ (cfg.trailing = true ∧ (logCall s).scheduled = none) := h
  unfold tcall
  rw [if_pos hc, hl']
  exact (if_neg hd).trans (if_neg ht)

theorem tcall_branch (cfg : TCfg) (s : TState) :
    (s.waiting = true ∨ s.stop = true) ∨
    (s.waiting = false ∧ s.stop = false ∧ ∀ l, s.last = some l → s.now - l > cfg.dur) ∨
    ∃ l, s.waiting = false ∧ s.stop = false ∧ s.last = some l ∧ s.now - l ≤ cfg.dur := by
  cases hw : s.waiting with
  | true => exact Or.inl (Or.inl rfl)
  | false =>
    cases hs : s.stop with
    | true => exact Or.inl (Or.inr rfl)
    | false =>
      cases hl : s.last with
      | none => exact Or.inr (Or.inl ⟨rfl, rfl, fun l h => by cases h⟩)
      | some l =>
        by_cases hin : s.now - l ≤ cfg.dur
        · exact Or.inr (Or.inr ⟨l, rfl, rfl, rfl, hin⟩)
        · exact Or.inr (Or.inl ⟨rfl, rfl, fun l' h => by cases h; exact Int.not_le.mp hin⟩)

/-- what `Call` does once the trigger is logged: nothing more, a wake-up, or the arming of the timer for the end of the
period -/
inductive CallDoes (cfg : TCfg) (ch : Choice) (s : TState) : TState → Prop
  | logs : CallDoes cfg ch s (logCall s)
  | wakes (hs : s.stop = false) (ha : ∀ l, s.last = some l → s.now - l > cfg.dur) :
      CallDoes cfg ch s (wake ch (logCall s) (s.now, s.grants.length))
  | arms (l : Int) (hw : s.waiting = false) (hl : s.last = some l) (hin : s.now - l ≤ cfg.dur)
      (htr : cfg.trailing = true) :
      CallDoes cfg ch s { logCall s with
        scheduled := some { deadline := l + cfg.dur, ctime := s.now, cepoch := s.grants.length } }

theorem tcall_does (cfg : TCfg) (ch : Choice) (s : TState) : CallDoes cfg ch s (tcall cfg ch s) := by
  rcases tcall_branch cfg s with h | ⟨hw, hs, ha⟩ | ⟨l, hw, hs, hl, hin⟩
  · rw [tcall_skip cfg ch h]; exact .logs
  · rw [tcall_wake cfg ch hw hs ha]; exact .wakes hs ha
  · by_cases ht : cfg.trailing = true ∧ s.scheduled = none
    · rw [tcall_arm cfg ch hw hs hl hin ht.1 ht.2]; exact .arms l hw hl hin ht.1
    · rw [tcall_drop cfg ch hw hs hl hin ht]; exact .logs

theorem fire_stop {s : TState} (ch : Choice) (sc : Sched) (h : s.stop = true) :
    fire ch s sc = { s with scheduled := none } := by
  unfold fire; exact if_pos h

theorem fire_wake {s : TState} (ch : Choice) (sc : Sched) (h : s.stop = false) :
    fire ch s sc = wake ch { s with scheduled := none } (sc.ctime, sc.cepoch) := by
  unfold fire; exact if_neg (by rw [show ({ s with scheduled := none } : TState).stop = s.stop from rfl, h]; decide)

theorem due_cases (s : TState) (t : Int) :
    (∀ sc, s.scheduled = some sc → t < sc.deadline) ∨ ∃ sc, s.scheduled = some sc ∧ sc.deadline ≤ t := by
  cases hsc : s.scheduled with
  | none => exact Or.inl fun sc h => by cases h
  | some sc =>
    by_cases hd : sc.deadline ≤ t
    · exact Or.inr ⟨sc, rfl, hd⟩
    · exact Or.inl fun sc' h => by cases h; exact Int.not_le.mp hd

theorem advanceTo_noop (ch : Choice) (s : TState) (t : Int)
    (h : ∀ sc, s.scheduled = some sc → t < sc.deadline) : advanceTo ch s t = { s with now := t } := by
  unfold advanceTo
  split
  · rename_i sc hsc
    exact if_neg (Int.not_le.mpr (h sc hsc))
  · rfl

theorem advanceTo_due {s : TState} (ch : Choice) {sc : Sched} (t : Int) (hsc : s.scheduled = some sc)
    (ht : sc.deadline ≤ t) :
    advanceTo ch s t = { fire ch { s with now := max s.now sc.deadline } sc with now := t } := by
  unfold advanceTo; rw [hsc]; exact if_pos ht

/-- the trigger `w` (instant, epoch) may be answered by the next permission: it is logged, belongs to the
current epoch, and when not trailing it came after the period that began with the last permission -/
structure Just (cfg : TCfg) (now : Int) (last : Option Int) (grants : List Grant) (calls : List (Int × Nat))
    (w : Int × Nat) : Prop where
  epoch : w.2 = grants.length
  logged : w ∈ calls
  le_now : w.1 ≤ now
  after : cfg.trailing = false → ∀ l, last = some l → l + cfg.dur < w.1

/-- what the permission `g` records of the trigger it answers: `Just` as it stood when `g` was handed out -/
structure Answers (cfg : TCfg) (calls : List (Int × Nat)) (g : Grant) : Prop where
  logged : (g.ctime, g.cepoch) ∈ calls
  le_t : g.ctime ≤ g.t
  after : cfg.trailing = false → ∀ l, g.prevT = some l → l + cfg.dur < g.ctime

structure Answered (cfg : TCfg) (grants : List Grant) (calls : List (Int × Nat)) : Prop where
  gr : ∀ g ∈ grants, Answers cfg calls g
  epochs : ∀ (k : Nat) (g : Grant), grants[k]? = some g → g.cepoch = k
  chain : ∀ (k : Nat) (g : Grant), grants[k]? = some g → g.prevT = ((grants.take k).getLast?).map (·.t)

theorem Answered.log {cfg grants calls} (h : Answered cfg grants calls) (c : List (Int × Nat)) :
    Answered cfg grants (calls ++ c) :=
  { h with gr := fun g hg => { h.gr g hg with logged := List.mem_append_left _ (h.gr g hg).logged } }

theorem Answered.snoc {cfg grants calls} (h : Answered cfg grants calls) (g : Grant)
    (hj : Just cfg g.t g.prevT grants calls (g.ctime, g.cepoch))
    (hprev : g.prevT = (grants.getLast?).map (·.t)) : Answered cfg (grants ++ [g]) calls where
  gr := forall_mem_snoc h.gr ⟨hj.logged, hj.le_now, hj.after⟩
  epochs := by
    intro k g' hk
    rcases ListFacts.getElem?_snoc_cases hk with ⟨_, hk⟩ | ⟨rfl, rfl⟩
    · exact h.epochs k g' hk
    · exact hj.epoch
  chain := by
    intro k g' hk
    rcases ListFacts.getElem?_snoc_cases hk with ⟨hkl, hk⟩ | ⟨rfl, rfl⟩
    · rw [List.take_append_of_le_length (Nat.le_of_lt hkl)]; exact h.chain k g' hk
    · rw [List.take_left]; exact hprev

/-- the pending trailing timer `sc`.  `period_end` is what the throttle's proof turns on: the timer is due
exactly when the period that began with the last permission ends. -/
structure SchedOK (cfg : TCfg) (now : Int) (last : Option Int) (waiting : Bool) (grants : List Grant)
    (calls : List (Int × Nat)) (sc : Sched) : Prop extends Just cfg now last grants calls (sc.ctime, sc.cepoch) where
  idle : waiting = false
  not_due : now ≤ sc.deadline
  period_end : ∃ l, last = some l ∧ sc.deadline = l + cfg.dur

structure TCore (cfg : TCfg) (now : Int) (last : Option Int) (waiting stop : Bool) (scheduled : Option Sched)
    (blocked : List Nat) (grants : List Grant) (wsrc : Int × Nat) (calls : List (Int × Nat)) : Prop
    extends Answered cfg grants calls where
  /-- after `Cancel` nobody is blocked -/
  bs : stop = true → blocked = []
  /-- while a permission waits nobody is blocked -/
  bw : waiting = true → blocked = []
  last_eq : last = (grants.getLast?).map (·.t)
  last_le : ∀ l, last = some l → l ≤ now
  sched : ∀ sc, scheduled = some sc → SchedOK cfg now last waiting grants calls sc
  wait : waiting = true → Just cfg now last grants calls wsrc
  calls_ep : ∀ c ∈ calls, c.2 ≤ grants.length

abbrev TInv (cfg : TCfg) (s : TState) : Prop :=
  TCore cfg s.now s.last s.waiting s.stop s.scheduled s.blocked s.grants s.wsrc s.calls

theorem tinv_init (cfg : TCfg) : TInv cfg {} where
  gr := fun _ h => nomatch h
  epochs := fun _ _ h => nomatch h
  chain := fun _ _ h => nomatch h
  bs := fun _ => rfl
  bw := fun _ => rfl
  last_eq := rfl
  last_le := fun _ h => nomatch h
  sched := fun _ h => nomatch h
  wait := fun h => nomatch h
  calls_ep := fun _ h => nomatch h

section
variable {cfg : TCfg} {now : Int} {last : Option Int} {waiting stop : Bool} {scheduled : Option Sched}
  {blocked : List Nat} {grants : List Grant} {wsrc : Int × Nat} {calls : List (Int × Nat)}

theorem TCore.sched_none_of_waiting (h : TCore cfg now last waiting stop scheduled blocked grants wsrc calls)
    (hw : waiting = true) : scheduled = none := by
  cases hsc : scheduled with
  | none => rfl
  | some sc => exact Bool.noConfusion ((h.sched sc hsc).idle.symm.trans hw)

/-- once the period is over no timer is pending (a pending timer's deadline is the end of the period) -/
theorem TCore.sched_none_of_after (h : TCore cfg now last waiting stop scheduled blocked grants wsrc calls)
    (ha : ∀ l, last = some l → now - l > cfg.dur) : scheduled = none := by
  cases hsc : scheduled with
  | none => rfl
  | some sc =>
    obtain ⟨l, hl, hd⟩ := (h.sched sc hsc).period_end
    exact absurd (hd ▸ (h.sched sc hsc).not_due) (Int.not_le.mpr (after_period (ha l hl)))

/-- at its deadline the period in which the timer was armed is over -/
theorem SchedOK.period_over {sc : Sched} (hS : SchedOK cfg now last waiting grants calls sc) :
    ∀ l, last = some l → cfg.dur ≤ max now sc.deadline - l := fun l hl => by
  obtain ⟨l', hl', hd⟩ := hS.period_end
  cases hl.symm.trans hl'
  rw [Int.max_eq_right hS.not_due, hd, Int.add_comm l, Int.add_sub_cancel]; exact Int.le_refl _

theorem TCore.set_now (h : TCore cfg now last waiting stop scheduled blocked grants wsrc calls) {t : Int}
    (ht : now ≤ t) (hd : ∀ sc, scheduled = some sc → t ≤ sc.deadline) :
    TCore cfg t last waiting stop scheduled blocked grants wsrc calls :=
  { h with
    last_le := fun l hl => Int.le_trans (h.last_le l hl) ht
    sched := fun sc hsc =>
      { h.sched sc hsc with not_due := hd sc hsc, le_now := Int.le_trans (h.sched sc hsc).le_now ht }
    wait := fun hw => { h.wait hw with le_now := Int.le_trans (h.wait hw).le_now ht } }

theorem TCore.log (h : TCore cfg now last waiting stop scheduled blocked grants wsrc calls) (t : Int) :
    TCore cfg now last waiting stop scheduled blocked grants wsrc (calls ++ [(t, grants.length)]) :=
  { h with
    toAnswered := h.toAnswered.log _
    sched := fun sc hsc => { h.sched sc hsc with logged := List.mem_append_left _ (h.sched sc hsc).logged }
    wait := fun hw => { h.wait hw with logged := List.mem_append_left _ (h.wait hw).logged }
    calls_ep := forall_mem_snoc h.calls_ep (Nat.le_refl _) }

/-- `B` and `w'` are arbitrary: with `waiting = false` and `stop = false` no clause reads `blocked` or `wsrc` -/
theorem TCore.grant (h : TCore cfg now last waiting stop scheduled blocked grants wsrc calls)
    (hs : stop = false) (hsc : scheduled = none) {w : Int × Nat} (hj : Just cfg now last grants calls w)
    (id : Nat) (B : List Nat) (w' : Int × Nat) :
    TCore cfg now (some now) false stop scheduled B
      (grants ++ [{ t := now, id := id, ctime := w.1, cepoch := w.2, prevT := last }]) w' calls where
  toAnswered := h.toAnswered.snoc _ hj h.last_eq
  bs := fun h' => Bool.noConfusion (hs.symm.trans h')
  bw := fun h' => nomatch h'
  last_eq := by rw [List.getLast?_concat]; rfl
  last_le := fun l hl => Int.le_of_eq (Option.some.inj hl).symm
  sched := fun sc h' => nomatch hsc.symm.trans h'
  wait := fun h' => nomatch h'
  calls_ep := fun c hc => by rw [List.length_append]; exact Nat.le_succ_of_le (h.calls_ep c hc)

end

theorem wake_inv {cfg s} (ch : Choice) {w : Int × Nat} (h : TInv cfg s) (hs : s.stop = false)
    (hsc : s.scheduled = none) (hj : Just cfg s.now s.last s.grants s.calls w) : TInv cfg (wake ch s w) := by
  have hu := wake_up ch s w
  generalize wake ch s w = s' at hu
  cases hu with
  | waits hb => exact { h with bw := fun _ => hb, wait := fun _ => hj, sched := fun sc h' => nomatch hsc.symm.trans h' }
  | grants id rest _ _ _ => exact h.grant hs hsc hj _ _ _

theorem tnext_inv {cfg s} (id : Nat) (h : TInv cfg s) : TInv cfg (tnext s id) := by
  have hd := tnext_does s id
  generalize tnext s id = s' at hd
  cases hd with
  | refused _ => exact h
  | granted hw hs => exact h.grant hs (h.sched_none_of_waiting hw) (h.wait hw) _ _ _
  | blocks hw hs =>
    exact { h with bs := fun h' => Bool.noConfusion (hs.symm.trans h'), bw := fun h' => Bool.noConfusion (hw.symm.trans h') }

theorem tcancel_inv {cfg s} (h : TInv cfg s) : TInv cfg (tcancel s) :=
  { h with bs := fun _ => rfl, bw := fun _ => rfl }

theorem tcall_inv {cfg s} (ch : Choice) (h : TInv cfg s) : TInv cfg (tcall cfg ch s) := by
  have hl : TInv cfg (logCall s) := h.log s.now
  have hmem : (s.now, s.grants.length) ∈ (logCall s).calls := List.mem_append_right _ (List.mem_singleton.mpr rfl)
  have hd := tcall_does cfg ch s
  generalize tcall cfg ch s = s' at hd
  cases hd with
  | logs => exact hl
  | wakes hs ha =>
    exact wake_inv ch hl hs (h.sched_none_of_after ha) ⟨rfl, hmem, Int.le_refl _, fun _ l hl' => after_period (ha l hl')⟩
  | arms l hw hlast hin htr =>
    refine { hl with sched := fun sc hsc' => ?_ }
    cases hsc'
    exact
      { epoch := rfl, logged := hmem, le_now := Int.le_refl _
        after := fun h' => Bool.noConfusion (h'.symm.trans htr)
        idle := hw
        not_due := in_period.mp hin
        period_end := ⟨l, hlast, rfl⟩ }

structure Frame (s s' : TState) : Prop where
  calls : s'.calls = s.calls
  stop : s'.stop = s.stop
  n : s'.n = s.n
  now : s'.now = s.now

theorem wake_frame (ch : Choice) (s : TState) (w : Int × Nat) : Frame s (wake ch s w) := by
  have h := wake_up ch s w
  generalize wake ch s w = s' at h
  cases h <;> exact ⟨rfl, rfl, rfl, rfl⟩

theorem wake_scheduled (ch : Choice) (s : TState) (w : Int × Nat) :
    (wake ch s w).scheduled = s.scheduled := by
  have h := wake_up ch s w
  generalize wake ch s w = s' at h
  cases h <;> rfl

theorem fire_frame (ch : Choice) (s : TState) (sc : Sched) : Frame s (fire ch s sc) := by
  rcases Bool.eq_false_or_eq_true s.stop with hs | hs
  · rw [fire_stop ch sc hs]; exact ⟨rfl, rfl, rfl, rfl⟩
  · rw [fire_wake ch sc hs]
    have f := wake_frame ch { s with scheduled := none } (sc.ctime, sc.cepoch)
    exact ⟨f.calls, f.stop, f.n, f.now⟩

theorem fire_scheduled (ch : Choice) (s : TState) (sc : Sched) : (fire ch s sc).scheduled = none := by
  rcases Bool.eq_false_or_eq_true s.stop with hs | hs
  · rw [fire_stop ch sc hs]
  · rw [fire_wake ch sc hs]; exact wake_scheduled ch { s with scheduled := none } _

theorem fire_inv {cfg s} (ch : Choice) (sc : Sched) (h : TInv cfg s) (hsc : s.scheduled = some sc) :
    TInv cfg (fire ch { s with now := max s.now sc.deadline } sc) := by
  have hS := h.sched sc hsc
  rw [Int.max_eq_right hS.not_due]
  -- the state at the deadline, timer cleared
  have hb : TInv cfg { s with now := sc.deadline, scheduled := none } :=
    { h.set_now hS.not_due fun sc' hsc' => Int.le_of_eq (by rw [hsc] at hsc'; cases hsc'; rfl) with
      sched := fun _ h' => nomatch h' }
  rcases Bool.eq_false_or_eq_true s.stop with hs | hs
  · rw [fire_stop (s := { s with now := sc.deadline }) ch sc hs]; exact hb
  · rw [fire_wake (s := { s with now := sc.deadline }) ch sc hs]
    exact wake_inv ch hb hs rfl { hS.toJust with le_now := Int.le_trans hS.le_now hS.not_due }

theorem advanceTo_inv {cfg s} (ch : Choice) (target : Int) (h : TInv cfg s) (ht : s.now ≤ target) :
    TInv cfg (advanceTo ch s target) := by
  rcases due_cases s target with hd | ⟨sc, hsc, hle⟩
  · rw [advanceTo_noop ch s target hd]
    exact h.set_now ht fun sc hsc => Int.le_of_lt (hd sc hsc)
  · rw [advanceTo_due ch target hsc hle]
    refine TCore.set_now (fire_inv ch sc h hsc) ?_ ?_
    · rw [(fire_frame ch _ sc).now]; exact Int.max_le.mpr ⟨ht, hle⟩
    · intro sc' h'; rw [fire_scheduled] at h'; cases h'

/-- the pre-action of an event (before time is allowed to pass) -/
def tpre (cfg : TCfg) (ch : Choice) (s : TState) (e : TEv) : TState :=
  match e with
  | .call => tcall cfg ch s
  | .cancel => tcancel s
  | .next id => tnext s id
  | .advance _ => s

theorem tstep_eq (cfg : TCfg) (ch : Choice) (s : TState) (e : TEv) :
    tstep cfg ch s e =
      { advanceTo ch (tpre cfg ch s e) ((tpre cfg ch s e).now + e.dt) with
        n := (advanceTo ch (tpre cfg ch s e) ((tpre cfg ch s e).now + e.dt)).n + 1 } := by
  cases e <;> rfl

theorem tpre_inv {cfg : TCfg} {s : TState} (ch : Choice) (e : TEv) (h : TInv cfg s) : TInv cfg (tpre cfg ch s e) := by
  cases e with
  | call => exact tcall_inv ch h
  | cancel => exact tcancel_inv h
  | next id => exact tnext_inv id h
  | advance dt => exact h

theorem tstep_inv {cfg s} (ch : Choice) (e : TEv) (h : TInv cfg s) : TInv cfg (tstep cfg ch s e) := by
  rw [tstep_eq]
  exact advanceTo_inv ch _ (tpre_inv ch e h) (Int.le_add_of_nonneg_right (Int.natCast_nonneg _))

theorem trun_inv (cfg : TCfg) (ch : Choice) (evs : List TEv) : TInv cfg (trun cfg ch evs) :=
  List.foldlRecOn evs (tstep cfg ch) (tinv_init cfg) fun _ h e _ => tstep_inv ch e h

end GoguVerif.Lemmas.C20T
