/-! Lists of keyed entries looked up in a table key by key.

A check `l.all fun (k, e) => t.any (key · == k && …) && t.all (if key · == k && … then … else true)` compares the
key of every row of `t` with the key of every entry of `l`.  Grouping the entries under their keys (`groupKey`,
undone by `flat`) and restricting `t` to the rows of a key once per key gives the same Boolean (`any_key`, `all_key`,
`rows_flat`), for every table and every list.  `groupKey` joins consecutive entries only: a list that names a key in
two places gets two groups for it, which is as correct and only less of a saving. -/
namespace GoguVerif.Lemmas.TableBy

variable {α β κ : Type}

def flat (gs : List (κ × List β)) : List (κ × β) := gs.flatMap fun g => g.2.map fun e => (g.1, e)

def groupKey [BEq κ] : List (κ × β) → List (κ × List β)
  | [] => []
  | (k, b) :: l =>
    match groupKey l with
    | (k', bs) :: gs => if k == k' then (k, b :: bs) :: gs else (k, [b]) :: (k', bs) :: gs
    | [] => [(k, [b])]

theorem flat_cons (k : κ) (bs : List β) (gs : List (κ × List β)) :
    flat ((k, bs) :: gs) = bs.map (fun e => (k, e)) ++ flat gs := List.flatMap_cons ..

theorem flat_groupKey [BEq κ] [LawfulBEq κ] (l : List (κ × β)) : flat (groupKey l) = l := by
  induction l with
  | nil => rfl
  | cons p l ih =>
    obtain ⟨k, b⟩ := p
    rw [groupKey]
    cases h : groupKey l with
    | nil => rw [h] at ih; rw [← ih]; rfl
    | cons g gs =>
      obtain ⟨k', bs⟩ := g
      rw [h, flat_cons] at ih
      dsimp only
      split
      · next e => rw [flat_cons, List.map_cons, List.cons_append, eq_of_beq e, ih]
      · rw [flat_cons, flat_cons, ← ih]; rfl

theorem all_flat (gs : List (κ × List β)) (f : κ × β → Bool) :
    (flat gs).all f = gs.all fun g => g.2.all fun e => f (g.1, e) := by
  simp only [flat, List.all_flatMap, List.all_map, Function.comp_def]

theorem any_flat (gs : List (κ × List β)) (f : κ × β → Bool) :
    (flat gs).any f = gs.any fun g => g.2.any fun e => f (g.1, e) := by
  simp only [flat, List.any_flatMap, List.any_map, Function.comp_def]

theorem contains_flat [BEq κ] [LawfulBEq κ] [BEq β] [LawfulBEq β] (gs : List (κ × List β)) (k : κ) (e : β) :
    (flat gs).contains (k, e) = gs.any fun g => g.1 == k && g.2.contains e := by
  rw [Bool.eq_iff_iff]
  simp only [flat, List.contains_iff_mem, List.mem_flatMap, List.mem_map, List.any_eq_true, Bool.and_eq_true,
    beq_iff_eq, Prod.mk.injEq]
  exact ⟨fun ⟨g, hg, e', he, e1, e2⟩ => ⟨g, hg, e1, e2 ▸ he⟩, fun ⟨g, hg, e1, he⟩ => ⟨g, hg, e, he, e1, rfl⟩⟩

theorem any_and_left (a : Bool) (f : α → Bool) (l : List α) : l.any (fun x => a && f x) = (a && l.any f) := by
  cases a
  · simp only [Bool.false_and, List.any_eq_false]; exact fun _ _ => nofun
  · simp only [Bool.true_and]

theorem any_key [BEq κ] (t : List α) (key : α → κ) (k : κ) (q c : α → Bool) :
    t.any (fun m => key m == k && q m && c m) = (t.filter fun m => key m == k).any fun m => q m && c m := by
  rw [List.any_filter]
  exact congrArg t.any (funext fun m => Bool.and_assoc ..)

theorem all_key [BEq κ] (t : List α) (key : α → κ) (k : κ) (q c P : α → Bool) :
    t.all (fun m => if key m == k && q m && c m then P m else true) =
      (t.filter fun m => key m == k).all fun m => if q m && c m then P m else true := by
  rw [List.all_filter]
  refine congrArg t.all (funext fun m => ?_)
  cases key m == k <;> rfl

theorem rows_flat [BEq κ] [LawfulBEq κ] [BEq β] [LawfulBEq β] (t : List α) (gs : List (κ × List β))
    (key : α → κ) (sub : α → β) (c P : α → Bool) :
    t.all (fun m => if (flat gs).contains (key m, sub m) && c m then P m else true) =
      gs.all fun g => (t.filter fun m => key m == g.1).all fun m =>
        if g.2.contains (sub m) && c m then P m else true := by
  rw [Bool.eq_iff_iff]
  simp only [contains_flat, List.all_eq_true, List.mem_filter, beq_iff_eq, and_imp]
  constructor
  · intro h g hg m hm e
    have := h m hm
    split
    · next hc =>
      rw [Bool.and_eq_true] at hc
      rwa [if_pos] at this
      rw [Bool.and_eq_true]
      exact ⟨List.any_eq_true.2 ⟨g, hg, by rw [Bool.and_eq_true, beq_iff_eq]; exact ⟨e.symm, hc.1⟩⟩, hc.2⟩
    · rfl
  · intro h m hm
    split
    · next hc =>
      rw [Bool.and_eq_true, List.any_eq_true] at hc
      obtain ⟨⟨g, hg, hgm⟩, hi⟩ := hc
      rw [Bool.and_eq_true, beq_iff_eq] at hgm
      have := h g hg m hm hgm.1.symm
      rwa [if_pos (by rw [Bool.and_eq_true]; exact ⟨hgm.2, hi⟩)] at this
    · rfl

end GoguVerif.Lemmas.TableBy
