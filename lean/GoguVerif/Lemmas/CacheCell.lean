import GoguVerif.Model.Funcs
/-! The one-key cache cell of `Model/Funcs`: `cellGet` and `cellSet` branch on one condition, "the entry is live":
`exp ≤ 0 ∨ now ≤ exp`.  `Model/C17` spells out the same three definitions: `exact` sees through the two spellings, `rw`
does not, so a goal about `Model.C17.cellGet` is first restated with `show … Model.Funcs.cellGet …`, or a lemma of this file
is first given its statement in the other spelling (`have e : Model.C17.cellSet … = … := Lemmas.CacheCell.…`) and then
rewritten with. -/
namespace GoguVerif.Lemmas.CacheCell
open GoguVerif.Model.Funcs

theorem cellGet_some (now v x : Int) :
    cellGet now (some (v, x)) = if x ≤ 0 ∨ now ≤ x then some v else none := by
  show (if x > 0 then (if now > x then none else some v) else some v) = _
  by_cases h1 : x > 0
  · by_cases h2 : now > x
    · rw [if_pos h1, if_pos h2, if_neg fun h => h.elim (Int.not_le.mpr h1) (Int.not_le.mpr h2)]
    · rw [if_pos h1, if_neg h2, if_pos (Or.inr (Int.not_lt.mp h2))]
  · rw [if_neg h1, if_pos (Or.inl (Int.not_lt.mp h1))]

theorem cellSet_some (e now v x w : Int) :
    cellSet e now (some (v, x)) w =
      if x ≤ 0 ∨ now ≤ x then some (v, x) else some (w, defaultExp e now) := by
  simp only [cellSet, Bool.or_eq_true, decide_eq_true_eq]

theorem defaultExp_pos {e : Int} (he : e > 0) (now : Int) : defaultExp e now = now + e := if_pos he

theorem defaultExp_nonpos {e : Int} (he : ¬ e > 0) (now : Int) : defaultExp e now ≤ 0 := by
  unfold defaultExp; rw [if_neg he]; split <;> decide

/-- life of an entry stored at `tn`: `e ≤ 0` never expires, nor does a deadline `tn + e ≤ 0` -/
theorem cellGet_defaultExp (e tn t v : Int) :
    cellGet t (some (v, defaultExp e tn)) =
      if e ≤ 0 ∨ tn + e ≤ 0 ∨ t ≤ tn + e then some v else none := by
  rw [cellGet_some]
  refine ite_congr (propext ?_) (fun _ => rfl) (fun _ => rfl)
  by_cases he : e > 0
  · rw [defaultExp_pos he]; exact ⟨Or.inr, fun h => h.resolve_left (Int.not_le.mpr he)⟩
  · exact iff_of_true (Or.inl (defaultExp_nonpos he tn)) (Or.inl (Int.not_lt.mp he))

theorem cellGet_cellSet_none (e now v : Int) :
    cellGet now (cellSet e now none v) = some v :=
  (cellGet_defaultExp e now now v).trans
    (if_pos ((Int.le_total e 0).imp_right fun h => Or.inr (Int.le_add_of_nonneg_right h)))

theorem live_of_cellGet {now : Int} {c : Cell} {v : Int} (h : cellGet now c = some v) :
    ∃ x, c = some (v, x) ∧ (x ≤ 0 ∨ now ≤ x) := by
  obtain _ | ⟨w, x⟩ := c
  · cases h
  · rw [cellGet_some] at h
    split at h
    · next hl => cases h; exact ⟨x, rfl, hl⟩
    · cases h

theorem cellSet_cases (e now : Int) (c : Cell) (v : Int) :
    cellSet e now c v = c ∨ cellSet e now c v = some (v, defaultExp e now) := by
  obtain _ | ⟨w, x⟩ := c
  · exact Or.inr rfl
  · rw [cellSet_some]; split
    · exact Or.inl rfl
    · exact Or.inr rfl

/-- a value that is live at `T0` survives an offer made no later (the cache refuses to replace a live value) -/
theorem cellSet_of_live {E t T0 : Int} {c : Cell} {v w : Int} (hl : cellGet T0 c = some v) (ht : t ≤ T0) :
    cellSet E t c w = c := by
  obtain ⟨x, rfl, hx⟩ := live_of_cellGet hl
  rw [cellSet_some, if_pos (hx.imp_right (Int.le_trans ht))]

theorem cellSet_of_get_none (e now v : Int) (c : Cell) (h : cellGet now c = none) :
    cellSet e now c v = some (v, defaultExp e now) := by
  cases c with
  | none => rfl
  | some p =>
    rw [cellGet_some] at h
    rw [cellSet_some]
    split at h
    · cases h
    · rename_i hl; exact if_neg hl

end GoguVerif.Lemmas.CacheCell
