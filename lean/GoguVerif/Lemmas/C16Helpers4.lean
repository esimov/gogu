import GoguVerif.Model.StoreHelpers4
import GoguVerif.Lemmas.C16Helpers
import GoguVerif.Model.C13
import GoguVerif.Lemmas.C14
/-!
# Lemmas for the fourth batch of store-level helper models (C16)

`Flatten` / `Union`: one simulation `FlatSim` of the value-level `baseFlatten` by the store-level one, under the builder
invariant, for C12's copy of the nested type (`vals12`), carried over to C11's copy (`vals11`) by `baseFlatten11_eq12`.
`Range`: both counting loops are instances of `countLoop_eq`; `rangeStore_eq` says that the whole store function answers
`liftOut σ` of the value-level answer.  `Keys` / `Values` / `MapCollection` are fillers (`filler_spec` through
`writeAll`); `Pluck` appends; `FindAll` and `SliceToMap` only read their slices.
-/
namespace GoguVerif.Lemmas.C16Helpers4
open Model.Store Model.StoreHelpers Model.StoreHelpers3 Model.StoreHelpers4 Lemmas.C16Helpers

mutual
/-- the value the `any` argument shows in store `σ`, for `Model.C12.flatten` -/
def vals12 (σ : Store) : SNested → Model.C12.Nested Int
  | .leaf v => .leaf v
  | .slice s => .slice (elems σ s)
  | .list vs => .list (vals12List σ vs)
  | .bad => .bad
def vals12List (σ : Store) : List SNested → List (Model.C12.Nested Int)
  | [] => []
  | v :: vs => vals12 σ v :: vals12List σ vs
end

mutual
/-- the same value as a `Spec.C11.Nested`, for `Model.C11.union` -/
def vals11 (σ : Store) : SNested → Spec.C11.Nested Int
  | .leaf v => .leaf v
  | .slice s => .slice (elems σ s)
  | .list vs => .list (vals11List σ vs)
  | .bad => .bad
def vals11List (σ : Store) : List SNested → List (Spec.C11.Nested Int)
  | [] => []
  | v :: vs => vals11 σ v :: vals11List σ vs
end

/-- the store-level run `r` simulates the value-level answer `o` (an error is an error; a result is a
result showing the same elements, with the builder invariant kept).  `Sim` of `Lemmas/C16Helpers.lean` has a
`Model.C12.Outcome` on the value side; `Model.C12.baseFlatten` answers an `Option`. -/
def FlatSim (σ0 : Store) (o : Option (List Int)) (r : Option (Store × Slice)) : Prop :=
  match o with
  | none => r = none
  | some l => ∃ σ' acc', r = some (σ', acc') ∧ Inv σ0 σ' acc' ∧ elems σ' acc' = l

theorem FlatSim.elim {σ0 : Store} {o : Option (List Int)} {r : Option (Store × Slice)} (h : FlatSim σ0 o r) :
    (o = none ∧ r = none) ∨
    ∃ l σ' acc', o = some l ∧ r = some (σ', acc') ∧ Inv σ0 σ' acc' ∧ elems σ' acc' = l := by
  cases o with
  | none => exact Or.inl ⟨rfl, h⟩
  | some l =>
    obtain ⟨σ', acc', e, hinv, he⟩ := h
    exact Or.inr ⟨l, σ', acc', rfl, e, hinv, he⟩

mutual
theorem baseFlattenStore_sim12 {σ0 : Store} : (n : SNested) → (σ : Store) → (acc : Slice) →
    SNested.WFAll σ0 n → Inv σ0 σ acc →
    FlatSim σ0 (Model.C12.baseFlatten (elems σ acc) (vals12 σ0 n)) (baseFlattenStore σ acc n)
  | .leaf v, σ, acc, _, hinv => by
    simp only [vals12, Model.C12.baseFlatten, baseFlattenStore, FlatSim]
    exact ⟨_, _, rfl, hinv.append v, (AppendPost.single hinv.wf v).elems⟩
  | .slice s, σ, acc, hw, hinv => by
    simp only [vals12, Model.C12.baseFlatten, baseFlattenStore, FlatSim]
    have hw' : WF σ0 s := by simpa [SNested.WFAll] using hw
    exact ⟨_, _, rfl, hinv.appendMany hw'⟩
  | .bad, σ, acc, _, _ => by
    simp only [vals12, Model.C12.baseFlatten, baseFlattenStore, FlatSim]
  | .list vs, σ, acc, hw, hinv => by
    simp only [vals12, Model.C12.baseFlatten, baseFlattenStore]
    exact flattenRangeStore_sim12 vs σ acc (by simpa [SNested.WFAll] using hw) hinv
theorem flattenRangeStore_sim12 {σ0 : Store} : (vs : List SNested) → (σ : Store) → (acc : Slice) →
    SNested.WFList σ0 vs → Inv σ0 σ acc →
    FlatSim σ0 (Model.C12.flattenRange (elems σ acc) (vals12List σ0 vs)) (flattenRangeStore σ acc vs)
  | [], σ, acc, _, hinv => by
    simp only [vals12List, Model.C12.flattenRange, flattenRangeStore, FlatSim]
    exact ⟨_, _, rfl, hinv, rfl⟩
  | v :: rest, σ, acc, hw, hinv => by
    have hw' : SNested.WFAll σ0 v ∧ SNested.WFList σ0 rest := by simpa [SNested.WFList] using hw
    rcases (baseFlattenStore_sim12 v σ acc hw'.1 hinv).elim with ⟨h1, h2⟩ | ⟨l, σ', acc', h1, h2, hinv', he⟩
    · simp only [vals12List, Model.C12.flattenRange, flattenRangeStore, h1, h2, FlatSim]
    · simp only [vals12List, Model.C12.flattenRange, flattenRangeStore, h1, h2]
      exact he ▸ flattenRangeStore_sim12 rest σ' acc' hw'.2 hinv'
end

/-- C11's `baseFlatten` (for `Union`) and C12's (for `Flatten`) are the same function on two copies of one type -/
theorem baseFlatten11_eq12 (σ0 : Store) : (n : SNested) → (acc : List Int) →
    Model.C11.baseFlatten acc (vals11 σ0 n) = Model.C12.baseFlatten acc (vals12 σ0 n)
  | .leaf _, _ | .slice _, _ | .bad, _ => by simp only [vals11, vals12, Model.C11.baseFlatten, Model.C12.baseFlatten]
  | .list vs, acc => by
    simp only [vals11, vals12, Model.C11.baseFlatten, Model.C12.baseFlatten]
    exact flattenLoop11_eq12 σ0 vs acc
where
  flattenLoop11_eq12 (σ0 : Store) : (vs : List SNested) → (acc : List Int) →
      Model.C11.flattenLoop acc (vals11List σ0 vs) = Model.C12.flattenRange acc (vals12List σ0 vs)
    | [], _ => by simp only [vals11List, vals12List, Model.C11.flattenLoop, Model.C12.flattenRange]
    | v :: rest, acc => by
      simp only [vals11List, vals12List, Model.C11.flattenLoop, Model.C12.flattenRange, baseFlatten11_eq12 σ0 v acc]
      cases Model.C12.baseFlatten acc (vals12 σ0 v) with
      | none => rfl
      | some acc' => exact flattenLoop11_eq12 σ0 rest acc'

theorem baseFlattenStore_sim11 {σ0 : Store} : (n : SNested) → (σ : Store) → (acc : Slice) →
    SNested.WFAll σ0 n → Inv σ0 σ acc →
    FlatSim σ0 (Model.C11.baseFlatten (elems σ acc) (vals11 σ0 n)) (baseFlattenStore σ acc n) :=
  fun n σ acc hw hinv => by rw [baseFlatten11_eq12]; exact baseFlattenStore_sim12 n σ acc hw hinv

theorem flattenRangeStore_sim11 {σ0 : Store} : (vs : List SNested) → (σ : Store) → (acc : Slice) →
    SNested.WFList σ0 vs → Inv σ0 σ acc →
    FlatSim σ0 (Model.C11.flattenLoop (elems σ acc) (vals11List σ0 vs)) (flattenRangeStore σ acc vs) :=
  fun vs σ acc hw hinv => by
    rw [baseFlatten11_eq12.flattenLoop11_eq12]; exact flattenRangeStore_sim12 vs σ acc hw hinv

/-- what the store-level call answers when the value-level model answers `o`: `make([]T, 0, 0)` + one
`append` per element of the answer -/
def liftOut (σ : Store) : Spec.C13.Out (List Int) → Res (Store × Slice)
  | .ok l => .ok (appendEach (alloc σ 0 0).1 (alloc σ 0 0).2 l)
  | .err => .err
  | .panic => .panic
  | .hang => .hang

def toOpt {α : Type} : Model.C14.Outcome α → Option α
  | .ok a => some a
  | .panic => none

/-- a counting loop with fuel whose body is `result = append(result, i)`, given by its equations at store level (`L`)
and at value level (`V`): both run out of fuel together, or the store loop is `appendEach` of what the value loop adds -/
theorem countLoop_eq {p : Int → Prop} [DecidablePred p] {next : Int → Int}
    {L : Nat → Int → Store → Slice → Option (Store × Slice)} {V : Nat → Int → List Int → Spec.C13.Out (List Int)}
    (L0 : ∀ i σ res, L 0 i σ res = none)
    (Ls : ∀ f i σ res, L (f + 1) i σ res =
      if p i then L f (next i) (append σ res i).1 (append σ res i).2 else some (σ, res))
    (V0 : ∀ i acc, V 0 i acc = .hang)
    (Vs : ∀ f i acc, V (f + 1) i acc = if p i then V f (next i) (acc ++ [i]) else .ok acc)
    (f : Nat) (i : Int) (σ : Store) (res : Slice) (acc : List Int) :
    (V f i acc = .hang ∧ L f i σ res = none) ∨
    ∃ ws, V f i acc = .ok (acc ++ ws) ∧ L f i σ res = some (appendEach σ res ws) := by
  induction f generalizing i σ res acc with
  | zero => exact Or.inl ⟨V0 .., L0 ..⟩
  | succ f ih =>
    rw [Ls, Vs]
    by_cases hi : p i
    · rw [if_pos hi, if_pos hi]
      rcases ih (next i) (append σ res i).1 (append σ res i).2 (acc ++ [i]) with h | ⟨ws, h1, h2⟩
      · exact Or.inl h
      · exact Or.inr ⟨i :: ws, by rw [h1, List.append_assoc]; rfl, h2⟩
    · rw [if_neg hi, if_neg hi]
      exact Or.inr ⟨[], by rw [List.append_nil], rfl⟩

theorem rangeUpLoop_eq (step e : Int) (f : Nat) (i : Int) (σ : Store) (res : Slice) (acc : List Int) :
    (Model.C13.rangeUp f i step e acc = .hang ∧ rangeUpLoop f i step e σ res = none) ∨
    ∃ ws, Model.C13.rangeUp f i step e acc = .ok (acc ++ ws) ∧
      rangeUpLoop f i step e σ res = some (appendEach σ res ws) :=
  countLoop_eq (p := (· < e)) (next := (· + step)) (L := fun f i => rangeUpLoop f i step e)
    (V := fun f i => Model.C13.rangeUp f i step e) (fun _ _ _ => rfl) (fun _ _ _ _ => rfl) (fun _ _ => rfl)
    (fun _ _ _ => rfl) f i σ res acc

/-- the step of the store loop is `Model.StoreHelpers.abs step`, that of the value loop `Model.C13.Abs step`: the same
text, so the equation `Ls` below holds by `rfl` (`abs_eq`) -/
theorem rangeDownLoop_eq (step e : Int) (f : Nat) (i : Int) (σ : Store) (res : Slice) (acc : List Int) :
    (Model.C13.rangeDown f i step e acc = .hang ∧ rangeDownLoop f i step e σ res = none) ∨
    ∃ ws, Model.C13.rangeDown f i step e acc = .ok (acc ++ ws) ∧
      rangeDownLoop f i step e σ res = some (appendEach σ res ws) :=
  countLoop_eq (p := (e < ·)) (next := (· - Model.C13.Abs step)) (L := fun f i => rangeDownLoop f i step e)
    (V := fun f i => Model.C13.rangeDown f i step e) (fun _ _ _ => rfl) (fun _ _ _ _ => rfl) (fun _ _ => rfl)
    (fun _ _ _ => rfl) f i σ res acc

/-- `math.go: Abs` is written out once per model that needs it (`Model.C12`, `Model.C13`, `Model.C15`,
`Model.StoreHelpers`); the copies unfold to each other -/
theorem abs_eq (x : Int) : Model.StoreHelpers.abs x = Model.C13.Abs x := rfl

theorem rangeLoopsStore_eq (σ : Store) (start step e : Int) :
    (match (if e > 0 then rangeUpLoop (Model.StoreHelpers4.rangeFuel start e) start step e (alloc σ 0 0).1 (alloc σ 0 0).2
            else rangeDownLoop (Model.StoreHelpers4.rangeFuel start e) start step e (alloc σ 0 0).1 (alloc σ 0 0).2) with
      | some q => Res.ok q
      | none => Res.hang) = liftOut σ (Model.C13.rangeLoops start step e) := by
  unfold Model.C13.rangeLoops
  have hf : Model.StoreHelpers4.rangeFuel start e = Model.C13.rangeFuel start e := rfl
  rw [hf]
  by_cases he : e > 0
  · simp only [he, if_true]
    rcases rangeUpLoop_eq step e (Model.C13.rangeFuel start e) start (alloc σ 0 0).1 (alloc σ 0 0).2 [] with
      ⟨h1, h2⟩ | ⟨ws, h1, h2⟩
    · rw [h1, h2]; rfl
    · rw [h1, h2]; rfl
  · simp only [he, if_false]
    rcases rangeDownLoop_eq step e (Model.C13.rangeFuel start e) start (alloc σ 0 0).1 (alloc σ 0 0).2 [] with
      ⟨h1, h2⟩ | ⟨ws, h1, h2⟩
    · rw [h1, h2]; rfl
    · rw [h1, h2]; rfl

theorem rangeStore_eq (σ : Store) (args : Slice) (h : WF σ args) :
    rangeStore σ args = liftOut σ (Model.C13.Range (elems σ args)) := by
  have hrd : ∀ i, Model.Store.read (alloc σ 0 0).1 args i = (elems σ args)[i]? := fun i => by
    rw [read_eq, Frame.elems_eq (alloc_frame σ 0 0) h]
  unfold rangeStore rangeArgs Model.C13.Range
  -- once the reads are lookups in the list shown, both sides are functions of that list: they are compared on its shapes
  simp only [hrd, ← elems_length h]
  generalize elems σ args = l
  match l with
  | [] => exact rangeLoopsStore_eq σ 0 0 0
  | [e] => exact rangeLoopsStore_eq σ 0 1 e
  | [s, e] => exact rangeLoopsStore_eq σ s 1 e
  | [s, st, e] =>
    show (match (if s > e ∧ e > 0 then Res.err else if st = 0 then Res.err else if st < 0 ∧ e > s then Res.err
      else Res.ok (s, st, e)) with
      | .ok (start, step, end_) => _ | .err => Res.err | .panic => Res.panic | .hang => Res.hang) =
      liftOut σ (if s > e ∧ e > 0 then .err else if st = 0 then .err else if st < 0 ∧ e > s then .err
        else Model.C13.rangeLoops s st e)
    by_cases c1 : s > e ∧ e > 0
    · rw [if_pos c1, if_pos c1]; rfl
    rw [if_neg c1, if_neg c1]
    by_cases c2 : st = 0
    · rw [if_pos c2, if_pos c2]; rfl
    rw [if_neg c2, if_neg c2]
    by_cases c3 : st < 0 ∧ e > s
    · rw [if_pos c3, if_pos c3]; rfl
    rw [if_neg c3, if_neg c3]
    exact rangeLoopsStore_eq σ s st e
  | _ :: _ :: _ :: _ :: _ => rfl

theorem mapFillLoop_eq_writeAll (g : Int → Int → Int) (res : Slice) (l : List (Int × Int)) (idx : Nat) (σ : Store) :
    mapFillLoop g res l idx σ = writeAll σ res idx (l.map (fun e => g e.1 e.2)) := by
  induction l generalizing idx σ with
  | nil => rfl
  | cons e rest ih =>
    obtain ⟨k, v⟩ := e
    simp only [mapFillLoop, List.map_cons, writeAll]
    cases write σ res idx (g k v) with
    | none => rfl
    | some σ' => exact ih (idx + 1) σ'

/-- the common body of `Keys` / `Values` / `MapCollection` -/
theorem mapFillStoreIn_spec (g : Int → Int → Int) (order : List (Int × Int) → List (Int × Int)) (σ : Store)
    (μ : MStore) (m : Nat) (hlen : (order (mget μ m)).length = (mget μ m).length) (regs : List Slice) :
    ∃ σ' res, mapFillStoreIn g order σ μ m = some (σ', res) ∧
      elems σ' res = (order (mget μ m)).map (fun e => g e.1 e.2) ∧ Inv σ σ' res ∧
      run σ.length { σ := σ, regs := regs }
        (Instr.alloc (mget μ m).length (mget μ m).length ::
          Theorems.C16Helpers.writesFrom regs.length 0 ((order (mget μ m)).map (fun e => g e.1 e.2))) =
        { σ := σ', regs := regs ++ [res] } := by
  obtain ⟨σ', w, e, hinv, _, hrun⟩ := filler_spec σ (vs := (order (mget μ m)).map (fun e => g e.1 e.2))
    (by rw [List.length_map, hlen])
  exact ⟨σ', _, by simp only [mapFillStoreIn, mapFillLoop_eq_writeAll, w], e, hinv, hrun regs⟩

theorem c14_pluckLoop_acc (key : Int) (ms : List (Model.C14.GoMap Int Int)) (res : List Int) :
    Model.C14.pluckLoop key ms res = res ++ Model.C14.pluckLoop key ms [] := by
  rw [Lemmas.C14.pluckLoop_eq, Lemmas.C14.pluckLoop_eq key ms []]
  simp

theorem pluckLoopS_eq (μ : MStore) (key : Int) (ms : List Nat) (σ : Store) (res : Slice) :
    pluckLoopS μ key ms σ res = appendEach σ res (Model.C14.pluckLoop key (ms.map (mget μ)) []) := by
  induction ms generalizing σ res with
  | nil => rfl
  | cons m rest ih =>
    simp only [pluckLoopS, List.map_cons, Model.C14.pluckLoop]
    cases hg : Model.C14.get? (Model.C14.FindByKey (fun k => decide (k = key)) (mget μ m)) key with
    | some x =>
      simp only []
      rw [ih, c14_pluckLoop_acc key _ ([] ++ _)]
      rfl
    | none => exact ih σ res

/-- the map under construction holds keys below the index `k` only, so `m[k] = v` adds a new entry at the end
(`put_of_not_mem`), which is what `Model.C13.findAllLoop` does -/
theorem findAllLoopS_eq (fn : Int → Bool) {σ : Store} {s : Slice} (h : WF σ s) :
    findAllLoopS fn σ s s.len 0 [] = some (Model.C13.FindAll (elems σ s) fn) :=
  range_loop h
    (motive := fun n k l => ∀ m : List (Int × Int), (∀ e ∈ m, e.1 < (k : Int)) →
      findAllLoopS fn σ s n k m = some (Model.C13.findAllLoop fn l k m))
    (fun _ _ _ => rfl)
    (fun n k v l hr ih m hm => by
      simp only [findAllLoopS, hr σ (Frame.refl σ), Model.C13.findAllLoop]
      split
      · rw [Lemmas.C14.put_of_not_mem v (fun hk => by
          obtain ⟨e, he, hek⟩ := List.mem_map.mp hk
          exact Int.lt_irrefl _ (hek ▸ hm e he))]
        refine ih _ (fun e he => ?_)
        simp only [List.mem_append, List.mem_singleton] at he
        rcases he with he | rfl
        · have := hm e he; omega
        · simp only; omega
      · exact ih m (fun e he => by have := hm e he; omega)) [] (fun _ he => nomatch he)

theorem sliceToMapLoopS_eq {σ : Store} {s1 s2 : Slice} (n i : Nat) (r : List (Int × Int)) :
    sliceToMapLoopS σ s1 s2 n i r = toOpt (Model.C14.sliceToMapLoop (elems σ s1) (elems σ s2) n i r) := by
  induction n generalizing i r with
  | zero => rfl
  | succ n ih =>
    simp only [sliceToMapLoopS, Model.C14.sliceToMapLoop, read_eq]
    cases (elems σ s1)[i]? <;> cases (elems σ s2)[i]? <;> first | rfl | exact ih _ _

end GoguVerif.Lemmas.C16Helpers4
