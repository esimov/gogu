import GoguVerif.Lemmas.C07
import GoguVerif.Lemmas.C07Ptr
/-!
# C07 — the pointer-level layer simulates the abstract-list layer

The representation relation `Rep` and the simulation.  The declarations are in namespace `Lemmas.C07Ptr`,
with the pointer-level lemmas they build on.
-/
namespace GoguVerif.Lemmas.C07Ptr
open Model.LruPtr
open GoguVerif.Spec.C07 (Op find del)
open GoguVerif.Model.Lru (St Ret)
open GoguVerif.Lemmas.C07 (keys)

/-- `p` (pointer level) represents `c` (abstract list); `as` = addresses of the linked nodes, front first. -/
structure Rep (p : PSt) (c : St) (as : List Nat) : Prop where
  size : p.size = c.size
  nodup : (0 :: as).Nodup
  chain : Chain p.evictList.heap as
  /-- node by node, the keys and values are the entries of the abstract list -/
  cells : as.map (kvOf p.evictList.heap) = c.list.map some
  len : p.evictList.len = (as.length : Int)
  /-- the map sends a key to the linked node that holds it, and to nothing else -/
  items : ∀ k a, p.items.lookup k = some a ↔
    a ∈ as ∧ (kvOf p.evictList.heap a).map (·.1) = some k
  /-- the abstract key set is the domain of the map -/
  citems : ∀ k, k ∈ c.items ↔ ∃ a, p.items.lookup k = some a

theorem rep_empty {ps cs : Int} (h : ps = cs) :
    Rep { items := [], evictList := newLRUList, size := ps } { size := cs, items := [], list := [] } [] :=
  ⟨h, List.nodup_cons.mpr ⟨List.not_mem_nil, List.nodup_nil⟩, ⟨⟨rfl, rfl⟩, trivial⟩, rfl, rfl,
    fun _ _ => ⟨fun h => (nomatch h), fun h => (nomatch h.1)⟩,
    fun _ => ⟨fun h => (nomatch h), fun ⟨_, h⟩ => (nomatch h)⟩⟩

theorem cells_length {kv : Nat → Option (Int × Int)} {as : List Nat} {l : List (Int × Int)}
    (h : as.map kv = l.map some) : l.length = as.length := by
  have := congrArg List.length h
  simpa using this.symm

theorem split_cells {kv : Nat → Option (Int × Int)} {pre post : List Nat} {a : Nat}
    {l : List (Int × Int)} (h : (pre ++ a :: post).map kv = l.map some) :
    ∃ lpre e lpost, l = lpre ++ e :: lpost ∧ pre.map kv = lpre.map some ∧ kv a = some e ∧
      post.map kv = lpost.map some := by
  rw [List.map_append, List.map_cons] at h
  obtain ⟨l1, l2, rfl, h1, h2⟩ := List.map_eq_append_iff.mp h.symm
  obtain ⟨e, l3, rfl, h3, h4⟩ := List.map_eq_cons_iff.mp h2
  exact ⟨l1, e, l3, rfl, h1.symm, h3.symm, h4.symm⟩

theorem mem_keys_of_cells {kv : Nat → Option (Int × Int)} {as : List Nat} {l : List (Int × Int)}
    (h : as.map kv = l.map some) {a : Nat} (ha : a ∈ as) {k : Int}
    (hk : (kv a).map (·.1) = some k) : k ∈ keys l := by
  obtain ⟨pre, post, rfl⟩ := List.append_of_mem ha
  obtain ⟨lpre, e, lpost, rfl, _, h2, _⟩ := split_cells h
  rw [h2] at hk
  rw [← Option.some.inj hk, C07.keys_append]
  exact List.mem_append_right _ (List.mem_cons_self ..)

theorem mem_cells {kv : Nat → Option (Int × Int)} {as : List Nat} {l : List (Int × Int)}
    (h : as.map kv = l.map some) {e : Int × Int} (he : e ∈ l) : ∃ a ∈ as, kv a = some e :=
  List.mem_map.mp (h ▸ List.mem_map_of_mem he)

theorem nodup_keys_of_cells {kv : Nat → Option (Int × Int)} {as : List Nat} {l : List (Int × Int)}
    (h : as.map kv = l.map some) (hnd : as.Nodup)
    (hinj : ∀ a ∈ as, ∀ b ∈ as, ∀ k, (kv a).map (·.1) = some k → (kv b).map (·.1) = some k → a = b) :
    (keys l).Nodup := by
  induction as generalizing l with
  | nil =>
    cases l with
    | nil => exact List.nodup_nil
    | cons e r => cases h
  | cons a as ih =>
    cases l with
    | nil => cases h
    | cons e r =>
      rw [List.map_cons, List.map_cons, List.cons.injEq] at h
      obtain ⟨ha, hnd'⟩ := List.nodup_cons.mp hnd
      rw [C07.keys_cons]
      refine List.nodup_cons.mpr ⟨fun m => ?_, ih h.2 hnd' fun x hx y hy =>
        hinj x (List.mem_cons_of_mem _ hx) y (List.mem_cons_of_mem _ hy)⟩
      -- another entry with the key of `e` sits in a node `b` of the tail
      obtain ⟨e', he', hk⟩ := List.mem_map.mp m
      obtain ⟨b, hb, hkv⟩ := mem_cells h.2 he'
      have hab := hinj a (List.mem_cons_self ..) b (List.mem_cons_of_mem _ hb) e.1
        (by rw [h.1]; rfl) (by rw [hkv]; exact congrArg some hk)
      exact ha (hab ▸ hb)

theorem lookup_mapDelete (k k0 : Int) (items : List (Int × Nat)) :
    (mapDelete k0 items).lookup k = if k = k0 then none else items.lookup k := by
  induction items with
  | nil => exact (ite_self _).symm
  | cons x r ih =>
    obtain ⟨xk, xa⟩ := x
    have e : mapDelete k0 ((xk, xa) :: r) = if xk = k0 then mapDelete k0 r else (xk, xa) :: mapDelete k0 r := by
      simp only [mapDelete, List.filter_cons, Bool.not_eq_true', beq_eq_false_iff_ne, ne_eq, ite_not]
    rw [e]
    by_cases h1 : xk = k0
    · rw [if_pos h1, ih, List.lookup_cons]
      split
      · rfl
      · next h2 => rw [beq_eq_false_iff_ne.mpr (h1 ▸ h2)]
    · rw [if_neg h1, List.lookup_cons, List.lookup_cons, ih]
      by_cases h3 : k = xk
      · subst h3; rw [beq_self_eq_true, if_neg h1, if_neg h1]
      · rw [beq_eq_false_iff_ne.mpr h3]

theorem lookup_mapSet (k key : Int) (a : Nat) (items : List (Int × Nat)) :
    (mapSet key a items).lookup k = if k = key then some a else items.lookup k := by
  rw [mapSet, List.lookup_cons]
  by_cases h : k = key
  · rw [if_pos h, beq_iff_eq.mpr h]
  · rw [if_neg h, beq_eq_false_iff_ne.mpr h]

theorem count_eq {p : PSt} {c : St} {as : List Nat} (hr : Rep p c as) :
    Model.LruPtr.count p = Model.Lru.count c := by
  simp only [Model.LruPtr.count, Model.Lru.count, Model.Lru.length, hr.len, cells_length hr.cells]

variable {p : PSt} {c : St} {as : List Nat}

/-- The abstract state of a represented pair is well formed: the map sends a key to one address, so no
two linked nodes hold the same key, and its domain is the keys of the linked nodes. -/
theorem Rep.wf (hr : Rep p c as) : C07.Wf c := by
  refine ⟨nodup_keys_of_cells hr.cells (List.nodup_cons.mp hr.nodup).2 fun a ha b hb k h1 h2 =>
    Option.some.inj (((hr.items k a).mpr ⟨ha, h1⟩).symm.trans ((hr.items k b).mpr ⟨hb, h2⟩)), fun k => ?_⟩
  rw [hr.citems]
  constructor
  · rintro ⟨a, h⟩
    obtain ⟨ha, hk⟩ := (hr.items k a).mp h
    exact mem_keys_of_cells hr.cells ha hk
  · intro m
    obtain ⟨e, he, rfl⟩ := List.mem_map.mp m
    obtain ⟨a, ha, hkv⟩ := mem_cells hr.cells he
    exact ⟨a, (hr.items _ a).mpr ⟨ha, by rw [hkv]; rfl⟩⟩

/-! The two layers meet in the entries: a linked node `a` holds an entry `e` (`kvOf … a = some e`), and the abstract
list finds `e.2` under `e.1`.  What `moveFront` and `remove` of `a` do is, on the abstract list, what the
specification's `del e.1` does; where `a` stood among the addresses does not show. -/

/-- `moveFront` of a linked node, on both layers. -/
theorem rep_touch {a : Nat} {e : Int × Int} (hr : Rep p c as) (ha : a ∈ as)
    (he : kvOf p.evictList.heap a = some e) :
    ∃ l' as', find e.1 c.list = some e.2 ∧
      moveFront p.evictList a = some l' ∧ kvOf l'.heap = kvOf p.evictList.heap ∧
      Rep { p with evictList := l' } { c with list := e :: del e.1 c.list } (a :: as') := by
  obtain ⟨pre, post, rfl⟩ := List.append_of_mem ha
  obtain ⟨lpre, e', lpost, hl, h1, h2, h3⟩ := split_cells hr.cells
  obtain rfl : e = e' := Option.some.inj (he.symm.trans h2)
  obtain ⟨hf, hd⟩ := C07.find_del_mid (hl ▸ hr.wf.nodup)
  rw [← hl] at hf hd
  obtain ⟨l', hm, hc', hkv, hlen⟩ := moveFront_spec hr.nodup hr.chain
  have hnd := hr.nodup
  refine ⟨l', pre ++ post, hf, hm, hkv,
    { size := hr.size, chain := hc', citems := hr.citems, nodup := ?_, cells := ?_, len := ?_,
      items := fun k b => ?_ }⟩
  · exact (List.Perm.swap 0 a _).nodup_iff.mp (List.nodup_cons.mpr (nodup_cons_middle hnd))
  · rw [hkv, hd]; simp [h1, h2, h3]
  · rw [hlen, hr.len]; simp; omega
  · rw [hkv, hr.items, List.perm_middle.mem_iff]

/-- Deleting the key of a linked node from the map and unlinking the node, on both layers. -/
theorem rep_delete {a : Nat} {e : Int × Int} (hr : Rep p c as) (ha : a ∈ as)
    (he : kvOf p.evictList.heap a = some e) :
    ∃ l' as', find e.1 c.list = some e.2 ∧
      remove p.evictList a = some (l', true) ∧ kvOf l'.heap = kvOf p.evictList.heap ∧
      Rep { p with items := mapDelete e.1 p.items, evictList := l' }
        { c with items := Model.Lru.mapDelete e.1 c.items, list := del e.1 c.list } as' := by
  obtain ⟨pre, post, rfl⟩ := List.append_of_mem ha
  obtain ⟨lpre, e', lpost, hl, h1, h2, h3⟩ := split_cells hr.cells
  obtain rfl : e = e' := Option.some.inj (he.symm.trans h2)
  have hk : (keys (lpre ++ e :: lpost)).Nodup := hl ▸ hr.wf.nodup
  obtain ⟨n1, n2, -⟩ := ListFacts.nodup_map_middle hk
  obtain ⟨hf, hd⟩ := C07.find_del_mid hk
  rw [← hl] at hf hd
  obtain ⟨l', hm, hc', hkv, hlen⟩ := remove_spec hr.nodup hr.chain
  have hnd := hr.nodup
  refine ⟨l', pre ++ post, hf, hm, hkv,
    { size := hr.size, nodup := (nodup_cons_middle hnd).2, chain := hc', cells := ?_, len := ?_,
      items := fun k b => ?_, citems := fun k => ?_ }⟩
  · rw [hkv, hd]; simp [h1, h3]
  · rw [hlen, hr.len]; simp; omega
  · rw [hkv, lookup_mapDelete]
    split
    · next hke =>
      subst hke
      refine ⟨fun h => (nomatch h), fun ⟨m, hh⟩ => ?_⟩
      rcases List.mem_append.mp m with m | m
      · exact absurd (mem_keys_of_cells h1 m hh) n1
      · exact absurd (mem_keys_of_cells h3 m hh) n2
    · next hke =>
      rw [hr.items, List.perm_middle.mem_iff, List.mem_cons]
      refine ⟨?_, fun ⟨m, h⟩ => ⟨Or.inr m, h⟩⟩
      rintro ⟨rfl | m, h⟩
      · rw [he] at h; exact absurd (Option.some.inj h).symm hke
      · exact ⟨m, h⟩
  · rw [C07.mem_mapDelete, lookup_mapDelete, hr.citems]
    split
    · next hke => exact ⟨fun h => absurd hke h.2, fun ⟨_, h⟩ => (nomatch h)⟩
    · next hke => exact ⟨fun h => h.1, fun h => ⟨h, hke⟩⟩

/-- `addFront` of a key the map does not hold, and the map store, on both layers; `p1`, `c1` name the two
new states so that `Add` can go on with `RemoveOldest` on them. -/
theorem rep_add (hr : Rep p c as) (key value : Int)
    (hnone : p.items.lookup key = none) :
    ∃ l' p1 c1, addFront p.evictList key value = some (l', p.evictList.heap.length) ∧
      p1 = { p with items := mapSet key p.evictList.heap.length p.items, evictList := l' } ∧
      c1 = { c with items := Model.Lru.mapSet key c.items,
                    list := Model.Lru.addFront key value c.list } ∧
      Rep p1 c1 (p.evictList.heap.length :: as) := by
  obtain ⟨l', ha, hfresh, hc', hkv, hlen⟩ := addFront_spec key value hr.nodup hr.chain
  have hfresh' : p.evictList.heap.length ∉ as := fun m => hfresh (List.mem_cons_of_mem _ m)
  have hsame : ∀ a ∈ as, kvOf l'.heap a = kvOf p.evictList.heap a := hkv ▸ upd_of_not_mem _ _ hfresh'
  refine ⟨l', _, _, ha, rfl, rfl,
    { size := hr.size, chain := hc', nodup := ?_, cells := ?_, len := ?_, items := fun k a => ?_,
      citems := fun k => ?_ }⟩
  · have hnd := hr.nodup
    simp only [List.nodup_cons, List.mem_cons, not_or] at hnd hfresh ⊢
    exact ⟨⟨fun e => hfresh.1 e.symm, hnd.1⟩, hfresh.2, hnd.2⟩
  · simp only [List.map_cons, Model.Lru.addFront]
    rw [List.map_congr_left hsame, hr.cells, hkv]; simp
  · rw [hlen, hr.len]; simp
  · rw [lookup_mapSet, List.mem_cons]
    split
    · next hke =>
      subst hke
      constructor
      · rintro ⟨rfl⟩; exact ⟨Or.inl rfl, by rw [hkv, upd_same]; rfl⟩
      · rintro ⟨rfl | m, h⟩
        · rfl
        · rw [hsame a m] at h
          have := (hr.items k a).mpr ⟨m, h⟩
          rw [hnone] at this; cases this
    · next hke =>
      rw [hr.items]
      constructor
      · rintro ⟨m, h⟩; exact ⟨Or.inr m, by rw [hsame a m]; exact h⟩
      · rintro ⟨rfl | m, h⟩
        · rw [hkv, upd_same] at h; exact absurd (Option.some.inj h).symm hke
        · exact ⟨m, by rw [← hsame a m]; exact h⟩
  · show k ∈ key :: c.items ↔ _
    rw [lookup_mapSet, List.mem_cons, hr.citems]
    split
    · next h => exact ⟨fun _ => ⟨_, rfl⟩, fun _ => Or.inl h⟩
    · next h => exact ⟨fun m => m.resolve_left h, Or.inr⟩

/-- `item.value = value` for the front node, on both layers. -/
theorem rep_setVal {a : Nat} {as' : List Nat} {e : Int × Int} {r : List (Int × Int)}
    (hr : Rep p c (a :: as')) (hl : c.list = e :: r) (v : Int) :
    ∃ h', wrVal p.evictList.heap a v = some h' ∧
      Rep { p with evictList := { p.evictList with heap := h' } } { c with list := (e.1, v) :: r } (a :: as') := by
  have hcells := hr.cells
  rw [hl, List.map_cons, List.map_cons, List.cons.injEq] at hcells
  obtain ⟨h', w, kv', nx', pv'⟩ := wrVal_spec v hcells.1
  have hfresh : a ∉ as' := (List.nodup_cons.mp (List.nodup_cons.mp hr.nodup).2).1
  have hsame : ∀ b ∈ as', kvOf h' b = kvOf p.evictList.heap b := kv' ▸ upd_of_not_mem _ _ hfresh
  refine ⟨h', w,
    { size := hr.size, nodup := hr.nodup, len := hr.len, citems := hr.citems, chain := ?_, cells := ?_,
      items := fun k b => ?_ }⟩
  · show LinkedF (nextOf h') (prevOf h') _
    rw [nx', pv']; exact hr.chain
  · rw [List.map_cons, List.map_cons, List.map_congr_left hsame, hcells.2, kv', upd_same]
  · rw [hr.items k b]
    have hkey : (kvOf h' b).map (·.1) = (kvOf p.evictList.heap b).map (·.1) := by
      by_cases hb : b = a
      · subst hb; rw [kv', hcells.1]; simp
      · rw [kv', upd_ne _ _ hb]
    rw [hkey]

theorem Rep.mapHas_of_none (hr : Rep p c as) {k : Int}
    (h : p.items.lookup k = none) : Model.Lru.mapHas k c.items = false :=
  Bool.eq_false_iff.mpr fun hm => by
    obtain ⟨a, ha⟩ := (hr.citems k).mp (C07.mapHas_iff.mp hm)
    rw [h] at ha; cases ha

theorem Rep.of_lookup (hr : Rep p c as) {k : Int} {a : Nat} (h : p.items.lookup k = some a) :
    a ∈ as ∧ ∃ e, kvOf p.evictList.heap a = some e ∧ e.1 = k := by
  obtain ⟨ha, hka⟩ := (hr.items k a).mp h
  exact ⟨ha, Option.map_eq_some_iff.mp hka⟩

/-- `first()` on both layers: the root itself and an empty list, or a linked node and the entry it holds -/
theorem rep_first (hr : Rep p c as) :
    (nextOf p.evictList.heap 0 = some 0 ∧ c.list = []) ∨
    ∃ x e, nextOf p.evictList.heap 0 = some x ∧ x ≠ 0 ∧ x ∈ as ∧ kvOf p.evictList.heap x = some e ∧
      c.list.head? = some e := by
  rcases first_view hr.nodup hr.chain with ⟨rfl, h0⟩ | ⟨x, post, rfl, h0, hx0⟩
  · exact .inl ⟨h0, by simpa using hr.cells.symm⟩
  · obtain ⟨lpre, e, lpost, hl, h1, h2, _⟩ := split_cells (pre := []) hr.cells
    obtain rfl : lpre = [] := by simpa using h1.symm
    exact .inr ⟨x, e, h0, hx0, List.mem_cons_self .., h2, by rw [hl]; rfl⟩

/-- `last()` on both layers -/
theorem rep_last (hr : Rep p c as) :
    (prevOf p.evictList.heap 0 = some 0 ∧ c.list = []) ∨
    ∃ x e, prevOf p.evictList.heap 0 = some x ∧ x ≠ 0 ∧ x ∈ as ∧ kvOf p.evictList.heap x = some e ∧
      c.list.getLast? = some e := by
  rcases last_view hr.nodup hr.chain with ⟨rfl, h0⟩ | ⟨pre, x, rfl, h0, hx0⟩
  · exact .inl ⟨h0, by simpa using hr.cells.symm⟩
  · obtain ⟨lpre, e, lpost, hl, _, h2, h3⟩ := split_cells hr.cells
    obtain rfl : lpost = [] := by simpa using h3.symm
    exact .inr ⟨x, e, h0, hx0, List.mem_append_right _ (List.mem_cons_self ..), h2, by rw [hl]; simp⟩

/-- One call: both layers succeed, return the same tuple, and stay related. -/
def Sim (p : PSt) (c : St) (op : Op) : Prop :=
  ∃ p' c' r as', Model.LruPtr.step p op = .ok p' r ∧ Model.Lru.step c op = .ok c' r ∧ Rep p' c' as'

/-! In each `sim_*` the pointer side follows the reads and writes named by the hypotheses; the list side runs on
what `Wf` makes of it: `mapHas` is `find … |>.isSome`, `unlink` and `moveFront` are `find` and `del`. -/

theorem sim_getYoungest (hr : Rep p c as) : Sim p c .getYoungest := by
  rcases rep_first hr with ⟨h0, hl⟩ | ⟨x, e, h0, hx0, _, he, hfirst⟩
  · refine ⟨p, c, .kvb 0 0 false, as, ?_, ?_, hr⟩
    · simp [Model.LruPtr.step, Model.LruPtr.getYoungest, Model.LruPtr.first, root, h0]
    · simp [Model.Lru.step, Model.Lru.getYoungest, Model.Lru.first, hl]
  · refine ⟨p, c, .kvb e.1 e.2 true, as, ?_, ?_, hr⟩
    · simp [Model.LruPtr.step, Model.LruPtr.getYoungest, Model.LruPtr.first, root, h0, hx0,
        keyOf_eq, valOf_eq, he]
    · simp [Model.Lru.step, Model.Lru.getYoungest, Model.Lru.first, hfirst]

theorem sim_removeYoungest (hr : Rep p c as) : Sim p c .removeYoungest := by
  rcases rep_first hr with ⟨h0, hl⟩ | ⟨x, e, h0, hx0, hx, he, hfirst⟩
  · refine ⟨p, c, .kvb 0 0 false, as, ?_, ?_, hr⟩
    · simp [Model.LruPtr.step, Model.LruPtr.removeYoungest, Model.LruPtr.first, root, h0]
    · simp [Model.Lru.step, Model.Lru.removeYoungest, Model.Lru.first, hl]
  · obtain ⟨l', as', hf, hrm, _, hr'⟩ := rep_delete hr hx he
    refine ⟨_, _, .kvb e.1 e.2 true, _, ?_, ?_, hr'⟩
    · simp [Model.LruPtr.step, Model.LruPtr.removeYoungest, Model.LruPtr.first, root, h0, hx0,
        keyOf_eq, valOf_eq, he, hrm]
    · simp [Model.Lru.step, Model.Lru.removeYoungest, Model.Lru.first, Model.Lru.remove, hfirst,
        C07.unlink_eq hr.wf.nodup, hf]

theorem sim_removeOldest (hr : Rep p c as) : Sim p c .removeOldest := by
  rcases rep_last hr with ⟨h0, hl⟩ | ⟨x, e, h0, hx0, hx, he, hlast⟩
  · refine ⟨p, c, .kvb 0 0 false, as, ?_, ?_, hr⟩
    · simp [Model.LruPtr.step, Model.LruPtr.removeOldest, Model.LruPtr.last, root, h0]
    · simp [Model.Lru.step, Model.Lru.removeOldest, Model.Lru.last, hl]
  · obtain ⟨l', as', hf, hrm, _, hr'⟩ := rep_delete hr hx he
    refine ⟨_, _, .kvb e.1 e.2 true, _, ?_, ?_, hr'⟩
    · simp [Model.LruPtr.step, Model.LruPtr.removeOldest, Model.LruPtr.removeLast,
        Model.LruPtr.last, root, h0, hx0, keyOf_eq, valOf_eq, he, hrm]
    · simp [Model.Lru.step, Model.Lru.removeOldest, Model.Lru.removeLast, Model.Lru.last,
        Model.Lru.remove, hlast, C07.unlink_eq hr.wf.nodup, hf]

theorem sim_remove (hr : Rep p c as) (k : Int) : Sim p c (.remove k) := by
  cases hlk : p.items.lookup k with
  | none =>
    refine ⟨p, c, .vb 0 false, as, ?_, ?_, hr⟩
    · simp [Model.LruPtr.step, Model.LruPtr.removeKey, Model.LruPtr.mapGet, hlk]
    · simp [Model.Lru.step, Model.Lru.removeKey, hr.mapHas_of_none hlk]
  | some a =>
    obtain ⟨ha, e, he, rfl⟩ := hr.of_lookup hlk
    obtain ⟨l', as', hf, hrm, hkv, hr'⟩ := rep_delete hr ha he
    refine ⟨_, _, .vb e.2 true, _, ?_, ?_, hr'⟩
    · simp [Model.LruPtr.step, Model.LruPtr.removeKey, Model.LruPtr.mapGet, hlk, keyOf_eq,
        valOf_eq, he, hrm, hkv]
    · simp [Model.Lru.step, Model.Lru.removeKey, Model.Lru.remove, hr.wf.mapHas,
        C07.unlink_eq hr.wf.nodup, hf]

theorem sim_get (hr : Rep p c as) (k : Int) : Sim p c (.get k) := by
  cases hlk : p.items.lookup k with
  | none =>
    refine ⟨p, c, .vb 0 false, as, ?_, ?_, hr⟩
    · simp [Model.LruPtr.step, Model.LruPtr.get, Model.LruPtr.mapGet, hlk]
    · simp [Model.Lru.step, Model.Lru.get, hr.mapHas_of_none hlk]
  | some a =>
    obtain ⟨ha, e, he, rfl⟩ := hr.of_lookup hlk
    obtain ⟨l', as', hf, hmv, hkv, hr'⟩ := rep_touch hr ha he
    refine ⟨_, _, .vb e.2 true, _, ?_, ?_, hr'⟩
    · simp [Model.LruPtr.step, Model.LruPtr.get, Model.LruPtr.mapGet, hlk, valOf_eq, he, hmv, hkv]
    · simp [Model.Lru.step, Model.Lru.get, hr.wf.mapHas, C07.moveFront_eq hr.wf.nodup, hf]

theorem sim_getOldest (hr : Rep p c as) : Sim p c .getOldest := by
  rcases rep_last hr with ⟨h0, hl⟩ | ⟨x, e, h0, hx0, hx, he, hlast⟩
  · refine ⟨p, c, .kvb 0 0 false, as, ?_, ?_, hr⟩
    · simp [Model.LruPtr.step, Model.LruPtr.getOldest, Model.LruPtr.last, root, h0]
    · simp [Model.Lru.step, Model.Lru.getOldest, Model.Lru.last, hl]
  · obtain ⟨l', as', hf, hmv, hkv, hr'⟩ := rep_touch hr hx he
    refine ⟨_, _, .kvb e.1 e.2 true, _, ?_, ?_, hr'⟩
    · simp [Model.LruPtr.step, Model.LruPtr.getOldest, Model.LruPtr.last, root, h0, hx0,
        keyOf_eq, valOf_eq, he, hmv, hkv]
    · simp [Model.Lru.step, Model.Lru.getOldest, Model.Lru.last, hlast, C07.moveFront_eq hr.wf.nodup, hf]

theorem sim_add (hr : Rep p c as) (k v : Int) : Sim p c (.add k v) := by
  cases hlk : p.items.lookup k with
  | some a =>
    obtain ⟨ha, e, he, rfl⟩ := hr.of_lookup hlk
    obtain ⟨l', as', hf, hmv, _, hr'⟩ := rep_touch hr ha he
    obtain ⟨h', w, hr''⟩ := rep_setVal hr' rfl v
    refine ⟨_, _, .kvb 0 0 false, _, ?_, ?_, hr''⟩
    · simp [Model.LruPtr.step, Model.LruPtr.add, Model.LruPtr.mapGet, hlk, hmv, w]
    · simp [Model.Lru.step, Model.Lru.add, hr.wf.mapHas, C07.unlink_eq hr.wf.nodup, hf]
  | none =>
    have hm := hr.mapHas_of_none hlk
    obtain ⟨l1, p1, c1, ha, hp1, hc1, hr1⟩ := rep_add hr k v hlk
    have hcount := count_eq hr1
    have hsize := hr1.size
    have e1 : Model.LruPtr.step p (.add k v) =
        if Model.LruPtr.count p1 > p1.size then Model.LruPtr.removeOldest p1
        else .ok p1 (.kvb 0 0 false) := by
      subst hp1
      simp only [Model.LruPtr.step, Model.LruPtr.add, Model.LruPtr.mapGet, hlk, ha]
    have e2 : Model.Lru.step c (.add k v) =
        if Model.Lru.count c1 > c1.size then Model.Lru.removeOldest c1
        else .ok c1 (.kvb 0 0 false) := by
      subst hc1
      simp only [Model.Lru.step, Model.Lru.add, hm, Bool.false_eq_true, if_false]
    rw [Sim, e1, e2, hcount, hsize]
    by_cases hfull : Model.Lru.count c1 > c1.size
    · rw [if_pos hfull, if_pos hfull]
      exact sim_removeOldest hr1
    · rw [if_neg hfull, if_neg hfull]
      exact ⟨p1, c1, .kvb 0 0 false, _, rfl, rfl, hr1⟩

theorem sim_step (hr : Rep p c as) (op : Op) : Sim p c op := by
  cases op with
  | add k v => exact sim_add hr k v
  | get k => exact sim_get hr k
  | getOldest => exact sim_getOldest hr
  | getYoungest => exact sim_getYoungest hr
  | remove k => exact sim_remove hr k
  | removeOldest => exact sim_removeOldest hr
  | removeYoungest => exact sim_removeYoungest hr
  | flush => exact ⟨_, _, .unit, [], rfl, rfl, rep_empty hr.size⟩
  | count => exact ⟨p, c, _, as, rfl, congrArg (Model.Lru.Res.ok c <| .int ·) (count_eq hr).symm, hr⟩

end GoguVerif.Lemmas.C07Ptr
