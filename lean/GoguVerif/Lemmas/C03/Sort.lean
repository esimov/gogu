import GoguVerif.Lemmas.C03.Ops
/-!
# C03: `Sort` (heapsort.go)

Loop invariant at prefix length `m` (`SortInv`): the prefix `[0, m)` is a heap, and
`comp d[a] d[b] = false` for every `a < m ≤ b` and for every `m ≤ a < b`.
-/
namespace GoguVerif.Lemmas.C03
open GoguVerif.Model.Heap GoguVerif.Spec.C03

variable {α : Type}

structure SortInv (comp : Comp α) (d : Array α) (m : Nat) : Prop where
  heap : IsHeap comp d m
  across : ∀ a b, a < m → m ≤ b → Ok comp d a b
  sorted : ∀ a b, m ≤ a → a < b → Ok comp d a b

theorem sortedOpp_of_index {comp : Comp α} (l : List α)
    (h : ∀ a b : Nat, a < b → ∀ x y, l[a]? = some x → l[b]? = some y → comp x y = false) :
    SortedOpp comp l := by
  induction l with
  | nil => trivial
  | cons x r ih =>
    refine ⟨fun y hy => ?_, ih fun a b hab u v hu hv => h (a + 1) (b + 1) (Nat.succ_lt_succ hab) u v hu hv⟩
    obtain ⟨k, hk, rfl⟩ := List.mem_iff_getElem.mp hy
    exact h 0 (k + 1) (Nat.succ_pos _) x _ rfl (List.getElem?_eq_getElem hk)

theorem SortInv.sortedOpp {comp : Comp α} {d : Array α} {m : Nat} (hinv : SortInv comp d m) (h1 : m ≤ 1) :
    SortedOpp comp d.toList := by
  refine sortedOpp_of_index _ fun a b hab x y hx hy => ?_
  rw [Array.getElem?_toList] at hx hy
  by_cases ha : m ≤ a
  · exact hinv.sorted a b ha hab x y hx hy
  · exact hinv.across a b (Nat.lt_of_not_le ha) (Nat.le_trans h1 (Nat.lt_of_le_of_lt (Nat.zero_le a) hab)) x y hx hy

/-- The loop of `Sort`, entered with a prefix of `m` slots (`m = 0` on the empty slice: Go's `heap.Size() - 1` is then
`-1`, the model's `0`, and there is no iteration either way). -/
theorem sortLoop_spec {comp : Comp α} (hc : SWO comp) (m : Nat) (d : Array α)
    (hi : m ≤ d.size) (hinv : SortInv comp d m) :
    ∃ d', sortLoop comp (m - 1) d = .ok d' ∧ SortedOpp comp d'.toList ∧ d'.Perm d := by
  induction m generalizing d with
  | zero => exact ⟨d, rfl, hinv.sortedOpp (Nat.zero_le 1), .refl _⟩
  | succ m ih =>
    cases m with
    | zero => exact ⟨d, rfl, hinv.sortedOpp (Nat.le_refl 1), .refl _⟩
    | succ i =>
      obtain ⟨d1, hs⟩ := exists_swap (d := d) (i := 0) (j := i + 1) (by omega) hi
      have hsz1 := swap_size hs
      obtain ⟨d2, hd2, r⟩ := moveDown_ok comp (n := i + 1) d1 0 (by omega)
      have hsz : d2.size = d.size := r.size.trans hsz1
      -- the root goes behind the prefix, where nothing of the prefix precedes it
      have hlast : d2[i + 1]? = d[0]? := by rw [r.beyond _ (Nat.le_refl _), swap_right hs]
      have hsuf : ∀ b, i + 1 < b → d2[b]? = d[b]? := fun b hb => by
        rw [r.beyond b (Nat.le_of_lt hb), swap_other hs (Nat.ne_of_gt (Nat.lt_of_le_of_lt (Nat.zero_le _) hb))
          (Nat.ne_of_gt hb)]
      -- every prefix slot of d2 holds what some slot `< i + 2` of d held
      have hfrom : ∀ a, a < i + 1 → ∃ a', a' < i + 1 + 1 ∧ d2[a]? = d[a']? := fun a ha => by
        obtain ⟨a', ha', e⟩ := r.inside a ha
        by_cases h0 : a' = 0
        · exact ⟨i + 1, Nat.lt_succ_self _, by rw [e, h0, swap_left hs]⟩
        · exact ⟨a', Nat.lt_succ_of_lt ha', by rw [e, swap_other hs h0 (Nat.ne_of_lt ha')]⟩
      have hroot := IsHeap.ok_root hc hi hinv.heap
      obtain ⟨d3, e3, h3, p3⟩ := ih d2 (hsz ▸ Nat.le_of_lt hi)
        { heap := r.isHeap hc (heapExcept_of_copy hinv.heap (Nat.le_succ _)
            fun s h0 hs' => swap_other hs (Nat.ne_of_gt h0) (Nat.ne_of_lt hs'))
          across := fun a b ha hmb => by
            obtain ⟨a', ha', e⟩ := hfrom a ha
            rcases Nat.eq_or_lt_of_le hmb with rfl | hlt
            · exact .of_eq e hlast (hroot a' ha')
            · exact .of_eq e (hsuf b hlt) (hinv.across a' b ha' hlt)
          sorted := fun a b hma hab => by
            rcases Nat.eq_or_lt_of_le hma with rfl | hlt
            · exact .of_eq hlast (hsuf b hab) (hinv.across 0 b (Nat.succ_pos _) hab)
            · exact .of_eq (hsuf a hlt) (hsuf b (Nat.lt_trans hlt hab)) (hinv.sorted a b hlt hab) }
      refine ⟨d3, ?_, h3, p3.trans (r.perm.trans (swap_perm hs))⟩
      show sortLoop comp (i + 1) d = _
      simp only [sortLoop, hs, hd2]
      exact e3

end GoguVerif.Lemmas.C03
