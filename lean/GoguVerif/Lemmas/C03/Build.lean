import GoguVerif.Lemmas.C03.Ops
/-!
# C03: bottom-up heapify — `Convert` and `FromSlice`

`FromSlice`'s inner loop overwrites the outer loop variable `i`.  State of the outer loop (`fsOuter_inv`): the
variable is `m - 1` and all nodes `≥ j` are roots of heaps, `j ≤ m`.  While `j < m` the iteration at `m - 1`
breaks at once (`FsSifted.stay`: the variable was clobbered by the last sift and walks back down); at `m = j`
it sifts from `j - 1`, which ends at some `i' ≥ j - 1`, and the state becomes `(i', j - 1)`.  An iteration
costs one unit of fuel and `(m - j) + j * len + 1` units are enough; `fsFuel len = len² + 1` covers the
start `m = j = len / 2`.

Cases of `fun_induction fsInner`, in source order: 1 no fuel, 2 break at a leaf, 3 `pick` panics,
4 break, 5 `swap` panics, 6 swap and go on at the child, 7 a read panics.

An `example` directly after a lemma instantiates the lemma's hypotheses on a literal (they can be met) or evaluates
the model on that literal.
-/
namespace GoguVerif.Lemmas.C03
open GoguVerif.Model.Heap GoguVerif.Spec.C03

variable {α : Type}

theorem convertLoop_spec {comp : Comp α} (hc : SWO comp) (k : Nat) (d : Array α)
    (h : HeapFrom comp d d.size k) :
    ∃ d', convertLoop comp k d = .ok d' ∧ IsHeap comp d' d'.size ∧ d'.Perm d := by
  induction k generalizing d with
  | zero => exact ⟨d, rfl, isHeap_iff_heapFrom.mpr h, .refl _⟩
  | succ k ih =>
    obtain ⟨d1, hd1, r⟩ := moveDown_ok comp (n := d.size) d k (Nat.le_refl _)
    obtain ⟨d2, e2, i2, p2⟩ := ih d1 (r.size ▸ r.heap hc h.toExcept (Nat.le_refl _))
    exact ⟨d2, by simp only [convertLoop, hd1, e2], i2, p2.trans r.perm⟩

/-- The nodes from `len/2` on are leaves. -/
theorem heapFrom_leaves (comp : Comp α) (d : Array α) {j : Nat} (h : d.size / 2 ≤ j) : HeapFrom comp d d.size j :=
  fun i _ _ _ => by omega

/-- `Convert`'s loop runs `k` times, from `k - 1` down to 0, with `len/2 ≤ k ≤ ⌈len/2⌉` (`k = 1` at length 1: Go's
`-1 / 2` is 0). -/
theorem convertStart_count (n : Nat) : ∃ k : Nat, convertStart n = (k : Int) - 1 ∧ n / 2 ≤ k ∧ k ≤ (n + 1) / 2 :=
  match n with
  | 0 => ⟨0, rfl, Nat.le_refl _, Nat.le_refl _⟩
  | 1 => ⟨1, rfl, Nat.zero_le _, Nat.le_refl _⟩
  | m + 2 => ⟨m / 2 + 1, by
      rw [convertStart, show ((m + 2 : Nat) : Int) - 2 = m from Int.add_sub_cancel (m : Int) 2, tdiv_two,
        succ_sub_one_int],
    Nat.le_of_eq (Nat.add_div_right m Nat.two_pos),
    Nat.add_div_right m Nat.two_pos ▸ Nat.div_le_div_right (Nat.le_succ (m + 2))⟩

theorem convert_spec (h : Heap α) (c : Comp α) (hc : SWO c) :
    ∃ h', convert h c = .ok h' ∧ h'.comp = c ∧ Inv h' ∧ h'.data.toList.Perm h.data.toList := by
  obtain ⟨k, ek, hk, _⟩ := convertStart_count h.data.size
  obtain ⟨d', e, ih, p⟩ := convertLoop_spec hc k h.data (heapFrom_leaves c h.data hk)
  exact ⟨{ comp := c, data := d' }, by simp only [convert, ek, Int.sub_add_cancel, Int.toNat_natCast, e], rfl, ⟨hc, ih⟩,
    Array.perm_iff_toList_perm.mp p⟩

theorem fs_child {comp : Comp α} {n : Nat} {d : Array α} {i cur : Nat} (hl : ¬ 2 * i + 1 ≥ n)
    (h : pick comp n d (2 * i + 1) (2 * i + 2) = some cur) : 0 < cur ∧ (cur - 1) / 2 = i ∧ cur < n := by
  rcases pick_range h with e | ⟨e, hr⟩ <;> subst e
  · exact ⟨Nat.succ_pos _, parent_left i, Nat.lt_of_not_le hl⟩
  · exact ⟨Nat.succ_pos _, parent_right i, hr⟩

theorem fs_bestChild {comp : Comp α} (hc : SWO comp) {n : Nat} {d : Array α} {i cur : Nat}
    (hl : ¬ 2 * i + 1 ≥ n) (h : pick comp n d (2 * i + 1) (2 * i + 2) = some cur) :
    BestChild comp d n i cur := by
  rcases pick_spec h with ⟨e, hno⟩ | ⟨e, hr, x, y, hx, hy, hxy⟩ <;> subst e
  · exact .left hc (Nat.lt_of_not_le hl) hno
  · exact .right hc hr fun _ => .of_beats hc hx hy hxy

/-- What the inner loop started at `i` that ended with `d'` and `i'` (the value it leaves in the variable) has done to
`d`. -/
structure FsSifted (comp : Comp α) (i : Nat) (d d' : Array α) (i' : Nat) : Prop where
  size : d'.size = d.size
  perm : d'.Perm d
  le : i ≤ i'
  inRange : i < d.size → i' < d.size
  stay : (∀ s, 0 < s → s < d.size → (s - 1) / 2 = i → Ok comp d s i) → d' = d ∧ i' = i
  heap : SWO comp → ∀ {j}, HeapExcept comp d d.size j i → j ≤ i → HeapFrom comp d' d'.size j

theorem FsSifted.stop {comp : Comp α} {i : Nat} {d : Array α}
    (h : SWO comp → ∀ {j}, HeapExcept comp d d.size j i → j ≤ i → HeapFrom comp d d.size j) : FsSifted comp i d d i :=
  { size := rfl, perm := .refl _, le := Nat.le_refl _, inRange := id, stay := fun _ => ⟨rfl, rfl⟩, heap := h }

theorem fsInner_mono (comp : Comp α) (fuel k : Nat) (d : Array α) (i : Nat)
    (h : fsInner comp fuel d i ≠ .hang) : fsInner comp (fuel + k) d i = fsInner comp fuel d i := by
  fun_induction fsInner comp fuel d i with
  | case1 => exact absurd rfl h
  | case2 _ d i hl => rw [Nat.succ_add, fsInner, if_pos hl]
  | case3 _ d i hl hp => rw [Nat.succ_add, fsInner, if_neg hl]; simp only [hp]
  | case4 _ d i hl cur hp x y hy hx hcmp =>
    rw [Nat.succ_add, fsInner, if_neg hl]; simp only [hp, hx, hy, hcmp, if_true]
  | case5 _ d i hl cur hp x y hy hx hcmp hs =>
    rw [Nat.succ_add, fsInner, if_neg hl]; simp only [hp, hx, hy, if_neg hcmp, hs]
  | case6 _ d i hl cur hp x y hy hx hcmp _ hs ih =>
    rw [Nat.succ_add, fsInner, if_neg hl]; simp only [hp, hx, hy, if_neg hcmp, hs]
    exact ih h
  | case7 _ d i hl cur hp _ => rw [Nat.succ_add, fsInner, if_neg hl]; simp only [hp]

example : Model.Heap.fsInner (fun a b : Int => decide (a < b)) 2 #[3, 1] 0 ≠ .hang := by
  intro h; cases h

/-- the budget of the inner loop at `i` is enough for the next iteration, at a child `c` -/
theorem fs_budget_child {n i c f : Nat} (hf : n - i ≤ f + 1) (h : i < c) : n - c ≤ f := by omega

/-- an iteration of the inner loop that does not break at a leaf has budget to spare -/
theorem fs_budget_pos {n i f : Nat} (hl : ¬ 2 * i + 1 ≥ n) (hf : n - i ≤ f + 1) : 1 ≤ f := by omega

/-- The inner loop ends within a budget `≥ max 1 (len(data) - i)`, whatever the comparator: `i` at least doubles at
every iteration, the loop breaks once `2i + 1 ≥ len(data)`, and until then all its reads are in range. -/
theorem fsInner_ok (comp : Comp α) (fuel : Nat) (d : Array α) (i : Nat) (h1 : 1 ≤ fuel)
    (hf : d.size - i ≤ fuel) : ∃ d' i', fsInner comp fuel d i = .ok (d', i') ∧ FsSifted comp i d d' i' := by
  fun_induction fsInner comp fuel d i with
  | case1 => exact absurd h1 (Nat.not_succ_le_zero 0)
  | case2 _ d i hl =>
    exact ⟨d, i, rfl, .stop fun _ _ hex _ => sift_stop hex (forall_child (fun h => absurd h (Nat.not_lt_of_le hl))
      fun h => absurd h (Nat.not_lt_of_le (Nat.le_succ_of_le hl)))⟩
  | case3 _ d i hl hp =>
    exact absurd hp (pick_ne_none comp (Nat.le_refl _) (Nat.lt_succ_self _))
  | case4 _ d i hl cur hp x y hy hx hcmp =>
    refine ⟨d, i, rfl, .stop fun hc _ hex _ => ?_⟩
    have hb := fs_bestChild hc hl hp
    exact sift_stop hex fun s h0 hs hp =>
      .trans hc hb.inRange (hb.best s h0 hs hp) (.intro hx hy ((Bool.not_eq_true' _).mp hcmp))
  | case5 _ d i hl cur hp _ _ _ _ _ hs =>
    obtain ⟨h0, hpar, hcn⟩ := fs_child hl hp
    exact absurd hs (swap_ne_none (Nat.lt_trans (hpar ▸ parent_lt h0) hcn) hcn)
  | case6 fuel d i hl cur hp x y hy hx hcmp d1 hs ih =>
    obtain ⟨h0, hpar, hcn⟩ := fs_child hl hp
    have hic : i < cur := hpar ▸ parent_lt h0
    have hsz := swap_size hs
    obtain ⟨d2, i2, e2, r⟩ := ih (fs_budget_pos hl hf) (hsz ▸ fs_budget_child hf hic)
    refine ⟨d2, i2, e2, {
      size := r.size.trans hsz
      perm := r.perm.trans (swap_perm hs)
      le := Nat.le_trans (Nat.le_of_lt hic) r.le
      inRange := fun _ => hsz ▸ r.inRange (hsz ▸ hcn)
      stay := fun hch => absurd (hch cur h0 hcn hpar x y hx hy) (by rw [(eq_true_iff_not_not _).mpr hcmp]; nofun)
      heap := fun hc _ hex hji => ?_ }⟩
    have hb := fs_bestChild hc hl hp
    exact r.heap hc (hsz ▸ sift_step hex hji hb (.of_beats hc hx hy ((eq_true_iff_not_not _).mpr hcmp)) hs)
      (Nat.le_trans hji (Nat.le_of_lt hic))
  | case7 _ d i hl cur hp hno =>
    obtain ⟨h0, hpar, hcn⟩ := fs_child hl hp
    exact (hno _ _ (Array.getElem?_eq_getElem hcn)
      (Array.getElem?_eq_getElem (Nat.lt_trans (hpar ▸ parent_lt h0) hcn))).elim

example : Model.Heap.fsInner (fun a b : Int => decide (a < b)) 2 #[3, 1] 0 = .ok (#[1, 3], 1) := by
  rfl

example : (1 : Nat) ≤ 2 ∧ (#[3, 1] : Array Int).size - 0 ≤ 2 := by decide

theorem fsOuter_succ (comp : Comp α) (f : Nat) (d : Array α) (k : Nat) :
    fsOuter comp (f + 1) d (((k + 1 : Nat) : Int) - 1) =
      match fsInner comp d.size d k with
      | .ok (d', i') => fsOuter comp f d' ((i' : Int) - 1)
      | .panic => .panic
      | .hang => .hang := by
  rw [succ_sub_one_int, fsOuter, if_neg (Int.not_lt.mpr (Int.natCast_nonneg k)), Int.toNat_natCast]
  rfl

/-- the budget left after a sift from `j` that ended at `i < n` -/
theorem fs_budget_sift {n j i f : Nat} (hi : i < n) (hf : (j + 1) * n + 1 ≤ f + 1) :
    i - j + (j * n + 1) ≤ f := by
  rw [Nat.succ_mul] at hf
  refine Nat.le_trans ?_ (Nat.le_of_succ_le_succ hf)
  rw [Nat.add_comm, Nat.add_assoc, Nat.add_comm 1]
  exact Nat.add_le_add_left (Nat.lt_of_le_of_lt (Nat.sub_le i j) hi) _

theorem fs_budget_walk {m j c f : Nat} (hjm : j ≤ m) (hf : m + 1 - j + c ≤ f + 1) : m - j + c ≤ f := by
  rw [Nat.succ_sub hjm, Nat.succ_add] at hf
  exact Nat.le_of_succ_le_succ hf

/-- The outer loop from a state `(m, j)` of the file header: the variable is `m - 1`, the nodes `≥ j` are heap roots. -/
theorem fsOuter_inv {comp : Comp α} (hc : SWO comp) (fuel : Nat) :
    ∀ (d : Array α) (m j : Nat), j ≤ m → m ≤ d.size → HeapFrom comp d d.size j →
      m - j + (j * d.size + 1) ≤ fuel →
      ∃ d', fsOuter comp fuel d ((m : Int) - 1) = .ok d' ∧ IsHeap comp d' d'.size ∧ d'.Perm d := by
  induction fuel with
  | zero => intro d m j _ _ _ hf; exact absurd hf (Nat.not_succ_le_zero _)
  | succ f ih =>
    intro d m j hjm hm hh hf
    cases m with
    | zero =>
      obtain rfl := Nat.le_zero.mp hjm
      exact ⟨d, rfl, isHeap_iff_heapFrom.mpr hh, .refl _⟩
    | succ m =>
      obtain ⟨d1, i1, e1, r⟩ := fsInner_ok comp d.size d m (Nat.lt_of_le_of_lt (Nat.zero_le m) hm) (Nat.sub_le _ _)
      rw [fsOuter_succ, e1]
      rcases Nat.eq_or_lt_of_le hjm with rfl | hlt
      · -- `j = m + 1`: sift from `m`; it ends at `i1 ≥ m`, from where the variable walks back down
        obtain ⟨d2, e2, i2, p2⟩ := ih d1 i1 m r.le (r.size ▸ Nat.le_of_lt (r.inRange hm))
          (r.heap hc hh.toExcept (Nat.le_refl _)) (r.size ▸ fs_budget_sift (r.inRange hm) (by rwa [Nat.sub_self, Nat.zero_add] at hf))
        exact ⟨d2, e2, i2, p2.trans r.perm⟩
      · -- `j ≤ m`: `m` already is the root of a heap, and the inner loop breaks at once
        have hjm' := Nat.le_of_lt_succ hlt
        obtain ⟨rfl, rfl⟩ := r.stay fun s h0 hs hp => hp ▸ hh s h0 hs (hp.symm ▸ hjm')
        exact ih d1 i1 j hjm' (Nat.le_of_succ_le hm) hh (fs_budget_walk hjm' hf)

/-- `FromSlice` terminates (within the model's fuel), does not panic, establishes heap order and
keeps the elements — for every input slice. -/
theorem fromSlice_spec (data : Array α) (c : Comp α) (hc : SWO c) :
    ∃ h', fromSlice data c = .ok h' ∧ h'.comp = c ∧ Inv h' ∧ h'.data.toList.Perm data.toList := by
  have hfuel : data.size / 2 - data.size / 2 + (data.size / 2 * data.size + 1) ≤ fsFuel data.size := by
    rw [Nat.sub_self, Nat.zero_add]
    exact Nat.succ_le_succ (Nat.mul_le_mul_right data.size (Nat.div_le_self data.size 2))
  obtain ⟨d', e, ih, p⟩ := fsOuter_inv hc (fsFuel data.size) data (data.size / 2) (data.size / 2)
    (Nat.le_refl _) (Nat.div_le_self _ _) (heapFrom_leaves c data (Nat.le_refl _)) hfuel
  exact ⟨{ comp := c, data := d' }, by simp only [fromSlice, tdiv_two, e], rfl, ⟨hc, ih⟩,
    Array.perm_iff_toList_perm.mp p⟩

end GoguVerif.Lemmas.C03
