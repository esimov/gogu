import GoguVerif.Lemmas.C03.Sift
import GoguVerif.Lemmas.C03.Up
/-!
# C03: the heap methods `Push`, `Peek`, `Pop`, `Clear`, `Delete`, `Merge`, `Meld`

Conservation and totality hold in every state (also after a `Delete` that broke heap order); what
needs the invariant is a further conjunct `Inv h → …`.
-/
namespace GoguVerif.Lemmas.C03
open GoguVerif.Model.Heap GoguVerif.Spec.C03

variable {α : Type}

/-- The representation invariant: the comparator is a strict weak order and `data` is in heap order. -/
def Inv (h : Heap α) : Prop := SWO h.comp ∧ IsHeap h.comp h.data h.data.size

theorem Inv.swo {h : Heap α} (hi : Inv h) : SWO h.comp := hi.1
theorem Inv.heap {h : Heap α} (hi : Inv h) : IsHeap h.comp h.data h.data.size := hi.2

theorem IsHeap.ok_root {comp : Comp α} (hc : SWO comp) {d : Array α} {n : Nat} (hn : n ≤ d.size)
    (h : IsHeap comp d n) : ∀ m, m < n → Ok comp d m 0 := by
  intro m
  induction m using Nat.strongRecOn with
  | _ m ih =>
    intro hm
    rcases Nat.eq_zero_or_pos m with e | e
    · subst e; exact .self hc d 0
    · have hp := Nat.lt_trans (parent_lt e) hm
      exact .trans hc (Nat.lt_of_lt_of_le hp hn) (h m e hm) (ih _ (parent_lt e) hp)

theorem extremal_root {comp : Comp α} (hc : SWO comp) {d : Array α} (h : IsHeap comp d d.size)
    {x : α} (hx : d[0]? = some x) : Extremal comp d.toList x := by
  refine ⟨mem_of_getElem? hx, fun y hy => ?_⟩
  obtain ⟨m, hm⟩ := Array.mem_iff_getElem?.mp (Array.mem_toList_iff.mp hy)
  exact IsHeap.ok_root hc (Nat.le_refl _) h m (lt_of_getElem? hm) y x hm hx

theorem last_cons_pop_perm {e : Array α} {v : α} (hv : e[e.size - 1]? = some v) :
    (v :: e.pop.toList).Perm e.toList := by
  obtain ⟨ys, hys⟩ := List.getLast?_eq_some_iff.mp
    ((Array.getLast?_toList e).trans (Array.back?_eq_getElem?.trans hv))
  rw [Array.toList_pop, hys, List.dropLast_concat]
  exact List.perm_append_comm (l₁ := [v])

/-- A slice that agrees on its first `n` slots, the root apart, with a heap is in order among them except at the
root. -/
theorem heapExcept_of_copy {comp : Comp α} {d d2 : Array α} {n m : Nat} (hh : IsHeap comp d m) (hnm : n ≤ m)
    (hget : ∀ i, 0 < i → i < n → d2[i]? = d[i]?) : HeapExcept comp d2 n 0 0 := by
  refine ⟨fun i hi0 hin _ hpi => ?_, fun hk => absurd hk (Nat.lt_irrefl 0)⟩
  exact .of_eq (hget i hi0 hin) (hget _ (Nat.pos_of_ne_zero hpi) (Nat.lt_trans (parent_lt hi0) hin))
    (hh i hi0 (Nat.lt_of_lt_of_le hin hnm))

/-- `swap(data, idx, len-1); data = data[:len-1]; moveDown(len-1, 0)`, the tail of `Pop` (`idx = 0`) and of
`Delete`, with the slices `d1`, `d2`, `d3` after each statement: `v`, which slot `idx` held, is taken out, and the
heap is repaired when `idx` is the root or the last slot.  (`Pop` writes `data[0] = data[len-1]` where this swaps; after
the cut the slices are the same: `set_as_swap`.) -/
structure RemovedAt [DecidableEq α] (comp : Comp α) (d : Array α) (idx : Nat) (v : α) (d1 d2 d3 : Array α) : Prop where
  swapped : swap d idx (d.size - 1) = some d1
  cut : dropLast? d1 = some d2
  sift : moveDown comp (d.size - 1) d2 0 = .ok d3
  sifted : Sifted comp (d.size - 1) 0 d2 d3
  perm : d3.toList.Perm (d.toList.erase v)
  size : d2.size = d.size - 1
  moved : idx < d.size - 1 → d2[idx]? = d[d.size - 1]?
  other : ∀ m, m < d.size - 1 → m ≠ idx → d2[m]? = d[m]?
  heap : SWO comp → IsHeap comp d d.size → idx = 0 ∨ idx = d.size - 1 → IsHeap comp d3 d3.size

theorem removeAt_ok [DecidableEq α] (comp : Comp α) {d : Array α} {idx : Nat} {v : α} (hv : d[idx]? = some v) :
    ∃ d1 d2 d3, RemovedAt comp d idx v d1 d2 d3 := by
  have hpos := Nat.lt_of_le_of_lt (Nat.zero_le _) (lt_of_getElem? hv)
  obtain ⟨d1, hs⟩ := exists_swap (d := d) (i := idx) (j := d.size - 1) (lt_of_getElem? hv)
    (Nat.sub_lt hpos Nat.one_pos)
  have hsz1 := swap_size hs
  have hsz : d1.pop.size = d.size - 1 := by rw [Array.size_pop, hsz1]
  have hget : ∀ m, m < d.size - 1 → m ≠ idx → d1.pop[m]? = d[m]? := fun m hm hne => by
    rw [Array.getElem?_pop, hsz1, if_pos hm, swap_other hs hne (Nat.ne_of_lt hm)]
  obtain ⟨d3, hd3, r⟩ := moveDown_ok comp (n := d.size - 1) d1.pop 0 (Nat.le_of_eq hsz.symm)
  refine ⟨d1, d1.pop, d3, {
    swapped := hs
    cut := if_neg (hsz1 ▸ Nat.ne_of_gt hpos)
    sift := hd3
    sifted := r
    perm := ?_
    size := hsz
    moved := fun h => ?_
    other := hget
    heap := fun hc hh hsafe => ?_ }⟩
  · have := List.Perm.erase v ((last_cons_pop_perm (hsz1 ▸ (swap_right hs).trans hv)).trans
      (Array.perm_iff_toList_perm.mp (swap_perm hs)))
    rw [List.erase_cons_head] at this
    exact (Array.perm_iff_toList_perm.mp r.perm).trans this
  · rw [Array.getElem?_pop, hsz1, if_pos h, swap_left hs]
  · rw [r.size, hsz]
    refine r.isHeap hc (heapExcept_of_copy hh (Nat.sub_le _ _) fun i h0 hi => hget i hi ?_)
    rcases hsafe with rfl | rfl
    · exact Nat.ne_of_gt h0
    · exact Nat.ne_of_lt hi

theorem push_spec (h : Heap α) (hirr : ∀ a, h.comp a a = false) (v : α) :
    ∃ h', push h v = .ok h' ∧ h'.comp = h.comp ∧ h'.data.toList.Perm (v :: h.data.toList) ∧
      (Inv h → Inv h') := by
  have hsz : (h.data.push v).size - 1 = h.data.size := by rw [Array.size_push]; rfl
  obtain ⟨d', hd', hh'⟩ := moveUpF_ok hirr (h.data.size + 1) (h.data.push v) h.data.size
    (Array.size_push .. ▸ Nat.lt_succ_self _) (Nat.lt_succ_self _)
  obtain ⟨hs1, hp1⟩ := moveUpF_frame _ _ _ _ hd'
  refine ⟨{ h with data := d' }, ?_, rfl, ?_, fun hi => ⟨hi.swo, ?_⟩⟩
  · simp only [push, moveUp, hsz, hd']
  · exact (Array.perm_iff_toList_perm.mp hp1).trans (Array.toList_push ▸ List.perm_append_comm)
  · -- the new last slot is the only one that may precede its parent, and it has no children
    refine hs1 ▸ hh' hi.swo (Array.size_push .. ▸ Nat.lt_succ_self _)
      { others := fun c hc0 hcn hne => ?_, kids := fun _ g _ hgn hpg => ?_ }
    · rw [Array.size_push] at hcn
      have hcn : c < h.data.size := Nat.lt_of_le_of_ne (Nat.le_of_lt_succ hcn) hne
      have e : ∀ m, m < h.data.size → (h.data.push v)[m]? = h.data[m]? := fun m hm => by
        rw [Array.getElem?_push, if_neg (Nat.ne_of_lt hm)]
      exact .of_eq (e c hcn) (e _ (Nat.lt_trans (parent_lt hc0) hcn)) (hi.heap c hc0 hcn)
    · rw [Array.size_push] at hgn; omega

theorem pushAll_spec (h : Heap α) (hirr : ∀ a, h.comp a a = false) (vs : List α) :
    ∃ h', pushAll h vs = .ok h' ∧ h'.comp = h.comp ∧ h'.data.toList.Perm (vs ++ h.data.toList) ∧
      (Inv h → Inv h') := by
  induction vs generalizing h with
  | nil => exact ⟨h, rfl, rfl, .refl _, id⟩
  | cons v vs ih =>
    obtain ⟨h1, e1, c1, p1, i1⟩ := push_spec h hirr v
    obtain ⟨h2, e2, c2, p2, i2⟩ := ih h1 (c1 ▸ hirr)
    exact ⟨h2, by simp only [pushAll, e1, e2], c2.trans c1,
      p2.trans ((List.Perm.append_left vs p1).trans List.perm_middle), i2 ∘ i1⟩

theorem inv_new {comp : Comp α} (hc : SWO comp) : Inv (new comp) :=
  ⟨hc, fun _ _ hn => absurd hn (Nat.not_lt_zero _)⟩

theorem peek_spec [Inhabited α] (h : Heap α) :
    ∃ x, peek h = .ok x ∧
      ((h.data.toList = [] ∧ x = default) ∨
       (x ∈ h.data.toList ∧ (Inv h → Extremal h.comp h.data.toList x))) := by
  unfold peek
  split
  · rename_i h0
    exact ⟨default, rfl, .inl ⟨Array.toList_eq_nil_iff.mpr (Array.eq_empty_of_size_eq_zero h0), rfl⟩⟩
  · rename_i h0
    have hx := Array.getElem?_eq_getElem (Nat.pos_of_ne_zero h0)
    rw [hx]
    exact ⟨_, rfl, .inr ⟨mem_of_getElem? hx, fun hi => extremal_root hi.swo hi.heap hx⟩⟩

/-- `h.data[0] = h.data[size-1]; h.data = h.data[:size-1]` is `swap(0, size-1)` + truncation. -/
theorem set_as_swap {d ds d2 : Array α} {last : α} (hl : d[d.size - 1]? = some last)
    (hs : swap d 0 (d.size - 1) = some ds) (hd : dropLast? ds = some d2) :
    ∃ d1, set? d 0 last = some d1 ∧ dropLast? d1 = some d2 := by
  have hlt := (swap_bounds hs).1
  have hsz := swap_size hs
  refine ⟨_, dif_pos hlt, ?_⟩
  unfold dropLast? at hd ⊢
  rw [if_neg (by omega)] at hd
  rw [if_neg (by rw [Array.size_set]; exact Nat.ne_of_gt hlt), ← hd]
  congr 1
  apply Array.ext_getElem?
  intro i
  rw [Array.getElem?_pop, Array.getElem?_pop, hsz, Array.size_set, Array.getElem?_set]
  split
  · rename_i hi
    split
    · rename_i e; subst e; rw [swap_left hs, hl]
    · rename_i e; exact (swap_other hs (Ne.symm e) (Nat.ne_of_lt hi)).symm
  · rfl

/-- `Pop` on a non-empty heap: `h.data[0] = last` gives `d1`, whose cut and sift are those of `RemovedAt` at the
root. -/
theorem pop_of_removed [Inhabited α] [DecidableEq α] {h : Heap α} {x : α} (hx : h.data[0]? = some x)
    {ds d2 d3 : Array α} (r : RemovedAt h.comp h.data 0 x ds d2 d3) :
    ∃ last d1, h.data[h.data.size - 1]? = some last ∧ set? h.data 0 last = some d1 ∧ dropLast? d1 = some d2 ∧
      pop h = .ok ({ h with data := d3 }, x) := by
  have hlt := lt_of_getElem? hx
  have hl := Array.getElem?_eq_getElem (Nat.sub_lt hlt Nat.one_pos)
  obtain ⟨d1, hd1, hd2⟩ := set_as_swap hl r.swapped r.cut
  refine ⟨_, d1, hl, hd1, hd2, ?_⟩
  unfold pop
  rw [if_neg (Nat.ne_of_gt hlt)]
  -- the model sifts `d2` up to `d2.size`, `RemovedAt.sift` up to `len - 1`
  simp only [hx, hl, hd1, hd2, r.size, r.sift]

theorem pop_spec [Inhabited α] [DecidableEq α] (h : Heap α) :
    ∃ h' x, pop h = .ok (h', x) ∧ h'.comp = h.comp ∧
      ((h.data.toList = [] ∧ x = default ∧ h'.data.toList = []) ∨
       (x ∈ h.data.toList ∧ h'.data.toList.Perm (h.data.toList.erase x) ∧
        (Inv h → Extremal h.comp h.data.toList x))) ∧
      (Inv h → Inv h') := by
  by_cases hs : h.data.size = 0
  · have := Array.toList_eq_nil_iff.mpr (Array.eq_empty_of_size_eq_zero hs)
    exact ⟨h, default, by rw [pop, if_pos hs], rfl, .inl ⟨this, rfl, this⟩, id⟩
  · have hx := Array.getElem?_eq_getElem (Nat.pos_of_ne_zero hs)
    obtain ⟨_, _, d3, r⟩ := removeAt_ok h.comp hx
    obtain ⟨_, _, _, _, _, e⟩ := pop_of_removed hx r
    exact ⟨{ h with data := d3 }, _, e, rfl, .inr ⟨mem_of_getElem? hx, r.perm,
      fun hi => extremal_root hi.swo hi.heap hx⟩, fun hi => ⟨hi.swo, r.heap hi.swo hi.heap (.inl rfl)⟩⟩

theorem clear_spec (h : Heap α) :
    (clear h).comp = h.comp ∧ (clear h).data.toList = [] ∧ (SWO h.comp → Inv (clear h)) := by
  unfold clear
  split
  · rename_i h0
    exact ⟨rfl, Array.toList_eq_nil_iff.mpr (Array.eq_empty_of_size_eq_zero h0),
      fun hc => ⟨hc, fun i hi0 hin => absurd (h0 ▸ hin) (Nat.not_lt_zero i)⟩⟩
  · exact ⟨rfl, rfl, inv_new⟩

theorem getIndexL_spec [DecidableEq α] (val : α) (l : List α) (k : Nat) :
    (getIndexL val l k = none ∧ val ∉ l) ∨ (∃ j, getIndexL val l k = some (k + j) ∧ l[j]? = some val) := by
  induction l generalizing k with
  | nil => exact .inl ⟨rfl, List.not_mem_nil⟩
  | cons x r ih =>
    unfold getIndexL
    by_cases hx : x = val
    · exact .inr ⟨0, if_pos hx, hx ▸ rfl⟩
    · rw [if_neg hx]
      rcases ih (k + 1) with ⟨h1, h2⟩ | ⟨j, h1, h2⟩
      · exact .inl ⟨h1, fun hm => (List.mem_cons.mp hm).elim (fun e => hx e.symm) h2⟩
      · exact .inr ⟨j + 1, Nat.succ_add_eq_add_succ k j ▸ h1, h2⟩

theorem getIndex_spec [DecidableEq α] (d : Array α) (val : α) :
    (getIndex d val = none ∧ val ∉ d.toList) ∨
    (∃ idx, getIndex d val = some idx ∧ d[idx]? = some val) := by
  rcases getIndexL_spec val d.toList 0 with h | ⟨j, h1, h2⟩
  · exact .inl h
  · exact .inr ⟨j, (Nat.zero_add j ▸ h1 :), by rwa [Array.getElem?_toList] at h2⟩

theorem delete_of_none [DecidableEq α] {h : Heap α} {v : α} (e : getIndex h.data v = none) :
    delete h v = .ok (h, false) := by
  unfold delete
  simp only [e]
  split <;> rfl

theorem delete_of_some [DecidableEq α] {h : Heap α} {v : α} {idx : Nat} (e : getIndex h.data v = some idx)
    {d1 d2 d3 : Array α} (r : RemovedAt h.comp h.data idx v d1 d2 d3) :
    delete h v = .ok ({ h with data := d3 }, true) := by
  unfold delete
  simp only [e, r.swapped, r.cut, r.sift]
  rw [if_neg (Nat.ne_of_gt (Nat.lt_of_le_of_lt (Nat.zero_le _) (swap_bounds r.swapped).1))]

theorem getIndex_some [DecidableEq α] {d : Array α} {v : α} {idx : Nat} (e : getIndex d v = some idx) :
    d[idx]? = some v := by
  rcases getIndex_spec d v with ⟨e', _⟩ | ⟨_, e', hv⟩ <;> rw [e] at e' <;> cases e'
  exact hv

/-- `Delete`, conservation in full (no invariant needed): it never panics, removes exactly one
occurrence of a held value and reports absence otherwise, leaving the heap alone.  It keeps heap order when the
victim sits at the root or in the last slot (or is absent) — the exact side condition of the known finding
`heap.delete-no-resift`. -/
theorem delete_spec [DecidableEq α] (h : Heap α) (v : α) :
    ∃ h' b, delete h v = .ok (h', b) ∧ h'.comp = h.comp ∧
      ((b = true ∧ v ∈ h.data.toList ∧ h'.data.toList.Perm (h.data.toList.erase v)) ∨
       (b = false ∧ v ∉ h.data.toList ∧ h' = h)) ∧
      (Inv h → (∀ idx, getIndex h.data v = some idx → idx = 0 ∨ idx = h.data.size - 1) → Inv h') := by
  rcases getIndex_spec h.data v with ⟨e, hn⟩ | ⟨idx, e, hv⟩
  · exact ⟨h, false, delete_of_none e, rfl, .inr ⟨rfl, hn, rfl⟩, fun hi _ => hi⟩
  · obtain ⟨_, _, _, r⟩ := removeAt_ok h.comp hv
    exact ⟨_, true, delete_of_some e r, rfl, .inl ⟨rfl, mem_of_getElem? hv, r.perm⟩,
      fun hi hsafe => ⟨hi.swo, r.heap hi.swo hi.heap (hsafe idx e)⟩⟩

/-- `Delete` at an inner slot; `Theorems.C03.delete_order_iff` states it again and says what it means. -/
theorem delete_heap_iff [DecidableEq α] (h : Heap α) (hi : Inv h) (v : α) {idx : Nat}
    (hidx : getIndex h.data v = some idx) (hmid : 0 < idx ∧ idx < h.data.size - 1)
    {h' : Heap α} {b : Bool} (hd : delete h v = .ok (h', b)) :
    Inv h' ↔
      Ok h.comp h.data (h.data.size - 1) ((idx - 1) / 2) ∧
      (∀ c, (c - 1) / 2 = idx → 0 < c → c < h.data.size - 1 → Ok h.comp h.data c (h.data.size - 1)) := by
  have hc := hi.swo
  have hh := hi.heap
  obtain ⟨_, d2, d3, r⟩ := removeAt_ok h.comp (getIndex_some hidx)
  have hat := r.moved hmid.2
  have hpar := parent_lt hmid.1
  have hroot := IsHeap.ok_root hc (Nat.le_refl _) hh
  have hidx0 : 0 ≠ idx := Nat.ne_of_lt hmid.1
  have hlast : 0 < h.data.size - 1 := Nat.lt_trans hmid.1 hmid.2
  have hle : ∀ {s}, s < h.data.size - 1 → s < h.data.size := fun hs => Nat.lt_of_lt_of_le hs (Nat.sub_le _ _)
  -- the root keeps its value and nothing precedes it: the sift does not move
  obtain rfl := r.sifted.stay fun s hs0 hsn _ => by
    have e0 := r.other 0 hlast hidx0
    by_cases e : s = idx
    · exact e ▸ .of_eq hat e0 (hroot _ (Nat.sub_lt (hle hlast) Nat.one_pos))
    · exact .of_eq (r.other s hsn e) e0 (hroot s (hle hsn))
  rw [delete_of_some hidx r] at hd; cases hd
  show (SWO h.comp ∧ IsHeap h.comp d3 d3.size) ↔ _
  rw [r.size]
  have hp := r.other _ (Nat.lt_trans hpar hmid.2) (Nat.ne_of_lt hpar)
  constructor
  · intro ⟨_, hh2⟩
    refine ⟨.of_eq hat.symm hp.symm (hh2 idx hmid.1 hmid.2), fun c hpc hc0 hcn => ?_⟩
    have := hh2 c hc0 hcn
    rw [hpc] at this
    exact .of_eq (r.other c hcn (Nat.ne_of_gt (hpc ▸ parent_lt hc0))).symm hat.symm this
  · intro ⟨h1, h2⟩
    refine ⟨hc, fun i hi0 hin => ?_⟩
    by_cases e1 : i = idx
    · subst e1; exact .of_eq hat hp h1
    · by_cases e2 : (i - 1) / 2 = idx
      · rw [e2]; exact .of_eq (r.other i hin e1) hat (h2 i e2 hi0 hin)
      · exact .of_eq (r.other i hin e1) (r.other _ (Nat.lt_trans (parent_lt hi0) hin) e2)
          (hh i hi0 (hle hin))

theorem pushAll_new {comp : Comp α} (hirr : ∀ a, comp a a = false) (vs : List α) :
    ∃ h', pushAll (new comp) vs = .ok h' ∧ h'.comp = comp ∧ h'.data.toList.Perm vs ∧ (SWO comp → Inv h') := by
  obtain ⟨h', e, c, p, i⟩ := pushAll_spec (new comp) hirr vs
  exact ⟨h', e, c, List.append_nil vs ▸ p, fun hc => i (inv_new hc)⟩

/-- `Merge` pushes everything into a new heap, which is in order whatever the arguments were; `Meld` is `Merge`
and empties its arguments. -/
theorem merge_meld_ok (h h2 : Heap α) (hirr : ∀ a, h.comp a a = false) :
    ∃ nh, merge h h2 = .ok nh ∧ meld h h2 = .ok ({ h with data := #[] }, { h2 with data := #[] }, nh) ∧
      nh.comp = h.comp ∧ nh.data.toList.Perm (h.data.toList ++ h2.data.toList) ∧ (SWO h.comp → Inv nh) := by
  obtain ⟨n1, e1, c1, p1, i1⟩ := pushAll_new hirr h.data.toList
  obtain ⟨n2, e2, c2, p2, i2⟩ := pushAll_spec n1 (c1 ▸ hirr) h2.data.toList
  exact ⟨n2, by simp only [merge, e1, e2], by simp only [meld, e1, e2], c2.trans c1,
    p2.trans ((List.Perm.append_left _ p1).trans List.perm_append_comm), fun hc => i2 (i1 hc)⟩

theorem merge_spec (h h2 : Heap α) (hi : Inv h) :
    ∃ nh, merge h h2 = .ok nh ∧ nh.comp = h.comp ∧ Inv nh ∧
      nh.data.toList.Perm (h.data.toList ++ h2.data.toList) :=
  let ⟨nh, e, _, c, p, i⟩ := merge_meld_ok h h2 hi.swo.irrefl; ⟨nh, e, c, i hi.swo, p⟩

end GoguVerif.Lemmas.C03
