import GoguVerif.Model.Heap
/-!
# C03: slice primitives, heap-order predicates, one step of sift-down

`Ok comp d i j` : what sits at slot `i` does not precede what sits at slot `j`.
`HeapFrom comp d n j` : among the first `n` slots every node whose parent index is `≥ j` respects its
parent ("all nodes `≥ j` are roots of heaps"); `IsHeap = HeapFrom … 0`.
`HeapExcept comp d n j k` : the same except between `k` and its children, whose children however
already respect `k`'s parent — the auxiliary invariant of sift-down.
-/
namespace GoguVerif.Lemmas.C03
open GoguVerif.Model.Heap GoguVerif.Spec.C03

variable {α : Type}

theorem _root_.GoguVerif.Spec.C03.SWO.asymm {comp : Comp α} (h : SWO comp) {a b : α} (hab : comp a b = true) :
    comp b a = false := by
  cases hba : comp b a with
  | false => rfl
  | true => have := h.trans a b a hab hba; rw [h.irrefl] at this; cases this

theorem swo_key (f : Int → Int) : SWO fun a b => decide (f a < f b) := by
  constructor <;> intros <;> simp only [decide_eq_true_eq, decide_eq_false_iff_not] at * <;> omega

/-- Go's `/ 2` on a non-negative `int`.  (`Int.ofNat_tdiv` itself does not rewrite it: the literal `2` is not
syntactically a cast.) -/
theorem tdiv_two (n : Nat) : (n : Int).tdiv 2 = ((n / 2 : Nat) : Int) := (Int.ofNat_tdiv n 2).symm

theorem succ_sub_one_int (k : Nat) : ((k + 1 : Nat) : Int) - 1 = k := Int.add_sub_cancel (k : Int) 1

/-- Go's `(i - 1) / 2` on `int` (truncating) is the model's `parent` for every index `i ≥ 0`. -/
theorem parent_int (i : Nat) : ((i : Int) - 1).tdiv 2 = ((parent i : Nat) : Int) := by
  cases i with
  | zero => rfl
  | succ k => rw [succ_sub_one_int]; exact tdiv_two k

theorem parent_def (i : Nat) : parent i = (i - 1) / 2 := rfl

theorem swap_eq_some {d d' : Array α} {i j : Nat} (h : swap d i j = some d') :
    ∃ hi hj, d.swap i j hi hj = d' := by
  unfold swap at h
  split at h
  · rename_i hb; exact ⟨hb.1, hb.2, Option.some.inj h⟩
  · cases h

theorem swap_size {d d' : Array α} {i j} (h : swap d i j = some d') : d'.size = d.size := by
  obtain ⟨_, _, rfl⟩ := swap_eq_some h; exact Array.size_swap ..

theorem swap_perm {d d' : Array α} {i j} (h : swap d i j = some d') : d'.Perm d := by
  obtain ⟨_, _, rfl⟩ := swap_eq_some h; exact Array.swap_perm ..

theorem exists_swap {d : Array α} {i j : Nat} (hi : i < d.size) (hj : j < d.size) :
    ∃ d', swap d i j = some d' :=
  ⟨_, dif_pos ⟨hi, hj⟩⟩

theorem swap_ne_none {d : Array α} {i j : Nat} (hi : i < d.size) (hj : j < d.size) : swap d i j ≠ none := by
  rw [swap, dif_pos ⟨hi, hj⟩]; nofun

theorem swap_bounds {d d' : Array α} {i j} (h : swap d i j = some d') : i < d.size ∧ j < d.size := by
  obtain ⟨hi, hj, _⟩ := swap_eq_some h; exact ⟨hi, hj⟩

theorem swap_left {d d' : Array α} {i j : Nat} (h : swap d i j = some d') : d'[i]? = d[j]? := by
  obtain ⟨hi, hj, rfl⟩ := swap_eq_some h
  rw [Array.getElem?_swap, if_pos rfl, Array.getElem?_eq_getElem hj]
  split
  · rename_i e; subst e; rfl
  · rfl

theorem swap_right {d d' : Array α} {i j : Nat} (h : swap d i j = some d') : d'[j]? = d[i]? := by
  obtain ⟨hi, hj, rfl⟩ := swap_eq_some h
  rw [Array.getElem?_swap, if_pos rfl, Array.getElem?_eq_getElem hi]

theorem swap_other {d d' : Array α} {i j k : Nat} (h : swap d i j = some d') (hi : k ≠ i) (hj : k ≠ j) :
    d'[k]? = d[k]? := by
  obtain ⟨_, _, rfl⟩ := swap_eq_some h
  rw [Array.getElem?_swap, if_neg (Ne.symm hj), if_neg (Ne.symm hi)]

theorem mem_of_getElem? {d : Array α} {i : Nat} {x : α} (h : d[i]? = some x) : x ∈ d.toList :=
  Array.mem_toList_iff.mpr (Array.mem_iff_getElem?.mpr ⟨i, h⟩)

theorem lt_of_getElem? {d : Array α} {i : Nat} {x : α} (h : d[i]? = some x) : i < d.size :=
  (Array.getElem?_eq_some_iff.mp h).1

theorem dropLast?_size {d1 d2 : Array α} (h : dropLast? d1 = some d2) : d2.size = d1.size - 1 := by
  unfold dropLast? at h
  split at h
  · cases h
  · cases h; exact Array.size_pop

theorem set?_size {d d1 : Array α} {i : Nat} {v : α} (h : set? d i v = some d1) : d1.size = d.size := by
  unfold set? at h
  split at h
  · cases h; exact Array.size_set ..
  · cases h

theorem size_beq_zero (d : Array α) : (d.size == 0) = d.toList.isEmpty := by
  rcases d with ⟨l⟩; cases l <;> rfl

theorem pick_spec {comp : Comp α} {n : Nat} {d : Array α} {cur c r : Nat}
    (h : pick comp n d cur c = some r) :
    (r = cur ∧ (c < n → ∀ x y, d[c]? = some x → d[cur]? = some y → comp x y = false)) ∨
    (r = c ∧ c < n ∧ ∃ x y, d[c]? = some x ∧ d[cur]? = some y ∧ comp x y = true) := by
  unfold pick at h
  split at h
  · rename_i hc
    split at h
    · rename_i x y hx hy
      simp at h
      by_cases hxy : comp x y = true
      · right; simp [hxy] at h; exact ⟨h.symm, hc, x, y, hx, hy, hxy⟩
      · left; simp [hxy] at h
        refine ⟨h.symm, fun _ x' y' hx' hy' => ?_⟩
        rw [hx] at hx'; rw [hy] at hy'; cases hx'; cases hy'; simpa using hxy
    · simp at h
  · rename_i hc
    left; simp at h; exact ⟨h.symm, fun hlt => absurd hlt hc⟩

theorem pick_range {comp : Comp α} {n : Nat} {d : Array α} {cur c r : Nat}
    (h : pick comp n d cur c = some r) : r = cur ∨ (r = c ∧ c < n) := by
  rcases pick_spec h with ⟨e, _⟩ | ⟨e, hc, _⟩
  · exact Or.inl e
  · exact Or.inr ⟨e, hc⟩

/-- `pick` reads slot `c` only when `c < n`, and slot `cur < c` with it: no panic when `n ≤ len(data)`. -/
theorem pick_ne_none (comp : Comp α) {n : Nat} {d : Array α} {cur c : Nat}
    (hn : n ≤ d.size) (hcur : cur < c) : pick comp n d cur c ≠ none := by
  unfold pick
  split
  · rename_i hc
    have hc := Nat.lt_of_lt_of_le hc hn
    rw [Array.getElem?_eq_getElem hc, Array.getElem?_eq_getElem (Nat.lt_trans hcur hc)]
    nofun
  · nofun

def Ok (comp : Comp α) (d : Array α) (i j : Nat) : Prop :=
  ∀ x y, d[i]? = some x → d[j]? = some y → comp x y = false

def HeapFrom (comp : Comp α) (d : Array α) (n j : Nat) : Prop :=
  ∀ i, 0 < i → i < n → j ≤ (i - 1) / 2 → Ok comp d i ((i - 1) / 2)

def IsHeap (comp : Comp α) (d : Array α) (n : Nat) : Prop :=
  ∀ i, 0 < i → i < n → Ok comp d i ((i - 1) / 2)

theorem isHeap_iff_heapFrom {comp : Comp α} {d : Array α} {n : Nat} :
    IsHeap comp d n ↔ HeapFrom comp d n 0 :=
  ⟨fun h i h0 hn _ => h i h0 hn, fun h i h0 hn => h i h0 hn (Nat.zero_le _)⟩

def HeapExcept (comp : Comp α) (d : Array α) (n j k : Nat) : Prop :=
  (∀ i, 0 < i → i < n → j ≤ (i - 1) / 2 → (i - 1) / 2 ≠ k → Ok comp d i ((i - 1) / 2)) ∧
  (0 < k → j ≤ (k - 1) / 2 → ∀ c, 0 < c → c < n → (c - 1) / 2 = k → Ok comp d c ((k - 1) / 2))

theorem Ok.intro {comp : Comp α} {d : Array α} {i j : Nat} {x y : α} (hx : d[i]? = some x) (hy : d[j]? = some y)
    (h : comp x y = false) : Ok comp d i j := by
  intro a b ha hb; rw [hx] at ha; rw [hy] at hb; cases ha; cases hb; exact h

theorem Ok.self {comp : Comp α} (hc : SWO comp) (d : Array α) (i : Nat) : Ok comp d i i := by
  intro x y hx hy; rw [hx] at hy; cases hy; exact hc.irrefl x

/-- nothing is read beyond the slice -/
theorem Ok.beyond {comp : Comp α} {d : Array α} {i j : Nat} (h : d.size ≤ j) : Ok comp d i j :=
  fun _ _ _ hy => absurd (lt_of_getElem? hy) (Nat.not_lt_of_le h)

theorem Ok.of_eq {comp : Comp α} {d d' : Array α} {i j i' j' : Nat} (hi : d'[i]? = d[i']?)
    (hj : d'[j]? = d[j']?) (h : Ok comp d i' j') : Ok comp d' i j :=
  fun x y hx hy => h x y (hi ▸ hx) (hj ▸ hy)

theorem Ok.trans {comp : Comp α} (hc : SWO comp) {d : Array α} {a b c : Nat} (hb : b < d.size)
    (h1 : Ok comp d a b) (h2 : Ok comp d b c) : Ok comp d a c :=
  fun x z hx hz => hc.negTrans x d[b] z (h1 x _ hx (Array.getElem?_eq_getElem hb))
    (h2 _ z (Array.getElem?_eq_getElem hb) hz)

theorem Ok.of_beats {comp : Comp α} (hc : SWO comp) {d : Array α} {i j : Nat} {x y : α}
    (hx : d[i]? = some x) (hy : d[j]? = some y) (h : comp x y = true) : Ok comp d j i :=
  .intro hy hx (hc.asymm h)

/-! `IsHeap`, `HeapFrom` and `HeapExcept` spell `parent i` as `(i - 1) / 2`; so do these. -/

theorem parent_lt {i : Nat} (h : 0 < i) : (i - 1) / 2 < i := by omega
theorem parent_le (i : Nat) : (i - 1) / 2 ≤ i := Nat.le_trans (Nat.div_le_self _ 2) (Nat.sub_le i 1)
theorem parent_left (k : Nat) : (2 * k + 1 - 1) / 2 = k := Nat.mul_div_cancel_left k Nat.two_pos
theorem parent_right (k : Nat) : (2 * k + 2 - 1) / 2 = k := Nat.mul_add_div Nat.two_pos k 1

/-- The nodes whose parent is `k` are `2k+1` and `2k+2`. -/
theorem forall_child {P : Nat → Prop} {n k : Nat} (hL : 2 * k + 1 < n → P (2 * k + 1))
    (hR : 2 * k + 2 < n → P (2 * k + 2)) : ∀ s, 0 < s → s < n → (s - 1) / 2 = k → P s := by
  intro s h0 hn hp
  have : s = 2 * k + 1 ∨ s = 2 * k + 2 := by omega
  rcases this with e | e <;> subst e
  · exact hL hn
  · exact hR hn

/-- The slot a sift-down from `k` may move to: a child of `k` among the first `n` slots that no child of
`k` precedes. -/
structure BestChild (comp : Comp α) (d : Array α) (n k c : Nat) : Prop where
  pos : 0 < c
  parent : (c - 1) / 2 = k
  inRange : c < n
  best : ∀ s, 0 < s → s < n → (s - 1) / 2 = k → Ok comp d s c

theorem BestChild.gt {comp : Comp α} {d : Array α} {n k c : Nat} (h : BestChild comp d n k c) : k < c :=
  h.parent ▸ parent_lt h.pos

theorem BestChild.left {comp : Comp α} (hc : SWO comp) {d : Array α} {n k : Nat} (hl : 2 * k + 1 < n)
    (hR : 2 * k + 2 < n → Ok comp d (2 * k + 2) (2 * k + 1)) : BestChild comp d n k (2 * k + 1) :=
  { pos := Nat.succ_pos _, parent := parent_left k, inRange := hl, best := forall_child (fun _ => .self hc d _) hR }

theorem BestChild.right {comp : Comp α} (hc : SWO comp) {d : Array α} {n k : Nat} (hr : 2 * k + 2 < n)
    (hL : 2 * k + 1 < n → Ok comp d (2 * k + 1) (2 * k + 2)) : BestChild comp d n k (2 * k + 2) :=
  { pos := Nat.succ_pos _, parent := parent_right k, inRange := hr, best := forall_child hL fun _ => .self hc d _ }

/-- Entering a bottom-up heapify step at `k`: nodes above `k` are heaps, so the order is broken at
most at `k`. -/
theorem HeapFrom.toExcept {comp : Comp α} {d : Array α} {n k : Nat}
    (h : HeapFrom comp d n (k + 1)) : HeapExcept comp d n k k :=
  ⟨fun i h0 hn hj hne => h i h0 hn (Nat.lt_of_le_of_ne hj (Ne.symm hne)),
    fun hk hj => absurd hj (Nat.not_le_of_lt (parent_lt hk))⟩

theorem sift_stop {comp : Comp α} {d : Array α} {n j k : Nat} (hex : HeapExcept comp d n j k)
    (hch : ∀ s, 0 < s → s < n → (s - 1) / 2 = k → Ok comp d s k) : HeapFrom comp d n j := by
  obtain ⟨hrest, _⟩ := hex
  intro i hi0 hin hj
  by_cases hpk : (i - 1) / 2 = k
  · rw [hpk]; exact hch i hi0 hin hpk
  · exact hrest i hi0 hin hj hpk

/-- Sift-down moves from `k` to its child `c`: after the swap each pair (node, parent) holds what a
pair did before that was in order. -/
theorem sift_step {comp : Comp α} {d d1 : Array α} {n j k c : Nat}
    (hex : HeapExcept comp d n j k) (hjk : j ≤ k) (hb : BestChild comp d n k c) (hkc : Ok comp d k c)
    (hs : swap d k c = some d1) : HeapExcept comp d1 n j c := by
  have hlt := hb.gt
  have hck := hb.parent
  obtain ⟨hrest, hkids⟩ := hex
  constructor
  · intro i hi0 hin hj hpi
    by_cases hik : i = k
    · subst hik
      exact .of_eq (swap_left hs) (swap_other hs (Nat.ne_of_lt (parent_lt hi0)) hpi)
        (hkids hi0 hj c hb.pos hb.inRange hck)
    · by_cases hpk : (i - 1) / 2 = k
      · rw [hpk]
        by_cases hic : i = c
        · subst hic; exact .of_eq (swap_right hs) (swap_left hs) hkc
        · exact .of_eq (swap_other hs hik hic) (swap_left hs) (hb.best i hi0 hin hpk)
      · exact .of_eq (swap_other hs hik fun e => hpk (e ▸ hck)) (swap_other hs hpk hpi)
          (hrest i hi0 hin hj hpk)
  · intro _ _ g hg0 hgn hpg
    have hcg : c < g := hpg ▸ parent_lt hg0
    rw [hck]
    refine .of_eq (swap_other hs (Nat.ne_of_gt (Nat.lt_trans hlt hcg)) (Nat.ne_of_gt hcg)) (swap_left hs) ?_
    have := hrest g hg0 hgn (hpg ▸ Nat.le_trans hjk (Nat.le_of_lt hlt)) (hpg ▸ Nat.ne_of_gt hlt)
    rwa [hpg] at this

end GoguVerif.Lemmas.C03
