import GoguVerif.Lemmas.C03.Basic
/-!
# C03: `moveDown`

`moveDownF_ok`, by one induction: `moveDown` does not run out of fuel, does not panic when `n ≤ len(data)`, and what it
has done then (`Sifted`: the frame and the repair; `moveDown_heap`, the central sift lemma that `DESIGN.md` cites, is
the field `heap` read for `moveDown`); its outcome does not depend on the fuel once that exceeds `n - k`.

Cases of `fun_induction moveDownF`, in source order: 1 no fuel, 2 / 3 left / right `pick` panics,
4 `swap` panics, 5 swap and recurse, 6 stop.

An `example` directly after a lemma instantiates the lemma's hypotheses on a literal: they can be met.
-/
namespace GoguVerif.Lemmas.C03
open GoguVerif.Model.Heap GoguVerif.Spec.C03

variable {α : Type}

theorem picks_spec {comp : Comp α} (hc : SWO comp) {n : Nat} {d : Array α} {k cur cur' : Nat}
    (h1 : pick comp n d k (2 * k + 1) = some cur) (h2 : pick comp n d cur (2 * k + 2) = some cur') :
    (cur' = k ∧ ∀ s, 0 < s → s < n → (s - 1) / 2 = k → Ok comp d s k) ∨
    (BestChild comp d n k cur' ∧ Ok comp d k cur') := by
  rcases pick_spec h1 with ⟨e1, noL⟩ | ⟨e1, hl, l, y, hl1, hy1, hly⟩ <;> subst e1
  · rcases pick_spec h2 with ⟨e2, noR⟩ | ⟨e2, hr, r, y, hr1, hy1, hry⟩ <;> subst e2
    · exact .inl ⟨rfl, forall_child noL noR⟩
    · -- the left child does not precede `k`, which `r` precedes
      exact .inr ⟨.right hc hr fun hl => .trans hc (lt_of_getElem? hy1) (noL hl) (.of_beats hc hr1 hy1 hry),
        .of_beats hc hr1 hy1 hry⟩
  · rcases pick_spec h2 with ⟨e2, noR⟩ | ⟨e2, hr, r, l', hr1, hl1', hrl⟩ <;> subst e2
    · exact .inr ⟨.left hc hl noR, .of_beats hc hl1 hy1 hly⟩
    · rw [hl1] at hl1'; cases hl1'
      exact .inr ⟨.right hc hr fun _ => .of_beats hc hr1 hl1 hrl, .of_beats hc hr1 hy1 (hc.trans r l y hrl hly)⟩

theorem picks_range {comp : Comp α} {n : Nat} {d : Array α} {k cur cur' : Nat}
    (h1 : pick comp n d k (2 * k + 1) = some cur) (h2 : pick comp n d cur (2 * k + 2) = some cur') :
    cur' = k ∨ (k < cur' ∧ cur' < n) := by
  have hL : k < 2 * k + 1 := Nat.lt_succ_of_le (Nat.le_mul_of_pos_left k Nat.two_pos)
  rcases pick_range h1 with e1 | ⟨e1, hl⟩
  · rcases pick_range h2 with e2 | ⟨e2, hr⟩
    · exact .inl (e2.trans e1)
    · exact .inr (e2 ▸ ⟨Nat.lt_succ_of_lt hL, hr⟩)
  · rcases pick_range h2 with e2 | ⟨e2, hr⟩
    · exact .inr (e2 ▸ e1 ▸ ⟨hL, hl⟩)
    · exact .inr (e2 ▸ ⟨Nat.lt_succ_of_lt hL, hr⟩)

theorem picks_stay {comp : Comp α} {n : Nat} {d : Array α} {k cur cur' : Nat}
    (h1 : pick comp n d k (2 * k + 1) = some cur) (h2 : pick comp n d cur (2 * k + 2) = some cur')
    (hch : ∀ s, 0 < s → s < n → (s - 1) / 2 = k → Ok comp d s k) : cur' = k := by
  rcases pick_spec h1 with ⟨e1, _⟩ | ⟨_, hl, x, y, hx, hy, hxy⟩
  · rw [e1] at h2
    rcases pick_spec h2 with ⟨e2, _⟩ | ⟨_, hr, x, y, hx, hy, hxy⟩
    · exact e2
    · exact absurd (hch _ (Nat.succ_pos _) hr (parent_right k) x y hx hy) (by rw [hxy]; nofun)
  · exact absurd (hch _ (Nat.succ_pos _) hl (parent_left k) x y hx hy) (by rw [hxy]; nofun)

/-- What `moveDown(n, k)` that ended with `d'` has done to `d`.  All but `heap` holds for any comparator; `heap` is the
repair in its bottom-up form (nodes `≥ j`). -/
structure Sifted (comp : Comp α) (n k : Nat) (d d' : Array α) : Prop where
  size : d'.size = d.size
  perm : d'.Perm d
  beyond : ∀ m, n ≤ m → d'[m]? = d[m]?
  inside : ∀ a, a < n → ∃ a', a' < n ∧ d'[a]? = d[a']?
  stay : (∀ s, 0 < s → s < n → (s - 1) / 2 = k → Ok comp d s k) → d' = d
  heap : SWO comp → ∀ {j}, HeapExcept comp d n j k → j ≤ k → HeapFrom comp d' n j

theorem Sifted.isHeap {comp : Comp α} {n : Nat} {d d' : Array α} (r : Sifted comp n 0 d d')
    (hc : SWO comp) (hex : HeapExcept comp d n 0 0) : IsHeap comp d' n :=
  isHeap_iff_heapFrom.mpr (r.heap hc hex (Nat.le_refl _))

/-- the budget of `moveDown(n, k)` is enough for the call at a child `c` -/
theorem moveDown_budget {n k c f : Nat} (hf : n - k < f + 1) (hkc : k < c) (hcn : c < n) : n - c < f := by omega

/-- `moveDown(n, k)` never runs out of a budget `> n - k`: it recurses only on a child `< n` (whatever the
comparator, the slice and `n`); and when its reads are `< n ≤ len(data)` it ends, without a panic. -/
theorem moveDownF_ok (comp : Comp α) {n : Nat} (fuel : Nat) (d : Array α) (k : Nat) (hf : n - k < fuel) :
    moveDownF comp n fuel d k ≠ .hang ∧
      (n ≤ d.size → ∃ d', moveDownF comp n fuel d k = .ok d' ∧ Sifted comp n k d d') := by
  fun_induction moveDownF comp n fuel d k with
  | case1 => omega
  | case2 _ d k h1 =>
    exact ⟨nofun, fun hn => absurd h1 (pick_ne_none comp hn (by omega))⟩
  | case3 _ d k cur h1 h2 =>
    have := pick_range h1
    exact ⟨nofun, fun hn => absurd h2 (pick_ne_none comp hn (by omega))⟩
  | case4 _ d k _ h1 c h2 hne hs =>
    refine ⟨nofun, fun hn => ?_⟩
    obtain ⟨hkc, hcn⟩ := (picks_range h1 h2).resolve_left hne
    have hcs := Nat.lt_of_lt_of_le hcn hn
    exact absurd hs (swap_ne_none (Nat.lt_trans hkc hcs) hcs)
  | case5 _ d k _ h1 c h2 hne d1 hs ih =>
    obtain ⟨hkc, hcn⟩ := (picks_range h1 h2).resolve_left hne
    obtain ⟨nh, ok⟩ := ih (moveDown_budget hf hkc hcn)
    refine ⟨nh, fun hn => ?_⟩
    obtain ⟨d', e, r⟩ := ok (swap_size hs ▸ hn)
    refine ⟨d', e, {
      size := r.size.trans (swap_size hs)
      perm := r.perm.trans (swap_perm hs)
      beyond := fun m hm => ?_
      inside := fun a ha => ?_
      stay := fun hch => absurd (picks_stay h1 h2 hch) hne
      heap := fun hc j hex hjk => ?_ }⟩
    · have hcm := Nat.lt_of_lt_of_le hcn hm
      rw [r.beyond m hm, swap_other hs (Nat.ne_of_gt (Nat.lt_trans hkc hcm)) (Nat.ne_of_gt hcm)]
    · obtain ⟨a', ha', e⟩ := r.inside a ha
      by_cases ak : a' = k
      · exact ⟨c, hcn, by rw [e, ak, swap_left hs]⟩
      · by_cases ac : a' = c
        · exact ⟨k, Nat.lt_trans hkc hcn, by rw [e, ac, swap_right hs]⟩
        · exact ⟨a', ha', by rw [e, swap_other hs ak ac]⟩
    · rcases picks_spec hc h1 h2 with ⟨e, _⟩ | ⟨hb, hok⟩
      · exact absurd e hne
      exact r.heap hc (sift_step hex hjk hb hok hs) (Nat.le_trans hjk (Nat.le_of_lt hb.gt))
  | case6 _ d k _ h1 c h2 hne =>
    refine ⟨nofun, fun _ => ⟨d, rfl, {
      size := rfl
      perm := .refl _
      beyond := fun _ _ => rfl
      inside := fun a ha => ⟨a, ha, rfl⟩
      stay := fun _ => rfl
      heap := fun hc j hex _ => ?_ }⟩⟩
    rcases picks_spec hc h1 h2 with ⟨_, hch⟩ | ⟨hb, _⟩
    · exact sift_stop hex hch
    · exact absurd (Decidable.not_not.mp hne) (Nat.ne_of_gt hb.gt)

theorem moveDownF_ne_hang (comp : Comp α) (n fuel : Nat) (d : Array α) (k : Nat) (hf : n - k < fuel) :
    moveDownF comp n fuel d k ≠ .hang :=
  (moveDownF_ok comp fuel d k hf).1

example : (2 : Nat) - 0 < 3 := by decide

theorem moveDownF_mono (comp : Comp α) (n fuel more : Nat) (d : Array α) (i : Nat)
    (h : moveDownF comp n fuel d i ≠ .hang) :
    moveDownF comp n (fuel + more) d i = moveDownF comp n fuel d i := by
  fun_induction moveDownF comp n fuel d i with
  | case1 => exact absurd rfl h
  | case2 _ d i h1 => rw [Nat.succ_add, moveDownF]; simp only [h1]
  | case3 _ d i _ h1 h2 => rw [Nat.succ_add, moveDownF]; simp only [h1, h2]
  | case4 _ d i _ h1 _ h2 hne hs => rw [Nat.succ_add, moveDownF]; simp only [h1, h2, if_pos hne, hs]
  | case5 _ d i _ h1 _ h2 hne _ hs ih =>
    rw [Nat.succ_add, moveDownF]; simp only [h1, h2, if_pos hne, hs]
    exact ih h
  | case6 _ d i _ h1 _ h2 hne => rw [Nat.succ_add, moveDownF]; simp only [h1, h2, if_neg hne]

example : Model.Heap.moveDownF (fun a b : Int => decide (a < b)) 2 3 #[3, 1] 0 ≠ .hang := by
  intro h; cases h

theorem moveDownF_enough (comp : Comp α) (n : Nat) (d : Array α) (i fuel : Nat) (hf : n - i + 1 ≤ fuel) :
    moveDownF comp n fuel d i = moveDown comp n d i := by
  have := moveDownF_mono comp n (n - i + 1) (fuel - (n - i + 1)) d i
    (moveDownF_ne_hang comp n _ d i (Nat.lt_succ_self _))
  rwa [Nat.add_sub_cancel' hf] at this

theorem moveDown_ok (comp : Comp α) {n : Nat} (d : Array α) (k : Nat) (hn : n ≤ d.size) :
    ∃ d', moveDown comp n d k = .ok d' ∧ Sifted comp n k d d' :=
  (moveDownF_ok comp (n - k + 1) d k (Nat.lt_succ_self _)).2 hn

theorem moveDown_heap {comp : Comp α} (hc : SWO comp) {n j : Nat} {d : Array α} {k : Nat}
    {d' : Array α} (hn : n ≤ d.size) (hex : HeapExcept comp d n j k) (hjk : j ≤ k)
    (h : moveDown comp n d k = .ok d') : HeapFrom comp d' n j := by
  obtain ⟨_, e, r⟩ := moveDown_ok comp d k hn
  cases e.symm.trans h
  exact r.heap hc hex hjk

end GoguVerif.Lemmas.C03
