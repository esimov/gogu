import GoguVerif.Lemmas.C03.Basic
import GoguVerif.Lemmas.TieRules  -- for `eq_true_iff_not_not`: the loop tests `!comp(…)`
/-!
# C03: `moveUp`

`UpExcept comp d n i` : heap order everywhere except between `i` and its parent, and the children of
`i` already respect `i`'s parent (so that order holds again once `i` respects its parent) — the auxiliary invariant
of sift-up.  It spells the parent as `(i - 1) / 2`, as `IsHeap` does; `moveUpF` says `parent i`, and the facts that
`fun_induction` hands over are passed to the lemmas below as they are (`parent` unfolds).

Cases of `fun_induction moveUpF`, in source order: 1 no fuel, 2 break, 3 `swap` panics, 4 swap and go
on at the parent, 5 a read panics.
-/
namespace GoguVerif.Lemmas.C03
open GoguVerif.Model.Heap GoguVerif.Spec.C03

variable {α : Type}

structure UpExcept (comp : Comp α) (d : Array α) (n i : Nat) : Prop where
  others : ∀ c, 0 < c → c < n → c ≠ i → Ok comp d c ((c - 1) / 2)
  kids : 0 < i → ∀ g, 0 < g → g < n → (g - 1) / 2 = i → Ok comp d g ((i - 1) / 2)

/-- The root is its own parent, so under an irreflexive comparator only a node `> 0` precedes its
parent. -/
theorem pos_of_beats_parent {comp : Comp α} (hirr : ∀ a, comp a a = false) {d : Array α} {i : Nat}
    {x y : α} (hx : d[i]? = some x) (hy : d[(i - 1) / 2]? = some y) (h : comp x y = true) : 0 < i := by
  rcases Nat.eq_zero_or_pos i with e | e
  · subst e; rw [hx] at hy; cases hy; rw [hirr] at h; cases h
  · exact e

/-- A swap of sift-up moves the exception from `i` to its parent. -/
theorem up_step {comp : Comp α} (hc : SWO comp) {d d1 : Array α} {n i : Nat} {x y : α}
    (hin : i < n) (hi0 : 0 < i)
    (hex : UpExcept comp d n i) (hx : d[i]? = some x) (hy : d[(i - 1) / 2]? = some y)
    (hbeat : comp x y = true) (hs : swap d i ((i - 1) / 2) = some d1) :
    UpExcept comp d1 n ((i - 1) / 2) := by
  have hpi := parent_lt hi0
  refine { others := fun c hc0 hcn hcp => ?_, kids := fun hp0 g hg0 hgn hpg => ?_ }
  · by_cases hci : c = i
    · subst hci; exact .of_eq (swap_left hs) (swap_right hs) (.of_beats hc hx hy hbeat)
    · by_cases hpc : (c - 1) / 2 = i
      · rw [hpc]; exact .of_eq (swap_other hs hci hcp) (swap_left hs) (hex.kids hi0 c hc0 hcn hpc)
      · by_cases hpp : (c - 1) / 2 = (i - 1) / 2
        · -- the sibling respects `x` because it respected `y`, which `x` precedes
          rw [hpp]
          exact .of_eq (swap_other hs hci hcp) (swap_right hs)
            (.trans hc (swap_bounds hs).2 (hpp ▸ hex.others c hc0 hcn hci) (.of_beats hc hx hy hbeat))
        · exact .of_eq (swap_other hs hci hcp) (swap_other hs hpc hpp) (hex.others c hc0 hcn hci)
  · have hpp := hex.others _ hp0 (Nat.lt_trans hpi hin) (Nat.ne_of_lt hpi)
    have hlt := parent_lt hp0
    have e := swap_other hs (Nat.ne_of_lt (Nat.lt_trans hlt hpi)) (Nat.ne_of_lt hlt)
    by_cases hgi : g = i
    · subst hgi; exact .of_eq (swap_left hs) e hpp
    · refine .of_eq (swap_other hs hgi (Nat.ne_of_gt (hpg ▸ parent_lt hg0))) e
        (.trans hc (swap_bounds hs).2 ?_ hpp)
      have := hex.others g hg0 hgn hgi
      rwa [hpg] at this

theorem moveUpF_ok {comp : Comp α} (hirr : ∀ a, comp a a = false) (fuel : Nat) (d : Array α)
    (i : Nat) (hi : i < d.size) (hf : i < fuel) :
    ∃ d', moveUpF comp fuel d i = .ok d' ∧
      (SWO comp → ∀ {n}, i < n → UpExcept comp d n i → IsHeap comp d' n) := by
  fun_induction moveUpF comp fuel d i with
  | case1 => omega
  | case2 _ d i x y hy hx hcmp =>
    refine ⟨d, rfl, fun _ n _ hex c hc0 hcn => ?_⟩
    by_cases hci : c = i
    · exact hci ▸ .intro hx hy ((Bool.not_eq_true' _).mp hcmp)
    · exact hex.others c hc0 hcn hci
  | case3 _ d i _ _ _ _ _ hs =>
    exact absurd hs (swap_ne_none hi (Nat.lt_of_le_of_lt (parent_le i) hi))
  | case4 _ d i x y hy hx hcmp _ hs ih =>
    have hcmp := (eq_true_iff_not_not _).mpr hcmp
    have hi0 := pos_of_beats_parent hirr hx hy hcmp
    obtain ⟨d', e, hh⟩ := ih (swap_size hs ▸ (swap_bounds hs).2)
      (Nat.lt_of_lt_of_le (parent_lt hi0) (Nat.le_of_lt_succ hf))
    exact ⟨d', e, fun hc _ hin hex =>
      hh hc (Nat.lt_trans (parent_lt hi0) hin) (up_step hc hin hi0 hex hx hy hcmp hs)⟩
  | case5 _ d i hno =>
    exact (hno _ _ (Array.getElem?_eq_getElem hi) (Array.getElem?_eq_getElem (Nat.lt_of_le_of_lt (parent_le i) hi))).elim

theorem moveUpF_frame {comp : Comp α} (fuel : Nat) (d : Array α) (i : Nat) (d' : Array α)
    (h : moveUpF comp fuel d i = .ok d') : d'.size = d.size ∧ d'.Perm d := by
  fun_induction moveUpF comp fuel d i with
  | case1 | case3 | case5 => cases h
  | case2 => cases h; exact ⟨rfl, .refl _⟩
  | case4 _ _ _ _ _ _ _ _ _ hs ih =>
    exact ⟨(ih h).1.trans (swap_size hs), (ih h).2.trans (swap_perm hs)⟩

theorem moveUpF_mono (comp : Comp α) (fuel k : Nat) (d : Array α) (i : Nat)
    (h : moveUpF comp fuel d i ≠ .hang) : moveUpF comp (fuel + k) d i = moveUpF comp fuel d i := by
  fun_induction moveUpF comp fuel d i with
  | case1 => exact absurd rfl h
  | case2 _ d i x y hy hx hcmp => rw [Nat.succ_add, moveUpF]; simp only [hx, hy, hcmp, if_true]
  | case3 _ d i x y hy hx hcmp hs => rw [Nat.succ_add, moveUpF]; simp only [hx, hy, if_neg hcmp, hs]
  | case4 _ d i x y hy hx hcmp _ hs ih =>
    rw [Nat.succ_add, moveUpF]; simp only [hx, hy, if_neg hcmp, hs]
    exact ih h
  | case5 _ d i hno =>
    rw [Nat.succ_add, moveUpF]
    split
    · rename_i hx hy; exact (hno _ _ hx hy).elim
    · rfl

/-- at the root the loop compares the root with itself: it spins for ever if `comp root root` -/
theorem moveUpF_spin (comp : Comp α) (x : α) (hc : comp x x = true) (fuel : Nat) (d : Array α)
    (hx : d[0]? = some x) : moveUpF comp fuel d 0 = .hang := by
  induction fuel generalizing d with
  | zero => rfl
  | succ fuel ih =>
    obtain ⟨d1, hs⟩ := exists_swap (d := d) (i := 0) (j := 0) (lt_of_getElem? hx) (lt_of_getElem? hx)
    rw [moveUpF]
    simp only [show parent 0 = 0 from rfl, hx, hc, Bool.not_true, Bool.false_eq_true, if_false, hs]
    exact ih d1 ((swap_left hs).trans hx)

/-- A budget `> i` runs out only by spinning at the root. -/
theorem moveUpF_hang_every_fuel (comp : Comp α) (fuel : Nat) (d : Array α) (i : Nat) (hi : i < fuel)
    (h : moveUpF comp fuel d i = .hang) : ∀ f, moveUpF comp f d i = .hang := by
  fun_induction moveUpF comp fuel d i with
  | case1 => omega
  | case2 | case3 | case5 => cases h
  | case4 fuel d i x y hy hx hcmp d1 hs ih =>
    intro f
    cases f with
    | zero => rfl
    | succ f =>
      rw [moveUpF]
      simp only [hx, hy, if_neg hcmp, hs]
      rcases Nat.eq_zero_or_pos i with rfl | hpos
      · rw [show d[parent 0]? = d[0]? from rfl, hx] at hy
        cases hy
        exact moveUpF_spin comp x ((eq_true_iff_not_not _).mpr hcmp) f d1 ((swap_left hs).trans hx)
      · exact ih (Nat.lt_of_lt_of_le (parent_lt hpos) (Nat.le_of_lt_succ hi)) h f

theorem moveUpF_enough (comp : Comp α) (d : Array α) (i fuel : Nat) (hf : i + 1 ≤ fuel) :
    moveUpF comp fuel d i = moveUp comp d i := by
  unfold moveUp
  by_cases h : moveUpF comp (i + 1) d i = .hang
  · rw [h]; exact moveUpF_hang_every_fuel comp (i + 1) d i (Nat.lt_succ_self i) h fuel
  · have := moveUpF_mono comp (i + 1) (fuel - (i + 1)) d i h
    rwa [Nat.add_sub_cancel' hf] at this

end GoguVerif.Lemmas.C03
