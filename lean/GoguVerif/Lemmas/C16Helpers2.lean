import GoguVerif.Model.StoreHelpers2
import GoguVerif.Lemmas.C16Helpers
import GoguVerif.Lemmas.ListFacts
/-!
# Lemmas for the second batch of store-level helper models (C16)

The loops of `Model/StoreHelpers2.lean` over a whole argument slice.  Those of `DifferenceBy` and
`IntersectionBy` are `appendEach` of the value-level answer, under the builder invariant `Inv` of
`Lemmas/C16Helpers.lean`; of the two loops of `Duplicate` the first only reads a well-formed argument and the
second is a run of appends whatever the store.  The loops of `Zip`/`Unzip` simulate the value-level loops of
`Model/C12.lean` step by step, panics included, under the invariant `RowsInv` for a whole list of rows made by the
helper; the relation of the simulation also says that a run which returns is `run` of the loop's program of the
builder discipline.  `Sim`, with `Sim.elim`, `.imp`, `.of_ok`, `.of_some`, `.of_panic`, is declared in
`Lemmas/C16Helpers.lean`, under this file's namespace.

`section PlainAtIdentity` is about loops of the FIRST batch (`withoutLoop`, `interLoop` of `Model/StoreHelpers.lean`):
they are the keyed loops proved here at the identity, and `Theorems/C16Helpers.lean` reads them from this file.
-/
set_option autoImplicit false
namespace GoguVerif.Lemmas.C16Helpers2
open Model.Store Model.StoreHelpers Model.StoreHelpers2 Lemmas.C16Store Lemmas.C16Helpers

/-! The loops that only read an argument are stated as a builder meets them: the argument is a header of the store `σ0`
the helper was called on, read from a later store `σ` that frames it. -/

theorem skipByLoop_eq (fn : Int → Int) {σ0 σ : Store} (hf : Frame σ0 σ) {s2 : Slice} (h : WF σ0 s2) (v : Int) :
    skipByLoop fn σ s2 v s2.len 0 = some (Model.C11.skipByEq fn v (elems σ0 s2)) :=
  range_loop h (motive := fun n j l => skipByLoop fn σ s2 v n j = some (Model.C11.skipByEq fn v l))
    (fun _ => rfl)
    (fun n j w l hr ih => by
      simp only [skipByLoop, hr σ hf, Model.C11.skipByEq]
      split
      · rfl
      · exact ih)

theorem differenceByLoop_eq (fn : Int → Int) {σ0 : Store} {s1 s2 : Slice} (h1 : WF σ0 s1) (h2 : WF σ0 s2)
    (σ : Store) (res : Slice) (hinv : Inv σ0 σ res) :
    differenceByLoop fn s1 s2 s1.len 0 [] σ res =
      some (appendEach σ res (Model.C11.diffByLoop fn (elems σ0 s2) [] [] (elems σ0 s1))) := by
  -- the value-level accumulator is generalised to "whatever it was, plus `ws`", the `ws` that the store side appends
  obtain ⟨ws, g1, g2⟩ := range_loop h1
    (motive := fun n i l => ∀ keys σ res, Inv σ0 σ res →
      ∃ ws, differenceByLoop fn s1 s2 n i keys σ res = some (appendEach σ res ws) ∧
        ∀ r, Model.C11.diffByLoop fn (elems σ0 s2) keys r l = r ++ ws)
    (fun _ _ _ _ _ => ⟨[], rfl, fun r => (List.append_nil r).symm⟩)
    (fun n i v l hr ih keys σ res hinv => by
      simp only [differenceByLoop, hr σ hinv.frame, skipByLoop_eq fn hinv.frame h2 v, Model.C11.diffByLoop]
      cases Model.C11.skipByEq fn v (elems σ0 s2) with
      | true => exact ih _ _ _ hinv
      | false =>
        by_cases hk : v ∈ keys
        · simp only [hk, if_true, Bool.false_eq_true, if_false]
          exact ih _ _ _ hinv
        · simp only [hk, if_false, Bool.false_eq_true]
          obtain ⟨ws, g1, g2⟩ := ih (v :: keys) _ _ (hinv.append v)
          exact ⟨v :: ws, g1, fun r => by rw [g2, List.append_assoc]; rfl⟩) [] σ res hinv
  rw [g1, show ws = Model.C11.diffByLoop fn (elems σ0 s2) [] [] (elems σ0 s1) from (g2 []).symm]

/-- `Model/StoreHelpers2.lean` repeats the text of `Model.C11.hasKey` and `incrKey`: equal by unfolding (the unifier
has to be told to unfold a structural recursion on a variable) -/
theorem hasKey_eq (k : Int) (m : List (Int × Nat)) : hasKey k m = Model.C11.hasKey k m := by
  set_option smartUnfolding false in rfl

theorem incrKey_eq (k : Int) (m : List (Int × Nat)) : incrKey k m = Model.C11.incrKey k m := by
  set_option smartUnfolding false in rfl

theorem dupCountLoop_eq {σ0 σ : Store} (hf : Frame σ0 σ) {arg : Slice} (h : WF σ0 arg) (keyCount : List (Int × Nat)) :
    dupCountLoop σ arg arg.len 0 keyCount = some (Model.C11.dupCountLoop keyCount (elems σ0 arg)) :=
  range_loop h
    (motive := fun n i l => ∀ keyCount, dupCountLoop σ arg n i keyCount = some (Model.C11.dupCountLoop keyCount l))
    (fun _ _ => rfl)
    (fun n i v l hr ih keyCount => by
      simp only [dupCountLoop, hr σ hf, Model.C11.dupCountLoop, hasKey_eq, incrKey_eq]
      split <;> exact ih _) keyCount

theorem dupCollectLoop_eq (m : List (Int × Nat)) (σ : Store) (res : Slice) :
    dupCollectLoop m σ res = appendEach σ res (Model.C11.dupCollect m) := by
  induction m generalizing σ res with
  | nil => rfl
  | cons e rest ih =>
    obtain ⟨k, v⟩ := e
    simp only [dupCollectLoop, Model.C11.dupCollect]
    split
    · rw [ih]; rfl
    · exact ih σ res

theorem hasStore_eq (fn : Int → Int) {σ0 σ : Store} (hf : Frame σ0 σ) {p : Slice} (h : WF σ0 p) (item : Int) :
    hasStore fn σ p item = some (Model.C11.hasImage fn item (elems σ0 p)) :=
  range_loop h (motive := fun n k l => hasLoop fn σ p item n k = some (Model.C11.hasImage fn item l))
    (fun _ => rfl)
    (fun n k w l hr ih => by
      simp only [hasLoop, hr σ hf, Model.C11.hasImage]
      split
      · rfl
      · exact ih)

theorem interByScan_eq (fn : Int → Int) {σ0 σ : Store} (hf : Frame σ0 σ) (item : Int) (ps : List Slice)
    (hp : ∀ p ∈ ps, WF σ0 p) (j : Nat) :
    interByScan fn σ item ps j = some (Model.C11.interByScan fn item (ps.map (elems σ0)) j) := by
  induction ps generalizing j with
  | nil => rfl
  | cons p ps ih =>
    simp only [interByScan, hasStore_eq fn hf (hp p (by simp)), List.map_cons, Model.C11.interByScan]
    split
    · rfl
    · exact ih (fun q hq => hp q (by simp [hq])) (j + 1)

/-- `hres`: the builder reads its own result, so the value-level accumulator is what `res` shows: nothing yet -/
theorem interByLoop_eq (fn : Int → Int) (np : Nat) {σ0 : Store} {p0 : Slice} {others : List Slice} (h0 : WF σ0 p0)
    (ho : ∀ p ∈ others, WF σ0 p) (σ : Store) (res : Slice) (hinv : Inv σ0 σ res) (hres : elems σ res = []) :
    interByLoop fn np p0 others p0.len 0 σ res =
      some (appendEach σ res (Model.C11.interByLoop fn np (others.map (elems σ0)) [] (elems σ0 p0))) := by
  obtain ⟨ws, g1, g2⟩ := range_loop h0
    (motive := fun n i l => ∀ σ res, Inv σ0 σ res →
      ∃ ws, interByLoop fn np p0 others n i σ res = some (appendEach σ res ws) ∧
        Model.C11.interByLoop fn np (others.map (elems σ0)) (elems σ res) l = elems σ res ++ ws)
    (fun _ _ _ _ => ⟨[], rfl, (List.append_nil _).symm⟩)
    (fun n i item l hr ih σ res hinv => by
      simp only [interByLoop, hr σ hinv.frame, containsStore_eq hinv.wf, interByScan_eq fn hinv.frame item others ho 1,
        Model.C11.interByLoop]
      cases Model.C11.contains item (elems σ res) with
      | true => exact ih σ res hinv
      | false =>
        simp only [Bool.false_eq_true, if_false]
        split
        · obtain ⟨ws, g1, g2⟩ := ih _ _ (hinv.append item)
          rw [(AppendPost.single hinv.wf item).elems] at g2
          exact ⟨item :: ws, g1, by rw [g2, List.append_assoc]; rfl⟩
        · exact ih σ res hinv) σ res hinv
  rw [hres] at g2
  rw [g1, show ws = Model.C11.interByLoop fn np (others.map (elems σ0)) [] (elems σ0 p0) from g2.symm]

section PlainAtIdentity
/-! gogu writes the plain helper next to the keyed one so that it is the keyed one with `fn` the identity, and the models
follow the text, at store level and at value level: the loops unfold to the same term (`smartUnfolding` off, as for
`Lemmas.C16Helpers.dropWhileLoop_eq_filterLoop`).  So the loops of the keyed helpers are the only ones proved. -/

theorem withoutLoop_eq_differenceByLoop (s1 s2 : Slice) : withoutLoop s1 s2 = differenceByLoop id s1 s2 := by
  set_option smartUnfolding false in rfl

theorem interLoop_eq_interByLoop (np : Nat) (p0 : Slice) (others : List Slice) :
    interLoop np p0 others = interByLoop id np p0 others := by
  set_option smartUnfolding false in rfl

theorem withoutLoop_eq {σ0 : Store} {arg values : Slice} (harg : WF σ0 arg) (hval : WF σ0 values) (σ : Store)
    (res : Slice) (hinv : Inv σ0 σ res) :
    withoutLoop arg values arg.len 0 [] σ res =
      some (appendEach σ res (Model.C11.diffLoop (elems σ0 values) [] [] (elems σ0 arg))) := by
  rw [withoutLoop_eq_differenceByLoop, Lemmas.C11.diffLoop_eq_diffByLoop]
  exact differenceByLoop_eq id harg hval σ res hinv

theorem interLoop_eq (np : Nat) {σ0 : Store} {p0 : Slice} {others : List Slice} (h0 : WF σ0 p0)
    (ho : ∀ p ∈ others, WF σ0 p) (σ : Store) (res : Slice) (hinv : Inv σ0 σ res) (hres : elems σ res = []) :
    interLoop np p0 others p0.len 0 σ res =
      some (appendEach σ res (Model.C11.interLoop np (others.map (elems σ0)) [] (elems σ0 p0))) := by
  rw [interLoop_eq_interByLoop, Lemmas.C11.interLoop_eq_interByLoop]
  exact interByLoop_eq id np h0 ho σ res hinv hres

end PlainAtIdentity

/-- the invariant of a helper that builds SEVERAL rows: every array of the initial store `σ0` is unchanged in
`σ`, every row is a well-formed header into storage that did not exist in `σ0`, and different rows lie in
different arrays -/
structure RowsInv (σ0 σ : Store) (rows : List Slice) : Prop where
  frame : Frame σ0 σ
  fresh : ∀ r ∈ rows, σ0.length ≤ r.arr
  wf : ∀ r ∈ rows, WF σ r
  ne : ∀ (i j : Nat) (ri rj : Slice), rows[i]? = some ri → rows[j]? = some rj → i ≠ j → ri.arr ≠ rj.arr

theorem RowsInv.nil (σ : Store) : RowsInv σ σ [] :=
  { frame := Frame.refl σ
    fresh := fun _ h => by cases h
    wf := fun _ h => by cases h
    ne := fun i j ri rj h => by simp at h }

theorem RowsInv.alloc {σ0 σ : Store} {rows : List Slice} (h : RowsInv σ0 σ rows) (len cap : Nat) :
    RowsInv σ0 (alloc σ len cap).1 (rows ++ [(alloc σ len cap).2]) ∧
      ∀ r ∈ rows, elems (alloc σ len cap).1 r = elems σ r := by
  have harr := alloc_arr σ len cap
  have hfr := alloc_frame σ len cap
  have hle := Frame.length_le h.frame
  refine ⟨⟨Frame.trans h.frame hfr,
    List.forall_mem_append.mpr ⟨h.fresh, List.forall_mem_singleton.mpr (harr ▸ hle)⟩,
    List.forall_mem_append.mpr ⟨fun r hr => Frame.wf hfr (h.wf r hr),
      List.forall_mem_singleton.mpr (alloc_wf σ len cap)⟩, ?_⟩, fun r hr => Frame.elems_eq hfr (h.wf r hr)⟩
  · intro i j ri rj hi hj hij
    rcases ListFacts.getElem?_snoc_cases hi with ⟨_, hi'⟩ | ⟨hi1, hi2⟩ <;>
      rcases ListFacts.getElem?_snoc_cases hj with ⟨_, hj'⟩ | ⟨hj1, hj2⟩
    · exact h.ne i j ri rj hi' hj' hij
    · have := WF_arr_lt (h.wf ri (List.mem_of_getElem? hi'))
      rw [hj2, harr]; omega
    · have := WF_arr_lt (h.wf rj (List.mem_of_getElem? hj'))
      rw [hi2, harr]; omega
    · omega

/-- what a part of `Zip` / `Unzip` that did not panic has done: the invariant holds in the store `σ'` reached, the rows
show the value-level answer `r`, and `σ'` with the rows behind the registers is what `ran regs`, the part's program of
the builder discipline run on a register file `regs`, reaches -/
structure RowsPost (σ0 σ' : Store) (rows : List Slice) (r : List (List Int)) (ran : List Slice → Machine) : Prop where
  inv : RowsInv σ0 σ' rows
  shows : rows.map (elems σ') = r
  run : ∀ regs : List Slice, ran regs = { σ := σ', regs := regs ++ rows }

theorem read2_sim {σ0 σ : Store} {slices : List Slice} (hf : Frame σ0 σ) (hs : ∀ p ∈ slices, WF σ0 p) (a b : Nat) :
    Sim (fun v w => v = w) (read2 σ slices a b) (Model.C12.get2 (slices.map (elems σ0)) a b) := by
  unfold Model.C12.get2 read2
  rw [List.getElem?_map]
  cases hsa : slices[a]? with
  | none => exact .panic
  | some s =>
    have hw := hs s (List.mem_of_getElem? hsa)
    simp only [Option.map_some]
    rw [read_congr s b (frame_arg hf hw), read_eq]
    cases (elems σ0 s)[b]? with
    | none => exact .panic
    | some v => exact .ok rfl

/-- `rows[i][x] = v` against the value-level `set2`: the other rows lie in other arrays, so they show what they
showed; the program is the indexed write through the register of row `i`, on any register file that ends with the
rows -/
theorem RowsInv.write2 {σ0 σ : Store} {rows : List Slice} (h : RowsInv σ0 σ rows) (i x : Nat) (v : Int) :
    Sim (fun σ' r => RowsPost σ0 σ' rows r fun regs =>
        step σ0.length { σ := σ, regs := regs ++ rows } (Instr.write (regs.length + i) x v))
      (write2 σ rows i x v) (Model.C12.set2 (rows.map (elems σ)) i x v) := by
  unfold Model.C12.set2 Model.StoreHelpers2.write2
  rw [List.getElem?_map]
  cases hri : rows[i]? with
  | none => exact .panic
  | some ri =>
    have hmem := List.mem_of_getElem? hri
    have hw := h.wf ri hmem
    simp only [Option.map_some, elems_length hw]
    by_cases hx : x < ri.len
    · obtain ⟨σ', w1, w2, wp⟩ := write_inplace (σ := σ) hx v
      rw [if_pos hx, w1]
      refine .ok ⟨⟨(Inv.inplace ⟨Frame.length_le h.frame, h.frame, h.fresh ri hmem, hw⟩ wp).frame, h.fresh,
        fun r hr => InPlace.wf wp (h.wf r hr), h.ne⟩, ?_, fun regs => ?_⟩
      · apply List.ext_getElem?
        intro k
        rw [List.getElem?_set, List.getElem?_map, List.getElem?_map]
        by_cases hk : i = k
        · subst hk
          rw [if_pos rfl, if_pos (by rw [List.length_map]; exact (List.getElem?_eq_some_iff.mp hri).1), hri,
            Option.map_some, w2]
        · rw [if_neg hk]
          cases hrk : rows[k]? with
          | none => rfl
          | some rk =>
            simp only [Option.map_some]
            rw [elems_congr rk (InPlace.other wp (h.ne k i rk ri hrk hri (Ne.symm hk)))]
      · have hreg : (regs ++ rows)[regs.length + i]? = some ri := by
          rw [List.getElem?_append_right (Nat.le_add_right ..), Nat.add_sub_cancel_left]; exact hri
        simp only [step, hreg, h.fresh ri hmem, if_true, w1]
    · rw [if_neg hx, show write σ ri x v = none from if_neg hx]
      exact .panic

theorem run_append (base : Nat) (p q : List Instr) (m : Machine) :
    run base m (p ++ q) = run base (run base m p) q := by
  induction p generalizing m with
  | nil => rfl
  | cons i p ih => simp only [List.cons_append, run]; exact ih _

/-- entry `(a, b)` of the value-level matrix (`0` outside it: never used by a run that does not panic) -/
def at2 (m : List (List Int)) (a b : Nat) : Int := (((m[a]?).getD [])[b]?).getD 0

theorem at2_of_get2 {m : List (List Int)} {a b : Nat} {v : Int} (h : Model.C12.get2 m a b = .ok v) :
    at2 m a b = v := by
  unfold Model.C12.get2 at h
  unfold at2
  cases hma : m[a]? with
  | none => rw [hma] at h; cases h
  | some row =>
    rw [hma] at h
    simp only at h
    cases hrb : row[b]? with
    | none => rw [hrb] at h; cases h
    | some w => rw [hrb] at h; cases h; simp [hrb]

/-- the program of the inner loop: one indexed write per iteration, through the register of the row
(`r0` = the register of row 0) -/
def cellProg (tr : Bool) (r0 : Nat) (m : List (List Int)) (x : Nat) : Nat → Nat → List Instr
  | 0, _ => []
  | n + 1, i =>
    (if tr then Instr.write (r0 + x) i (at2 m i x) else Instr.write (r0 + i) x (at2 m x i)) ::
      cellProg tr r0 m x n (i + 1)

def colProg (tr : Bool) (r0 : Nat) (m : List (List Int)) : Nat → Nat → List Instr
  | 0, _ => []
  | n + 1, x => cellProg tr r0 m x m.length 0 ++ colProg tr r0 m n (x + 1)

/-- the program of `Zip` (`tr = false`) / `Unzip` (`tr = true`) on the matrix `m` the arguments show: one
`make([]T, len(sl))` per argument, then one indexed write per cell into the rows made -/
def zipProg (tr : Bool) (r0 : Nat) (m : List (List Int)) : List Instr :=
  m.map (fun row => Instr.alloc row.length row.length) ++ colProg tr r0 m (Model.C12.firstLen m) 0

/-! Value refinement (panics included) and the discipline come by one induction per loop: the relation of each
simulation is `RowsPost`, with the loop's program run on ANY register file that ends with the rows. -/

/-- `Zip` and `Unzip` differ only in which of `i`, `x` is the row index: whatever is done at `(i, x)` in the one and
at `(x, i)` in the other is done at one pair `(a, b)` -/
theorem zipIndex (tr : Bool) (i x : Nat) :
    ∃ a b : Nat, ∀ {β : Type} (f : Nat → Nat → β), (if tr then f i x else f x i) = f a b := by
  cases tr
  · exact ⟨x, i, fun _ => rfl⟩
  · exact ⟨i, x, fun _ => rfl⟩

theorem zipCellLoop_sim (tr : Bool) {σ0 : Store} {slices rows : List Slice} (hs : ∀ p ∈ slices, WF σ0 p)
    (x n i : Nat) (σ : Store) (hinv : RowsInv σ0 σ rows) :
    Sim (fun σ' r => RowsPost σ0 σ' rows r fun regs =>
        run σ0.length { σ := σ, regs := regs ++ rows } (cellProg tr regs.length (slices.map (elems σ0)) x n i))
      (zipCellLoop tr slices rows x n i σ)
      (Model.C12.cellLoop tr (slices.map (elems σ0)) x n i (rows.map (elems σ))) := by
  induction n generalizing i σ with
  | zero => exact .ok ⟨hinv, rfl, fun _ => rfl⟩
  | succ n ih =>
    obtain ⟨a, b, hab⟩ := zipIndex tr i x
    have hrd := fun σ => hab (read2 σ slices)
    have hwr : ∀ σ v, (if tr then write2 σ rows x i v else write2 σ rows i x v) =
        write2 σ rows b a v := fun σ v => hab (fun p q => write2 σ rows q p v)
    have hg := fun m : List (List Int) => hab (Model.C12.get2 m)
    have hst : ∀ (m : List (List Int)) v, (if tr then Model.C12.set2 m x i v else Model.C12.set2 m i x v) =
        Model.C12.set2 m b a v := fun m v => hab (fun p q => Model.C12.set2 m q p v)
    have hpr : ∀ (r0 : Nat) (m : List (List Int)), (if tr then Instr.write (r0 + x) i (at2 m i x)
        else Instr.write (r0 + i) x (at2 m x i)) = Instr.write (r0 + b) a (at2 m a b) :=
      fun r0 m => hab (fun p q => Instr.write (r0 + q) p (at2 m p q))
    simp only [zipCellLoop, Model.C12.cellLoop, hrd, hwr, hg, hst]
    rcases (read2_sim hinv.frame hs a b).elim with ⟨h1, h2⟩ | ⟨v, _, h1, h2, rfl⟩
    · simp only [h1, h2]; exact .panic
    rcases (hinv.write2 b a v).elim with ⟨g1, g2⟩ | ⟨σ1, _, g1, g2, w⟩
    · simp only [h1, h2, g1, g2]; exact .panic
    obtain rfl := w.shows
    simp only [h1, h2, g1, g2]
    refine (ih (i + 1) σ1 w.inv).imp fun σ' r k => ⟨k.inv, k.shows, fun regs => ?_⟩
    simp only [cellProg, hpr, run, at2_of_get2 h2, w.run regs]
    exact k.run regs

theorem zipColLoop_sim (tr : Bool) {σ0 : Store} {slices rows : List Slice} (hs : ∀ p ∈ slices, WF σ0 p)
    (n x : Nat) (σ : Store) (hinv : RowsInv σ0 σ rows) :
    Sim (fun σ' r => RowsPost σ0 σ' rows r fun regs =>
        run σ0.length { σ := σ, regs := regs ++ rows } (colProg tr regs.length (slices.map (elems σ0)) n x))
      (zipColLoop tr slices rows n x σ)
      (Model.C12.colLoop tr (slices.map (elems σ0)) n x (rows.map (elems σ))) := by
  induction n generalizing x σ with
  | zero => exact .ok ⟨hinv, rfl, fun _ => rfl⟩
  | succ n ih =>
    simp only [zipColLoop, Model.C12.colLoop, List.length_map]
    rcases (zipCellLoop_sim tr hs x slices.length 0 σ hinv).elim with ⟨h1, h2⟩ | ⟨σ1, r, h1, h2, c⟩
    · rw [h1, h2]; exact .panic
    · obtain rfl := c.shows
      rw [h1, h2]
      exact (ih (x + 1) σ1 c.inv).imp fun σ' r k =>
        ⟨k.inv, k.shows, fun regs => by simp only [colProg, run_append, List.length_map, c.run regs, k.run regs]⟩

theorem elems_nilSlice (σ : Store) : elems σ nilSlice = [] := by simp [elems, nilSlice]

/-- the loop that makes the rows: `done` are the rows made so far; what stands behind them in `result`, on either
side, is overwritten before it is read, so nothing is asked of it but its length; the program is one `make` per
argument left -/
theorem zipRowsLoop_sim {σ0 : Store} (sliceLen : Nat) (rest : List Slice) (hrest : ∀ p ∈ rest, WF σ0 p)
    (done todo : List Slice) (todoV : List (List Int)) (hl : todo.length = rest.length)
    (hlv : todoV.length = rest.length) (σ : Store) (hinv : RowsInv σ0 σ done) :
    Sim (fun (p : Store × List Slice) r => RowsPost σ0 p.1 p.2 r fun regs =>
        run σ0.length { σ := σ, regs := regs ++ done }
          ((rest.map (elems σ0)).map (fun row => Instr.alloc row.length row.length)))
      (zipRowsLoop sliceLen rest done.length σ (done ++ todo))
      (Model.C12.rowsLoop sliceLen (rest.map (elems σ0)) done.length (done.map (elems σ) ++ todoV)) := by
  induction rest generalizing done todo todoV σ with
  | nil =>
    rw [List.eq_nil_of_length_eq_zero hl, List.eq_nil_of_length_eq_zero hlv]
    simp only [zipRowsLoop, Model.C12.rowsLoop, List.map_nil, List.append_nil]
    exact .ok ⟨hinv, rfl, fun _ => rfl⟩
  | cons sl rest ih =>
    obtain _ | ⟨t, todo⟩ := todo
    · cases hl
    obtain _ | ⟨tv, todoV⟩ := todoV
    · cases hlv
    have hsl := hrest sl (by simp)
    simp only [zipRowsLoop, Model.C12.rowsLoop, List.map_cons, elems_length hsl]
    by_cases hne : sliceLen ≠ sl.len
    · rw [if_pos hne, if_pos hne]; exact .panic
    · obtain ⟨i1, i2⟩ := hinv.alloc sl.len sl.len
      have h0 : done.length = (done.map (elems σ)).length := (List.length_map _).symm
      rw [if_neg hne, if_neg hne, if_pos (by simp), if_pos (by simp), Lemmas.C12.set_length_append]
      -- on the value side the index `done.length` is the length of the MAPPED list
      conv => arg 3; rw [h0, Lemmas.C12.set_length_append, ← h0]
      have := ih (fun p hp => hrest p (by simp [hp])) (done ++ [(alloc σ sl.len sl.len).2]) todo todoV
        (Nat.succ.inj hl) (Nat.succ.inj hlv) _ i1
      rw [List.map_append, List.map_singleton, alloc_elems, List.map_congr_left i2, List.length_append,
        List.length_singleton] at this
      refine this.imp fun p r k => ⟨k.inv, k.shows, fun regs => ?_⟩
      simp only [run, step]
      rw [List.append_assoc]
      exact k.run regs

theorem firstLen_eq {σ : Store} (slices : List Slice) (hs : ∀ p ∈ slices, WF σ p) :
    Model.C12.firstLen (slices.map (elems σ)) = firstLen slices := by
  cases slices with
  | nil => rfl
  | cons s0 rest => simp only [List.map_cons, Model.C12.firstLen, firstLen, elems_length (hs s0 (by simp))]

/-- the whole body of `Zip` / `Unzip`: the rows show the value-level answer, so their number is that answer's -/
theorem zipWithStore_sim (tr : Bool) (σ : Store) (slices : List Slice) (hs : ∀ p ∈ slices, WF σ p) :
    Sim (fun (p : Store × List Slice) r => RowsPost σ p.1 p.2 r fun regs =>
        run σ.length { σ := σ, regs := regs } (zipProg tr regs.length (slices.map (elems σ))))
      (zipWithStore tr σ slices) (Model.C12.zipWith tr (slices.map (elems σ))) := by
  unfold zipWithStore Model.C12.zipWith
  rw [firstLen_eq slices hs, List.length_map]
  by_cases hne : firstLen slices ≠ slices.length
  · rw [if_pos hne, if_pos hne]; exact .panic
  · rw [if_neg hne, if_neg hne]
    have := zipRowsLoop_sim (firstLen slices) slices hs [] _ _ (List.length_replicate (a := nilSlice))
      (List.length_replicate (a := [])) σ (RowsInv.nil σ)
    simp only [List.nil_append, List.length_nil, List.map_nil, List.append_nil] at this
    rcases this.elim with ⟨h1, h2⟩ | ⟨⟨σ1, rows⟩, r, h1, h2, made⟩
    · rw [h1, h2]; exact .panic
    · obtain rfl := made.shows
      rw [h1, h2]
      simp only
      rcases (zipColLoop_sim tr hs (firstLen slices) 0 σ1 made.inv).elim with ⟨g1, g2⟩ | ⟨σ2, r, g1, g2, filled⟩
      · rw [g1, g2]; exact .panic
      · rw [g1, g2]
        exact .ok ⟨filled.inv, filled.shows, fun regs => by
          rw [zipProg, run_append, firstLen_eq slices hs, made.run, filled.run]⟩

end GoguVerif.Lemmas.C16Helpers2
