import GoguVerif.Model.BTree
import GoguVerif.Lemmas.OrdMap
/-!
# C10 helper lemmas: the sorted association list with tombstones

The abstract object the B-tree refines is the list of all external entries, left to right
(`flat`, defined in `Lemmas/C10.lean`): strictly increasing keys, tombstones included.  On that list
`Put`/`Remove` are `insFlat`, `Get` is `Model.BTree.searchLeaf`, `Traverse` is `live`.  This file relates
these list functions to each other and to the ordered map `Spec.OrdMap` of the specification: on the
live entries they are `lookup`, `insert` and `erase`, so the map laws of `Lemmas/OrdMap.lean` apply.
-/
namespace GoguVerif.Lemmas.C10
open GoguVerif.Model.BTree GoguVerif.Spec

def SortedK (F : List Entry) : Prop := F.Pairwise (fun a b => a.key < b.key)

/-- keys stored (tombstones included) -/
def keys (F : List Entry) : List Int := F.map (·.key)

def headKey (F : List Entry) : Option Int := F.head?.map (·.key)

/-- live entries as (key, value) pairs: what `Traverse` reports -/
def live (F : List Entry) : List (Int × Int) := (F.filter (fun e => !e.removed)).map (fun e => (e.key, e.val))

/-- `insert` on the flat list: overwrite the entry with key `k` (value, tombstone flag) or add a live entry in key order. -/
def insFlat (k v : Int) (rm : Bool) : List Entry → List Entry
  | [] => [⟨k, v, false⟩]
  | e :: r =>
    if k = e.key then { e with val := v, removed := rm } :: r
    else if k < e.key then ⟨k, v, false⟩ :: e :: r
    else e :: insFlat k v rm r

/-! `insFlat` and `insLeaf` test `k = e.key`, then `k < e.key`; the branch for `k = e.key` is `if_pos`,
these pick the other two. -/
section ite
variable {α : Type} {x y z : α} {a b : Int}

theorem ite_key_lt (c : a < b) : (if a = b then x else if a < b then y else z) = y := by
  rw [if_neg (Int.ne_of_lt c), if_pos c]

theorem ite_key_gt (c : b < a) : (if a = b then x else if a < b then y else z) = z := by
  rw [if_neg (Int.ne_of_gt c), if_neg (Int.lt_asymm c)]

end ite

/-- `insLeaf` is `insFlat` plus a flag that says whether the list grew. -/
theorem insLeaf_spec (k v : Int) (rm : Bool) (F : List Entry) :
    ∃ g, insLeaf k v rm F = (insFlat k v rm F, g) ∧
      (insFlat k v rm F).length = F.length + (if g then 1 else 0) := by
  induction F with
  | nil => exact ⟨true, rfl, rfl⟩
  | cons e r ih =>
    obtain ⟨g, h1, h2⟩ := ih
    rw [insLeaf, insFlat, h1]
    rcases Int.lt_trichotomy k e.key with c | c | c
    · rw [ite_key_lt c, ite_key_lt c]; exact ⟨true, rfl, rfl⟩
    · rw [if_pos c, if_pos c]; exact ⟨false, rfl, rfl⟩
    · rw [ite_key_gt c, ite_key_gt c]
      exact ⟨g, rfl, by rw [List.length_cons, h2, List.length_cons, Nat.add_right_comm]⟩

theorem insFlat_append_left (k v : Int) (rm : Bool) (A B : List Entry) (hB : ∀ b ∈ B, k < b.key) :
    insFlat k v rm (A ++ B) = insFlat k v rm A ++ B := by
  induction A with
  | nil =>
    cases B with
    | nil => rfl
    | cons b B' => exact ite_key_lt (hB b List.mem_cons_self)
  | cons a A ih =>
    rw [List.cons_append, insFlat, insFlat, ih]
    rcases Int.lt_trichotomy k a.key with c | c | c
    · rw [ite_key_lt c, ite_key_lt c]; rfl
    · rw [if_pos c, if_pos c]; rfl
    · rw [ite_key_gt c, ite_key_gt c]; rfl

theorem insFlat_append_right (k v : Int) (rm : Bool) (A B : List Entry)
    (hA : ∀ a ∈ A, a.key < k) :
    insFlat k v rm (A ++ B) = A ++ insFlat k v rm B := by
  induction A with
  | nil => rfl
  | cons a A ih =>
    rw [List.cons_append, insFlat, ite_key_gt (hA a List.mem_cons_self),
      ih fun x hx => hA x (List.mem_cons_of_mem _ hx), List.cons_append]

theorem insFlat_ne_nil (k v : Int) (rm : Bool) (F : List Entry) : insFlat k v rm F ≠ [] := by
  cases F with
  | nil => exact List.cons_ne_nil _ _
  | cons e r =>
    rw [insFlat]
    split
    · exact List.cons_ne_nil _ _
    · split <;> exact List.cons_ne_nil _ _

theorem eq_cons_of_headKey {F : List Entry} {k : Int} (h : headKey F = some k) :
    ∃ e r, F = e :: r ∧ e.key = k := by
  cases F with
  | nil => cases h
  | cons e r => exact ⟨e, r, rfl, Option.some.inj h⟩

theorem headKey_insFlat (k v : Int) (rm : Bool) (F : List Entry) (k1 : Int)
    (h : headKey F = some k1) (hle : k1 ≤ k) : headKey (insFlat k v rm F) = some k1 := by
  obtain ⟨e, r, rfl, rfl⟩ := eq_cons_of_headKey h
  rw [insFlat]
  by_cases c1 : k = e.key
  · rw [if_pos c1]; rfl
  · rw [if_neg c1, if_neg (Int.not_lt.2 hle)]; rfl

theorem headKey_append (A B : List Entry) (hA : A ≠ []) : headKey (A ++ B) = headKey A := by
  cases A with
  | nil => exact absurd rfl hA
  | cons a A => rfl

theorem SortedK.head_lt {e : Entry} {r : List Entry} (h : SortedK (e :: r)) : ∀ x ∈ r, e.key < x.key :=
  (List.pairwise_cons.mp h).1

theorem SortedK.tail {e : Entry} {r : List Entry} (h : SortedK (e :: r)) : SortedK r :=
  (List.pairwise_cons.mp h).2

theorem SortedK.lt_of_lt_head {k : Int} {e : Entry} {r : List Entry} (h : SortedK (e :: r)) (c : k < e.key) :
    ∀ x ∈ e :: r, k < x.key := fun x hx =>
  (List.mem_cons.mp hx).elim (· ▸ c) fun hx => Int.lt_trans c (h.head_lt x hx)

theorem SortedK.append_left {A B : List Entry} (h : SortedK (A ++ B)) : SortedK A :=
  (List.pairwise_append.mp h).1

theorem SortedK.append_right {A B : List Entry} (h : SortedK (A ++ B)) : SortedK B :=
  (List.pairwise_append.mp h).2.1

theorem SortedK.append_lt {A B : List Entry} (h : SortedK (A ++ B)) : ∀ a ∈ A, ∀ b ∈ B, a.key < b.key :=
  (List.pairwise_append.mp h).2.2

theorem SortedK.headKey_le {F : List Entry} {k1 : Int} (hs : SortedK F) (h : headKey F = some k1) :
    ∀ x ∈ F, k1 ≤ x.key := by
  obtain ⟨e, r, rfl, rfl⟩ := eq_cons_of_headKey h
  exact List.forall_mem_cons.mpr ⟨Int.le_refl _, fun x hx => Int.le_of_lt (hs.head_lt x hx)⟩

theorem mem_insFlat {k v : Int} {rm : Bool} {F : List Entry} {x : Entry} (hx : x ∈ insFlat k v rm F) :
    x.key = k ∨ x ∈ F := by
  induction F with
  | nil => exact .inl (congrArg Entry.key (List.mem_singleton.1 hx))
  | cons e r ih =>
    rw [insFlat] at hx
    split at hx
    · rename_i hk
      exact (List.mem_cons.mp hx).imp (fun h => by rw [h]; exact hk.symm) (List.mem_cons_of_mem _)
    · split at hx
      · exact (List.mem_cons.mp hx).imp_left fun h => by rw [h]
      · rcases List.mem_cons.mp hx with rfl | hx
        · exact .inr List.mem_cons_self
        · exact (ih hx).imp_right (List.mem_cons_of_mem _)

theorem sortedK_insFlat {F : List Entry} (hs : SortedK F) (k v : Int) (rm : Bool) : SortedK (insFlat k v rm F) := by
  induction F with
  | nil => exact List.pairwise_singleton _ _
  | cons e r ih =>
    rw [insFlat]
    rcases Int.lt_trichotomy k e.key with c | c | c
    · rw [ite_key_lt c]
      exact List.pairwise_cons.mpr ⟨hs.lt_of_lt_head c, hs⟩
    · rw [if_pos c]; exact List.pairwise_cons.mpr ⟨hs.head_lt, hs.tail⟩
    · rw [ite_key_gt c]
      refine List.pairwise_cons.mpr ⟨fun x hx => ?_, ih hs.tail⟩
      rcases mem_insFlat hx with h | h
      · exact h ▸ c
      · exact hs.head_lt x h

theorem not_mem_keys_of_lt {k : Int} {e : Entry} {r : List Entry} (hs : SortedK (e :: r)) (c : k < e.key) :
    k ∉ keys (e :: r) := by
  intro hk
  obtain ⟨x, hx, hxk⟩ := List.mem_map.mp hk
  exact Int.ne_of_lt (hs.lt_of_lt_head c x hx) hxk.symm

theorem searchLeaf_append_right (k : Int) (A B : List Entry) (hA : ∀ a ∈ A, a.key < k) :
    searchLeaf k (A ++ B) = searchLeaf k B := by
  induction A with
  | nil => rfl
  | cons a A ih =>
    rw [List.cons_append, searchLeaf, if_neg (Int.ne_of_gt (hA a List.mem_cons_self)),
      ih fun x hx => hA x (List.mem_cons_of_mem _ hx)]

theorem searchLeaf_none_of_lt (k : Int) (F : List Entry) (h : ∀ x ∈ F, k < x.key) : searchLeaf k F = none := by
  induction F with
  | nil => rfl
  | cons e r ih =>
    rw [searchLeaf, if_neg (Int.ne_of_lt (h e List.mem_cons_self)),
      ih fun x hx => h x (List.mem_cons_of_mem _ hx)]

theorem searchLeaf_append_left (k : Int) (A B : List Entry) (hB : ∀ b ∈ B, k < b.key) :
    searchLeaf k (A ++ B) = searchLeaf k A := by
  induction A with
  | nil => exact searchLeaf_none_of_lt k B hB
  | cons a A ih => rw [List.cons_append, searchLeaf, searchLeaf, ih]

theorem mem_keys_of_searchLeaf {k v : Int} {F : List Entry} (h : searchLeaf k F = some v) : k ∈ keys F := by
  induction F with
  | nil => cases h
  | cons e r ih =>
    rw [searchLeaf] at h
    split at h
    · rename_i hk; exact hk ▸ List.mem_cons_self
    · exact List.mem_cons_of_mem _ (ih h)

theorem live_append (A B : List Entry) : live (A ++ B) = live A ++ live B := by
  simp only [live, List.filter_append, List.map_append]

theorem live_cons (e : Entry) (r : List Entry) :
    live (e :: r) = if e.removed then live r else (e.key, e.val) :: live r := by
  cases h : e.removed <;> simp [live, h]

theorem mem_live {p : Int × Int} {F : List Entry} (h : p ∈ live F) : ∃ e ∈ F, e.key = p.1 := by
  simp only [live, List.mem_map, List.mem_filter] at h
  obtain ⟨e, ⟨he, _⟩, rfl⟩ := h
  exact ⟨e, he, rfl⟩

theorem ltb_iff (a b : Int) : C10.ltb a b = true ↔ a < b := by simp [C10.ltb]

theorem sto_ltb : OrdMap.STO C10.ltb := C04.sto_int_lt

theorem pairwise_live {F : List Entry} (hs : SortedK F) : (live F).Pairwise (fun a b => a.1 < b.1) :=
  List.Pairwise.map _ (fun _ _ h => h) (List.Pairwise.filter _ hs)

theorem sorted_live {F : List Entry} (hs : SortedK F) : OrdMap.Sorted C10.ltb (live F) :=
  C04.sorted_iff_pairwise.2 ((pairwise_live hs).imp decide_eq_true)

theorem live_gt {k : Int} {F : List Entry} (h : ∀ e ∈ F, k < e.key) : ∀ x ∈ live F, C10.ltb k x.1 = true := by
  intro x hx
  obtain ⟨e, he, hk⟩ := mem_live hx
  exact decide_eq_true (hk ▸ h e he)

/-- `Get` is the specification's lookup among the live entries. -/
theorem searchLeaf_eq_lookup (k : Int) (F : List Entry) (hs : SortedK F) :
    searchLeaf k F = OrdMap.lookup C10.ltb k (live F) := by
  induction F with
  | nil => rfl
  | cons e r ih =>
    have hgt := live_gt hs.head_lt
    rw [live_cons, searchLeaf, ih hs.tail]
    cases e.removed with
    | true =>
      rw [if_pos rfl, if_pos rfl]
      split
      · rename_i c; rw [c, C04.lookup_all_gt hgt]
      · rfl
    | false =>
      rw [if_neg Bool.false_ne_true, if_neg Bool.false_ne_true, OrdMap.lookup]
      rcases sto_ltb.tri k e.key with c | c | c
      · rw [C04.ite_lt c, if_neg (Int.ne_of_lt (of_decide_eq_true c))]
        exact C04.lookup_all_gt fun x hx => sto_ltb.trans _ _ _ c (hgt x hx)
      · rw [c, C04.ite_refl sto_ltb, if_pos rfl]
      · rw [C04.ite_gt sto_ltb c, if_neg (Int.ne_of_gt (of_decide_eq_true c))]

theorem mem_live_iff (k v : Int) (F : List Entry) (hs : SortedK F) :
    (k, v) ∈ live F ↔ searchLeaf k F = some v := by
  rw [searchLeaf_eq_lookup k F hs]
  exact C04.mem_iff_lookup sto_ltb (sorted_live hs) k v

/-- `Put` is the specification's insert on the live entries. -/
theorem live_insFlat_put (k v : Int) (F : List Entry) (hs : SortedK F) :
    live (insFlat k v false F) = OrdMap.insert C10.ltb k v (live F) := by
  induction F with
  | nil => rfl
  | cons e r ih =>
    have hgt := live_gt hs.head_lt
    rw [insFlat]
    rcases Int.lt_trichotomy k e.key with c | c | c
    · rw [ite_key_lt c, live_cons, if_neg Bool.false_ne_true]
      exact (C04.insert_all_gt v (live_gt (hs.lt_of_lt_head c))).symm
    · subst c
      rw [if_pos rfl, live_cons, live_cons, if_neg Bool.false_ne_true]
      cases e.removed with
      | true => rw [if_pos rfl, C04.insert_all_gt v hgt]
      | false => rw [if_neg Bool.false_ne_true, OrdMap.insert, C04.ite_refl sto_ltb]
    · rw [ite_key_gt c, live_cons, live_cons, ih hs.tail]
      cases e.removed with
      | true => rw [if_pos rfl, if_pos rfl]
      | false =>
        rw [if_neg Bool.false_ne_true, if_neg Bool.false_ne_true, OrdMap.insert,
          C04.ite_gt sto_ltb (decide_eq_true c)]

/-- `Remove` of a key held (it is overwritten by a tombstone) is the specification's erase on the live entries. -/
theorem live_insFlat_remove (k v : Int) (F : List Entry) (hs : SortedK F) (hk : k ∈ keys F) :
    live (insFlat k v true F) = OrdMap.erase C10.ltb k (live F) := by
  induction F with
  | nil => cases hk
  | cons e r ih =>
    have hgt := live_gt hs.head_lt
    rw [insFlat]
    rcases Int.lt_trichotomy k e.key with c | c | c
    · exact absurd hk (not_mem_keys_of_lt hs c)
    · subst c
      rw [if_pos rfl, live_cons, live_cons, if_pos rfl]
      cases e.removed with
      | true => rw [if_pos rfl, C04.erase_of_lookup_none (C04.lookup_all_gt hgt)]
      | false => rw [if_neg Bool.false_ne_true, OrdMap.erase, C04.ite_refl sto_ltb]
    · have hk' : k ∈ keys r := (List.mem_cons.mp hk).resolve_left (Int.ne_of_gt c)
      rw [ite_key_gt c, live_cons, live_cons, ih hs.tail hk']
      cases e.removed with
      | true => rw [if_pos rfl, if_pos rfl]
      | false =>
        rw [if_neg Bool.false_ne_true, if_neg Bool.false_ne_true, OrdMap.erase,
          C04.ite_gt sto_ltb (decide_eq_true c)]

theorem keys_insFlat_new (k v : Int) (rm : Bool) (F : List Entry) (h : k ∉ keys F) :
    (keys (insFlat k v rm F)).Perm (k :: keys F) := by
  induction F with
  | nil => exact .refl _
  | cons e r ih =>
    rw [insFlat, if_neg fun he : k = e.key => h (he ▸ List.mem_cons_self)]
    split
    · exact .refl _
    · exact ((ih fun he => h (List.mem_cons_of_mem _ he)).cons e.key).trans (.swap k e.key _)

theorem keys_insFlat_old (k v : Int) (rm : Bool) (F : List Entry) (hs : SortedK F) (h : k ∈ keys F) :
    keys (insFlat k v rm F) = keys F := by
  induction F with
  | nil => cases h
  | cons e r ih =>
    rw [insFlat]
    rcases Int.lt_trichotomy k e.key with c | c | c
    · exact absurd h (not_mem_keys_of_lt hs c)
    · rw [if_pos c]; rfl
    · rw [ite_key_gt c]
      exact congrArg (e.key :: ·) (ih hs.tail ((List.mem_cons.mp h).resolve_left (Int.ne_of_gt c)))

theorem length_insFlat_new (k v : Int) (rm : Bool) (F : List Entry) (h : k ∉ keys F) :
    (insFlat k v rm F).length = F.length + 1 := by
  have := (keys_insFlat_new k v rm F h).length_eq
  rwa [keys, keys, List.length_cons, List.length_map, List.length_map] at this

theorem length_insFlat_old (k v : Int) (rm : Bool) (F : List Entry) (hs : SortedK F) (h : k ∈ keys F) :
    (insFlat k v rm F).length = F.length := by
  have := congrArg List.length (keys_insFlat_old k v rm F hs h)
  rwa [keys, keys, List.length_map, List.length_map] at this

end GoguVerif.Lemmas.C10
