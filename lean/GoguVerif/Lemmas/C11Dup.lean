import GoguVerif.Model.C11
import GoguVerif.Lemmas.GoMap
/-!
# C11 — `Duplicate` / `DuplicateWithIndex` (Go maps as association lists)

A round of either first loop is one store `put` into the map (`upsert_eq_put`).  What a run of such rounds
maintains is `Binds R m p`: the map binds exactly the values of the prefix `p` read so far, each to something
that fits the prefix (`R`).  A store keeps it (`Binds.put`), and it does not see the order of the entries
(`Binds.perm`), which is how Go's iteration order drops out of the second loops.
-/
namespace GoguVerif.Lemmas.C11
open GoguVerif.Spec.C11 GoguVerif.Model.C11
open GoguVerif.Model.C14 (get? put)
open GoguVerif.Spec.C14 (WF)
open GoguVerif.Lemmas.C14

variable {α β : Type}

structure Binds (R : List α → α → β → Prop) (m : List (α × β)) (p : List α) : Prop where
  wf : WF m
  keys : ∀ x, x ∈ m.map Prod.fst ↔ x ∈ p
  fits : ∀ {x b}, (x, b) ∈ m → R p x b

theorem Binds.nil {R : List α → α → β → Prop} : Binds R [] [] :=
  ⟨.nil, fun _ => Iff.rfl, nofun⟩

theorem Binds.perm {R : List α → α → β → Prop} {m m' : List (α × β)} {p : List α} (h : Binds R m p)
    (hp : m'.Perm m) : Binds R m' p :=
  ⟨WF.perm h.wf hp.symm, fun x => (hp.map Prod.fst).mem_iff.trans (h.keys x), fun hx => h.fits (hp.mem_iff.mp hx)⟩

theorem collect_eq {γ δ : Type} (c : γ → Prop) [DecidablePred c] (f : γ → δ) (L : List γ → List δ)
    (h0 : L [] = []) (h1 : ∀ e r, L (e :: r) = if c e then f e :: L r else L r) (m : List γ) :
    L m = (m.filter fun e => decide (c e)).map f := by
  induction m with
  | nil => exact h0
  | cons e r ih =>
    rw [h1, List.filter_cons, ih]
    by_cases h : c e
    · rw [if_pos h, if_pos (decide_eq_true h)]; rfl
    · rw [if_neg h, if_neg (mt of_decide_eq_true h)]

theorem dupCollect_eq (m : List (α × Nat)) :
    dupCollect m = (m.filter fun e => decide (e.2 > 1)).map Prod.fst :=
  collect_eq (fun e => e.2 > 1) Prod.fst dupCollect rfl (fun ⟨_, _⟩ _ => rfl) m

theorem dupIdxCollect_eq (m : List (α × Nat × Nat)) :
    dupIdxCollect m = (m.filter fun e => decide (e.2.2 > 1)).map (fun e => (e.1, e.2.1)) :=
  collect_eq (fun e => e.2.2 > 1) (fun e => (e.1, e.2.1)) dupIdxCollect rfl (fun ⟨_, _, _⟩ _ => rfl) m

variable [DecidableEq α]

/-- one round `if _, ok := m[v]; ok { m[v] = g(m[v]) } else { m[v] = c0 }` is a single store; `upd` is the
update of a present key (`incrKey`, `setCount`), given by its equation -/
theorem upsert_eq_put (v : α) (g : β → β) (c0 : β) (upd : List (α × β) → List (α × β))
    (h1 : ∀ k e r, upd ((k, e) :: r) = if k = v then (k, g e) :: r else (k, e) :: upd r)
    (m : List (α × β)) :
    (if hasKey v m then upd m else m ++ [(v, c0)]) = put m v ((get? m v).elim c0 g) := by
  induction m with
  | nil => rfl
  | cons e r ih =>
    obtain ⟨k, e⟩ := e
    rw [hasKey, h1, get?, put]
    by_cases hk : k = v
    · rw [if_pos hk, if_pos hk, if_pos hk, if_pos hk, if_pos rfl, hk]; rfl
    · rw [if_neg hk, if_neg hk, if_neg hk, if_neg hk, ← ih]
      split <;> rfl

theorem Binds.put {R : List α → α → β → Prop} {m : List (α × β)} {p : List α} (h : Binds R m p) (v : α)
    (b' : β) (hv : R (p ++ [v]) v b') (hframe : ∀ x b, x ≠ v → x ∈ p → R p x b → R (p ++ [v]) x b) :
    Binds R (put m v b') (p ++ [v]) := by
  refine ⟨wf_put h.wf v b', fun x => ?_, fun {x b} hx => ?_⟩
  · rw [List.mem_append, List.mem_singleton, ← h.keys x, ← Decidable.not_iff_not, ← get?_eq_none_iff, get?_put,
      not_or, ← get?_eq_none_iff]
    by_cases hx : v = x
    · rw [if_pos hx]; exact ⟨nofun, fun a => absurd hx.symm a.2⟩
    · rw [if_neg hx]; exact ⟨fun a => ⟨a, fun e => hx e.symm⟩, And.left⟩
  · have hg := get?_eq_some_of_mem (wf_put h.wf v b') hx
    rw [get?_put] at hg
    by_cases hxv : v = x
    · rw [if_pos hxv] at hg
      exact hxv ▸ Option.some.inj hg ▸ hv
    · rw [if_neg hxv] at hg
      have hm := mem_of_get?_eq_some hg
      exact hframe x b (fun e => hxv e.symm) ((h.keys x).mp (List.mem_map_of_mem (f := Prod.fst) hm)) (h.fits hm)

theorem count_snoc (p : List α) (v x : α) :
    (p ++ [v]).count x = p.count x + if x = v then 1 else 0 := by
  rw [List.count_append, List.count_singleton]
  by_cases h : x = v
  · rw [if_pos h, if_pos (by rw [h]; exact beq_self_eq_true v)]
  · rw [if_neg h, if_neg (by rw [beq_iff_eq]; exact Ne.symm h)]

def Counts (p : List α) (x : α) (c : Nat) : Prop := c = p.count x

theorem counts_iff {p : List α} {x : α} {c : Nat} : Counts p x c ↔ c = p.count x := Iff.rfl

theorem dupCountLoop_cons (m : List (α × Nat)) (v : α) (rest : List α) :
    dupCountLoop m (v :: rest) = dupCountLoop (put m v ((get? m v).elim 1 (· + 1))) rest := by
  rw [← upsert_eq_put v _ 1 (incrKey v) (fun _ _ _ => rfl), dupCountLoop]; split <;> rfl

theorem dupCountLoop_inv (m : List (α × Nat)) (p s : List α) (h : Binds Counts m p) :
    Binds Counts (dupCountLoop m s) (p ++ s) := by
  induction s generalizing m p with
  | nil => rwa [List.append_nil]
  | cons v rest ih =>
    rw [dupCountLoop_cons, List.append_cons p v rest]
    refine ih _ _ (h.put v _ (counts_iff.mpr ?_) fun x c hx _ hc => counts_iff.mpr ?_)
    · rw [count_snoc, if_pos rfl]
      cases hg : get? m v with
      | none => rw [List.count_eq_zero.mpr (mt (h.keys v).mpr (get?_eq_none_iff.mp hg))]; rfl
      | some c => rw [← counts_iff.mp (h.fits (mem_of_get?_eq_some hg))]; rfl
    · rw [count_snoc, if_neg hx]; exact counts_iff.mp hc

theorem dupCollect_holds (s : List α) (m : List (α × Nat)) (h : Binds Counts m s) :
    DupHolds s (dupCollect m) := by
  rw [dupCollect_eq]
  refine ⟨(List.filter_sublist.map Prod.fst).nodup h.wf, fun x => ?_⟩
  simp only [List.mem_map, List.mem_filter, decide_eq_true_eq]
  constructor
  · rintro ⟨⟨k, c⟩, ⟨hkc, hgt⟩, rfl⟩
    exact counts_iff.mp (h.fits hkc) ▸ hgt
  · intro hx
    obtain ⟨⟨k, c⟩, hkc, rfl⟩ := List.mem_map.mp
      ((h.keys x).mpr (List.count_pos_iff.mp (Nat.lt_trans Nat.zero_lt_one hx)))
    exact ⟨(k, c), ⟨hkc, counts_iff.mp (h.fits hkc) ▸ hx⟩, rfl⟩

/-- the index map binds each value seen to its first index and to a counter that exceeds 1 exactly when the
value occurs more than once (the counter itself is NOT the number of occurrences: the code shares one
`count` variable between all values) -/
def FirstSeen (p : List α) (x : α) (e : Nat × Nat) : Prop :=
  e.1 = p.idxOf x ∧ (1 < e.2 ↔ 1 < p.count x)

theorem firstSeen_iff {p : List α} {x : α} {e : Nat × Nat} :
    FirstSeen p x e ↔ e.1 = p.idxOf x ∧ (1 < e.2 ↔ 1 < p.count x) := Iff.rfl

theorem dupIdxLoop_cons (cnt : Nat) (m : List (α × Nat × Nat)) (i : Nat) (v : α) (rest : List α) :
    dupIdxLoop cnt m i (v :: rest) = dupIdxLoop (if hasKey v m then cnt + 1 else 1)
      (put m v ((get? m v).elim (i, 1) fun e => (e.1, cnt + 1))) (i + 1) rest := by
  rw [← upsert_eq_put v _ _ (setCount v (cnt + 1)) (fun _ ⟨_, _⟩ _ => rfl), dupIdxLoop]; split <;> rfl

/-- `hc`: the shared `count` variable is at least 1 once a value has been seen, so that `count + 1`,
written on a repeated value, exceeds 1 whichever value `count` was last used for. -/
theorem dupIdxLoop_inv (cnt : Nat) (m : List (α × Nat × Nat)) (p s : List α)
    (h : Binds FirstSeen m p) (hc : p ≠ [] → 1 ≤ cnt) :
    Binds FirstSeen (dupIdxLoop cnt m p.length s) (p ++ s) := by
  induction s generalizing cnt m p with
  | nil => rwa [List.append_nil]
  | cons v rest ih =>
    rw [dupIdxLoop_cons, List.append_cons p v rest,
      show p.length + 1 = (p ++ [v]).length from (List.length_append (bs := [v])).symm]
    refine ih _ _ _ (h.put v _ (firstSeen_iff.mpr ?_) fun x e hx hxp he => firstSeen_iff.mpr ?_) fun _ => ?_
    · rw [List.idxOf_append, count_snoc, if_pos rfl]
      cases hg : get? m v with
      | none =>
        have hvp : v ∉ p := mt (h.keys v).mpr (get?_eq_none_iff.mp hg)
        rw [if_neg hvp, List.idxOf_cons_self, List.count_eq_zero.mpr hvp]
        exact ⟨(Nat.zero_add _).symm, Iff.rfl⟩
      | some e =>
        have hm := mem_of_get?_eq_some hg
        have hvp : v ∈ p := (h.keys v).mp (List.mem_map_of_mem (f := Prod.fst) hm)
        rw [if_pos hvp]
        exact ⟨(firstSeen_iff.mp (h.fits hm)).1, fun _ => Nat.succ_lt_succ (List.count_pos_iff.mpr hvp),
          fun _ => Nat.succ_lt_succ (hc (List.ne_nil_of_mem hvp))⟩
    · rw [List.idxOf_append, if_pos hxp, count_snoc, if_neg hx]
      exact firstSeen_iff.mp he
    · split
      · exact Nat.le_add_left 1 cnt
      · exact Nat.le_refl 1

theorem dupIdxCollect_holds (s : List α) (m : List (α × Nat × Nat)) (h : Binds FirstSeen m s) :
    DupIdxHolds s (dupIdxCollect m) := by
  rw [dupIdxCollect_eq]
  refine ⟨?_, fun k i => ?_⟩
  · rw [List.map_map]
    show (List.map Prod.fst _).Nodup
    exact (List.filter_sublist.map Prod.fst).nodup h.wf
  · simp only [List.mem_map, List.mem_filter, decide_eq_true_eq, Prod.mk.injEq]
    constructor
    · rintro ⟨⟨k', i', c⟩, ⟨hmem, hgt⟩, rfl, rfl⟩
      obtain ⟨hi, hiff⟩ := firstSeen_iff.mp (h.fits hmem)
      exact ⟨hiff.mp hgt, hi.symm⟩
    · rintro ⟨hcnt, hi⟩
      obtain ⟨⟨k', i', c⟩, hmem, rfl⟩ := List.mem_map.mp
        ((h.keys k).mpr (List.count_pos_iff.mp (Nat.lt_trans Nat.zero_lt_one hcnt)))
      obtain ⟨hi', hiff⟩ := firstSeen_iff.mp (h.fits hmem)
      exact ⟨(k', i', c), ⟨hmem, hiff.mpr hcnt⟩, rfl, hi'.trans hi⟩

end GoguVerif.Lemmas.C11
