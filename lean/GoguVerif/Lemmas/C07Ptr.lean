import GoguVerif.Model.LruPtr
import GoguVerif.Lemmas.ListFacts
/-!
# C07 — the pointer-level layer: the store, the circular chain, the `lruList` methods

The heap is seen through its field views `nextOf`, `prevOf`, `kvOf` (functions `Nat → Option _`);
a field write updates one view at one address.  The circular list over the addresses `as`
(front first) is `LinkedF next prev (0 :: as ++ [0])`: every adjacent pair `(x, y)` of
`root, a₁, …, aₙ, root` has `x.next = y` and `y.prev = x`.  `Model.LruPtr.root` is the address `0` and is written
`0` in every statement; a proof that runs a model function unfolds `root` with it.
-/
namespace GoguVerif.Lemmas.C07Ptr
open Model.LruPtr

/-- one field write seen through a view: the view at `a` becomes `b` (`view_set`, `view_append`) -/
def upd {β : Type} (f : Nat → Option β) (a : Nat) (b : β) : Nat → Option β :=
  fun x => if x = a then some b else f x

@[simp] theorem upd_same {β : Type} (f : Nat → Option β) (a : Nat) (b : β) : upd f a b a = some b :=
  if_pos rfl
theorem upd_ne {β : Type} (f : Nat → Option β) {a x : Nat} (b : β) (h : x ≠ a) : upd f a b x = f x :=
  if_neg h
theorem upd_of_not_mem {β : Type} (f : Nat → Option β) {a : Nat} (b : β) {l : List Nat} (h : a ∉ l) :
    ∀ x ∈ l, upd f a b x = f x :=
  fun _ hx => upd_ne f b fun e => h (e ▸ hx)
theorem upd_eq_self {β : Type} {f : Nat → Option β} {a : Nat} {b : β} (h : f a = some b) : upd f a b = f := by
  funext x; unfold upd; split
  · next e => rw [e, h]
  · rfl

def kvOf (h : Heap) (a : Nat) : Option (Int × Int) := (h[a]?).map (fun n => (n.key, n.value))

theorem keyOf_eq (h : Heap) (a : Nat) : keyOf h a = (kvOf h a).map (·.1) := by
  simp only [keyOf, kvOf, Option.map_map]; rfl
theorem valOf_eq (h : Heap) (a : Nat) : valOf h a = (kvOf h a).map (·.2) := by
  simp only [valOf, kvOf, Option.map_map]; rfl

theorem lt_of_view {β : Type} {f : PNode → β} {h : Heap} {a : Nat} {b : β}
    (e : (h[a]?).map f = some b) : a < h.length :=
  Nat.lt_of_not_le fun hle => by rw [List.getElem?_eq_none hle] at e; cases e

theorem view_set {β : Type} (f : PNode → β) {h : Heap} {a : Nat} (n : PNode) (ha : a < h.length) :
    (fun x => ((h.set a n)[x]?).map f) = upd (fun x => (h[x]?).map f) a (f n) := by
  funext x
  show _ = if x = a then some (f n) else (h[x]?).map f
  rw [List.getElem?_set]
  by_cases hx : x = a
  · rw [if_pos hx, if_pos hx.symm, if_pos ha]; rfl
  · rw [if_neg hx, if_neg (fun e => hx e.symm)]

theorem view_append {β : Type} (f : PNode → β) (h : Heap) (n : PNode) :
    (fun x => ((h ++ [n])[x]?).map f) = upd (fun x => (h[x]?).map f) h.length (f n) := by
  funext x
  show _ = if x = h.length then some (f n) else (h[x]?).map f
  split
  · next hx => rw [hx, List.getElem?_concat_length]; rfl
  · next hx =>
    by_cases hlt : x < h.length
    · rw [List.getElem?_append_left hlt]
    · rw [List.getElem?_eq_none (Nat.le_of_not_lt hlt), List.getElem?_eq_none]
      rw [List.length_append, List.length_singleton]; omega

/-! `wrNext_spec` and `wrPrev_spec` conclude alike: new length, `nextOf`, `prevOf`, `kvOf`, in this order. -/

theorem wrNext_spec {h : Heap} {a : Nat} (b : Nat) (ha : a < h.length) :
    ∃ h', wrNext h a b = some h' ∧ h'.length = h.length ∧ nextOf h' = upd (nextOf h) a b ∧
      prevOf h' = prevOf h ∧ kvOf h' = kvOf h := by
  have hn : h[a]? = some h[a] := List.getElem?_eq_getElem ha
  refine ⟨h.set a { h[a] with next := b }, by rw [wrNext, hn], List.length_set, view_set (·.next) _ ha,
    (view_set (·.prev) _ ha).trans (upd_eq_self ?_), (view_set _ _ ha).trans (upd_eq_self ?_)⟩ <;>
  exact congrArg (Option.map _) hn

theorem wrPrev_spec {h : Heap} {a : Nat} (b : Nat) (ha : a < h.length) :
    ∃ h', wrPrev h a b = some h' ∧ h'.length = h.length ∧ nextOf h' = nextOf h ∧
      prevOf h' = upd (prevOf h) a b ∧ kvOf h' = kvOf h := by
  have hn : h[a]? = some h[a] := List.getElem?_eq_getElem ha
  refine ⟨h.set a { h[a] with prev := b }, by rw [wrPrev, hn], List.length_set,
    (view_set (·.next) _ ha).trans (upd_eq_self ?_), view_set (·.prev) _ ha, (view_set _ _ ha).trans (upd_eq_self ?_)⟩ <;>
  exact congrArg (Option.map _) hn

theorem wrVal_spec {h : Heap} {a : Nat} {e : Int × Int} (v : Int) (he : kvOf h a = some e) :
    ∃ h', wrVal h a v = some h' ∧ kvOf h' = upd (kvOf h) a (e.1, v) ∧
      nextOf h' = nextOf h ∧ prevOf h' = prevOf h := by
  have ha := lt_of_view he
  have hn : h[a]? = some h[a] := List.getElem?_eq_getElem ha
  have hk : h[a].key = e.1 := by
    rw [kvOf, hn] at he; exact congrArg Prod.fst (Option.some.inj he)
  refine ⟨h.set a { h[a] with value := v }, by rw [wrVal, hn],
    by rw [← hk]; exact view_set (fun n => (n.key, n.value)) _ ha,
    (view_set (·.next) _ ha).trans (upd_eq_self ?_), (view_set (·.prev) _ ha).trans (upd_eq_self ?_)⟩ <;>
  exact congrArg (Option.map _) hn

theorem alloc_spec (h : Heap) (n : PNode) :
    nextOf (h ++ [n]) = upd (nextOf h) h.length n.next ∧
    prevOf (h ++ [n]) = upd (prevOf h) h.length n.prev ∧
    kvOf (h ++ [n]) = upd (kvOf h) h.length (n.key, n.value) :=
  ⟨view_append _ h n, view_append _ h n, view_append _ h n⟩

/-- `x.next = y` and `y.prev = x` -/
def Edge (nx pv : Nat → Option Nat) (x y : Nat) : Prop := nx x = some y ∧ pv y = some x

/-- adjacent entries of the list are linked both ways (`F`: over the field views `nx`, `pv`, not over a heap) -/
def LinkedF (nx pv : Nat → Option Nat) : List Nat → Prop
  | x :: y :: r => Edge nx pv x y ∧ LinkedF nx pv (y :: r)
  | _ => True

@[simp] theorem linkedF_nil (nx pv) : LinkedF nx pv [] = True := rfl
@[simp] theorem linkedF_one (nx pv) (x : Nat) : LinkedF nx pv [x] = True := rfl
theorem linkedF_cons2 (nx pv) (x y : Nat) (r : List Nat) :
    LinkedF nx pv (x :: y :: r) = (Edge nx pv x y ∧ LinkedF nx pv (y :: r)) := rfl

theorem LinkedF.next {nx pv} {x y : Nat} {r : List Nat} (h : LinkedF nx pv (x :: y :: r)) : nx x = some y := h.1.1
theorem LinkedF.prev {nx pv} {x y : Nat} {r : List Nat} (h : LinkedF nx pv (x :: y :: r)) : pv y = some x := h.1.2
theorem LinkedF.tail {nx pv} {x y : Nat} {r : List Nat} (h : LinkedF nx pv (x :: y :: r)) : LinkedF nx pv (y :: r) := h.2

theorem linkedF_append (nx pv) (A : List Nat) (x : Nat) (B : List Nat) :
    LinkedF nx pv (A ++ x :: B) ↔ LinkedF nx pv (A ++ [x]) ∧ LinkedF nx pv (x :: B) := by
  induction A with
  | nil => simp
  | cons a A ih =>
    cases A with
    | nil => simp [linkedF_cons2]
    | cons a' A' =>
      simp only [List.cons_append, linkedF_cons2] at ih ⊢
      rw [ih]; exact and_assoc.symm

variable {nx pv : Nat → Option Nat}

theorem LinkedF.frame {nx' pv' : Nat → Option Nat} {L : List Nat} (h : LinkedF nx pv L)
    (hn : ∀ x ∈ L.dropLast, nx' x = nx x) (hp : ∀ y ∈ L.tail, pv' y = pv y) : LinkedF nx' pv' L := by
  induction L with
  | nil => trivial
  | cons x r ih =>
    cases r with
    | nil => trivial
    | cons y r =>
      rw [linkedF_cons2]
      refine ⟨⟨?_, ?_⟩, ih h.tail (fun z hz => hn z ?_) (fun z hz => hp z ?_)⟩
      · rw [hn x (by simp)]; exact h.next
      · rw [hp y (by simp)]; exact h.prev
      · simp only [List.dropLast_cons_cons, List.mem_cons]; exact Or.inr hz
      · simp only [List.tail_cons, List.mem_cons]; exact Or.inr hz

theorem nodup_cons_middle {a nd : Nat} {pre post : List Nat} (h : (a :: (pre ++ nd :: post)).Nodup) :
    nd ∉ a :: (pre ++ post) ∧ (a :: (pre ++ post)).Nodup :=
  ListFacts.nodup_middle (a := a :: pre).1 h

theorem concat_eq_cons {α : Type} (l : List α) (t : α) : ∃ q B, l ++ [t] = q :: B :=
  List.exists_cons_of_ne_nil (List.append_ne_nil_of_right_ne_nil l (List.cons_ne_nil t []))

theorem nodup_rotate {α : Type} {a : α} {l : List α} (h : (a :: l).Nodup) : (l ++ [a]).Nodup :=
  (List.perm_append_comm (l₁ := [a])).nodup_iff.mp h

/-- Unlinking `nd` (`nd.prev.next = nd.next; nd.next.prev = nd.prev`, in either order) from the
circular chain over `pre ++ nd :: post` leaves the circular chain over `pre ++ post`. -/
theorem unlink_views {pre post : List Nat} {nd : Nat}
    (hnd : (0 :: (pre ++ nd :: post)).Nodup)
    (hl : LinkedF nx pv (0 :: (pre ++ nd :: post) ++ [0])) :
    ∃ p q, pv nd = some p ∧ nx nd = some q ∧ nx p = some nd ∧ pv q = some nd ∧ p ≠ nd ∧
      LinkedF (upd nx p q) (upd pv q p) (0 :: (pre ++ post) ++ [0]) := by
  -- 0 :: pre = A ++ [p],  post ++ [0] = q :: B
  obtain ⟨A, p, hA⟩ : ∃ A p, 0 :: pre = A ++ [p] :=
    ⟨_, _, (List.dropLast_concat_getLast (List.cons_ne_nil 0 pre)).symm⟩
  obtain ⟨q, B, hB⟩ := concat_eq_cons post 0
  -- the addresses whose `next` is read (all but the last) are distinct, and so are those whose
  -- `prev` is read (all but the first)
  have hS : (A ++ p :: nd :: post).Nodup := by rw [List.append_cons, ← hA]; exact hnd
  have hT : (pre ++ nd :: q :: B).Nodup := by
    rw [← hB]; simpa only [List.append_assoc, List.cons_append] using nodup_rotate hnd
  obtain ⟨-, hS2, hpA⟩ := List.nodup_append.mp hS
  obtain ⟨-, hT2, hq_pre⟩ := List.nodup_append.mp hT
  have hp : p ∉ nd :: post := (List.nodup_cons.mp hS2).1
  have hqB : q ∉ B := (List.nodup_cons.mp (List.nodup_cons.mp hT2).2).1
  have e1 : 0 :: (pre ++ nd :: post) ++ [0] = A ++ p :: nd :: q :: B := by
    rw [← hB, List.append_cons A p, ← hA]; simp only [List.cons_append, List.append_assoc]
  have e2 : 0 :: (pre ++ post) ++ [0] = A ++ p :: q :: B := by
    rw [← hB, List.append_cons A p, ← hA]; simp only [List.cons_append, List.append_assoc]
  rw [e1, linkedF_append, linkedF_cons2, linkedF_cons2] at hl
  obtain ⟨h1, ⟨hpn, hnp⟩, ⟨hnq, hqn⟩, h2⟩ := hl
  refine ⟨p, q, hnp, hnq, hpn, hqn, fun e => hp (List.mem_cons.mpr (Or.inl e)), ?_⟩
  rw [e2, linkedF_append, linkedF_cons2]
  refine ⟨h1.frame (fun x hx => upd_ne _ _ ?_) (fun y hy => upd_ne _ _ ?_), ⟨upd_same .., upd_same ..⟩,
    h2.frame (fun x hx => upd_ne _ _ ?_) (fun y hy => upd_ne _ _ ?_)⟩
  · rw [List.dropLast_concat] at hx; exact hpA x hx p (List.mem_cons_self ..)
  · rw [← hA] at hy; exact hq_pre y hy q (List.mem_cons_of_mem _ (List.mem_cons_self ..))
  · rw [← hB, List.dropLast_concat] at hx; exact fun e => hp (e ▸ List.mem_cons_of_mem _ hx)
  · exact fun e => hqB (e ▸ hy)

/-- Linking `nd` right after the root (`nd.prev = root; nd.next = root.next; root.next = nd;
nd.next.prev = nd`) puts it at the front of the circular chain. -/
theorem insert_views {as : List Nat} {nd : Nat}
    (hnd : (0 :: as).Nodup) (hfresh : nd ∉ 0 :: as)
    (hl : LinkedF nx pv (0 :: as ++ [0])) :
    ∃ f, nx 0 = some f ∧ pv f = some 0 ∧
      LinkedF (upd (upd nx nd f) 0 nd) (upd (upd pv nd 0) f nd) (0 :: (nd :: as) ++ [0]) := by
  obtain ⟨f, B, hB⟩ := concat_eq_cons as 0
  have hfB : f ∉ B := (List.nodup_cons.mp (hB ▸ nodup_rotate hnd)).1
  simp only [List.nodup_cons, List.mem_cons, not_or] at hnd hfresh
  have hne : ∀ y ∈ as ++ [0], y ≠ nd :=
    List.forall_mem_append.2 ⟨fun _ m e => hfresh.2 (e ▸ m), List.forall_mem_singleton.2 (Ne.symm hfresh.1)⟩
  have hfnd : f ≠ nd := hne f (hB ▸ List.mem_cons_self ..)
  have e1 : 0 :: as ++ [0] = 0 :: f :: B := congrArg (0 :: ·) hB
  have e2 : 0 :: (nd :: as) ++ [0] = 0 :: nd :: f :: B := congrArg (0 :: nd :: ·) hB
  rw [e1, linkedF_cons2] at hl
  obtain ⟨⟨h0f, hf0⟩, h2⟩ := hl
  refine ⟨f, h0f, hf0, ?_⟩
  rw [e2, linkedF_cons2, linkedF_cons2]
  have hnd0 : nd ≠ 0 := hfresh.1
  refine ⟨⟨by simp, ?_⟩, ⟨?_, by simp⟩, ?_⟩
  · rw [upd_ne _ _ (fun e => hfnd e.symm)]; simp
  · rw [upd_ne _ _ hnd0]; simp
  · refine h2.frame (fun x hx => ?_) (fun y hy => ?_)
    · have hx' : x ∈ as := by rw [← hB, List.dropLast_concat] at hx; exact hx
      have hx0 : x ≠ 0 := by intro e; rw [e] at hx'; exact hnd.1 hx'
      have hxnd : x ≠ nd := by intro e; rw [e] at hx'; exact hfresh.2 hx'
      rw [upd_ne _ _ hx0, upd_ne _ _ hxnd]
    · have hynd : y ≠ nd := hne y (hB ▸ List.mem_cons_of_mem _ hy)
      have hyf : y ≠ f := by intro e; rw [e] at hy; exact hfB hy
      rw [upd_ne _ _ hyf, upd_ne _ _ hynd]

theorem first_view {as : List Nat} (hnd : (0 :: as).Nodup)
    (hl : LinkedF nx pv (0 :: as ++ [0])) :
    (as = [] ∧ nx 0 = some 0) ∨ (∃ f post, as = f :: post ∧ nx 0 = some f ∧ f ≠ 0) := by
  cases as with
  | nil => left; exact ⟨rfl, hl.next⟩
  | cons f post =>
    right
    exact ⟨f, post, rfl, hl.next, fun e => (List.nodup_cons.mp hnd).1 (List.mem_cons.mpr (.inl e.symm))⟩

theorem last_view {as : List Nat} (hnd : (0 :: as).Nodup)
    (hl : LinkedF nx pv (0 :: as ++ [0])) :
    (as = [] ∧ pv 0 = some 0) ∨ (∃ pre x, as = pre ++ [x] ∧ pv 0 = some x ∧ x ≠ 0) := by
  rcases List.eq_nil_or_concat as with h | ⟨pre, x, h⟩
  · left; subst h; exact ⟨rfl, hl.prev⟩
  · right
    rw [List.concat_eq_append] at h
    subst h
    refine ⟨pre, x, rfl, ?_, ?_⟩
    · have e : 0 :: (pre ++ [x]) ++ [0] = (0 :: pre) ++ x :: [0] := by simp
      rw [e, linkedF_append] at hl
      exact hl.2.prev
    · exact fun e => (List.nodup_cons.mp hnd).1 (List.mem_append_right _ (List.mem_singleton.mpr e.symm))

theorem next_some_of_linked {as : List Nat}
    (hl : LinkedF nx pv (0 :: as ++ [0])) : ∀ a ∈ 0 :: as, ∃ b, nx a = some b := by
  suffices H : ∀ (L : List Nat) (t : Nat), LinkedF nx pv (L ++ [t]) → ∀ a ∈ L, ∃ b, nx a = some b by
    exact H (0 :: as) 0 (by simpa using hl)
  intro L
  induction L with
  | nil => intro t _ a ha; simp at ha
  | cons x r ih =>
    intro t h a ha
    cases r with
    | nil =>
      cases List.mem_singleton.mp ha
      exact ⟨t, h.next⟩
    | cons y r =>
      rcases List.mem_cons.mp ha with rfl | ha
      · exact ⟨y, h.next⟩
      · exact ih t h.tail a ha

/-- the heap holds the circular list `root, as…, root` -/
def Chain (h : Heap) (as : List Nat) : Prop := LinkedF (nextOf h) (prevOf h) (0 :: as ++ [0])

theorem Chain.lt_length {h : Heap} {as : List Nat} (hc : Chain h as) : ∀ a ∈ 0 :: as, a < h.length := by
  intro a ha
  obtain ⟨b, hb⟩ := next_some_of_linked hc a ha
  exact lt_of_view hb

theorem moveFront_spec {l : PList} {pre post : List Nat} {nd : Nat}
    (hnd : (0 :: (pre ++ nd :: post)).Nodup) (hc : Chain l.heap (pre ++ nd :: post)) :
    ∃ l', moveFront l nd = some l' ∧ Chain l'.heap (nd :: (pre ++ post)) ∧
      kvOf l'.heap = kvOf l.heap ∧ l'.len = l.len := by
  obtain ⟨hfresh, hnd'⟩ := nodup_cons_middle hnd
  have hnd0 : (0 : Nat) ≠ nd := fun e => hfresh (List.mem_cons.mpr (.inl e.symm))
  obtain ⟨p, q, hnp, hnq, hpn, hqn, hpnd, hl2⟩ := unlink_views hnd hc
  have hndv := lt_of_view hnq
  have h0v : 0 < l.heap.length := hc.lt_length 0 (by simp)
  -- nd.prev.next = nd.next
  obtain ⟨h1, w1, len1, nx1, pv1, kv1⟩ := wrNext_spec q (lt_of_view hpn)
  have r1 : nextOf h1 nd = some q := by rw [nx1, upd_ne _ _ (fun e => hpnd e.symm)]; exact hnq
  have r1' : prevOf h1 nd = some p := by rw [pv1]; exact hnp
  -- nd.next.prev = nd.prev
  obtain ⟨h2, w2, len2, nx2, pv2, kv2⟩ := wrPrev_spec (h := h1) p (len1 ▸ lt_of_view hqn)
  have hl2' : LinkedF (nextOf h2) (prevOf h2) (0 :: (pre ++ post) ++ [0]) := by
    rw [nx2, nx1, pv2, pv1]; exact hl2
  obtain ⟨f, h0f, hf0, hl6⟩ := insert_views hnd' hfresh hl2'
  -- nd.prev = current
  obtain ⟨h3, w3, len3, nx3, pv3, kv3⟩ := wrPrev_spec (h := h2) 0 (len2 ▸ len1 ▸ hndv)
  have r3 : nextOf h3 0 = some f := by rw [nx3]; exact h0f
  -- nd.next = current.next
  obtain ⟨h4, w4, len4, nx4, pv4, kv4⟩ := wrNext_spec (h := h3) f (len3 ▸ len2 ▸ len1 ▸ hndv)
  have r4 : prevOf h4 nd = some 0 := by rw [pv4, pv3]; simp
  -- nd.prev.next = nd
  obtain ⟨h5, w5, len5, nx5, pv5, kv5⟩ := wrNext_spec (h := h4) nd (len4 ▸ len3 ▸ len2 ▸ len1 ▸ h0v)
  have r5 : nextOf h5 nd = some f := by
    rw [nx5, upd_ne _ _ (fun e => hnd0 e.symm), nx4]; simp
  -- nd.next.prev = nd
  obtain ⟨h6, w6, -, nx6, pv6, kv6⟩ := wrPrev_spec (h := h5) nd
    (len5 ▸ len4 ▸ len3 ▸ lt_of_view hf0)
  refine ⟨{ l with heap := h6 }, ?_, ?_, ?_, rfl⟩
  · simp only [moveFront, moveAfter, root, if_neg hnd0, hnp, hnq, w1, r1, r1', w2, w3, r3, w4, r4, w5, r5, w6,
      Option.bind_eq_bind, Option.bind_some]
  · show LinkedF (nextOf h6) (prevOf h6) _
    rw [nx6, nx5, nx4, nx3, pv6, pv5, pv4, pv3]; exact hl6
  · show kvOf h6 = _
    rw [kv6, kv5, kv4, kv3, kv2, kv1]

theorem remove_spec {l : PList} {pre post : List Nat} {nd : Nat}
    (hnd : (0 :: (pre ++ nd :: post)).Nodup) (hc : Chain l.heap (pre ++ nd :: post)) :
    ∃ l', remove l nd = some (l', true) ∧ Chain l'.heap (pre ++ post) ∧
      kvOf l'.heap = kvOf l.heap ∧ l'.len = l.len - 1 := by
  have hnd0 : nd ≠ 0 := fun e => (nodup_cons_middle hnd).1 (List.mem_cons.mpr (.inl e))
  obtain ⟨p, q, hnp, hnq, hpn, hqn, hpnd, hl2⟩ := unlink_views hnd hc
  -- next.prev = prev
  obtain ⟨h1, w1, len1, nx1, pv1, kv1⟩ := wrPrev_spec p (lt_of_view hqn)
  -- prev.next = next
  obtain ⟨h2, w2, -, nx2, pv2, kv2⟩ := wrNext_spec (h := h1) q (len1 ▸ lt_of_view hpn)
  refine ⟨{ heap := h2, len := l.len - 1 }, ?_, ?_, ?_, rfl⟩
  · simp only [remove, root, if_pos hnd0, hnp, hnq, w1, w2, Option.bind_eq_bind, Option.bind_some]
  · show LinkedF (nextOf h2) (prevOf h2) _
    rw [nx2, nx1, pv2, pv1]; exact hl2
  · show kvOf h2 = _
    rw [kv2, kv1]

/-- `remove(&root)` does nothing and says `false`. -/
theorem remove_root (l : PList) : remove l 0 = some (l, false) := by simp [remove, root]

theorem addFront_spec {l : PList} {as : List Nat} (key value : Int)
    (hnd : (0 :: as).Nodup) (hc : Chain l.heap as) :
    ∃ l', addFront l key value = some (l', l.heap.length) ∧ l.heap.length ∉ 0 :: as ∧
      Chain l'.heap (l.heap.length :: as) ∧
      kvOf l'.heap = upd (kvOf l.heap) l.heap.length (key, value) ∧ l'.len = l.len + 1 := by
  have hfresh : l.heap.length ∉ 0 :: as := fun m => Nat.lt_irrefl _ (hc.lt_length _ m)
  obtain ⟨f, h0f, hf0, hl3⟩ := insert_views hnd hfresh hc
  have h0v : 0 < l.heap.length := hc.lt_length 0 (by simp)
  have hne0 : (0 : Nat) ≠ l.heap.length := by omega
  obtain ⟨anx, apv, akv⟩ := alloc_spec l.heap { prev := 0, next := f, key := key, value := value }
  generalize hh1 : l.heap ++ [({ prev := 0, next := f, key := key, value := value } : PNode)] = h1
    at anx apv akv
  have len1 : h1.length = l.heap.length + 1 := by rw [← hh1]; simp
  have r1 : nextOf h1 0 = some f := by rw [anx, upd_ne _ _ hne0]; exact h0f
  have hfv : f < h1.length := by
    have := lt_of_view hf0; omega
  -- current.next.prev = &newNode
  obtain ⟨h2, w2, len2, nx2, pv2, kv2⟩ := wrPrev_spec (h := h1) l.heap.length hfv
  -- current.next = &newNode
  obtain ⟨h3, w3, -, nx3, pv3, kv3⟩ := wrNext_spec (h := h2) l.heap.length
    (show 0 < h2.length by omega)
  refine ⟨{ heap := h3, len := l.len + 1 }, ?_, hfresh, ?_, ?_, rfl⟩
  · simp only [addFront, addAfter, root, h0f, hh1, r1, w2, w3, Option.bind_eq_bind, Option.bind_some]
  · show LinkedF (nextOf h3) (prevOf h3) _
    rw [nx3, nx2, anx, pv3, pv2, apv]; exact hl3
  · show kvOf h3 = _
    rw [kv3, kv2, akv]

end GoguVerif.Lemmas.C07Ptr
