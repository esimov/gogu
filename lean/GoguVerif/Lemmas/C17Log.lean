import GoguVerif.Lemmas.C17

/-!
# C17 — invariants of the event log of the Memoize protocol LTS (helper lemmas)

The log has four cells per caller — invocation, start and end of its function, return — each a sequence number
and an instant.  A step writes at most one of them, the mover's, with the counter and the clock: `logStep` is
`record` of the event `evOf` names.  `Cells` says when a cell is set (a condition on the state, `happened`) and that
the cells of one call are ordered; it is kept by every step without looking at the label (`cells_step`).  `SInv`
adds what relates two callers; `Instants` relates the instants in the log, `Clock` adds the current instant under
the virtual clock.
-/

namespace GoguVerif.Lemmas.C17

open GoguVerif.Model.C17

/-- the four events of a call that the log records -/
inductive Ev
  | inv | start | «end» | ret
deriving DecidableEq

/-- the sequence number of an event of a caller -/
def cell (g : EvLog) : Ev → Nat → Option Nat
  | .inv => g.invAt | .start => g.startAt | .end => g.endAt | .ret => g.retAt

/-- the instant of an event of a caller -/
def time (g : EvLog) : Ev → Nat → Option Int
  | .inv => g.invT | .start => g.startT | .end => g.endT | .ret => g.retT

/-- the event a step records, and whose it is -/
def evOf (cfg : Cfg) (s : State) : Label → Option (Ev × Nat)
  | .invoke c => some (.inv, c)
  | .cacheCheck c => if (cellGet s.now (s.cache (cfg.key c))).isSome then some (.ret, c) else none
  | .fnStart c => some (.start, c)
  | .fnEnd c _ => some (.end, c)
  | .doFinish c | .wake c => some (.ret, c)
  | _ => none

/-- the log after one more step, which recorded the event `ev` (if any) at the instant `t` -/
def record (g : EvLog) (t : Int) : Option (Ev × Nat) → EvLog
  | none => { g with n := g.n + 1 }
  | some (.inv, c) => { g with n := g.n + 1, invAt := upd g.invAt c (some g.n), invT := upd g.invT c (some t) }
  | some (.start, c) =>
    { g with n := g.n + 1, startAt := upd g.startAt c (some g.n), startT := upd g.startT c (some t) }
  | some (.end, c) => { g with n := g.n + 1, endAt := upd g.endAt c (some g.n), endT := upd g.endT c (some t) }
  | some (.ret, c) => { g with n := g.n + 1, retAt := upd g.retAt c (some g.n), retT := upd g.retT c (some t) }

theorem logStep_eq (cfg : Cfg) (s : State) (g : EvLog) (l : Label) :
    logStep cfg s g l = record g s.now (evOf cfg s l) := by
  cases l with
  | cacheCheck a => cases h : cellGet s.now (s.cache (cfg.key a)) <;> simp only [logStep, evOf, h] <;> rfl
  | _ => rfl

theorem record_cell (g : EvLog) (t : Int) (ev : Option (Ev × Nat)) (e : Ev) (c : Nat) :
    cell (record g t ev) e c = (if ev = some (e, c) then some g.n else cell g e c) ∧
    time (record g t ev) e c = (if ev = some (e, c) then some t else time g e c) := by
  match ev with
  | none => exact ⟨rfl, rfl⟩
  | some (e', a) =>
    by_cases hee : e' = e
    · subst hee
      by_cases hca : c = a
      · subst hca
        rw [if_pos rfl, if_pos rfl]
        cases e' <;> exact ⟨upd_same _ _ _, upd_same _ _ _⟩
      · have hne : ¬ some (e', a) = some (e', c) := fun k => hca (by cases k; rfl)
        rw [if_neg hne, if_neg hne]
        cases e' <;> exact ⟨upd_other _ _ _ _ hca, upd_other _ _ _ _ hca⟩
    · have hne : ¬ some (e', a) = some (e, c) := fun k => hee (by cases k; rfl)
      rw [if_neg hne, if_neg hne]
      cases e' <;> cases e <;> first | exact absurd rfl hee | exact ⟨rfl, rfl⟩

section

variable {cfg : Cfg} {c0 : Nat → Cell} {s s' : State} {g : EvLog} {l : Label}

theorem logStep_cell (cfg : Cfg) (s : State) (g : EvLog) (l : Label) (e : Ev) (c : Nat) :
    cell (logStep cfg s g l) e c = (if evOf cfg s l = some (e, c) then some g.n else cell g e c) ∧
    time (logStep cfg s g l) e c = (if evOf cfg s l = some (e, c) then some s.now else time g e c) := by
  rw [logStep_eq]; exact record_cell g s.now _ e c

theorem logStep_n (cfg : Cfg) (s : State) (g : EvLog) (l : Label) : (logStep cfg s g l).n = g.n + 1 := by
  rw [logStep_eq]; cases evOf cfg s l with
  | none => rfl
  | some p => obtain ⟨e, c⟩ := p; cases e <;> rfl

theorem evOf_caller {e : Ev} {c : Nat} (h : evOf cfg s l = some (e, c)) : l.caller = some c := by
  cases l with
  | cacheCheck a => simp only [evOf] at h; split at h <;> cases h; rfl
  | invoke a | fnStart a | fnEnd a r | doFinish a | wake a => cases h; rfl
  | _ => cases h

theorem evOf_mover {e : Ev} {a c : Nat} (hc : l.caller = some c) (he : evOf cfg s l = some (e, a)) : a = c :=
  Option.some.inj ((evOf_caller he).symm.trans hc)

theorem logStep_frame (cfg : Cfg) (s : State) (g : EvLog) {c : Nat} (hc : l.caller ≠ some c) (e : Ev) :
    time (logStep cfg s g l) e c = time g e c := by
  rw [(logStep_cell cfg s g l e c).2, if_neg fun k => hc (evOf_caller k)]

theorem logStep_cell_cases {e : Ev} {c x : Nat} (hx : cell (logStep cfg s g l) e c = some x) :
    cell g e c = some x ∨ (x = g.n ∧ evOf cfg s l = some (e, c)) := by
  rw [(logStep_cell cfg s g l e c).1] at hx
  split at hx
  · next k => cases hx; exact Or.inr ⟨rfl, k⟩
  · exact Or.inl hx

/-- the caller runs code, which takes no time (a joiner whose leader has published runs too, but is not counted here:
`Clock.wait` and `Clock.fresh` speak of it) -/
def busy : PC → Bool
  | .start | .missed | .leader | .ran _ | .setDone _ => true
  | _ => false

theorem busy_keep {pc : Nat → PC} {a : Nat} {q : PC} (h : busy q = true → busy (pc a) = true) (c : Nat)
    (hb : busy (upd pc a q c) = true) : busy (pc c) = true := by
  rw [upd_apply] at hb
  split at hb
  · next e => rw [e]; exact h hb
  · exact hb

/-- not yet invoked (0), inside the call (1), returned (2) -/
def phase : PC → Nat
  | .idle => 0
  | .done _ => 2
  | _ => 1

theorem phase_idle {p : PC} : p = .idle ↔ phase p = 0 := by cases p <;> simp [phase]

theorem phase_done {p : PC} : (∃ r, p = .done r) ↔ phase p = 2 := by cases p <;> simp [phase]

/-- the condition on the state under which a cell is set -/
def happened (s : State) : Ev → Nat → Prop
  | .inv, c => s.pc c ≠ .idle
  | .start, c => s.started c = true
  | .end, c => s.execRes c ≠ none
  | .ret, c => ∃ r, s.pc c = .done r

/-- the order of the events of one call -/
def before : Ev → Ev → Prop
  | .inv, .start | .inv, .end | .inv, .ret | .start, .end | .start, .ret | .end, .ret => True
  | _, _ => False

theorem before_irrefl (e : Ev) : ¬ before e e := by cases e <;> exact id

/-- what a step does to the conditions the log follows, by the event it records -/
inductive Recorded (s s' : State) : Option (Ev × Nat) → Prop
  /-- nothing recorded: nobody starts running code -/
  | none (hp : ∀ c, phase (s'.pc c) = phase (s.pc c)) (hst : s'.started = s.started) (hex : s'.execRes = s.execRes)
      (hb : ∀ c, busy (s'.pc c) = true → busy (s.pc c) = true) : Recorded s s' none
  | inv (a : Nat) (hpc : s.pc a = .idle) (hp : s'.pc = upd s.pc a .start) (hst : s'.started = s.started)
      (hex : s'.execRes = s.execRes) : Recorded s s' (some (.inv, a))
  | start (a : Nat) (hpc : s.pc a = .leader) (hp : s'.pc = upd s.pc a .running)
      (hst : s'.started = upd s.started a true) (hex : s'.execRes = s.execRes) : Recorded s s' (some (.start, a))
  | «end» (a : Nat) (r : Res) (hpc : s.pc a = .running) (hp : s'.pc = upd s.pc a (.ran r))
      (hst : s'.started = s.started) (hex : s'.execRes = upd s.execRes a (some r)) : Recorded s s' (some (.end, a))
  /-- the caller hit the cache, finishes its own flight, or is woken with its leader's result -/
  | ret (a : Nat) (r : Res) (hph : phase (s.pc a) = 1)
      (how : (∃ v, s.pc a = .start ∧ s'.src a = some (.hit v)) ∨ ((∃ r, s.pc a = .setDone r) ∧ s'.src a = s.src a) ∨
        ∃ l0, s.pc a = .waiting l0 ∧ s.result l0 = some r ∧ s'.src a = wakeSrc s a l0)
      (hp : s'.pc = upd s.pc a (.done r)) (hst : s'.started = s.started) (hex : s'.execRes = s.execRes) :
      Recorded s s' (some (.ret, a))

/-- `ev` is a variable so that `cases` on the result keeps the constructors that fit what is known of the event -/
theorem Step.recorded (hs : Step cfg s l s') {ev : Option (Ev × Nat)} (he : evOf cfg s l = ev) : Recorded s s' ev := by
  subst he
  cases hs with
  | tick => exact .none (fun _ => rfl) rfl rfl fun _ h => h
  | invoke a hpc => exact .inv a hpc rfl rfl rfl
  | hit a v hpc hv =>
    rw [show evOf cfg s (.cacheCheck a) = some (.ret, a) by simp only [evOf, hv]; rfl]
    exact .ret a _ (by rw [hpc]; rfl) (Or.inl ⟨v, hpc, upd_same _ _ _⟩) rfl rfl rfl
  | miss a hpc hv =>
    rw [show evOf cfg s (.cacheCheck a) = none by simp only [evOf, hv]; rfl]
    exact .none (upd_keep phase (by rw [hpc]; rfl)) rfl rfl (busy_keep fun _ => by rw [hpc]; rfl)
  | join a _ hpc | lead a hpc | leadHit a _ hpc | setOk a _ hpc | setErr a hpc =>
    exact .none (upd_keep phase (by rw [hpc]; rfl)) rfl rfl (busy_keep fun _ => by rw [hpc]; rfl)
  | fnStart a hpc => exact .start a hpc rfl rfl rfl
  | fnEnd a r hpc => exact .end a r hpc rfl rfl rfl
  | doFinish a r hpc => exact .ret a r (by rw [hpc]; rfl) (Or.inr (Or.inl ⟨⟨r, hpc⟩, rfl⟩)) rfl rfl rfl
  | wake a l0 r hpc hr =>
    exact .ret a r (by rw [hpc]; rfl) (Or.inr (Or.inr ⟨l0, hpc, hr, upd_same _ _ _⟩)) rfl rfl rfl

theorem Step.starts_leader (hs : Step cfg s l s') {a : Nat} (he : evOf cfg s l = some (.start, a)) : s.pc a = .leader := by
  cases hs.recorded he with | start _ k => exact k

theorem happened_congr {c : Nat} (e : Ev) (hp : e = .inv ∨ e = .ret → phase (s'.pc c) = phase (s.pc c))
    (hst : e = .start → s'.started c = s.started c) (hex : e = .end → s'.execRes c = s.execRes c) :
    happened s' e c ↔ happened s e c := by
  cases e with
  | inv => have hp := hp (Or.inl rfl); exact not_congr (phase_idle.trans (hp ▸ phase_idle.symm))
  | ret => have hp := hp (Or.inr rfl); exact phase_done.trans (hp ▸ phase_done.symm)
  | start => show s'.started c = true ↔ s.started c = true; rw [hst rfl]
  | «end» => show s'.execRes c ≠ none ↔ s.execRes c ≠ none; rw [hex rfl]

theorem Step.happened_step (hs : Step cfg s l s') (e : Ev) (c : Nat) :
    happened s' e c ↔ happened s e c ∨ evOf cfg s l = some (e, c) := by
  by_cases hc : l.caller = some c
  · generalize he : evOf cfg s l = ev
    cases hs.recorded he with
    | none hp hst hex =>
      exact (happened_congr e (fun _ => hp c) (fun _ => congrFun hst c) (fun _ => congrFun hex c)).trans (or_iff_left nofun).symm
    | inv a hpc hp hst hex =>
      cases evOf_mover hc he
      have hq : s'.pc c = .start := by rw [hp, upd_same]
      cases e with
      | inv => exact iff_of_true (fun k => by rw [hq] at k; cases k) (Or.inr rfl)
      | ret =>
        exact iff_of_false (fun ⟨r, k⟩ => by rw [hq] at k; cases k)
          (fun k => k.elim (fun ⟨r, k⟩ => by rw [hpc] at k; cases k) nofun)
      | start =>
        exact (happened_congr .start (fun k => k.elim nofun nofun) (fun _ => congrFun hst c) nofun).trans (or_iff_left nofun).symm
      | «end» =>
        exact (happened_congr .end (fun k => k.elim nofun nofun) nofun (fun _ => congrFun hex c)).trans (or_iff_left nofun).symm
    | start a hpc hp hst hex =>
      cases evOf_mover hc he
      have hp : phase (s'.pc c) = phase (s.pc c) := by rw [hp]; exact upd_keep phase (by rw [hpc]; rfl) c
      by_cases hee : e = .start
      · subst hee; exact iff_of_true (by show s'.started c = true; rw [hst, upd_same]) (Or.inr rfl)
      · exact (happened_congr e (fun _ => hp) (fun k => absurd k hee) (fun _ => congrFun hex c)).trans
          (or_iff_left fun k => hee (by cases k; rfl)).symm
    | «end» a r hpc hp hst hex =>
      cases evOf_mover hc he
      have hp : phase (s'.pc c) = phase (s.pc c) := by rw [hp]; exact upd_keep phase (by rw [hpc]; rfl) c
      by_cases hee : e = .end
      · subst hee; exact iff_of_true (by show s'.execRes c ≠ none; rw [hex, upd_same]; nofun) (Or.inr rfl)
      · exact (happened_congr e (fun _ => hp) (fun _ => congrFun hst c) (fun k => absurd k hee)).trans
          (or_iff_left fun k => hee (by cases k; rfl)).symm
    | ret a r hph _ hp hst hex =>
      cases evOf_mover hc he
      have hq : s'.pc c = .done r := by rw [hp, upd_same]
      cases e with
      | ret => exact iff_of_true ⟨r, hq⟩ (Or.inr rfl)
      | inv =>
        exact iff_of_true (fun k => by rw [hq] at k; cases k)
          (Or.inl fun k => by rw [k] at hph; cases hph)
      | start =>
        exact (happened_congr .start (fun k => k.elim nofun nofun) (fun _ => congrFun hst c) nofun).trans (or_iff_left nofun).symm
      | «end» =>
        exact (happened_congr .end (fun k => k.elim nofun nofun) nofun (fun _ => congrFun hex c)).trans (or_iff_left nofun).symm
  · have f := hs.frame hc
    exact (happened_congr e (fun _ => by rw [f.pc]) (fun _ => f.started) (fun _ => f.execRes)).trans
      (or_iff_left fun k => hc (evOf_caller k)).symm

theorem Step.ev_fresh (hl : ∀ c, Local cfg s c) (hs : Step cfg s l s') {e : Ev} {c : Nat}
    (h : evOf cfg s l = some (e, c)) : ¬ happened s e c ∧ ∀ e', before e e' → ¬ happened s e' c := by
  have nd : ∀ {a : Nat}, phase (s.pc a) ≠ 2 → ¬ happened s .ret a := fun k k' => k (phase_done.1 k')
  cases hs.recorded h with
  | inv _ hpc =>
    have ⟨k1, k2⟩ := (hl c).unstarted (Or.inl hpc)
    refine ⟨fun k => k hpc, fun e' he' => ?_⟩
    cases e' with
    | inv => exact he'.elim
    | start => exact fun k => Bool.false_ne_true (k1.symm.trans k)
    | «end» => exact fun k => k k2
    | ret => exact nd (by rw [hpc]; nofun)
  | start _ hpc =>
    have ⟨k1, k2⟩ := (hl c).unstarted (Or.inr hpc)
    refine ⟨fun k => Bool.false_ne_true (k1.symm.trans k), fun e' he' => ?_⟩
    cases e' with
    | inv | start => exact he'.elim
    | «end» => exact fun k => k k2
    | ret => exact nd (by rw [hpc]; nofun)
  | «end» _ _ hpc =>
    refine ⟨fun k => k ((hl c).in_fn hpc), fun e' he' => ?_⟩
    cases e' with
    | inv | start | «end» => exact he'.elim
    | ret => exact nd (by rw [hpc]; nofun)
  | ret _ _ hph => exact ⟨nd (by rw [hph]; nofun), fun e' he' => by cases e' <;> exact he'.elim⟩

/-- the cells of the log, caller by caller: below the counter, set exactly when their event has happened, in
the order of the events, each with its instant -/
structure Cells (s : State) (g : EvLog) : Prop where
  bnd : ∀ e c x, cell g e c = some x → x < g.n
  set : ∀ e c, cell g e c = none ↔ ¬ happened s e c
  ord : ∀ e e' c x y, before e e' → cell g e c = some x → cell g e' c = some y → x < y
  tim : ∀ e c, (time g e c).isSome = (cell g e c).isSome

/-- the event recorded is new, and so is its sequence number -/
theorem cells_step (hl : ∀ c, Local cfg s c) (h : Cells s g) (hs : Step cfg s l s') :
    Cells s' (logStep cfg s g l) := by
  refine ⟨fun e c x hx => ?_, fun e c => ?_, fun e e' c x y hee hx hy => ?_, fun e c => ?_⟩
  · rw [logStep_n]
    rcases logStep_cell_cases hx with hx | ⟨rfl, _⟩
    · exact Nat.lt_succ_of_lt (h.bnd e c x hx)
    · exact Nat.lt_succ_self _
  · rw [(logStep_cell cfg s g l e c).1, hs.happened_step e c]
    split
    · next hev => exact ⟨nofun, fun k => absurd (Or.inr hev) k⟩
    · next hev => exact (h.set e c).trans ⟨fun k => fun k' => k'.elim k hev, fun k k' => k (Or.inl k')⟩
  · rcases logStep_cell_cases hx with hx | ⟨rfl, hev⟩
    · rcases logStep_cell_cases hy with hy | ⟨rfl, _⟩
      · exact h.ord e e' c x y hee hx hy
      · exact h.bnd e c x hx
    · rcases logStep_cell_cases hy with hy | ⟨_, hev'⟩
      · rw [(h.set e' c).2 ((hs.ev_fresh hl hev).2 e' hee)] at hy; cases hy
      · rw [hev] at hev'; cases hev'; exact absurd hee (before_irrefl e)
  · rw [(logStep_cell cfg s g l e c).1, (logStep_cell cfg s g l e c).2]
    split
    · rfl
    · exact h.tim e c

theorem Cells.stamped (h : Cells s g) {e : Ev} {c : Nat} (hh : happened s e c) : ∃ x, cell g e c = some x :=
  Option.ne_none_iff_exists'.1 fun k => (h.set e c).1 k hh

theorem Cells.timed (h : Cells s g) {e : Ev} {c x : Nat} (hx : cell g e c = some x) : ∃ t, time g e c = some t :=
  Option.isSome_iff_exists.1 ((h.tim e c).trans (hx ▸ rfl))

theorem Cells.of_cell (h : Cells s g) {e : Ev} {c x : Nat} (hx : cell g e c = some x) : happened s e c :=
  Classical.byContradiction fun hn => nomatch ((h.set e c).2 hn).symm.trans hx

theorem Cells.of_time (h : Cells s g) {e : Ev} {c : Nat} {t : Int} (ht : time g e c = some t) : happened s e c :=
  have ⟨_, hx⟩ := Option.isSome_iff_exists.1 ((h.tim e c).symm.trans (ht ▸ rfl))
  h.of_cell hx

theorem Cells.retAt_none (h : Cells s g) (c : Nat) : g.retAt c = none ↔ ∀ r, s.pc c ≠ .done r :=
  (h.set .ret c).trans not_exists

theorem Cells.startAt_none (h : Cells s g) (c : Nat) : g.startAt c = none ↔ s.started c = false :=
  (h.set .start c).trans (Bool.not_eq_true _ ▸ Iff.rfl : ¬ s.started c = true ↔ s.started c = false)

theorem Cells.endAt_none (h : Cells s g) (c : Nat) : g.endAt c = none ↔ s.execRes c = none :=
  (h.set .end c).trans Decidable.not_not

theorem Step.stamp_keep (hl : ∀ c, Local cfg s c) (hs : Step cfg s l s') (g : EvLog) {e : Ev} {c : Nat}
    (hh : happened s e c) :
    cell (logStep cfg s g l) e c = cell g e c ∧ time (logStep cfg s g l) e c = time g e c := by
  have h := logStep_cell cfg s g l e c
  rw [if_neg fun k => (hs.ev_fresh hl k).1 hh, if_neg fun k => (hs.ev_fresh hl k).1 hh] at h
  exact h

theorem Cells.keep (hl : ∀ c, Local cfg s c) (h : Cells s g) (hs : Step cfg s l s') {e : Ev} {c x : Nat}
    (hx : cell g e c = some x) : cell (logStep cfg s g l) e c = some x :=
  (hs.stamp_keep hl g (h.of_cell hx)).1.trans hx

theorem Step.time_keep (hl : ∀ c, Local cfg s c) (hc : Cells s g) (hs : Step cfg s l s') {e : Ev} {c : Nat} {t : Int}
    (ht : time g e c = some t) : time (logStep cfg s g l) e c = some t :=
  (hs.stamp_keep hl g (hc.of_time ht)).2.trans ht

theorem Step.returned_stays (hc : Cells s g) (hs : Step cfg s l s') {c : Nat} {t : Int} (ht : g.retT c = some t) :
    l.caller ≠ some c := fun hl =>
  have ⟨r, hd⟩ := hc.of_time (e := .ret) ht
  hs.pc_ne_done hl r hd

theorem logStep_time_cases {e : Ev} {c : Nat} {t : Int} (ht : time (logStep cfg s g l) e c = some t) :
    time g e c = some t ∨ (t = s.now ∧ evOf cfg s l = some (e, c)) := by
  rw [(logStep_cell cfg s g l e c).2] at ht
  split at ht
  · next k => cases ht; exact Or.inr ⟨rfl, k⟩
  · exact Or.inl ht

/-- the sequence numbers of the log, tied to the state -/
structure SInv (cfg : Cfg) (s : State) (g : EvLog) : Prop extends Cells s g where
  /-- the registered call of a key belongs to a caller that is between `doEnter` and `doFinish` (a fact about
  the state alone, the converse of `Inv.lead`; it is kept here, where it is used) -/
  flt : ∀ k l, s.flight k = some l → active (s.pc l) = true
  /-- a joiner was invoked before its leader returned … -/
  wait : ∀ c l i tl, s.pc c = .waiting l → g.invAt c = some i → g.retAt l = some tl → i < tl
  /-- … and returns after it -/
  join : ∀ c l i t, server (s.src c) = some l → l ≠ c → g.invAt c = some i → g.retAt c = some t →
          ∃ tl, g.retAt l = some tl ∧ i < tl ∧ tl < t
  /-- of two executions for one key, the one that started first had ended before the other started, and its caller has
  returned -/
  dis : ∀ c c' a a', c ≠ c' → cfg.key c = cfg.key c' → g.startAt c = some a → g.startAt c' = some a' →
          a ≤ a' → (∃ r, s.pc c = .done r) ∧ ∃ b, g.endAt c = some b ∧ b < a'

theorem sinv_init (cfg : Cfg) (c0 : Nat → Cell) (now : Int) : SInv cfg (init c0 now) EvLog.empty where
  bnd := by intro e c x h; cases e <;> cases h
  set := by intro e c; cases e <;> simp [cell, EvLog.empty, happened, init]
  ord := by intro e e' c x y _ h; cases e <;> cases h
  tim := by intro e c; cases e <;> rfl
  flt := nofun
  wait := nofun
  join := fun _ _ _ _ _ _ => nofun
  dis := fun _ _ _ _ _ _ => nofun

theorem endAt_of_execRes {l : Nat} {r : Res} (h : SInv cfg s g) (hr : s.execRes l = some r) :
    ∃ b, g.endAt l = some b :=
  h.stamped (e := .end) (fun k => nomatch hr.symm.trans k)

theorem sinv_step (hi : Inv cfg c0 s) (h : SInv cfg s g) (hs : step cfg s l = some s') :
    SInv cfg s' (logStep cfg s g l) := by
  have hs := Step.of_step hs
  have hc' := cells_step hi.loc h.toCells hs
  have keep : ∀ {e : Ev} {c x : Nat}, cell g e c = some x → cell (logStep cfg s g l) e c = some x :=
    h.toCells.keep hi.loc hs
  -- the stamp of an event that had happened is not new
  have oldOf : ∀ {e : Ev} {c x : Nat}, happened s e c → cell (logStep cfg s g l) e c = some x → cell g e c = some x :=
    fun hh hx => (logStep_cell_cases hx).resolve_right fun k => (hs.ev_fresh hi.loc k.2).1 hh
  have ⟨_, _, flt⟩ := hs.flight_inv hi.lead hi.fkey
  refine { hc' with flt := flt h.flt, wait := ?_, join := ?_, dis := ?_ }
  · -- a joiner's leader has not returned when it joins; a later return gets a later stamp
    intro c l0 i tl hw h1 h2
    have hc : s.pc c ≠ .idle ∧ (s.pc c = .waiting l0 ∨ g.retAt l0 = none) := by
      rcases hs.waiting_cases hw with e | ⟨_, e, hf⟩
      · exact ⟨by rw [e]; nofun, Or.inl e⟩
      · refine ⟨by rw [e]; nofun, Or.inr ((h.retAt_none l0).2 fun r hr => ?_)⟩
        have := h.flt _ _ hf; rw [hr] at this; cases this
    have h1 := oldOf (e := .inv) hc.1 h1
    rcases logStep_cell_cases (e := .ret) h2 with h2 | ⟨e, _⟩
    · rcases hc.2 with e1 | e1
      · exact h.wait c l0 i tl e1 h1 h2
      · exact absurd (e1.symm.trans h2) nofun
    · rw [e]; exact h.bnd .inv c i h1
  · intro c l0 i t hsv hne h1 h2
    rcases logStep_cell_cases (e := .ret) h2 with h2 | ⟨e, hev⟩
    · -- returned before: it has not moved
      obtain ⟨r, hd⟩ := h.of_cell (e := .ret) h2
      have f := hs.frame_done hd
      have h1 := oldOf (e := .inv) (fun k => nomatch hd.symm.trans k) h1
      obtain ⟨tl, k1, k2, k3⟩ := h.join c l0 i t (f.src ▸ hsv) hne h1 h2
      exact ⟨tl, keep (e := .ret) k1, k2, k3⟩
    · -- returns now; only a woken joiner is served by another caller
      cases hs.recorded hev with | ret _ r _ how => ?_
      rcases how with ⟨v, _, k⟩ | ⟨⟨r, hp⟩, k⟩ | ⟨l1, hp, hr, k⟩ <;> rw [k] at hsv
      · cases hsv
      · rcases (hi.loc c).setDone hp with ⟨hl, _⟩ | ⟨v, _, hl, _⟩ <;> rw [hl] at hsv <;> cases hsv <;>
          exact absurd rfl hne
      · obtain rfl : l0 = l1 :=
          Option.some.inj (hsv.symm.trans (server_wakeSrc ((hi.loc c).waiting hp).src (hi.loc l1) hr))
        obtain ⟨tl, htl⟩ := h.stamped (e := .ret) ⟨r, (published_cases (hi.loc l0) hr).1⟩
        have h1 := oldOf (e := .inv) (fun k => nomatch hp.symm.trans k) h1
        exact ⟨tl, keep (e := .ret) htl, h.wait c l0 i tl hp h1 htl, e ▸ h.bnd .ret l0 tl htl⟩
  · -- a new execution starts after every earlier one for its key has ended, its caller being out of the flight
    intro c c' x x' hne hk h3 h4 hlt
    rcases logStep_cell_cases (e := .start) h4 with h4 | ⟨e4, hev⟩
    · rcases logStep_cell_cases (e := .start) h3 with h3 | ⟨e3, _⟩
      · obtain ⟨⟨r, hd⟩, b, hb, hlt'⟩ := h.dis c c' x x' hne hk h3 h4 hlt
        exact ⟨⟨r, (hs.frame_done hd).pc.trans hd⟩, b, keep (e := .end) hb, hlt'⟩
      · have := h.bnd .start c' x' h4
        omega
    · have h3 := (logStep_cell_cases (e := .start) h3).resolve_right fun k => hne (by
        have := k.2.symm.trans hev; cases this; rfl)
      -- `c'` starts now: it is the registered call of the key, so `c` is not, and has returned
      have hpc' : s.pc c' = .leader := hs.starts_leader hev
      rcases ((hi.loc c).toStarted (h.of_cell (e := .start) h3)).live with hact | ⟨r, hd, hr⟩
      · exact absurd (hi.active_unique hk hact (by rw [hpc']; rfl)) hne
      · obtain ⟨b, hb⟩ := endAt_of_execRes h hr
        exact ⟨⟨r, (hs.frame_done hd).pc.trans hd⟩, b, keep (e := .end) hb,
          e4 ▸ h.bnd .end c b hb⟩

-- kept as it was written; nothing uses it, and the lemma it expands to, `slocal_congr`, does not exist
/-- log entries of the other callers are unchanged when only `a`'s entry is written -/
macro "sothers " s:term:max g:term:max hca:term:max hx:term:max hb:term:max h:term:max : tactic =>
  `(tactic| exact slocal_congr (s := $s) (g := $g)
      (by first | rfl | exact upd_other _ _ _ _ $hca) (by first | rfl | exact upd_other _ _ _ _ $hca)
      (by first | rfl | exact upd_other _ _ _ _ $hca) (by first | rfl | exact upd_other _ _ _ _ $hca)
      (by first | rfl | exact upd_other _ _ _ _ $hca) (by first | rfl | exact upd_other _ _ _ _ $hca)
      $hx (fun i hi => $hb _ i (Or.inl hi)) $h)

theorem reachableLog_reachable {s0 : State} (h : ReachableLog cfg s0 s g) : Reachable cfg s0 s := by
  induction h with
  | refl => exact Reachable.refl
  | step l _ hs ih => exact Reachable.step l ih hs

theorem inv_reachableLog {now : Int} (h : ReachableLog cfg (init c0 now) s g) : Inv cfg c0 s :=
  inv_reachable (reachableLog_reachable h)

theorem sinv_reachable {now : Int} (h : ReachableLog cfg (init c0 now) s g) : SInv cfg s g := by
  induction h with
  | refl => exact sinv_init cfg c0 now
  | step l hr hs ih => exact sinv_step (inv_reachableLog hr) ih hs

theorem SInv.served (h : SInv cfg s g) {c l i t tl : Nat} (hsv : server (s.src c) = some l)
    (h1 : g.invAt c = some i) (h2 : g.retAt c = some t) (htl : g.retAt l = some tl) : i < tl ∧ tl ≤ t := by
  by_cases hlc : l = c
  · subst hlc; cases h2.symm.trans htl
    exact ⟨h.ord .inv .ret l i t trivial h1 h2, Nat.le_refl t⟩
  · obtain ⟨tl', e1, e2, e3⟩ := h.join c l i t hsv hlc h1 h2
    cases htl.symm.trans e1
    exact ⟨e2, Nat.le_of_lt e3⟩

theorem SInv.last_started (h : SInv cfg s g) {a c' x x' : Nat} (ha : ∀ r, s.pc a ≠ .done r) (hne : c' ≠ a)
    (hk : cfg.key c' = cfg.key a) (hx' : g.startAt c' = some x') (hx : g.startAt a = some x) : x' < x :=
  Nat.lt_of_not_le fun hle =>
    have ⟨⟨r, hd⟩, _⟩ := h.dis a c' x x' (Ne.symm hne) hk.symm hx hx' hle
    ha r hd

theorem startAt_of_execRes (hi : Inv cfg c0 s) (h : SInv cfg s g) {l : Nat} {r : Res} (hr : s.execRes l = some r) :
    ∃ a, g.startAt l = some a :=
  h.stamped (e := .start) ((hi.loc l).started_of_execRes hr)

theorem stamps_of_done (hsi : SInv cfg s g) {c : Nat} {r : Res} (hd : s.pc c = .done r) :
    ∃ i t, g.invAt c = some i ∧ g.retAt c = some t :=
  have ⟨i, hi⟩ := hsi.stamped (e := .inv) (fun k => nomatch hd.symm.trans k)
  have ⟨t, ht⟩ := hsi.stamped (e := .ret) ⟨r, hd⟩
  ⟨i, t, hi, ht⟩

end

/-- the cached value a caller was served, if it was: read by its own `cacheCheck` or by its flight's leader -/
def hitVal : Option Src → Option Int
  | some (.hit v) => some v
  | some (.lhit _ v) => some v
  | _ => none

/-- relations between instants in the log: true of a call when its last cell is written, they stay so, the cells being
written once -/
structure Instants (cfg : Cfg) (s : State) (g : EvLog) : Prop where
  le : ∀ e c t, time g e c = some t → t ≤ s.now
  ord : ∀ c ti t, g.invT c = some ti → g.retT c = some t → ti ≤ t
  /-- a function starts at the instant its caller was invoked -/
  start : ∀ c t, g.startT c = some t → g.invT c = some t
  /-- a cached value is served at the instant the caller was invoked -/
  hit : ∀ c v t, hitVal (s.src c) = some v → g.retT c = some t → g.invT c = some t
  /-- the result of an execution is handed over at the instant the execution ended -/
  exec : ∀ c l t, s.src c = some (.exec l) → g.retT c = some t → g.endT l = some t

/-- the instants of the log under the virtual clock: time passes only while nobody runs code.  `busy`, `wait`, `fresh`
and `live` are about the current instant and speak only of callers that are not blocked, so that a `tick` finds none of
them to keep; `fl`, a fact about the state alone, is kept by every step. -/
structure Clock (cfg : Cfg) (s : State) (g : EvLog) : Prop extends Instants cfg s g where
  /-- a caller that runs code was invoked, or its function returned, at the current instant -/
  busy : ∀ c, busy (s.pc c) = true → time g (if s.execRes c = none then .inv else .end) c = some s.now
  /-- a joiner's leader is still the registered call of its key, or has published its result -/
  fl : ∀ c l, s.pc c = .waiting l → active (s.pc l) = true ∨ ∃ r, s.result l = some r
  /-- a joiner's leader has not returned before the current instant -/
  wait : ∀ c l t, s.pc c = .waiting l → g.retT l = some t → t = s.now
  /-- the joiners of a leader that runs nothing were invoked at the current instant -/
  fresh : ∀ c l, s.pc c = .waiting l → s.started l = false → g.invT c = some s.now
  /-- the value a leader's re-check read stays live until the leader has published it and its joiners are served -/
  live : ∀ c l v, s.src l = some (.lhit l v) → s.result l = none ∨ s.pc c = .waiting l →
          cellGet s.now (s.cache (cfg.key l)) = some v

section

variable {cfg : Cfg} {c0 : Nat → Cell} {s s' : State} {g : EvLog} {l : Label}

theorem clock_init (cfg : Cfg) (c0 : Nat → Cell) (now : Int) : Clock cfg (init c0 now) EvLog.empty where
  le := by intro e c t h; cases e <;> cases h
  ord := by intro c ti t h; cases h
  start := by intro c t h; cases h
  hit := by intro c v t h; cases h
  exec := by intro c l t h; cases h
  busy := by intro c h; cases h
  fl := by intro c l h; cases h
  wait := by intro c l t h; cases h
  fresh := by intro c l h; cases h
  live := by intro c l v h; cases h

/-- a live value survives an offer to any key: the cache refuses to replace it -/
theorem live_after_set {E now : Int} {cache : Nat → Cell} {k ka : Nat} {v w : Int}
    (h : cellGet now (cache k) = some v) :
    cellGet now (upd cache ka (cellSet E now (cache ka) w) k) = some v := by
  by_cases hk : k = ka
  · subst hk
    have e : cellSet E now (cache k) w = cache k := Lemmas.CacheCell.cellSet_of_live h (Int.le_refl _)
    rw [upd_same, e]
    exact h
  · rw [upd_other _ _ _ _ hk]; exact h

theorem Step.now_cases (hs : Step cfg s l s') : s'.now = s.now ∨ ∃ d, l = .tick d ∧ s' = { s with now := s.now + d } := by
  cases hs with
  | tick d => exact Or.inr ⟨d, rfl, rfl⟩
  | _ => exact Or.inl rfl

theorem Step.now_le (hs : Step cfg s l s') : s.now ≤ s'.now := by
  rcases hs.now_cases with h | ⟨d, _, rfl⟩
  · rw [h]; exact Int.le_refl _
  · show s.now ≤ s.now + (d : Int); omega

theorem busy_not_blocked {c : Nat} (hb : busy (s.pc c) = true) : ¬ blocked s c := by
  intro hbl
  unfold blocked at hbl
  cases hp : s.pc c <;> rw [hp] at hb hbl <;> first | exact hbl | cases hb

theorem Local.unstarted_busy {c : Nat} (h : Local cfg s c) (ha : active (s.pc c) = true) (hst : s.started c = false) :
    busy (s.pc c) = true := by
  cases hp : s.pc c with
  | running | ran r => simp only [Local, hp] at h; rw [h.2.1] at hst; cases hst
  | leader | setDone r => rfl
  | _ => rw [hp] at ha; cases ha

theorem Clock.invoked_now (h : Clock cfg s g) {c : Nat} (hb : C17.busy (s.pc c) = true) (hx : s.execRes c = none) :
    g.invT c = some s.now := by
  have := h.busy c hb
  rwa [if_pos hx] at this

theorem Clock.ended_now (h : Clock cfg s g) {c : Nat} {r : Res} (hb : C17.busy (s.pc c) = true)
    (hx : s.execRes c = some r) : g.endT c = some s.now := by
  have := h.busy c hb
  rwa [if_neg (by rw [hx]; nofun)] at this

theorem Clock.ret_now (hinv : Inv cfg c0 s) (hsi : SInv cfg s g) (h : Clock cfg s g) (hs : Step cfg s l s') {c : Nat}
    (he : evOf cfg s l = some (.ret, c)) :
    (∀ v, hitVal (s'.src c) = some v → g.invT c = some s.now) ∧
    (∀ l0, s'.src c = some (.exec l0) → g.endT l0 = some s.now) := by
  have hl := hinv.loc c
  cases hs.recorded he with | ret _ r _ how => ?_
  rcases how with ⟨v, hpc, k⟩ | ⟨⟨r, hpc⟩, k⟩ | ⟨l1, hpc, hr, k⟩ <;> rw [k]
  · exact ⟨fun _ _ => h.invoked_now (by rw [hpc]; rfl) (hl.early (Or.inl hpc)).2, nofun⟩
  · have hb : C17.busy (s.pc c) = true := by rw [hpc]; rfl
    rcases hl.setDone hpc with ⟨hsrc, _, hx⟩ | ⟨v, _, hsrc, _, hx⟩ <;> rw [hsrc]
    · exact ⟨nofun, fun l0 k => by cases k; exact h.ended_now hb hx⟩
    · exact ⟨fun _ _ => h.invoked_now hb hx, nofun⟩
  · obtain ⟨hd1, _⟩ := published_cases (hinv.loc l1) hr
    rcases wakeSrc_served (hl.waiting hpc).src (hinv.loc l1) hr with ⟨e1, hsl⟩ | ⟨v, e1, hsl, _⟩ <;> rw [e1]
    · -- its leader returned at this instant, when its function had ended
      obtain ⟨x, hx⟩ := hsi.stamped (e := .ret) ⟨r, hd1⟩
      obtain ⟨t, ht⟩ := hsi.timed hx
      have := h.exec l1 l1 t hsl ht
      rw [h.wait c l1 t hpc ht] at this
      exact ⟨nofun, fun l0 k => by cases k; exact this⟩
    · exact ⟨fun _ _ => h.fresh c l1 hpc ((hinv.loc l1).lhit_unstarted hsl), nofun⟩

theorem instants_step (hinv : Inv cfg c0 s) (hsi : SInv cfg s g) (h : Clock cfg s g) (hs : Step cfg s l s') :
    Instants cfg s' (logStep cfg s g l) where
  le := fun e c t ht => by
    rcases logStep_time_cases ht with ht | ⟨rfl, _⟩
    · exact Int.le_trans (h.le e c t ht) hs.now_le
    · exact hs.now_le
  ord := fun c ti t h1 h2 => by
    rcases logStep_time_cases (e := .ret) h2 with h2 | ⟨rfl, he⟩
    · exact h.ord c ti t ((logStep_frame cfg s g (hs.returned_stays hsi.toCells h2) .inv).symm.trans h1) h2
    · rcases logStep_time_cases (e := .inv) h1 with h1 | ⟨_, he'⟩
      · exact h.le .inv c ti h1
      · rw [he] at he'; cases he'
  start := fun c t ht => by
    rcases logStep_time_cases (e := .start) ht with ht | ⟨rfl, he⟩
    · exact hs.time_keep hinv.loc hsi.toCells (e := .inv) (h.start c t ht)
    · have hpc := hs.starts_leader he
      exact hs.time_keep hinv.loc hsi.toCells (e := .inv)
        (h.invoked_now (by rw [hpc]; rfl) ((hinv.loc c).unstarted (Or.inr hpc)).2)
  hit := fun c v t hv ht => by
    rcases logStep_time_cases (e := .ret) ht with ht | ⟨rfl, he⟩
    · rw [(hs.frame (hs.returned_stays hsi.toCells ht)).src] at hv
      exact hs.time_keep hinv.loc hsi.toCells (e := .inv) (h.hit c v t hv ht)
    · exact hs.time_keep hinv.loc hsi.toCells (e := .inv) ((h.ret_now hinv hsi hs he).1 v hv)
  exec := fun c l0 t hx ht => by
    rcases logStep_time_cases (e := .ret) ht with ht | ⟨rfl, he⟩
    · rw [(hs.frame (hs.returned_stays hsi.toCells ht)).src] at hx
      exact hs.time_keep hinv.loc hsi.toCells (e := .end) (h.exec c l0 t hx ht)
    · exact hs.time_keep hinv.loc hsi.toCells (e := .end) ((h.ret_now hinv hsi hs he).2 l0 hx)

theorem clock_step (hinv : Inv cfg c0 s) (hsi : SInv cfg s g) (h : Clock cfg s g) (hs : step cfg s l = some s')
    (hp : ∀ d, l = .tick d → ∀ c, blocked s c) : Clock cfg s' (logStep cfg s g l) := by
  have hs := Step.of_step hs
  have hI := instants_step hinv hsi h hs
  rcases hs.now_cases with hnow | ⟨d, rfl, rfl⟩
  · -- the clock stands still
    exact { hI with
      busy := fun c hb => by
        -- who runs code ran code before, or has just been invoked, or its function has just returned
        rw [hnow]
        by_cases hc : l.caller = some c
        · generalize he : evOf cfg s l = ev
          cases hs.recorded he with
          | none _ _ hex hbz =>
            rw [hex, (logStep_cell cfg s g l _ c).2, he, if_neg (nofun : ¬ (none : Option (Ev × Nat)) = some _)]
            exact h.busy c (hbz c hb)
          | inv a hpc _ _ hex =>
            cases evOf_mover hc he
            rw [hex, if_pos ((hinv.loc c).unstarted (Or.inl hpc)).2, (logStep_cell cfg s g l .inv c).2, if_pos he]
          | «end» a r _ _ _ hex =>
            cases evOf_mover hc he
            rw [hex, upd_same, if_neg nofun, (logStep_cell cfg s g l .end c).2, if_pos he]
          | start a _ hp | ret a r _ _ hp => cases evOf_mover hc he; rw [hp, upd_same] at hb; cases hb
        · have f := hs.frame hc
          rw [f.pc] at hb
          rw [f.execRes, logStep_frame cfg s g hc]
          exact h.busy c hb
      fl := fun c l0 hc => by
        rcases hs.waiting_cases hc with hc | ⟨e, hpc, hf⟩
        · rcases h.fl c l0 hc with ha | ⟨r, hr⟩
          · exact hs.active_keep ha
          · exact Or.inr ⟨r, (hs.published_keep hinv hr).1⟩
        · exact hs.active_keep (hsi.flt _ _ hf)
      wait := fun c l0 t hc ht => by
        rw [hnow]
        rcases logStep_time_cases (e := .ret) ht with ht | ⟨e, _⟩
        · rcases hs.waiting_cases hc with hc | ⟨_, _, hf⟩
          · exact h.wait c l0 t hc ht
          · -- the leader joined now is registered: it has not returned
            have ha := hsi.flt _ _ hf
            obtain ⟨r, hd⟩ := hsi.of_time (e := .ret) ht
            rw [hd] at ha; cases ha
        · exact e
      fresh := fun c l0 hc hst => by
        rw [hnow]
        have hst0 : s.started l0 = false := by
          cases k : s.started l0 with
          | false => rfl
          | true => have : s'.started l0 = true := (hs.happened_step .start l0).2 (Or.inl k); rw [hst] at this; cases this
        rcases hs.waiting_cases hc with hc | ⟨_, hpc, _⟩
        · exact hs.time_keep hinv.loc hsi.toCells (e := .inv) (h.fresh c l0 hc hst0)
        · exact hs.time_keep hinv.loc hsi.toCells (e := .inv) (h.invoked_now (by rw [hpc]; rfl) ((hinv.loc c).early (Or.inr hpc)).2)
      live := fun c l0 v hsrc hor => by
        rw [hnow]
        have old : cellGet s.now (s.cache (cfg.key l0)) = some v → cellGet s.now (s'.cache (cfg.key l0)) = some v := by
          intro k
          rcases hs.cache_cases with e | ⟨a, w, _, _, e⟩ <;> rw [e]
          · exact k
          · exact live_after_set k
        rcases hs.lhit_cases hinv hsrc with hsrc | hv
        · refine old (h.live c l0 v hsrc ?_)
          rcases hor with hr | hc
          · cases k : s.result l0 with
            | none => exact Or.inl rfl
            | some r => rw [(hs.published_keep hinv k).1] at hr; cases hr
          · rcases hs.waiting_cases hc with hc | ⟨_, _, hf⟩
            · exact Or.inr hc
            · exact Or.inl (active_result_none (hinv.loc l0) (hsi.flt _ _ hf))
        · exact old hv }
  · -- time passes only while everybody is blocked: nobody runs code, no joiner's leader has published
    have nb := hp d rfl
    have pending : ∀ {c l0 : Nat}, s.pc c = .waiting l0 → s.result l0 = none ∧ active (s.pc l0) = true := by
      intro c l0 hc
      have hr : s.result l0 = none := by have := nb c; simp only [blocked, hc] at this; exact this
      exact ⟨hr, (h.fl c l0 hc).resolve_right fun ⟨r, k⟩ => by rw [hr] at k; cases k⟩
    exact { hI with
      fl := h.fl
      busy := fun c hb => absurd (nb c) (busy_not_blocked hb)
      wait := fun c l0 t hc ht => by
        obtain ⟨r, hd⟩ := hsi.of_time (e := .ret) ht
        have := (pending hc).2; rw [hd] at this; cases this
      fresh := fun c l0 hc hst =>
        absurd (nb l0) (busy_not_blocked ((hinv.loc l0).unstarted_busy (pending hc).2 hst))
      live := fun c l0 v hsrc hor => by
        have hr : s.result l0 = none := hor.elim id fun hc => (pending hc).1
        obtain ⟨r, hq⟩ := lhit_pending (hinv.loc l0) hsrc hr
        exact absurd (nb l0) (busy_not_blocked (by rw [hq]; rfl)) }

theorem reachableLogP_reachableLog {s0 : State} (h : ReachableLogP cfg s0 s g) : ReachableLog cfg s0 s g := by
  induction h with
  | refl => exact ReachableLog.refl
  | step l _ hs _ ih => exact ReachableLog.step l ih hs

/-- what holds of state and event log in a run under the virtual clock -/
structure LogInv (cfg : Cfg) (c0 : Nat → Cell) (s : State) (g : EvLog) : Prop where
  inv : Inv cfg c0 s
  sinv : SInv cfg s g
  clock : Clock cfg s g

theorem loginv_init (cfg : Cfg) (c0 : Nat → Cell) (now : Int) : LogInv cfg c0 (init c0 now) EvLog.empty :=
  ⟨inv_init cfg c0 now, sinv_init cfg c0 now, clock_init cfg c0 now⟩

theorem LogInv.step (i : LogInv cfg c0 s g) (hs : step cfg s l = some s') (hp : ∀ d, l = .tick d → ∀ c, blocked s c) :
    LogInv cfg c0 s' (logStep cfg s g l) :=
  ⟨inv_step i.inv hs, sinv_step i.inv i.sinv hs, clock_step i.inv i.sinv i.clock hs hp⟩

theorem loginv_reachable {now : Int} (h : ReachableLogP cfg (init c0 now) s g) : LogInv cfg c0 s g := by
  induction h with
  | refl => exact loginv_init cfg c0 now
  | step l _ hs hp ih => exact ih.step hs hp

end

end GoguVerif.Lemmas.C17
