import GoguVerif.Lemmas.C10List
/-!
# C10 helper lemmas: the tree

The abstraction of a node is `flat`, all its external entries left to right; on it `insert`, `search`,
`traverse` are `insFlat` and `live` of `Lemmas/C10List.lean` and the model's own `searchLeaf`.

`NodeInv` is the structural invariant of a node: fewer than `maxChildren` entries, internal nodes have
at least 2 children, every child is itself fine and holds at least `maxChildren/2` entries, and from the
second child on every separator key is the smallest key of its subtree.  "All leaves at the same depth"
is the height index.  Sortedness is stated once, for the whole flat list (`SortedK (flat …)`).  `Inv` adds
the count of live entries and is the invariant of a whole `BTree`.

An internal node is treated once, for an arbitrary kind of child (section `Kids`); `BNode (h+1)` is the
instance whose children are `BNode h`.  The fill part of `NodeInv` bounds the height (`flat_length_ge`).
-/
namespace GoguVerif.Lemmas.C10
open GoguVerif.Model.BTree GoguVerif.Spec
open GoguVerif.Gen (maxChildren)

/-- all external entries below a node, left to right -/
def flat : (h : Nat) → BNode h → List Entry
  | 0, (es : List Entry) => es
  | h + 1, (cs : List (Int × BNode h)) => cs.flatMap (fun p => flat h p.2)

/-- `n.m` -/
def size : (h : Nat) → BNode h → Nat
  | 0, (es : List Entry) => es.length
  | _ + 1, (cs : List (Int × BNode _)) => cs.length

/-- `maxChildren / 2`: what `split` leaves in each half -/
abbrev half : Nat := maxChildren / 2

def NodeInv : (h : Nat) → BNode h → Prop
  | 0, (es : List Entry) => es.length < maxChildren
  | h + 1, (cs : List (Int × BNode h)) =>
    cs.length < maxChildren ∧ 2 ≤ cs.length ∧
    (∀ p ∈ cs, NodeInv h p.2 ∧ half ≤ size h p.2) ∧
    (∀ p ∈ cs.tail, headKey (flat h p.2) = some p.1)

/-! Everything below uses only two facts about the regenerated constant: it is even and its half is at
least 2 (`maxChildren_even`, `half_ge_two`, both by `decide` on `Gen.maxChildren`). -/

theorem maxChildren_even : maxChildren = 2 * half := by decide
theorem half_ge_two : 2 ≤ half := by decide

/-- from the two facts above, so that nothing else is asked of the constant -/
theorem half_lt : half < maxChildren :=
  Nat.lt_of_lt_of_eq (Nat.lt_add_of_pos_right (Nat.lt_of_lt_of_le Nat.zero_lt_two half_ge_two))
    ((Nat.two_mul half).symm.trans maxChildren_even.symm)

/-- `grow` on the entries after the store, at most `maxChildren` of them: they all stay, or they are
cut into two halves. -/
theorem grow_spec {α : Type} (es : List α) (h : es.length ≤ maxChildren) :
    ∃ a ou, grow es = .ok (a, ou) ∧
      match ou with
      | none => a = es ∧ es.length < maxChildren
      | some u => a ++ u = es ∧ a.length = half ∧ u.length = half := by
  unfold grow
  rw [if_neg (Nat.not_lt.2 h)]
  by_cases h2 : es.length < maxChildren
  · rw [if_pos h2]; exact ⟨es, none, rfl, rfl, h2⟩
  · have hlen : es.length = half + half :=
      (Nat.le_antisymm h (Nat.not_lt.1 h2)).trans (maxChildren_even.trans (Nat.two_mul _))
    have hdrop : (es.drop half).length = half := by rw [List.length_drop, hlen, Nat.add_sub_cancel]
    rw [if_neg h2, List.take_of_length_le (Nat.le_of_eq hdrop)]
    exact ⟨_, some _, rfl, List.take_append_drop _ _,
      by rw [List.length_take, hlen]; exact Nat.min_eq_left (Nat.le_add_right _ _), hdrop⟩

/-! ## The internal node, for an arbitrary kind of child

`fl` is the flat list of a child, `P` its invariant, `sz` its fill, `fk` its first key, `ins` the
insertion into it. -/
section Kids
variable {β : Type} (fl : β → List Entry) (P : β → Prop) (sz : β → Nat) (fk : β → Int)
variable (k v : Int) (rm : Bool)

def flatK (cs : List (Int × β)) : List Entry := cs.flatMap (fun p => fl p.2)

/-- the separator of an entry is the first key below it -/
def SepOk (p : Int × β) : Prop := headKey (fl p.2) = some p.1

def oflat : Option β → List Entry
  | none => []
  | some u => fl u

/-- `ins` is a correct insertion of `k` into nodes of this kind: it does not panic, it is `insFlat`
on the entries of the node and of the sibling split off, if any, and both satisfy the invariant.  Without a split the
node does not shrink; a split happens only when an entry was added, leaves two nodes at least half full,
and the new one begins with its first key. -/
def InsOk (ins : β → Res (β × Option β)) : Prop :=
  ∀ c, P c → SortedK (fl c) →
    ∃ c' ou, ins c = .ok (c', ou) ∧ fl c' ++ oflat fl ou = insFlat k v rm (fl c) ∧ P c' ∧
      match ou with
      | none => sz c ≤ sz c'
      | some u => P u ∧ half ≤ sz c' ∧ half ≤ sz u ∧ headKey (fl u) = some (fk u) ∧
          (insFlat k v rm (fl c)).length = (fl c).length + 1

/-- `NodeInv (h+1)` for an arbitrary kind of child: with `fl := flat h`, `P := NodeInv h`, `sz := size h`
it is `NodeInv (h+1)` by unfolding, as `flatK (flat h)` is `flat (h+1)` and `List.length` is `size (h+1)`
(`insert_spec` and `search_spec` use this silently). -/
def KidsInv (cs : List (Int × β)) : Prop :=
  cs.length < maxChildren ∧ 2 ≤ cs.length ∧ (∀ p ∈ cs, P p.2 ∧ half ≤ sz p.2) ∧ ∀ p ∈ cs.tail, SepOk fl p

theorem flatK_cons (p : Int × β) (cs : List (Int × β)) : flatK fl (p :: cs) = fl p.2 ++ flatK fl cs :=
  List.flatMap_cons ..

theorem flatK_append (as bs : List (Int × β)) : flatK fl (as ++ bs) = flatK fl as ++ flatK fl bs :=
  List.flatMap_append ..

theorem forall_mem_tail_append_cons {α : Type} {S : α → Prop} (pre : List α) (x : α) (rest : List α) :
    (∀ p ∈ (pre ++ x :: rest).tail, S p) ↔
      (∀ p ∈ pre.tail, S p) ∧ (pre ≠ [] → S x) ∧ ∀ p ∈ rest, S p := by
  cases pre with
  | nil => simp
  | cons q pre => simp [or_imp, forall_and]

/-- The loop `j+1 == n.m || key < children[j+1].key` of `insert` and of `search` stops at a child `c` of
`cs = pre ++ (k1, c) :: rest`: if a child was passed over then `k1 ≤ key`, and `key` is below the next
separator.  `search` continues in `c`; `insert` puts the result of the insertion into `c` in its place. -/
theorem pick (key : Int) (cs : List (Int × β)) (hne : cs ≠ []) :
    ∃ pre k1 c rest, cs = pre ++ (k1, c) :: rest ∧ (pre ≠ [] → k1 ≤ key) ∧
      (∀ p, rest.head? = some p → key < p.1) ∧
      (∀ f : β → Option Int, descend f key cs = f c) ∧
      ∀ ins (fk' : β → Int) c' ou, ins c = .ok (c', ou) →
        insKids ins fk' key cs =
          .ok (pre ++ (k1, c') :: (match ou with | none => rest | some u => (fk' u, u) :: rest), ou.isSome) := by
  induction cs with
  | nil => exact absurd rfl hne
  | cons p rest ih =>
    obtain ⟨k1, c⟩ := p
    -- the loop stops here
    have stop : (∀ p, rest.head? = some p → key < p.1) →
        (∀ f : β → Option Int, descend f key ((k1, c) :: rest) = f c) ∧
        ∀ ins (fk' : β → Int) c' ou, ins c = .ok (c', ou) → insKids ins fk' key ((k1, c) :: rest) =
          .ok ((k1, c') :: (match ou with | none => rest | some u => (fk' u, u) :: rest), ou.isSome) := by
      intro hgt
      cases rest with
      | nil => exact ⟨fun f => rfl, fun ins fk c' ou hi => by rw [insKids, hi]; cases ou <;> rfl⟩
      | cons p2 rest =>
        have hk := hgt p2 rfl
        exact ⟨fun f => by rw [descend, if_pos hk],
          fun ins fk c' ou hi => by rw [insKids, if_pos hk, hi]; cases ou <;> rfl⟩
    cases rest with
    | nil => exact ⟨[], k1, c, [], rfl, fun h => absurd rfl h, fun _ h => (nomatch h),
        stop fun _ h => (nomatch h)⟩
    | cons p2 rest =>
      by_cases hk : key < p2.1
      · have hgt : ∀ p, (p2 :: rest).head? = some p → key < p.1 := fun p hp => by cases hp; exact hk
        exact ⟨[], k1, c, p2 :: rest, rfl, fun h => absurd rfl h, hgt, stop hgt⟩
      · obtain ⟨pre, k1', c', rest', e, hle, hgt, hd, hi⟩ := ih (List.cons_ne_nil _ _)
        refine ⟨(k1, c) :: pre, k1', c', rest', by rw [e]; rfl, fun _ => ?_, hgt, fun f => ?_,
          fun ins fk c'' ou hc => ?_⟩
        · cases pre with
          | nil => cases e; exact Int.not_lt.1 hk
          | cons q pre => exact hle (List.cons_ne_nil _ _)
        · rw [descend, if_neg hk, hd]
        · rw [insKids, if_neg hk, hi ins fk c'' ou hc]; rfl

variable {fl}

/-- In a sorted node with valid separators the child picked for `key` is the right one: the entries
below the children before it are smaller than `key`, those below the children after it greater. -/
theorem pick_flat {key : Int} {pre : List (Int × β)} {k1 : Int} {c : β} {rest : List (Int × β)}
    (hc : pre ≠ [] → SepOk fl (k1, c)) (hrest : ∀ p ∈ rest, SepOk fl p)
    (hs : SortedK (flatK fl pre ++ (fl c ++ flatK fl rest)))
    (hle : pre ≠ [] → k1 ≤ key) (hgt : ∀ p, rest.head? = some p → key < p.1) :
    (∀ a ∈ flatK fl pre, a.key < key) ∧ ∀ b ∈ flatK fl rest, key < b.key := by
  constructor
  · intro a ha
    have hne : pre ≠ [] := fun e => by rw [e] at ha; cases ha
    obtain ⟨e, F, he, hek⟩ := eq_cons_of_headKey (hc hne)
    have := hs.append_lt a ha e (List.mem_append_left _ (he ▸ List.mem_cons_self))
    have := hle hne
    omega
  · cases rest with
    | nil => exact fun _ hb => nomatch hb
    | cons p rest =>
      obtain ⟨e, F, he, hek⟩ := eq_cons_of_headKey (hrest p List.mem_cons_self)
      have hk := hgt p rfl
      have hs' : SortedK (e :: (F ++ flatK fl rest)) := by
        have := hs.append_right.append_right
        rwa [flatK_cons, show fl p.2 = e :: F from he] at this
      intro b hb
      rw [flatK_cons, show fl p.2 = e :: F from he] at hb
      exact hs'.lt_of_lt_head (hek ▸ hk) b hb

variable {P sz}

/-- `grow` on a child list that satisfies everything of `KidsInv` except the upper bound (`≤ maxChildren`: one
too many after the store): both halves are `KidsInv`, and the right half starts with its own first key. -/
theorem grow_kids {fkK : List (Int × β) → Int} (hfk : ∀ p rest, fkK (p :: rest) = p.1)
    (cs : List (Int × β)) (hlen : cs.length ≤ maxChildren) (h2 : 2 ≤ cs.length)
    (hm : ∀ p ∈ cs, P p.2 ∧ half ≤ sz p.2) (ht : ∀ p ∈ cs.tail, SepOk fl p) :
    ∃ a ow, grow cs = .ok (a, ow) ∧ flatK fl a ++ oflat (flatK fl) ow = flatK fl cs ∧ KidsInv fl P sz a ∧
      match ow with
      | none => a = cs
      | some w => KidsInv fl P sz w ∧ half ≤ a.length ∧ half ≤ w.length ∧
          headKey (flatK fl w) = some (fkK w) := by
  obtain ⟨a, ow, hg, how⟩ := grow_spec cs hlen
  cases ow with
  | none =>
    obtain ⟨rfl, hl⟩ := how
    exact ⟨a, none, hg, List.append_nil _, ⟨hl, h2, hm, ht⟩, rfl⟩
  | some w =>
    obtain ⟨rfl, hla, hlw⟩ := how
    have h2' := half_ge_two
    have hane : a ≠ [] := List.ne_nil_of_length_pos (hla ▸ Nat.lt_of_lt_of_le Nat.zero_lt_two h2')
    rw [List.tail_append_of_ne_nil hane] at ht
    refine ⟨a, some w, hg, (flatK_append fl a w).symm,
      ⟨hla ▸ half_lt, hla ▸ h2', fun p hp => hm p (List.mem_append_left _ hp),
        fun p hp => ht p (List.mem_append_left _ hp)⟩,
      ⟨hlw ▸ half_lt, hlw ▸ h2', fun p hp => hm p (List.mem_append_right _ hp),
        fun p hp => ht p (List.mem_append_right _ (List.mem_of_mem_tail hp))⟩,
      Nat.le_of_eq hla.symm, Nat.le_of_eq hlw.symm, ?_⟩
    cases w with
    | nil => rw [← hlw] at h2'; cases h2'
    | cons p w =>
      have hp : SepOk fl p := ht p (List.mem_append_right _ List.mem_cons_self)
      rw [hfk, flatK_cons, headKey_append _ _ fun e => by rw [SepOk, e] at hp; cases hp]
      exact hp

/-- Insertion into an internal node is correct if insertion into its children is (and a child that
satisfies its invariant and is half full is not empty).  `insK` and `fkK` stand for `insert (h+1)` and
`firstKey (h+1)`, which are matches on the result of `insKids` and on the node and do not unfold against
a match written here; `hK0`, `hK1`, `hfk` say what they do in each case. -/
theorem insKids_ok {ins : β → Res (β × Option β)} (hins : InsOk fl P sz fk k v rm ins)
    (hne : ∀ c, P c → half ≤ sz c → fl c ≠ [])
    {fkK : List (Int × β) → Int} (hfk : ∀ p rest, fkK (p :: rest) = p.1)
    {insK : List (Int × β) → Res (List (Int × β) × Option (List (Int × β)))}
    (hK0 : ∀ cs cs', insKids ins fk k cs = .ok (cs', false) → insK cs = .ok (cs', none))
    (hK1 : ∀ cs cs', insKids ins fk k cs = .ok (cs', true) → insK cs = grow cs') :
    InsOk (flatK fl) (KidsInv fl P sz) List.length fkK k v rm insK := by
  intro cs ⟨hlt, hge, hch, hsep⟩ hs
  obtain ⟨pre, k1, c, rest, rfl, hle, hgt, -, hk⟩ := pick k cs
    (List.ne_nil_of_length_pos (Nat.lt_of_lt_of_le Nat.zero_lt_two hge))
  obtain ⟨hs1, hs2, hs3⟩ := (forall_mem_tail_append_cons pre (k1, c) rest).1 hsep
  rw [flatK_append, flatK_cons] at hs ⊢
  obtain ⟨hA, hB⟩ := pick_flat hs2 hs3 hs hle hgt
  have hc := hch (k1, c) (List.mem_append_right _ List.mem_cons_self)
  obtain ⟨c', ou, hi, hf, hc', hou⟩ := hins c hc.1 hs.append_right.append_left
  -- on the entries, `insFlat` goes to the picked child
  have hflat : insFlat k v rm (flatK fl pre ++ (fl c ++ flatK fl rest)) =
      flatK fl pre ++ (insFlat k v rm (fl c) ++ flatK fl rest) := by
    rw [insFlat_append_right _ _ _ _ _ hA,
      insFlat_append_left _ _ _ _ _ hB]
  have hfill : half ≤ sz c' := by
    cases ou with
    | none => exact Nat.le_trans hc.2 hou
    | some u => obtain ⟨-, hfc', -⟩ := hou; exact hfc'
  -- the separator of the picked child stays valid
  have hsepc' : pre ≠ [] → SepOk fl (k1, c') := fun hp => by
    have := headKey_insFlat k v rm (fl c) k1 (hs2 hp) (hle hp)
    rwa [← hf, headKey_append _ _ (hne c' hc' hfill)] at this
  -- the children after the store, with the new sibling `mid` of the picked child, if any
  have hmem : ∀ mid : List (Int × β), (∀ p ∈ mid, P p.2 ∧ half ≤ sz p.2) →
      ∀ p ∈ pre ++ (k1, c') :: (mid ++ rest), P p.2 ∧ half ≤ sz p.2 := fun mid hmid =>
    List.forall_mem_append.2 ⟨fun p hp => hch p (List.mem_append_left _ hp),
      List.forall_mem_cons.2 ⟨⟨hc', hfill⟩, List.forall_mem_append.2
        ⟨hmid, fun p hp => hch p (List.mem_append_right _ (List.mem_cons_of_mem _ hp))⟩⟩⟩
  have htail : ∀ mid : List (Int × β), (∀ p ∈ mid, SepOk fl p) →
      ∀ p ∈ (pre ++ (k1, c') :: (mid ++ rest)).tail, SepOk fl p := fun mid hmid =>
    (forall_mem_tail_append_cons pre (k1, c') (mid ++ rest)).2
      ⟨hs1, hsepc', fun p hp => (List.mem_append.1 hp).elim (hmid p) (hs3 p)⟩
  cases ou with
  | none =>
    have hl0 : (pre ++ (k1, c') :: rest).length = (pre ++ (k1, c) :: rest).length := by
      rw [List.length_append, List.length_append]; rfl
    refine ⟨pre ++ (k1, c') :: rest, none, hK0 _ _ (hk ins fk c' none hi), ?_,
      ⟨?_, ?_, hmem [] (fun _ h => nomatch h), htail [] (fun _ h => nomatch h)⟩, ?_⟩
    · rw [hflat, ← hf, flatK_append, flatK_cons]; simp only [oflat, List.append_nil]
    · rw [hl0]; exact hlt
    · rw [hl0]; exact hge
    · exact Nat.le_of_eq hl0.symm
  | some u =>
    obtain ⟨hu, -, hfu, hku, hgrew⟩ := hou
    have hl1 : (pre ++ (k1, c') :: (fk u, u) :: rest).length = (pre ++ (k1, c) :: rest).length + 1 := by
      rw [List.length_append, List.length_append]; rfl
    obtain ⟨a, ow, hg, hfl, ha, how⟩ := grow_kids hfk (pre ++ (k1, c') :: (fk u, u) :: rest)
      (by rw [hl1]; exact hlt) (by rw [hl1]; exact Nat.le_succ_of_le hge)
      (hmem [(fk u, u)] (List.forall_mem_singleton.2 ⟨hu, hfu⟩))
      (htail [(fk u, u)] (List.forall_mem_singleton.2 hku))
    refine ⟨a, ow, (hK1 _ _ (hk ins fk c' (some u) hi)).trans hg, ?_, ha, ?_⟩
    · rw [hfl, hflat, ← hf, flatK_append, flatK_cons, flatK_cons]
      simp only [oflat, List.append_assoc]
    · cases ow with
      | none =>
        rw [how, hl1]; exact Nat.le_succ _
      | some w =>
        obtain ⟨hw, hfa, hfw, hkw⟩ := how
        refine ⟨hw, hfa, hfw, hkw, ?_⟩
        simp only [hflat, List.length_append, hgrew]
        exact congrArg (_ + ·) (Nat.add_right_comm _ 1 _)

theorem descend_spec {f : β → Option Int} (hf : ∀ c, P c → SortedK (fl c) → f c = searchLeaf k (fl c))
    (cs : List (Int × β)) (hne : cs ≠ []) (hP : ∀ p ∈ cs, P p.2) (hsep : ∀ p ∈ cs.tail, SepOk fl p)
    (hs : SortedK (flatK fl cs)) : descend f k cs = searchLeaf k (flatK fl cs) := by
  obtain ⟨pre, k1, c, rest, rfl, hle, hgt, hd, -⟩ := pick k cs hne
  obtain ⟨-, hs2, hs3⟩ := (forall_mem_tail_append_cons pre (k1, c) rest).1 hsep
  rw [flatK_append, flatK_cons] at hs ⊢
  obtain ⟨hA, hB⟩ := pick_flat hs2 hs3 hs hle hgt
  rw [hd, hf c (hP _ (List.mem_append_right _ List.mem_cons_self)) hs.append_right.append_left,
    searchLeaf_append_right _ _ _ hA, searchLeaf_append_left _ _ _ hB]

theorem two_mul_le_flatK {n : Nat} (cs : List (Int × β)) (h2 : 2 ≤ cs.length)
    (h : ∀ p ∈ cs, n ≤ (fl p.2).length) : 2 * n ≤ (flatK fl cs).length := by
  match cs, h2, h with
  | a :: b :: rest, _, h =>
    rw [flatK_cons, flatK_cons, List.length_append, List.length_append, Nat.two_mul, ← Nat.add_assoc]
    exact Nat.le_trans
      (Nat.add_le_add (h a List.mem_cons_self) (h b (List.mem_cons_of_mem _ List.mem_cons_self)))
      (Nat.le_add_right _ _)

end Kids

theorem headKey_eq_firstKey (l : List Entry) (hne : l ≠ []) : headKey l = some (firstKey 0 l) := by
  cases l with
  | nil => exact absurd rfl hne
  | cons e r => rfl

theorem insLeaf_ok (k v : Int) (rm : Bool) :
    InsOk (flat 0) (NodeInv 0) (size 0) (firstKey 0) k v rm (fun es => insert 0 es k v rm) := by
  intro (es : List Entry) (hlen : es.length < maxChildren) _
  obtain ⟨g, hg, hl⟩ := insLeaf_spec k v rm es
  cases g with
  | false =>
    have hl' : (insFlat k v rm es).length = es.length := hl
    refine ⟨(insFlat k v rm es : List Entry), none, by simp only [Model.BTree.insert, hg],
      List.append_nil _, ?_, ?_⟩
    · show (insFlat k v rm es).length < maxChildren
      rw [hl']; exact hlen
    · exact Nat.le_of_eq hl'.symm
  | true =>
    have hl' : (insFlat k v rm es).length = es.length + 1 := hl
    obtain ⟨a, ow, hgr, how⟩ := grow_spec (insFlat k v rm es) (by rw [hl']; exact hlen)
    refine ⟨a, ow, by simp only [Model.BTree.insert, hg]; exact hgr, ?_⟩
    cases ow with
    | none =>
      obtain ⟨rfl, hlt⟩ := how
      exact ⟨List.append_nil _, hlt, Nat.le_of_lt (Nat.lt_of_lt_of_eq (Nat.lt_succ_self _) hl'.symm)⟩
    | some w =>
      obtain ⟨haw, hla, hlw⟩ := how
      refine ⟨haw, ?_, ?_, Nat.le_of_eq hla.symm, Nat.le_of_eq hlw.symm,
        headKey_eq_firstKey w (List.ne_nil_of_length_pos ?_), hl'⟩
      · show a.length < maxChildren
        rw [hla]; exact half_lt
      · show w.length < maxChildren
        rw [hlw]; exact half_lt
      · rw [hlw]; exact Nat.lt_of_lt_of_le Nat.zero_lt_two half_ge_two

/-- The fill part of `NodeInv` bounds the height: every child holds `half ≥ 2` entries, so a node of
height `h` with two entries has at least `2^(h+1)` entries below it. -/
theorem flat_length_ge : ∀ (h : Nat) (c : BNode h), NodeInv h c → 2 ≤ size h c → 2 ^ (h + 1) ≤ (flat h c).length
  | 0, _, _, h2 => h2
  | h + 1, (cs : List (Int × BNode h)), ⟨_, h2, hkids, _⟩, _ => by
    rw [Nat.pow_succ, Nat.mul_comm]
    exact two_mul_le_flatK cs h2 fun p hp =>
      flat_length_ge h p.2 (hkids p hp).1 (Nat.le_trans half_ge_two (hkids p hp).2)

/-- `insert` does not panic, keeps the invariant, and is `insFlat` on the flat list. -/
theorem insert_spec (k v : Int) (rm : Bool) :
    ∀ h : Nat, InsOk (flat h) (NodeInv h) (size h) (firstKey h) k v rm (fun c => insert h c k v rm)
  | 0 => insLeaf_ok k v rm
  | h + 1 => insKids_ok (firstKey h) k v rm (insert_spec k v rm h)
      (fun c hc hf => List.ne_nil_of_length_pos (Nat.lt_of_lt_of_le (Nat.pow_pos Nat.zero_lt_two)
        (flat_length_ge h c hc (Nat.le_trans half_ge_two hf)))) (fkK := firstKey (h + 1))
      (fun _ _ => rfl) (fun _ _ e => by rw [Model.BTree.insert, e]) (fun _ _ e => by rw [Model.BTree.insert, e])

theorem search_spec (k : Int) :
    ∀ (h : Nat) (node : BNode h), NodeInv h node → SortedK (flat h node) →
      search h node k = searchLeaf k (flat h node)
  | 0, _, _, _ => rfl
  | h + 1, (cs : List (Int × BNode h)), ⟨_, h2, hkids, hsep⟩, hs =>
    descend_spec (P := NodeInv h) k (fun c hc hs => search_spec k h c hc hs) cs
      (List.ne_nil_of_length_pos (Nat.lt_of_lt_of_le Nat.zero_lt_two h2))
      (fun p hp => (hkids p hp).1) hsep hs

theorem live_flatMap {β : Type} (fl : β → List Entry) (cs : List (Int × β)) :
    live (cs.flatMap (fun p => fl p.2)) = cs.flatMap (fun p => live (fl p.2)) := by
  rw [live, List.filter_flatMap, List.map_flatMap]; rfl

theorem traverse_spec : ∀ (h : Nat) (node : BNode h), traverse h node = live (flat h node)
  | 0, (es : List Entry) => rfl
  | h + 1, (cs : List (Int × BNode h)) => by
    show cs.flatMap (fun p => traverse h p.2) = live (cs.flatMap (fun p => flat h p.2))
    rw [live_flatMap]
    congr 1
    funext p
    exact traverse_spec h p.2

/-- the abstraction: the sorted association list with tombstones held by the tree -/
abbrev tflat (t : Tree) : List Entry := flat t.height t.root

structure Inv (t : Tree) : Prop where
  /-- node fill, separators, uniform depth -/
  node : NodeInv t.height t.root
  /-- keys strictly ascending left to right -/
  sorted : SortedK (tflat t)
  /-- `n` counts the live entries -/
  count : t.n = (live (tflat t)).length

theorem get_spec (t : Tree) (hi : Inv t) (k : Int) : t.get k = searchLeaf k (tflat t) :=
  search_spec k t.height t.root hi.node hi.sorted

theorem get_eq_lookup (t : Tree) (hi : Inv t) (k : Int) : t.get k = OrdMap.lookup C10.ltb k (live (tflat t)) := by
  rw [get_spec t hi, searchLeaf_eq_lookup k _ hi.sorted]

theorem put_spec (t : Tree) (hi : Inv t) (k v : Int) :
    ∃ t', t.put k v = .ok t' ∧ Inv t' ∧ tflat t' = insFlat k v false (tflat t) := by
  obtain ⟨r, ou, h1, h2, h3, h4⟩ := insert_spec k v false t.height t.root hi.node hi.sorted
  -- whatever the new root, with these entries and this count the invariant holds
  have fin : ∀ t' : Tree, NodeInv t'.height t'.root → tflat t' = insFlat k v false (tflat t) →
      t'.n = (match t.get k with | none => t.n + 1 | some _ => t.n) → Inv t' := fun t' hn hf hc => by
    refine ⟨hn, hf ▸ sortedK_insFlat hi.sorted k v false, ?_⟩
    rw [hc, hf, live_insFlat_put k v _ hi.sorted, C04.length_insert, get_eq_lookup t hi k, hi.count]
    cases OrdMap.lookup C10.ltb k (live (tflat t)) <;> simp
  cases ou with
  | none =>
    have hf : flat t.height r = insFlat k v false (tflat t) := (List.append_nil _).symm.trans h2
    exact ⟨⟨t.height, r, _⟩, by simp only [Tree.put, h1]; rfl, fin ⟨t.height, r, _⟩ h3 hf rfl, hf⟩
  | some u =>
    obtain ⟨hu, hfr, hfu, huk, -⟩ := h4
    have hf : flat (t.height + 1) ([(firstKey t.height r, r), (firstKey t.height u, u)] : List (Int × BNode t.height))
        = insFlat k v false (tflat t) := by
      rw [← h2]; exact congrArg (_ ++ ·) (List.append_nil _)
    refine ⟨⟨t.height + 1, ([(firstKey t.height r, r), (firstKey t.height u, u)] : List (Int × BNode t.height)), _⟩,
      by simp only [Tree.put, h1]; rfl, fin ⟨t.height + 1, _, _⟩ ⟨?_, Nat.le_refl 2, ?_, ?_⟩ hf rfl, hf⟩
    · exact Nat.lt_of_le_of_lt half_ge_two half_lt
    · exact List.forall_mem_cons.2 ⟨⟨h3, hfr⟩, List.forall_mem_singleton.2 ⟨hu, hfu⟩⟩
    · exact List.forall_mem_singleton.2 huk

/-- `Remove` never panics and keeps the invariant; on the live entries it is the specification's erase,
and it leaves the keys held as they are (a removed key stays as a tombstone). -/
theorem remove_spec (t : Tree) (hi : Inv t) (k : Int) :
    ∃ t', t.remove k = .ok t' ∧ Inv t' ∧
      live (tflat t') = OrdMap.erase C10.ltb k (live (tflat t)) ∧ keys (tflat t') = keys (tflat t) := by
  cases hget : t.get k with
  | none =>
    refine ⟨t, by simp only [Tree.remove, hget], hi, (C04.erase_of_lookup_none ?_).symm, rfl⟩
    rw [← get_eq_lookup t hi]; exact hget
  | some val =>
    have hk : k ∈ keys (tflat t) := mem_keys_of_searchLeaf (by rw [← get_spec t hi]; exact hget)
    have hlive := live_insFlat_remove k val _ hi.sorted hk
    obtain ⟨r, ou, h1, h2, h3, h4⟩ := insert_spec k val true t.height t.root hi.node hi.sorted
    cases ou with
    | some u =>
      -- overwriting an entry adds none, so nothing splits
      obtain ⟨-, -, -, -, hgrew⟩ := h4
      exact absurd (hgrew.symm.trans (length_insFlat_old k val true _ hi.sorted hk)) (Nat.succ_ne_self _)
    | none =>
      have hf : flat t.height r = insFlat k val true (tflat t) := (List.append_nil _).symm.trans h2
      refine ⟨⟨t.height, r, t.n - 1⟩, by simp only [Tree.remove, hget, h1],
        ⟨h3, (hf ▸ sortedK_insFlat hi.sorted k val true : SortedK (flat t.height r)), ?_⟩,
        (congrArg live hf).trans hlive, (congrArg keys hf).trans (keys_insFlat_old k val true _ hi.sorted hk)⟩
      show t.n - 1 = ((live (flat t.height r)).length : Int)
      have := C04.length_erase (comp := C10.ltb) k (live (tflat t))
      rw [← get_eq_lookup t hi, hget] at this
      rw [hf, hlive, this, hi.count]; rfl

theorem height_strong (t : Tree) (hi : Inv t) (hpos : 0 < t.height) : 2 ^ (t.height + 1) ≤ (tflat t).length := by
  obtain ⟨h, root, n⟩ := t
  cases h with
  | zero => exact absurd hpos (Nat.lt_irrefl 0)
  | succ h => obtain ⟨_, h2, _⟩ := hi.node; exact flat_length_ge (h + 1) root hi.node h2

theorem height_le (t : Tree) (hi : Inv t) : 2 ^ t.height ≤ max 1 (tflat t).length := by
  by_cases hpos : 0 < t.height
  · exact Nat.le_trans (Nat.pow_le_pow_right Nat.zero_lt_two (Nat.le_succ _))
      (Nat.le_trans (height_strong t hi hpos) (Nat.le_max_right _ _))
  · rw [Nat.eq_zero_of_not_pos hpos]; exact Nat.le_max_left _ _

end GoguVerif.Lemmas.C10
