import GoguVerif.Spec.C14
import GoguVerif.Model.C14
/-!
# The Go map of `Model/C14.lean` as an association list

What `get?`, `put`, `del`, `idx` do, and what well-formedness (`WF`: keys pairwise distinct) gives.  The
lemmas are about the primitives alone; every model that reads or writes a Go map through them uses these.
`Spec.C14.AMap` and `Model.C14.GoMap` are the same type.  Namespace `Lemmas.C14`: users `open GoguVerif.Lemmas.C14`.
-/
set_option autoImplicit false
namespace GoguVerif.Lemmas.C14
open GoguVerif.Model.C14 GoguVerif.Spec.C14

variable {K V : Type}

theorem wf_cons {k : K} {v : V} {m : GoMap K V} : WF ((k, v) :: m) ↔ k ∉ m.map Prod.fst ∧ WF m :=
  List.nodup_cons

theorem wf_nil : WF ([] : GoMap K V) := List.nodup_nil

theorem WF.nodup {m : GoMap K V} (h : WF m) : m.Nodup :=
  List.Pairwise.of_map Prod.fst (fun _ _ hab e => hab (congrArg Prod.fst e)) h

theorem wf_append {a b : GoMap K V} :
    WF (a ++ b) ↔ WF a ∧ WF b ∧ ∀ k ∈ a.map Prod.fst, k ∉ b.map Prod.fst := by
  unfold WF
  rw [List.map_append, List.nodup_append]
  constructor
  · rintro ⟨ha, hb, hd⟩
    exact ⟨ha, hb, fun k hk hk' => hd k hk k hk' rfl⟩
  · rintro ⟨ha, hb, hd⟩
    exact ⟨ha, hb, fun x hx y hy e => hd x hx (e ▸ hy)⟩

theorem WF.sublist {a b : GoMap K V} (h : a.Sublist b) (hb : WF b) : WF a :=
  List.Nodup.sublist (h.map _) hb

theorem WF.perm {m m' : GoMap K V} (h : WF m) (hp : m.Perm m') : WF m' :=
  (hp.map Prod.fst).nodup_iff.mp h

theorem wf_map_mk {β : Type} (g : β → K) (f : β → V) (l : List β) :
    WF (l.map fun e => (g e, f e)) ↔ (l.map g).Nodup := by
  unfold WF
  rw [List.map_map]
  rfl

theorem not_mem_keys_of_wf {acc r : GoMap K V} {k : K} {v : V} (h : WF (acc ++ (k, v) :: r)) :
    k ∉ acc.map Prod.fst :=
  fun hk => (wf_append.mp h).2.2 k hk List.mem_cons_self

theorem wf_snoc_append {acc r : GoMap K V} {e : K × V} (h : WF (acc ++ e :: r)) : WF ((acc ++ [e]) ++ r) :=
  List.append_cons acc e r ▸ h

theorem wf_append_cons_left {acc r : GoMap K V} {e : K × V} (h : WF (acc ++ e :: r)) : WF (acc ++ r) :=
  WF.sublist (List.Sublist.append_left (List.sublist_cons_self e r) acc) h

section prim
variable [DecidableEq K]

theorem get?_eq_some_of_mem {m : GoMap K V} (h : WF m) {k : K} {v : V} (hm : (k, v) ∈ m) :
    get? m k = some v := by
  induction m with
  | nil => cases hm
  | cons e r ih =>
    obtain ⟨k', v'⟩ := e
    rw [wf_cons] at h
    simp only [get?]
    rcases List.mem_cons.mp hm with he | hm
    · cases he
      exact if_pos rfl
    · rw [if_neg (fun e : k' = k => h.1 (e ▸ List.mem_map_of_mem (f := Prod.fst) hm)), ih h.2 hm]

theorem mem_of_get?_eq_some {m : GoMap K V} {k : K} {v : V} (h : get? m k = some v) : (k, v) ∈ m := by
  induction m with
  | nil => cases h
  | cons e r ih =>
    obtain ⟨k', v'⟩ := e
    simp only [get?] at h
    split at h
    · next hk => cases h; cases hk; exact List.mem_cons_self
    · exact List.mem_cons_of_mem _ (ih h)

theorem get?_eq_none_iff {m : GoMap K V} {k : K} : get? m k = none ↔ k ∉ m.map Prod.fst := by
  induction m with
  | nil => exact ⟨fun _ => List.not_mem_nil, fun _ => rfl⟩
  | cons e r ih =>
    obtain ⟨k', v'⟩ := e
    simp only [get?, List.map_cons, List.mem_cons, not_or]
    split
    · next hk => exact ⟨fun h => (nomatch h), fun h => absurd hk.symm h.1⟩
    · next hk => exact ⟨fun h => ⟨fun e => hk e.symm, ih.mp h⟩, fun h => ih.mpr h.2⟩

theorem WF.unique {m : AMap K V} (h : WF m) {k : K} {v w : V} (hv : (k, v) ∈ m) (hw : (k, w) ∈ m) :
    v = w :=
  Option.some.inj ((get?_eq_some_of_mem h hv).symm.trans (get?_eq_some_of_mem h hw))

theorem idx_of_mem [Inhabited V] {m : GoMap K V} (h : WF m) {e : K × V} (hm : e ∈ m) : idx m e.1 = e.2 := by
  rw [idx, get?_eq_some_of_mem h hm]

theorem get?_append (a b : GoMap K V) (k : K) : get? (a ++ b) k = (get? a k).or (get? b k) := by
  induction a with
  | nil => rfl
  | cons e r ih =>
    obtain ⟨k0, v0⟩ := e
    simp only [List.cons_append, get?, ih]
    split <;> rfl

theorem lookup_eq_get? (m : AMap K V) (k : K) : Spec.C14.lookup m k = get? m k := by
  unfold Spec.C14.lookup
  induction m with
  | nil => rfl
  | cons e r ih =>
    obtain ⟨k0, v0⟩ := e
    simp only [List.find?_cons, get?]
    split
    · next h => rw [if_pos (of_decide_eq_true h)]; rfl
    · next h => rw [if_neg (of_decide_eq_false h), ih]

theorem put_of_not_mem {m : GoMap K V} {k : K} (v : V) (h : k ∉ m.map Prod.fst) :
    put m k v = m ++ [(k, v)] := by
  induction m with
  | nil => rfl
  | cons e r ih =>
    obtain ⟨k', v'⟩ := e
    rw [List.map_cons, List.mem_cons, not_or] at h
    simp only [put, if_neg (fun e : k' = k => h.1 e.symm), ih h.2, List.cons_append]

theorem keys_put_of_mem {m : GoMap K V} {k : K} (v : V) (h : k ∈ m.map Prod.fst) :
    (put m k v).map Prod.fst = m.map Prod.fst := by
  induction m with
  | nil => cases h
  | cons e r ih =>
    obtain ⟨k', v'⟩ := e
    simp only [put]
    split
    · next hk => rw [List.map_cons, List.map_cons, hk]
    · next hk =>
      rcases List.mem_cons.mp h with h | h
      · exact absurd h.symm hk
      · rw [List.map_cons, List.map_cons, ih h]

theorem wf_put {m : GoMap K V} (h : WF m) (k : K) (v : V) : WF (put m k v) := by
  by_cases hk : k ∈ m.map Prod.fst
  · unfold WF; rw [keys_put_of_mem v hk]; exact h
  · rw [put_of_not_mem v hk, wf_append]
    exact ⟨h, List.pairwise_singleton _ _, fun k' hk' hmem => hk ((List.mem_singleton.mp hmem : k' = k) ▸ hk')⟩

theorem mem_put_imp {m : GoMap K V} {k : K} {v : V} {e : K × V} (h : e ∈ put m k v) :
    e = (k, v) ∨ e ∈ m := by
  induction m with
  | nil => exact Or.inl (List.mem_singleton.mp h)
  | cons e' r ih =>
    obtain ⟨k', v'⟩ := e'
    simp only [put] at h
    split at h
    · exact (List.mem_cons.mp h).imp_right (List.mem_cons_of_mem _)
    · rcases List.mem_cons.mp h with h | h
      · exact Or.inr (h ▸ List.mem_cons_self)
      · exact (ih h).imp_right (List.mem_cons_of_mem _)

theorem mem_put_of_ne {m : GoMap K V} {k : K} {v : V} {e : K × V} (h : e ∈ m) (hne : e.1 ≠ k) :
    e ∈ put m k v := by
  induction m with
  | nil => cases h
  | cons e' r ih =>
    obtain ⟨k', v'⟩ := e'
    simp only [put]
    split
    · next hk =>
      rcases List.mem_cons.mp h with h | h
      · exact absurd (h ▸ hk) hne
      · exact List.mem_cons_of_mem _ h
    · exact (List.mem_cons.mp h).elim (· ▸ List.mem_cons_self) (fun h => List.mem_cons_of_mem _ (ih h))

theorem get?_put (m : GoMap K V) (k : K) (v : V) (k' : K) :
    get? (put m k v) k' = if k = k' then some v else get? m k' := by
  induction m with
  | nil => rfl
  | cons e r ih =>
    obtain ⟨k0, v0⟩ := e
    by_cases h0 : k0 = k
    · subst h0
      by_cases h1 : k0 = k' <;> simp [put, get?, h1]
    · by_cases h1 : k = k'
      · subst h1
        simp [put, get?, h0, ih]
      · simp [put, get?, h0, ih, h1]

theorem mem_put_self (m : GoMap K V) (k : K) (v : V) : (k, v) ∈ put m k v :=
  mem_of_get?_eq_some ((get?_put m k v k).trans (if_pos rfl))

theorem del_of_not_mem {m : GoMap K V} {k : K} (h : k ∉ m.map Prod.fst) : del m k = m := by
  induction m with
  | nil => rfl
  | cons e r ih =>
    obtain ⟨k', v'⟩ := e
    rw [List.map_cons, List.mem_cons, not_or] at h
    rw [del, if_neg (fun e : k' = k => h.1 e.symm), ih h.2]

theorem del_append_cons {pre r : GoMap K V} {k : K} {v : V} (h : k ∉ pre.map Prod.fst) :
    del (pre ++ (k, v) :: r) k = pre ++ r := by
  induction pre with
  | nil => simp only [List.nil_append, del, if_true]
  | cons e p ih =>
    obtain ⟨k', v'⟩ := e
    rw [List.map_cons, List.mem_cons, not_or] at h
    simp only [List.cons_append, del, if_neg (fun e : k' = k => h.1 e.symm), ih h.2]

theorem del_comm (m : GoMap K V) (k k' : K) : del (del m k) k' = del (del m k') k := by
  induction m with
  | nil => rfl
  | cons e r ih =>
    obtain ⟨k0, v0⟩ := e
    by_cases h : k0 = k <;> by_cases h' : k0 = k'
    · subst h; subst h'; rfl
    · subst h; simp [del, h']
    · subst h'; simp [del, h]
    · simp [del, h, h', ih]

theorem put_of_mem {m : GoMap K V} (h : WF m) {k : K} {v : V} (hm : (k, v) ∈ m) : put m k v = m := by
  induction m with
  | nil => cases hm
  | cons e r ih =>
    obtain ⟨k', v'⟩ := e
    rw [wf_cons] at h
    by_cases hk : k' = k
    · subst hk
      rcases List.mem_cons.mp hm with he | he
      · cases he; simp [put]
      · exact absurd (List.mem_map_of_mem (f := Prod.fst) he) h.1
    · rcases List.mem_cons.mp hm with he | he
      · cases he; exact absurd rfl hk
      · simp only [put, if_neg hk, ih h.2 he]

theorem get?_perm {m m' : GoMap K V} (h : WF m) (hp : m.Perm m') (k : K) : get? m k = get? m' k := by
  cases hg : get? m' k with
  | none =>
    rw [get?_eq_none_iff] at hg ⊢
    exact fun hk => hg ((hp.map _).mem_iff.mp hk)
  | some v => exact get?_eq_some_of_mem h (hp.mem_iff.mpr (mem_of_get?_eq_some hg))

theorem idx_perm [Inhabited V] {m m' : GoMap K V} (h : WF m) (hp : m.Perm m') (k : K) : idx m k = idx m' k := by
  unfold idx
  rw [get?_perm h hp k]

end prim

end GoguVerif.Lemmas.C14
