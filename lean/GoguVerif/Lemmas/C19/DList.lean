import GoguVerif.Model.DList
import GoguVerif.Lemmas.C19.Store
/-!
# C19 helper lemmas: the representation relation of `DList`, the pointer walks, `relink`

`addrOf`, the address `Find` returns, is `DList.addrOf` of `Lemmas/C19/Store.lean`.
-/
namespace GoguVerif.Lemmas.C19.DList
open GoguVerif.Model GoguVerif.Model.DList

/-- Cells `as` spell the sequence `xs`, linked forwards (`next`, the last one nil) and backwards
(`prev`); `p` is the `prev` of the first cell. -/
def Chain (h : Heap) : Option Nat → List Nat → List Int → Prop
  | _, [], [] => True
  | p, a :: as, x :: xs => h[a]? = some ⟨x, as.head?, p⟩ ∧ Chain h (some a) as xs
  | _, _, _ => False

/-- The store holds the sequence `xs` in the distinct cells `as`,
starting at the embedded head (address 0) whose `prev` is nil. -/
structure Repr (h : Heap) (as : List Nat) (xs : List Int) : Prop where
  head : as.head? = some 0
  nodup : as.Nodup
  chain : Chain h none as xs

theorem chain_nil {h : Heap} {p xs} : Chain h p [] xs ↔ xs = [] := by
  cases xs <;> simp [Chain]

theorem chain_cons {h : Heap} {p a as xs} (hc : Chain h p (a :: as) xs) :
    ∃ x xs', xs = x :: xs' ∧ h[a]? = some ⟨x, as.head?, p⟩ ∧ Chain h (some a) as xs' := by
  cases xs with
  | nil => exact hc.elim
  | cons y ys => exact ⟨y, ys, rfl, hc⟩

theorem Chain.head_cell {h : Heap} {p a as x xs} (hc : Chain h p (a :: as) (x :: xs)) :
    h[a]? = some ⟨x, as.head?, p⟩ :=
  hc.1

theorem Chain.tail {h : Heap} {p a as x xs} (hc : Chain h p (a :: as) (x :: xs)) : Chain h (some a) as xs :=
  hc.2

theorem Chain.length_eq {h : Heap} {p as xs} (hc : Chain h p as xs) : as.length = xs.length := by
  induction as generalizing p xs with
  | nil => simp [chain_nil.mp hc]
  | cons a as ih =>
    obtain ⟨x, xs, rfl, _, hc⟩ := chain_cons hc
    simp [ih hc]

theorem Chain.cell_at {h : Heap} {p as xs} {i a : Nat} (hc : Chain h p as xs) (hi : as[i]? = some a) :
    ∃ x, xs[i]? = some x ∧ h[a]? = some ⟨x, as[i + 1]?, if i = 0 then p else as[i - 1]?⟩ := by
  induction as generalizing p xs i with
  | nil => simp at hi
  | cons b r ih =>
    obtain ⟨y, ys, rfl, hb, hc⟩ := chain_cons hc
    cases i with
    | zero =>
      obtain rfl : b = a := by simpa using hi
      exact ⟨y, rfl, by simpa [List.head?_eq_getElem?] using hb⟩
    | succ k =>
      obtain ⟨x, hx, ha⟩ := ih hc hi
      exact ⟨x, hx, by cases k <;> exact ha⟩

theorem Chain.lt_length {h : Heap} {p as xs} (hc : Chain h p as xs) : ∀ a ∈ as, a < h.length := by
  intro a ha
  obtain ⟨i, hi⟩ := List.getElem?_of_mem ha
  obtain ⟨_, _, hx⟩ := hc.cell_at hi
  exact lt_of_get hx

theorem Chain.frame {h h' : Heap} {p as xs}
    (hc : Chain h p as xs) (hsame : ∀ a ∈ as, h'[a]? = h[a]?) : Chain h' p as xs := by
  induction as generalizing p xs with
  | nil => exact chain_nil.mpr (chain_nil.mp hc)
  | cons a as ih =>
    obtain ⟨x, xs, rfl, ha, hc⟩ := chain_cons hc
    exact ⟨(hsame a (by simp)).trans ha, ih hc (fun b hb => hsame b (by simp [hb]))⟩

theorem Repr.cons {h : Heap} {as xs} (r : Repr h as xs) :
    ∃ as' x xs', as = 0 :: as' ∧ xs = x :: xs' ∧ h[0]? = some ⟨x, as'.head?, none⟩ ∧
      Chain h (some 0) as' xs' ∧ 0 ∉ as' := by
  obtain ⟨hh, hnd, hc⟩ := r
  cases as with
  | nil => simp at hh
  | cons a as' =>
    obtain rfl : a = 0 := by simpa using hh
    obtain ⟨x, xs', rfl, h0, hc⟩ := chain_cons hc
    exact ⟨as', x, xs', rfl, rfl, h0, hc, (List.nodup_cons.mp hnd).1⟩

theorem Repr.get_zero {h : Heap} {as xs} (r : Repr h as xs) : as[0]? = some 0 :=
  List.head?_eq_getElem?.symm.trans r.head

/-- as `SList.Repr.fuel` -/
theorem Repr.fuel {h : Heap} {as xs} (r : Repr h as xs) : as.length < h.length + 1 :=
  Nat.lt_succ_of_le (nodup_length_le r.nodup r.chain.lt_length)

theorem findLoop_chain {h : Heap} {p as xs} (x : Int) (hc : Chain h p as xs) (fuel : Nat)
    (hf : as.length < fuel) : findLoop fuel h as.head? x = .ok (addrOf x as xs) := by
  induction as generalizing p xs fuel with
  | nil =>
    obtain ⟨f, rfl⟩ := fuel_pos hf
    simp [findLoop, addrOf]
  | cons a as ih =>
    obtain ⟨f, rfl⟩ := fuel_pos hf
    obtain ⟨y, ys, rfl, ha, hc⟩ := chain_cons hc
    simp only [List.head?_cons, findLoop, ha, addrOf]
    split
    · rfl
    · exact ih hc f (Nat.lt_of_succ_lt_succ hf)

theorem lastAddr_chain {h : Heap} {p : Option Nat} {a : Nat} {as : List Nat} {x : Int} {xs : List Int}
    (hc : Chain h p (a :: as) (x :: xs)) (fuel : Nat) (hf : as.length < fuel) :
    lastAddr fuel h a = .ok ((a :: as).getLast (by simp)) := by
  induction as generalizing p a x xs fuel with
  | nil =>
    obtain ⟨f, rfl⟩ := fuel_pos hf
    simp [lastAddr, hc.head_cell]
  | cons b bs ih =>
    obtain ⟨f, rfl⟩ := fuel_pos hf
    obtain ⟨y, ys, rfl, -, -⟩ := chain_cons hc.tail
    simpa [lastAddr, hc.head_cell] using ih hc.tail f (Nat.lt_of_succ_lt_succ hf)

theorem last_cell {h : Heap} {p : Option Nat} {as : List Nat} {xs : List Int}
    (hc : Chain h p as xs) (hne : as ≠ []) :
    ∃ q, h[as.getLast hne]? = some ⟨xs.getLast?.getD 0, none, q⟩ := by
  obtain ⟨x, hx, ha⟩ := hc.cell_at (get_last hne)
  have hl := List.length_pos_iff.mpr hne
  rw [ha, List.getLast?_eq_getElem?, ← hc.length_eq, hx, List.getElem?_eq_none (by omega)]
  exact ⟨_, rfl⟩

theorem eachLoop_chain {h : Heap} {p as xs} (hc : Chain h p as xs) (fuel : Nat)
    (hf : as.length < fuel) : eachLoop fuel h as.head? = .ok xs := by
  induction as generalizing p xs fuel with
  | nil =>
    obtain ⟨f, rfl⟩ := fuel_pos hf
    simp [eachLoop, chain_nil.mp hc]
  | cons a as ih =>
    obtain ⟨f, rfl⟩ := fuel_pos hf
    obtain ⟨y, ys, rfl, ha, hc⟩ := chain_cons hc
    simp only [List.head?_cons, eachLoop, ha, ih hc f (Nat.lt_of_succ_lt_succ hf)]

theorem find_repr {h : Heap} {as xs} (r : Repr h as xs) (x : Int) :
    find h x = .ok (addrOf x as xs) := by
  have hf := findLoop_chain x r.chain (h.length + 1) r.fuel
  rwa [r.head] at hf

theorem addrOf_cell {h : Heap} {p as xs} {x : Int} {a : Nat} (hc : Chain h p as xs)
    (e : addrOf x as xs = some a) : ∃ nx pv, h[a]? = some ⟨x, nx, pv⟩ := by
  induction as generalizing p xs with
  | nil => simp [addrOf] at e
  | cons b as ih =>
    obtain ⟨y, ys, rfl, hb, hc⟩ := chain_cons hc
    rw [addrOf] at e
    split at e
    · rename_i hy
      obtain rfl := Option.some.inj e
      exact ⟨_, _, hy ▸ hb⟩
    · exact ih hc e

/-- a chain whose first `k` cells have unconstrained `prev` pointers (the state `relink` repairs) -/
def LChain (h : Heap) : Nat → Option Nat → List Nat → List Int → Prop
  | _, _, [], [] => True
  | 0, p, a :: as, x :: xs => h[a]? = some ⟨x, as.head?, p⟩ ∧ LChain h 0 (some a) as xs
  | k + 1, _, a :: as, x :: xs => (∃ q, h[a]? = some ⟨x, as.head?, q⟩) ∧ LChain h k (some a) as xs
  | _, _, _, _ => False

theorem lchain_zero {h : Heap} {p as xs} : LChain h 0 p as xs ↔ Chain h p as xs := by
  induction as generalizing p xs with
  | nil => cases xs <;> simp [Chain, LChain]
  | cons a as ih => cases xs <;> simp [Chain, LChain, ih]

theorem lchain_succ {h : Heap} {k : Nat} {p a as xs} (hc : LChain h (k + 1) p (a :: as) xs) :
    ∃ x xs' q, xs = x :: xs' ∧ h[a]? = some ⟨x, as.head?, q⟩ ∧ LChain h k (some a) as xs' := by
  cases xs with
  | nil => exact hc.elim
  | cons y ys =>
    obtain ⟨⟨q, hq⟩, hc⟩ := hc
    exact ⟨y, ys, q, rfl, hq, hc⟩

theorem lchain_nil {h : Heap} {k : Nat} {p xs} : LChain h k p [] xs ↔ xs = [] := by
  cases xs <;> cases k <;> simp [LChain]

theorem Chain.forgetPrev {h : Heap} {p p' as xs} (k : Nat) (hc : Chain h p as xs) :
    LChain h (k + 1) p' as xs := by
  induction as generalizing k p p' xs with
  | nil => simp [chain_nil.mp hc, LChain]
  | cons a as ih =>
    obtain ⟨x, xs, rfl, ha, hc⟩ := chain_cons hc
    cases k with
    | zero => exact ⟨⟨_, ha⟩, lchain_zero.mpr hc⟩
    | succ k => exact ⟨⟨_, ha⟩, ih k hc⟩

theorem LChain.frame {h h' : Heap} {k p as xs}
    (hc : LChain h k p as xs) (hsame : ∀ a ∈ as, h'[a]? = h[a]?) : LChain h' k p as xs := by
  induction k generalizing p as xs with
  | zero => exact lchain_zero.mpr ((lchain_zero.mp hc).frame hsame)
  | succ k ih =>
    cases as with
    | nil => exact lchain_nil.mpr (lchain_nil.mp hc)
    | cons a as =>
      obtain ⟨x, xs, q, rfl, ha, hc⟩ := lchain_succ hc
      exact ⟨⟨q, (hsame a (by simp)).trans ha⟩, ih hc (fun b hb => hsame b (by simp [hb]))⟩

/-- the walk of `relink`, `repair k h p n`: `k` cells are visited along `next`, starting at `n`; each gets the cell visited
before it as its `prev`, the first one gets `p` -/
def repair : Nat → Heap → Option Nat → Option Nat → ListRes Heap
  | k + 1, h, p, some a => do
    let n ← load h a
    repair k (h.set a { n with prev := p }) (some a) n.next
  | _, h, _, _ => pure h

/-- `relink` is that walk over the head, `l.next` and `l.next.next` -/
theorem relink_eq_repair (h : Heap) : relink h = repair 3 h none (some 0) := by
  unfold relink
  rw [repair]
  cases load h 0 with
  | ok hd =>
    obtain ⟨v, _ | b, pv⟩ := hd
    · rfl
    · simp only [ListRes.ok_bind, repair]
      cases load (h.set 0 ⟨v, some b, none⟩) b with
      | ok nb =>
        obtain ⟨w, _ | c, pw⟩ := nb
        · rfl
        · simp only [ListRes.ok_bind, repair]
      | _ => rfl
  | _ => rfl

theorem repair_lchain {h : Heap} {k p as xs} (hnd : as.Nodup) (hc : LChain h k p as xs) :
    ∃ h', repair k h p as.head? = .ok h' ∧ Chain h' p as xs ∧ ∀ c, c ∉ as → h'[c]? = h[c]? := by
  induction k generalizing h p as xs with
  | zero => exact ⟨h, by cases as.head? <;> rfl, lchain_zero.mp hc, fun _ _ => rfl⟩
  | succ k ih =>
    cases as with
    | nil => exact ⟨h, rfl, chain_nil.mpr (lchain_nil.mp hc), fun _ _ => rfl⟩
    | cons a as =>
      obtain ⟨x, xs, q, rfl, ha, hc⟩ := lchain_succ hc
      have hna := (List.nodup_cons.mp hnd).1
      obtain ⟨h', hr, hch, hfr⟩ := ih (h := h.set a ⟨x, as.head?, p⟩) (List.nodup_cons.mp hnd).2
        (hc.frame fun b hb => List.getElem?_set_ne fun e => hna (by rw [e]; exact hb))
      refine ⟨h', by simpa only [List.head?_cons, repair, load, ha, ListRes.ok_bind] using hr,
        ⟨(hfr a hna).trans (List.getElem?_set_self (lt_of_get ha)), hch⟩, fun c hc' => ?_⟩
      simp only [List.mem_cons, not_or] at hc'
      exact (hfr c hc'.2).trans (List.getElem?_set_ne (Ne.symm hc'.1))

/-- `relink` writes the `prev` of the head, of `l.next` and of `l.next.next`: a chain is repaired if at most its first
three `prev` pointers are wrong. -/
theorem relink_chain {h : Heap} {as xs} (hnd : as.Nodup) (hh : as.head? = some 0)
    (hc : LChain h 3 none as xs) : ∃ h', relink h = .ok h' ∧ Repr h' as xs := by
  obtain ⟨h', hr, hch, -⟩ := repair_lchain hnd hc
  exact ⟨h', by rw [relink_eq_repair, ← hh, hr], hh, hnd, hch⟩

end GoguVerif.Lemmas.C19.DList
