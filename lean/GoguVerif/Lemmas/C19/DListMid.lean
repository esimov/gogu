import GoguVerif.Lemmas.C19.DList
/-!
# C19 helper lemmas: the `prev` layer of `DList` — the pointer surgery of `InsertAfter`, `InsertBefore`,
`Delete` at the `i`-th cell of a chain (the surgery reads no value); `Append` is `InsertAfter` at the last cell
-/
namespace GoguVerif.Lemmas.C19.DList
open GoguVerif.Model GoguVerif.Model.DList

theorem insertAfterAt_chain {h : Heap} {q : Option Nat} {as xs} {v : Int} {i a : Nat} {nd : Node}
    (hc : Chain h q as xs) (hnd : as.Nodup) (hi : as[i]? = some a) (hp : h[a]? = some nd) :
    ∃ h', insertAfterLink h a nd v = .ok (h', .ok) ∧
      Chain h' q (as.take (i + 1) ++ h.length :: as.drop (i + 1)) (xs.take (i + 1) ++ v :: xs.drop (i + 1)) ∧
      (∀ c, c ∉ as → c < h.length → h'[c]? = h[c]?) := by
  induction as generalizing q xs i with
  | nil => simp at hi
  | cons b r ih =>
    have hlt := hc.lt_length
    obtain ⟨y, ys, rfl, hcb, hc⟩ := chain_cons hc
    have hbr := (List.nodup_cons.mp hnd).1
    have hndr := (List.nodup_cons.mp hnd).2
    have hb : b < h.length := hlt b List.mem_cons_self
    cases i with
    | zero =>
      obtain rfl : b = a := by simpa using hi
      obtain rfl : nd = ⟨y, r.head?, q⟩ := Option.some.inj (hp.symm.trans hcb)
      cases r with
      | nil =>
        obtain rfl := chain_nil.mp hc
        refine ⟨(h ++ [(⟨v, none, some b⟩ : Node)]).set b ⟨y, some h.length, q⟩, rfl,
          ⟨get_set_self hb, get_set_new hb, trivial⟩, fun c hc' hcl => ?_⟩
        exact get_set_append (by simpa using hc') hcl
      | cons n r' =>
        obtain ⟨y', ys', rfl, hcn, hc⟩ := chain_cons hc
        have hn : n < h.length := hlt n (List.mem_cons_of_mem _ List.mem_cons_self)
        have hnb : n ≠ b := fun q => hbr (by simp [q])
        have hnr := (List.nodup_cons.mp hndr).1
        have h1n : ((h ++ [(⟨v, some n, some b⟩ : Node)]).set b ⟨y, some h.length, q⟩)[n]? =
            some ⟨y', r'.head?, some b⟩ := (get_set_append hnb hn).trans hcn
        refine ⟨((h ++ [(⟨v, some n, some b⟩ : Node)]).set b ⟨y, some h.length, q⟩).set n
            ⟨y', r'.head?, some h.length⟩, ?_, ⟨?_, ?_, ?_, hc.frame (fun d hd => ?_)⟩,
            fun c hc' hcl => ?_⟩
        · simp only [insertAfterLink, List.head?_cons, load, h1n, ListRes.ok_bind, ListRes.pure_eq]
        · rw [List.getElem?_set_ne hnb, get_set_self hb]
          rfl
        · rw [List.getElem?_set_ne (Nat.ne_of_lt hn), get_set_new hb]
          rfl
        · rw [List.getElem?_set_self (lt_length_set_append hn)]
        · have hdn : d ≠ n := fun q => hnr (q ▸ hd)
          have hdb : d ≠ b := fun q => hbr (by simp [q ▸ hd])
          rw [List.getElem?_set_ne (Ne.symm hdn), get_set_append hdb (hlt d (by simp [hd]))]
        · simp only [List.mem_cons, not_or] at hc'
          rw [List.getElem?_set_ne (Ne.symm hc'.2.1), get_set_append hc'.1 hcl]
    | succ k =>
      obtain ⟨h', hl, hch, hfr⟩ := ih hc hndr hi
      refine ⟨h', hl, ⟨?_, hch⟩, fun c hc' hcl => hfr c (mt (List.mem_cons_of_mem _) hc') hcl⟩
      rw [hfr b hbr hb, hcb]
      cases r with
      | nil => simp at hi
      | cons _ _ => rfl

/-- `Append` links the new cell in after the last one -/
theorem Chain.snoc {h : Heap} {p : Option Nat} {as : List Nat} {xs : List Int} (v : Int)
    (hne : as ≠ []) (hnd : as.Nodup) (hc : Chain h p as xs) :
    ∃ n, h[as.getLast hne]? = some n ∧ n.next = none ∧
      Chain ((h ++ [(⟨v, none, some (as.getLast hne)⟩ : Node)]).set (as.getLast hne)
          { n with next := some h.length })
        p (as ++ [h.length]) (xs ++ [v]) := by
  have hl : as.length - 1 + 1 = as.length := Nat.sub_add_cancel (List.length_pos_iff.mpr hne)
  obtain ⟨x, -, hx⟩ := hc.cell_at (get_last hne)
  obtain ⟨h', hr, hch, -⟩ := insertAfterAt_chain (v := v) hc hnd (get_last hne) hx
  rw [hl, List.getElem?_eq_none (Nat.le_refl _)] at hx hr
  rw [hl, List.take_length, List.drop_length, hc.length_eq, List.take_length, List.drop_length] at hch
  cases hr
  exact ⟨_, hx, rfl, hch⟩

/-- linking a new cell in before `a` is linking it in after the cell before `a` -/
theorem insertBeforeLink_eq {h : Heap} {head : Node} {a p : Nat} {x y v : Int} {nx q : Option Nat} (hpa : p ≠ a)
    (hp : h[p]? = some ⟨y, some a, q⟩) (ha : h[a]? = some ⟨x, nx, some p⟩) :
    insertBeforeLink h head a ⟨x, nx, some p⟩ v = insertAfterLink h p ⟨y, some a, q⟩ v := by
  simp only [insertBeforeLink, insertAfterLink, load, get_set_append hpa (lt_of_get hp), hp,
    get_set_append (Ne.symm hpa) (lt_of_get ha), ha, ListRes.ok_bind]
  rw [List.set_comm _ _ hpa]

/-- the node to insert before is not the first cell of the segment `c :: r`: its `prev` is a cell of the segment -/
theorem insertBeforeAt_chain {h : Heap} {q : Option Nat} {c : Nat} {r : List Nat} {y : Int}
    {ys : List Int} {v : Int} {k a : Nat} (head : Node)
    (hc : Chain h q (c :: r) (y :: ys)) (hnd : (c :: r).Nodup) (hi : r[k]? = some a) :
    ∃ nd h', h[a]? = some nd ∧ ys[k]? = some nd.val ∧ insertBeforeLink h head a nd v = .ok (h', .ok) ∧
      Chain h' q (c :: (r.take k ++ h.length :: r.drop k)) (y :: (ys.take k ++ v :: ys.drop k)) := by
  have hk : k < (c :: r).length := Nat.lt_succ_of_lt (lt_of_get hi)
  obtain ⟨z, -, hp'⟩ := hc.cell_at (List.getElem?_eq_getElem hk)
  obtain ⟨h', hl, hch, -⟩ := insertAfterAt_chain (v := v) hc hnd (List.getElem?_eq_getElem hk) hp'
  obtain ⟨x, hx, ha⟩ := hc.cell_at (i := k + 1) hi
  rw [List.getElem?_cons_succ, hi] at hp' hl
  rw [if_neg (Nat.succ_ne_zero k), Nat.add_sub_cancel, List.getElem?_eq_getElem hk] at ha
  have hpa : (c :: r)[k] ≠ a := fun e =>
    Nat.ne_of_lt (Nat.lt_succ_self k) ((List.getElem?_inj hk hnd).mp ((List.getElem?_eq_getElem hk).trans (e ▸ hi.symm)))
  exact ⟨_, h', ha, hx, (insertBeforeLink_eq hpa hp' ha).trans hl, hch⟩

/-- as `insertBeforeAt_chain`: the node to delete is not the first cell of the segment `c :: r`, its `prev` is a cell of it -/
theorem deleteAt_chain {h : Heap} {q : Option Nat} {c : Nat} {r : List Nat} {y : Int}
    {ys : List Int} {k a : Nat}
    (hc : Chain h q (c :: r) (y :: ys)) (hnd : (c :: r).Nodup) (hi : r[k]? = some a) :
    ∃ nd h', h[a]? = some nd ∧ ys[k]? = some nd.val ∧ deleteUnlink h a nd = .ok (h', .ok) ∧
      Chain h' q (c :: r.eraseIdx k) (y :: ys.eraseIdx k) ∧
      (∀ d, d ∉ c :: r → h'[d]? = h[d]?) := by
  induction r generalizing q c y ys k with
  | nil => simp at hi
  | cons b r' ih =>
    have hlt := hc.lt_length
    have hcc := hc.head_cell
    have hcr := hc.tail
    obtain ⟨z, zs, rfl, hcb, hcr'⟩ := chain_cons hcr
    simp only [List.head?_cons] at hcc
    have hcn := (List.nodup_cons.mp hnd).1
    have hndr := (List.nodup_cons.mp hnd).2
    have hbr := (List.nodup_cons.mp hndr).1
    have hlc : c < h.length := hlt c List.mem_cons_self
    cases k with
    | zero =>
      obtain rfl : b = a := by simpa using hi
      cases r' with
      | nil =>
        obtain rfl := chain_nil.mp hcr'
        refine ⟨_, h.set c ⟨y, none, q⟩, hcb, rfl, ?_, ⟨List.getElem?_set_self hlc, trivial⟩, fun d hd => ?_⟩
        · simp only [deleteUnlink, load, hcb, hcc, List.head?_nil, ListRes.ok_bind, ListRes.pure_eq]
        · simp only [List.mem_cons, not_or] at hd
          exact List.getElem?_set_ne (Ne.symm hd.1)
      | cons n r'' =>
        obtain ⟨z', zs', rfl, hcn', hcr''⟩ := chain_cons hcr'
        simp only [List.head?_cons] at hcb
        have hnr := (List.nodup_cons.mp (List.nodup_cons.mp hndr).2).1
        have hnb : n ≠ b := fun q => hbr (by simp [q])
        have hnc : n ≠ c := fun q => hcn (by simp [q])
        have hln : n < h.length := hlt n (by simp)
        have e1 : (h.set n ⟨z', r''.head?, some c⟩)[b]? = some ⟨z, some n, some c⟩ :=
          (List.getElem?_set_ne hnb).trans hcb
        have e2 : (h.set n ⟨z', r''.head?, some c⟩)[c]? = some ⟨y, some b, q⟩ :=
          (List.getElem?_set_ne hnc).trans hcc
        refine ⟨_, (h.set n ⟨z', r''.head?, some c⟩).set c ⟨y, some n, q⟩, hcb, rfl, ?_,
          ⟨?_, ?_, hcr''.frame (fun d hd => ?_)⟩, fun d hd => ?_⟩
        · simp only [deleteUnlink, load, hcn', ListRes.ok_bind, ListRes.pure_eq, e1, e2]
        · rw [List.getElem?_set_self (by simpa using hlc)]
          rfl
        · rw [List.getElem?_set_ne (Ne.symm hnc), List.getElem?_set_self hln]
        · have hdn : d ≠ n := fun q => hnr (q ▸ hd)
          have hdc : d ≠ c := fun q => hcn (by simp [q ▸ hd])
          rw [List.getElem?_set_ne (Ne.symm hdc), List.getElem?_set_ne (Ne.symm hdn)]
        · simp only [List.mem_cons, not_or] at hd
          rw [List.getElem?_set_ne (Ne.symm hd.1), List.getElem?_set_ne (Ne.symm hd.2.2.1)]
    | succ k' =>
      obtain ⟨nd, h', hp, hv, hl, hch, hfr⟩ := ih hcr hndr hi
      exact ⟨nd, h', hp, hv, hl, ⟨(hfr c hcn).trans hcc, hch⟩, fun d hd => hfr d (mt (List.mem_cons_of_mem _) hd)⟩

end GoguVerif.Lemmas.C19.DList
