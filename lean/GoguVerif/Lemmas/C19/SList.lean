import GoguVerif.Model.SList
import GoguVerif.Lemmas.C19.Store
/-!
# C19 helper lemmas: the representation relation of `SList` and the pointer walks
-/
namespace GoguVerif.Lemmas.C19.SList
open GoguVerif.Model.SList

/-- Cells `as` spell the sequence `xs`, each linked to the next, the last one to nil. -/
def Chain (h : Heap) : List Nat → List Int → Prop
  | [], [] => True
  | a :: as, x :: xs => h[a]? = some ⟨x, as.head?⟩ ∧ Chain h as xs
  | _, _ => False

/-- The store holds the sequence `xs` in the distinct cells `as`,
starting at the embedded head (address 0). -/
structure Repr (h : Heap) (as : List Nat) (xs : List Int) : Prop where
  head : as.head? = some 0
  nodup : as.Nodup
  chain : Chain h as xs

theorem chain_nil {h : Heap} {xs} : Chain h [] xs ↔ xs = [] := by
  cases xs <;> simp [Chain]

theorem chain_cons {h : Heap} {a as xs} (hc : Chain h (a :: as) xs) :
    ∃ x xs', xs = x :: xs' ∧ h[a]? = some ⟨x, as.head?⟩ ∧ Chain h as xs' := by
  cases xs with
  | nil => exact hc.elim
  | cons y ys => exact ⟨y, ys, rfl, hc⟩

theorem Chain.head_cell {h : Heap} {a as x xs} (hc : Chain h (a :: as) (x :: xs)) : h[a]? = some ⟨x, as.head?⟩ :=
  hc.1

theorem Chain.tail {h : Heap} {a as x xs} (hc : Chain h (a :: as) (x :: xs)) : Chain h as xs :=
  hc.2

theorem Chain.length_eq {h : Heap} {as xs} (hc : Chain h as xs) : as.length = xs.length := by
  induction as generalizing xs with
  | nil => simp [chain_nil.mp hc]
  | cons a as ih =>
    obtain ⟨x, xs, rfl, _, hc⟩ := chain_cons hc
    simp [ih hc]

theorem Chain.cell_at {h : Heap} {as xs} {i a : Nat} (hc : Chain h as xs) (hi : as[i]? = some a) :
    ∃ x, xs[i]? = some x ∧ h[a]? = some ⟨x, as[i + 1]?⟩ := by
  induction as generalizing xs i with
  | nil => simp at hi
  | cons b r ih =>
    obtain ⟨y, ys, rfl, hb, hc⟩ := chain_cons hc
    cases i with
    | zero =>
      obtain rfl : b = a := by simpa using hi
      exact ⟨y, rfl, by simpa [List.head?_eq_getElem?] using hb⟩
    | succ k => exact ih hc hi

theorem Chain.lt_length {h : Heap} {as xs} (hc : Chain h as xs) : ∀ a ∈ as, a < h.length := by
  intro a ha
  obtain ⟨i, hi⟩ := List.getElem?_of_mem ha
  obtain ⟨_, _, hx⟩ := hc.cell_at hi
  exact lt_of_get hx

theorem Chain.frame {h h' : Heap} {as xs}
    (hc : Chain h as xs) (hsame : ∀ a ∈ as, h'[a]? = h[a]?) : Chain h' as xs := by
  induction as generalizing xs with
  | nil => exact chain_nil.mpr (chain_nil.mp hc)
  | cons a as ih =>
    obtain ⟨x, xs, rfl, ha, hc⟩ := chain_cons hc
    exact ⟨(hsame a (by simp)).trans ha, ih hc (fun b hb => hsame b (by simp [hb]))⟩

theorem Repr.cons {h : Heap} {as xs} (r : Repr h as xs) :
    ∃ as' x xs', as = 0 :: as' ∧ xs = x :: xs' ∧ h[0]? = some ⟨x, as'.head?⟩ ∧ Chain h as' xs' ∧
      0 ∉ as' := by
  obtain ⟨hh, hnd, hc⟩ := r
  cases as with
  | nil => simp at hh
  | cons a as' =>
    obtain rfl : a = 0 := by simpa using hh
    obtain ⟨x, xs', rfl, h0, hc⟩ := chain_cons hc
    exact ⟨as', x, xs', rfl, rfl, h0, hc, (List.nodup_cons.mp hnd).1⟩

theorem Repr.get_zero {h : Heap} {as xs} (r : Repr h as xs) : as[0]? = some 0 :=
  List.head?_eq_getElem?.symm.trans r.head

/-- the fuel of the methods suffices: every walk lemma asks for more fuel than the chain it is given has cells (the
walks that stop AT the last cell need one less: `lastAddr_chain` says so) -/
theorem Repr.fuel {h : Heap} {as xs} (r : Repr h as xs) : as.length < h.length + 1 :=
  Nat.lt_succ_of_le (nodup_length_le r.nodup r.chain.lt_length)

/-- address of the first cell holding `x` -/
def addrOf (x : Int) : List Nat → List Int → Option Nat
  | a :: as, y :: ys => if y = x then some a else addrOf x as ys
  | _, _ => none

/-- the same function as `DList.addrOf` (`Lemmas/C19/Store.lean`); the two are kept apart because each of the two
`addrOf_eq_idx` (`SList`: `Lemmas/C19Handles.lean`, `DList`: `Lemmas/C19/Track.lean`) speaks of its own -/
theorem addrOf_eq_dlist (x : Int) (as : List Nat) (xs : List Int) : addrOf x as xs = DList.addrOf x as xs := by
  induction as generalizing xs with
  | nil => rfl
  | cons a as ih =>
    cases xs with
    | nil => rfl
    | cons y ys => rw [addrOf, DList.addrOf, ih]

theorem findLoop_chain {h : Heap} {as xs} (x : Int) (hc : Chain h as xs) (fuel : Nat)
    (hf : as.length < fuel) : findLoop fuel h as.head? x = .ok (addrOf x as xs) := by
  induction as generalizing xs fuel with
  | nil =>
    obtain ⟨f, rfl⟩ := fuel_pos hf
    simp [findLoop, addrOf]
  | cons a as ih =>
    obtain ⟨f, rfl⟩ := fuel_pos hf
    obtain ⟨y, ys, rfl, ha, hc⟩ := chain_cons hc
    simp only [List.head?_cons, findLoop, ha, addrOf]
    split
    · rfl
    · exact ih hc f (Nat.lt_of_succ_lt_succ hf)

theorem lastAddr_chain {h : Heap} {a : Nat} {as : List Nat} {x : Int} {xs : List Int}
    (hc : Chain h (a :: as) (x :: xs)) (fuel : Nat) (hf : as.length < fuel) :
    lastAddr fuel h a = .ok ((a :: as).getLast (by simp)) := by
  induction as generalizing a x xs fuel with
  | nil =>
    obtain ⟨f, rfl⟩ := fuel_pos hf
    simp [lastAddr, hc.head_cell]
  | cons b bs ih =>
    obtain ⟨f, rfl⟩ := fuel_pos hf
    obtain ⟨y, ys, rfl, -, -⟩ := chain_cons hc.tail
    simpa [lastAddr, hc.head_cell] using ih hc.tail f (Nat.lt_of_succ_lt_succ hf)

theorem eachLoop_chain {h : Heap} {as xs} (hc : Chain h as xs) (fuel : Nat)
    (hf : as.length < fuel) : eachLoop fuel h as.head? = .ok xs := by
  induction as generalizing xs fuel with
  | nil =>
    obtain ⟨f, rfl⟩ := fuel_pos hf
    simp [eachLoop, chain_nil.mp hc]
  | cons a as ih =>
    obtain ⟨f, rfl⟩ := fuel_pos hf
    obtain ⟨y, ys, rfl, ha, hc⟩ := chain_cons hc
    simp only [List.head?_cons, eachLoop, ha, ih hc f (Nat.lt_of_succ_lt_succ hf)]

theorem find_repr {h : Heap} {as xs} (r : Repr h as xs) (x : Int) :
    find h x = .ok (h, addrOf x as xs) := by
  have hf := findLoop_chain x r.chain (h.length + 1) r.fuel
  obtain ⟨as', y, xs', rfl, rfl, h0, -⟩ := r.cons
  simp only [List.head?_cons] at hf
  simp [find, load, h0, hf, set_self h0]

end GoguVerif.Lemmas.C19.SList
