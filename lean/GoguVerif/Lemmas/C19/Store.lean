import GoguVerif.Spec.C19
/-!
# C19 helper lemmas that both list types use: address lists and stores (`List α` read with `[·]?`, written with `set`,
grown with `++`), what the specification says of `Replace` (`replaceFirst`, `next_replace_cons`) and of an insertion
(`sublist_take_insert`), and `DList.addrOf`
-/
namespace GoguVerif.Lemmas.C19

/-- pigeonhole -/
theorem nodup_length_le {as : List Nat} {n : Nat} (hnd : as.Nodup) (hlt : ∀ a ∈ as, a < n) :
    as.length ≤ n := by
  simpa using hnd.length_le_of_subset (l₂ := List.range n) (fun a ha => List.mem_range.mpr (hlt a ha))

/-- a walk that is given fuel for a chain has fuel for one step -/
theorem fuel_pos {n fuel : Nat} (hf : n < fuel) : ∃ f, fuel = f + 1 :=
  Nat.exists_eq_add_one_of_ne_zero (Nat.ne_zero_of_lt hf)

theorem lt_of_get {α : Type} {h : List α} {a : Nat} {n : α} (e : h[a]? = some n) : a < h.length :=
  (List.getElem?_eq_some_iff.mp e).1

theorem get_last {α : Type} {as : List α} (hne : as ≠ []) : as[as.length - 1]? = some (as.getLast hne) := by
  rw [List.getLast_eq_getElem]
  exact List.getElem?_eq_getElem _

theorem set_self {α : Type} {h : List α} {a : Nat} {n : α} (e : h[a]? = some n) : h.set a n = h := by
  obtain ⟨hlt, rfl⟩ := List.getElem?_eq_some_iff.mp e
  exact List.set_getElem_self hlt

/- A store that has grown by fresh cells `l` and in which the old cell `b` has been written, `(h ++ l).set b n`, read at
another old cell (`get_set_append`), at `b` (`get_set_self`), at the first fresh cell (`get_set_new`); old addresses
stay in range (`lt_length_set_append`). -/
theorem get_set_append {α : Type} {h l : List α} {a b : Nat} {n : α} (hab : a ≠ b) (ha : a < h.length) :
    ((h ++ l).set b n)[a]? = h[a]? := by
  rw [List.getElem?_set_ne (Ne.symm hab), List.getElem?_append_left ha]

theorem get_set_self {α : Type} {h l : List α} {b : Nat} {n : α} (hb : b < h.length) :
    ((h ++ l).set b n)[b]? = some n :=
  List.getElem?_set_self (by rw [List.length_append]; exact Nat.lt_add_right _ hb)

theorem lt_length_set_append {α : Type} {h l : List α} {a b : Nat} {n : α} (ha : a < h.length) :
    a < ((h ++ l).set b n).length := by
  rw [List.length_set, List.length_append]
  exact Nat.lt_add_right _ ha

theorem get_set_new {α : Type} {h : List α} {x n : α} {b : Nat} (hb : b < h.length) :
    ((h ++ [x]).set b n)[h.length]? = some x := by
  rw [List.getElem?_set_ne (Nat.ne_of_lt hb), List.getElem?_concat_length]

open GoguVerif.Spec.C19 (replaceFirst) in
theorem replaceFirst_not_mem {o n : Int} {xs : List Int} (hx : o ∉ xs) : replaceFirst o n xs = xs := by
  induction xs with
  | nil => rfl
  | cons y ys ih =>
    simp only [List.mem_cons, not_or] at hx
    simp [replaceFirst, Ne.symm hx.1, ih hx.2]

open GoguVerif.Spec.C19 (next replaceFirst) in
/-- what the specification says of `Replace`, read off the first value (whether `Shift` reports a value, `sv`, does not
enter) -/
theorem next_replace_cons (sv : Bool) (o n y : Int) (ys : List Int) :
    next sv (y :: ys) (.replace o n) =
      if y = o then (.ok, n :: ys) else ((next sv ys (.replace o n)).1, y :: (next sv ys (.replace o n)).2) := by
  by_cases hy : y = o
  · simp [next, replaceFirst, hy]
  · by_cases ho : o ∈ ys <;> simp [next, replaceFirst, hy, Ne.symm hy, ho]

open GoguVerif.Spec.C19 (replaceFirst) in
theorem replaceFirst_length (o n : Int) (xs : List Int) : (replaceFirst o n xs).length = xs.length := by
  induction xs with
  | nil => rfl
  | cons y r ih => simp only [replaceFirst]; split <;> simp [ih]

/-- a value put in at some position: nothing else is lost, duplicated or reordered -/
theorem sublist_take_insert {α : Type} (l : List α) (p : Nat) (v : α) :
    l.Sublist (l.take p ++ v :: l.drop p) ∧ (l.take p ++ v :: l.drop p).length = l.length + 1 := by
  refine ⟨?_, ?_⟩
  · have := (List.Sublist.refl (l.take p)).append (List.sublist_cons_self v (l.drop p))
    rwa [List.take_append_drop] at this
  · rw [List.length_append, List.length_cons, ← Nat.add_assoc, ← List.length_append, List.take_append_drop]

end GoguVerif.Lemmas.C19

namespace GoguVerif.Lemmas.C19.DList

/-- address of the first cell holding `x` (the heap does not enter: the same for both list types) -/
def addrOf (x : Int) : List Nat → List Int → Option Nat
  | a :: as, y :: ys => if y = x then some a else addrOf x as ys
  | _, _ => none

end GoguVerif.Lemmas.C19.DList
