import GoguVerif.Model.DList
/-!
# C19 — items of a mixed history: a plain operation or an operation through a kept handle (an address)

The specification keeps, next to the sequence, a TABLE of the handles it still follows (handle, position); `specItems`
is its verdict on a whole history, `stepItem`/`runItems` are the pointer models' side.  The statements of
`Theorems/C19Handles2.lean` (`slist_mixed_history`, `dlist_mixed_history`, …) are about these definitions, which is why
they are declared into `GoguVerif.Theorems.C19H`; they stand here so that the lemma modules can speak of them too.
-/
namespace GoguVerif.Theorems.C19H
open GoguVerif.Model GoguVerif.Spec.C19

/-- what is done through a handle -/
inductive HShape where
  | delete
  | insertAfter (v : Int)
  | insertBefore (v : Int)
deriving DecidableEq, Repr

/-- the handle operation of that shape at position `p` -/
def HShape.at : HShape → Nat → HOp
  | .delete, p => .deleteH p
  | .insertAfter v, p => .insertAfterH p v
  | .insertBefore v, p => .insertBeforeH p v

/-- an item of a mixed history: a plain operation, or an operation through the kept handle `a` -/
inductive Item where
  | plain (op : Op)
  | handle (a : Nat) (s : HShape)
deriving DecidableEq, Repr

/-- `AllowedH` as a function (it leaves no choice) -/
def nextH (xs : List Int) : HOp → Ans × List Int
  | .deleteH i => if xs.length > 1 then (.ok, xs.eraseIdx i) else (.err, xs)
  | .insertAfterH i v => (.ok, xs.take (i + 1) ++ v :: xs.drop (i + 1))
  | .insertBeforeH i v => (.ok, xs.take i ++ v :: xs.drop i)

/-- the outcome of a `Delete` through a handle, componentwise (as `SList.deleteAt_repr` states it) -/
theorem nextH_delete (xs : List Int) (i : Nat) :
    nextH xs (HShape.delete.at i) =
      (if xs.length > 1 then .ok else .err, if xs.length > 1 then xs.eraseIdx i else xs) := by
  show (if xs.length > 1 then _ else _) = _
  split <;> rfl

theorem allowedH_iff_nextH {xs xs' : List Int} {hop : HOp} {ans : Ans} :
    AllowedH xs hop ans xs' ↔ (ans, xs') = nextH xs hop := by
  cases hop <;> simp only [AllowedH, nextH] <;> (repeat' split) <;> simp

/-- the handles the specification still follows: (handle, position) -/
abbrev Table := List (Nat × Nat)

/-- every entry moves as `moveIdx` says; entries it no longer follows are dropped -/
def moveTable (dbl : Bool) (e : Edit) (T : Table) : Table :=
  T.filterMap (fun ap => (moveIdx dbl e ap.2).map (fun j => (ap.1, j)))

/-- every handle of the table is the cell at its position, and none designates the embedded head -/
def Valid (as : List Nat) (T : Table) : Prop := ∀ a p, (a, p) ∈ T → 1 ≤ p ∧ as[p]? = some a

theorem Valid.cell {as : List Nat} {T : Table} (hv : Valid as T) {a p : Nat} (hl : T.lookup a = some p) :
    as[p]? = some a := by
  obtain ⟨l₁, l₂, rfl, -⟩ := List.lookup_eq_some_iff.mp hl
  exact (hv a p (List.mem_append_right _ List.mem_cons_self)).2

/-- The specification of a mixed history: the answers, the final sequence and the final table — or no verdict when a
handle is used that the table does not hold.  `nxt` is the functional form of `Allowed` for the list type. -/
def specItems (dbl : Bool) (nxt : List Int → Op → Ans × List Int) :
    List Int → Table → List Item → Option (List Ans × List Int × Table)
  | xs, T, [] => some ([], xs, T)
  | xs, T, .plain op :: r =>
    (specItems dbl nxt (nxt xs op).2 (moveTable dbl (editOf xs op) T) r).map
      (fun res => ((nxt xs op).1 :: res.1, res.2))
  | xs, T, .handle a s :: r =>
    match T.lookup a with
    | none => none
    | some p =>
      (specItems dbl nxt (nextH xs (s.at p)).2 (moveTable dbl (editOfH xs (s.at p)) T) r).map
        (fun res => ((nextH xs (s.at p)).1 :: res.1, res.2))

namespace SList
open GoguVerif.Model.SList

/-- one item on the pointer model (`SList` has no `InsertBefore`: excluded by `supportedItem`) -/
def stepItem (h : Heap) : Item → ListRes (Heap × Ans)
  | .plain op => step h op
  | .handle a .delete => delete h (some a)
  | .handle a (.insertAfter v) => insertAfter h (some a) v
  | .handle _ (.insertBefore _) => .stuck

def supportedItem : Item → Bool
  | .plain op => supported op
  | .handle _ (.insertBefore _) => false
  | .handle _ _ => true

/-- a mixed history on the pointer model: the final store and the answers -/
def runItems (h : Heap) : List Item → ListRes (Heap × List Ans)
  | [] => .ok (h, [])
  | it :: r =>
    match stepItem h it with
    | .ok (h', ans) =>
      match runItems h' r with
      | .ok (h'', l) => .ok (h'', ans :: l)
      | .panic => .panic
      | .hang => .hang
      | .stuck => .stuck
    | .panic => .panic
    | .hang => .hang
    | .stuck => .stuck

end SList

namespace DList
open GoguVerif.Model.DList

/-- the outcome of a plain `DList` operation as a function: `Spec.C19.next true`, except that `DList.Shift` on a
one-element list resets the remaining value to the zero value (`Allowed` allows both; `next` keeps the value) -/
def nextD (xs : List Int) (op : Op) : Ans × List Int :=
  if op = .shift ∧ ¬ xs.length > 1 then (.val (xs.head?.getD 0), [0]) else next true xs op

def stepItem (h : Heap) : Item → ListRes (Heap × Ans)
  | .plain op => step h op
  | .handle a .delete => delete h (some a)
  | .handle a (.insertAfter v) => insertAfter h (some a) v
  | .handle a (.insertBefore v) => insertBefore h (some a) v

/-- a mixed history on the pointer model: the final store and the answers -/
def runItems (h : Heap) : List Item → ListRes (Heap × List Ans)
  | [] => .ok (h, [])
  | it :: r =>
    match stepItem h it with
    | .ok (h', ans) =>
      match runItems h' r with
      | .ok (h'', l) => .ok (h'', ans :: l)
      | .panic => .panic
      | .hang => .hang
      | .stuck => .stuck
    | .panic => .panic
    | .hang => .hang
    | .stuck => .stuck

end DList
end GoguVerif.Theorems.C19H
