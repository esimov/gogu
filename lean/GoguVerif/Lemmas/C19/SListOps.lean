import GoguVerif.Lemmas.C19.SList
/-!
# C19 helper lemmas: what the pointer surgery of each `SList` method does to a chain
-/
namespace GoguVerif.Lemmas.C19.SList
open GoguVerif.Model.SList
open GoguVerif.Spec.C19 (next)

theorem popLoop_chain {h : Heap} {a b : Nat} {bs : List Nat} {x y : Int} {ys : List Int}
    (hc : Chain h (a :: b :: bs) (x :: y :: ys)) (hnd : (a :: b :: bs).Nodup)
    (fuel : Nat) (hf : (a :: b :: bs).length < fuel) :
    ∃ t tn, popLoop fuel h a = .ok t ∧ h[t]? = some tn ∧ t ∈ (a :: b :: bs).dropLast ∧
      Chain (h.set t { tn with next := none }) ((a :: b :: bs).dropLast) ((x :: y :: ys).dropLast) := by
  induction bs generalizing a b x y ys fuel with
  | nil =>
    obtain ⟨f, rfl⟩ := fuel_pos hf
    obtain rfl := chain_nil.mp hc.tail.tail
    exact ⟨a, _, by simp [popLoop, hc.head_cell, hc.tail.head_cell], hc.head_cell, by simp,
      List.getElem?_set_self (lt_of_get hc.head_cell), trivial⟩
  | cons c cs ih =>
    obtain ⟨f, rfl⟩ := fuel_pos hf
    obtain ⟨z, zs, rfl, -, -⟩ := chain_cons hc.tail.tail
    obtain ⟨t, tn, hp, ht, htm, hch⟩ := ih hc.tail (List.nodup_cons.mp hnd).2 f (Nat.lt_of_succ_lt_succ hf)
    have hta : t ≠ a := by
      rintro rfl
      exact (List.nodup_cons.mp hnd).1 ((List.dropLast_sublist _).subset htm)
    exact ⟨t, tn, by simpa [popLoop, hc.head_cell, hc.tail.head_cell] using hp, ht, List.mem_cons_of_mem _ htm,
      (List.getElem?_set_ne hta).trans hc.head_cell, hch⟩

/-- `newNode.next = p.next; p.next = newNode` where `p` is the `i`-th cell -/
theorem insertAfterAt_chain {h : Heap} {as xs} {v : Int} {i p : Nat} {pn : Node}
    (hc : Chain h as xs) (hnd : as.Nodup) (hi : as[i]? = some p) (hp : h[p]? = some pn) :
    Chain ((h ++ [(⟨v, pn.next⟩ : Node)]).set p { pn with next := some h.length })
      (as.take (i + 1) ++ h.length :: as.drop (i + 1)) (xs.take (i + 1) ++ v :: xs.drop (i + 1)) := by
  induction as generalizing xs i with
  | nil => simp at hi
  | cons b r ih =>
    have hlt := hc.lt_length
    obtain ⟨y, ys, rfl, hcb, hc⟩ := chain_cons hc
    have hbr := (List.nodup_cons.mp hnd).1
    cases i with
    | zero =>
      obtain rfl : b = p := by simpa using hi
      obtain rfl : pn = ⟨y, r.head?⟩ := Option.some.inj (hp.symm.trans hcb)
      refine ⟨get_set_self (hlt b (by simp)),
        get_set_new (hlt b (by simp)), hc.frame (fun c hc' => get_set_append ?_ (hlt c (by simp [hc'])))⟩
      rintro rfl
      exact hbr hc'
    | succ k =>
      have hbp : b ≠ p := fun q => hbr (q ▸ List.mem_of_getElem? hi)
      refine ⟨?_, ih hc (List.nodup_cons.mp hnd).2 hi⟩
      rw [get_set_append hbp (hlt b (by simp)), hcb]
      cases r with
      | nil => simp at hi
      | cons _ _ => rfl

/-- `Append` links the new cell in after the last one -/
theorem Chain.snoc {h : Heap} {as : List Nat} {xs : List Int} (v : Int)
    (hne : as ≠ []) (hnd : as.Nodup) (hc : Chain h as xs) :
    ∃ n, h[as.getLast hne]? = some n ∧
      Chain ((h ++ [(⟨v, none⟩ : Node)]).set (as.getLast hne) { n with next := some h.length })
        (as ++ [h.length]) (xs ++ [v]) := by
  have hl : as.length - 1 + 1 = as.length := Nat.sub_add_cancel (List.length_pos_iff.mpr hne)
  obtain ⟨x, -, hx⟩ := hc.cell_at (get_last hne)
  have hch := insertAfterAt_chain (v := v) hc hnd (get_last hne) hx
  rw [hl, List.getElem?_eq_none (Nat.le_refl _)] at hx hch
  rw [List.take_length, List.drop_length, hc.length_eq, List.take_length, List.drop_length] at hch
  exact ⟨_, hx, hch⟩

/-- one round of the loop of `Replace` on a cell that is there: the test on the value comes first whether or not the cell
is the last one (`generalizing := false`: left to itself the `match` takes `e`, which mentions `nx`, along as a second
discriminant, and the equation no longer rewrites) -/
theorem replaceLoop_cell {h : Heap} {a : Nat} {y : Int} {nx : Option Nat} (e : h[a]? = some ⟨y, nx⟩)
    (f : Nat) (o n : Int) :
    replaceLoop (f + 1) h a o n = if y = o then .ok (h.set a ⟨n, nx⟩, .ok) else
      match (generalizing := false) nx with
      | none => .ok (h, .err)
      | some b => replaceLoop f h b o n := by
  cases nx <;> simp only [replaceLoop, e]

theorem replaceLoop_chain {h : Heap} {a : Nat} {as : List Nat} {y : Int} {ys : List Int} (o n : Int) (sv : Bool)
    (hc : Chain h (a :: as) (y :: ys)) (hnd : (a :: as).Nodup) (fuel : Nat) (hf : (a :: as).length < fuel) :
    ∃ h', replaceLoop fuel h a o n = .ok (h', (next sv (y :: ys) (.replace o n)).1) ∧
      Chain h' (a :: as) (next sv (y :: ys) (.replace o n)).2 ∧ (∀ c, c ∉ a :: as → h'[c]? = h[c]?) := by
  -- by the fuel and not by the chain: whether the cell is the last one matters only where the value differs
  induction fuel generalizing a as y ys with
  | zero => cases hf
  | succ f ih =>
    have hna := (List.nodup_cons.mp hnd).1
    rw [replaceLoop_cell hc.head_cell, next_replace_cons]
    by_cases hy : y = o
    · rw [if_pos hy, if_pos hy]
      refine ⟨_, rfl, ⟨List.getElem?_set_self (lt_of_get hc.head_cell),
        hc.tail.frame (fun c hc' => List.getElem?_set_ne ?_)⟩, fun c hc' => List.getElem?_set_ne ?_⟩
      · rintro rfl
        exact hna hc'
      · rintro rfl
        exact hc' (by simp)
    · rw [if_neg hy, if_neg hy]
      cases as with
      | nil =>
        obtain rfl := chain_nil.mp hc.tail
        exact ⟨h, rfl, hc, fun _ _ => rfl⟩
      | cons b bs =>
        obtain ⟨z, zs, rfl, -, -⟩ := chain_cons hc.tail
        obtain ⟨h', hr, hch, hfr⟩ := ih hc.tail (List.nodup_cons.mp hnd).2 (Nat.lt_of_succ_lt_succ hf)
        exact ⟨h', hr, ⟨(hfr a hna).trans hc.head_cell, hch⟩, fun c hc' => hfr c (mt (List.mem_cons_of_mem _) hc')⟩

theorem replace_repr {h : Heap} {as xs} (r : Repr h as xs) (o n : Int) (sv : Bool) :
    ∃ h', replace h o n = .ok (h', (next sv xs (.replace o n)).1) ∧ Repr h' as (next sv xs (.replace o n)).2 := by
  obtain ⟨as', x, xs', rfl, rfl, -⟩ := r.cons
  obtain ⟨h', hr, hch, -⟩ := replaceLoop_chain o n sv r.chain r.nodup (h.length + 1) r.fuel
  exact ⟨h', hr, r.head, r.nodup, hch⟩

/-- the walk of `Delete` stops AT the cell `a` it looks for, and the copy `prev` it hands out has `next = some a`: that is
why `*prev.next = *head.next` then writes cell `a` (`Lemmas/C19Handles.lean: delete_cell`) -/
theorem deleteLoop_chain {h : Heap} {c : Nat} {r : List Nat} {z : Int} {zs : List Int} {a : Nat}
    (prev0 : Node) (hc : Chain h (c :: r) (z :: zs)) (hca : c ≠ a) (ha : a ∈ c :: r)
    (fuel : Nat) (hf : (c :: r).length < fuel) :
    ∃ pv, deleteLoop fuel h c a prev0 = .ok (a, ⟨pv, some a⟩) := by
  induction r generalizing c z zs prev0 fuel with
  | nil => exact absurd (List.mem_singleton.mp ha).symm hca
  | cons b bs ih =>
    obtain ⟨f, rfl⟩ := fuel_pos hf
    obtain ⟨y, ys, rfl, hcb, -⟩ := chain_cons hc.tail
    simp only [deleteLoop, hc.head_cell, List.head?_cons, hca, if_false]
    by_cases hba : b = a
    · subst hba
      obtain ⟨f', rfl⟩ := fuel_pos (Nat.lt_of_succ_lt_succ hf)
      refine ⟨z, ?_⟩
      simp only [deleteLoop, hcb]
      cases bs.head? <;> simp
    · exact ih _ hc.tail hba ((List.mem_cons.mp ha).resolve_left (Ne.symm hca)) f (Nat.lt_of_succ_lt_succ hf)

/-- `*a = *a.next` where `a` is the `i`-th cell: the chain loses its `i`-th value and its `(i+1)`-th CELL. -/
theorem takeoverAt_chain {h : Heap} {as xs} {i a s : Nat} {sn : Node}
    (hc : Chain h as xs) (hnd : as.Nodup) (hi : as[i]? = some a) (hs : as[i + 1]? = some s)
    (hsn : h[s]? = some sn) :
    Chain (h.set a sn) (as.eraseIdx (i + 1)) (xs.eraseIdx i) := by
  induction as generalizing xs i with
  | nil => simp at hi
  | cons b r ih =>
    obtain ⟨y, ys, rfl, hcb, hc⟩ := chain_cons hc
    have hbr := (List.nodup_cons.mp hnd).1
    cases i with
    | zero =>
      obtain rfl : b = a := by simpa using hi
      cases r with
      | nil => simp at hs
      | cons s' r' =>
        obtain rfl : s' = s := by simpa using hs
        obtain ⟨y', ys', rfl, hcs, hc⟩ := chain_cons hc
        obtain rfl : sn = ⟨y', r'.head?⟩ := Option.some.inj (hsn.symm.trans hcs)
        refine ⟨List.getElem?_set_self (lt_of_get hcb), hc.frame (fun c hc' => List.getElem?_set_ne ?_)⟩
        rintro rfl
        exact hbr (by simp [hc'])
    | succ k =>
      have hba : b ≠ a := fun q => hbr (q ▸ List.mem_of_getElem? hi)
      refine ⟨?_, ih hc (List.nodup_cons.mp hnd).2 hi hs⟩
      rw [List.getElem?_set_ne (Ne.symm hba), hcb]
      cases r with
      | nil => simp at hi
      | cons _ _ => rfl

end GoguVerif.Lemmas.C19.SList
