import GoguVerif.Lemmas.C19.Store
import GoguVerif.Lemmas.C19.Items
/-!
# C19 helper lemmas: positions

How positions move when one element is put into a list or taken out (`Spec.C19.moveIdx`), for the sequence and for the
list of cells that holds it.  The cells undergo the same edit as the sequence except where a struct copy displaces one:
`Tracks` says what is left of the correspondence (`Tracks.ins/del/append/dropLast` build it, `Tracks.pos/all` read it;
`del_tracks_single/double/head` are `Tracks.del` read at one position, for the three ways a cell goes).  Then `Allowed`
as the graph of `next` (`allowed_iff`; its twin for `AllowedH` is `allowedH_iff_nextH` in `Lemmas/C19/Items.lean`), the
value-addressed operations as handle operations at the first position of the value (`viaFind`), and the address `Find`
returns as the cell at that position (`DList.addrOf_eq_idx`).  Declared into `Lemmas.C19H`, the namespace of
`Lemmas/C19Handles.lean` and `Lemmas/C19Handles2.lean`, which put the methods together over these notions.
-/
namespace GoguVerif.Lemmas.C19H
open GoguVerif.Spec.C19 GoguVerif.Theorems.C19H

theorem eraseIdx_last {α : Type} (l : List α) (i : Nat) (hi : i + 1 = l.length) :
    l.eraseIdx i = l.dropLast :=
  List.eraseIdx_eq_dropLast hi

theorem head?_take_insert {α : Type} (l : List α) (k : Nat) (n : α) (hl : l ≠ []) :
    (l.take (k + 1) ++ n :: l.drop (k + 1)).head? = l.head? := by
  cases l with
  | nil => exact absurd rfl hl
  | cons _ _ => rfl

theorem nodup_take_insert {l : List Nat} (k n : Nat) (hnd : l.Nodup) (hn : n ∉ l) :
    (l.take k ++ n :: l.drop k).Nodup := by
  refine (List.perm_middle.nodup_iff).mpr ?_
  rw [List.take_append_drop]
  exact List.nodup_cons.mpr ⟨hn, hnd⟩

theorem nodup_snoc {l : List Nat} {n : Nat} (hnd : l.Nodup) (hn : n ∉ l) : (l ++ [n]).Nodup := by
  have := nodup_take_insert l.length n hnd hn
  rwa [List.take_length, List.drop_length] at this

theorem insert_tracks {α : Type} {l : List α} {p k : Nat} {n : α} (hp : p ≤ l.length) :
    (l.take p ++ n :: l.drop p)[if p ≤ k then k + 1 else k]? = l[k]? := by
  have hlt : (l.take p).length = p := List.length_take_of_le hp
  split
  · rw [List.getElem?_append_right (by omega), hlt, show k + 1 - p = (k - p) + 1 by omega,
      List.getElem?_cons_succ, List.getElem?_drop, show p + (k - p) = k by omega]
  · rw [List.getElem?_append_left (by omega), List.getElem?_take_of_lt (by omega)]

/-- where `moveIdx` follows a position through a removal: below the removed position it stays, above it moves down by
one — and it is neither in the two situations the specification excludes -/
theorem moveIdx_del {dbl : Bool} {p k j : Nat} (h : moveIdx dbl (.del p) k = some j) :
    k < p ∧ j = k ∨ p < k ∧ j + 1 = k ∧ (p = 0 → k ≠ 1) ∧ (dbl = false → k ≠ p + 1) := by
  simp only [moveIdx] at h
  by_cases h1 : k = p
  · rw [if_pos h1] at h; cases h
  rw [if_neg h1] at h
  by_cases h2 : k < p
  · rw [if_pos h2] at h; exact .inl ⟨h2, (Option.some.inj h).symm⟩
  rw [if_neg h2] at h
  by_cases h3 : p = 0 ∧ k = 1
  · rw [if_pos h3] at h; cases h
  rw [if_neg h3] at h
  by_cases h4 : (!dbl) = true ∧ k = p + 1
  · rw [if_pos h4] at h; cases h
  rw [if_neg h4] at h
  exact .inr ⟨by omega, by have := Option.some.inj h; omega, fun a b => h3 ⟨a, b⟩, fun a b => h4 ⟨by simp [a], b⟩⟩

/-- what `moveIdx` still follows through the removal at `p` is found again when the entry `q` is taken out: `q = p`, or
`q = p + 1` where `moveIdx` does not follow `p + 1` (`Tracks.del` says when the cells are such a list) -/
theorem eraseIdx_tracks {α : Type} {l : List α} {dbl : Bool} {p q k j : Nat}
    (hq : q = p ∨ q = p + 1 ∧ (p = 0 ∨ dbl = false)) (hm : moveIdx dbl (.del p) k = some j) :
    (l.eraseIdx q)[j]? = l[k]? := by
  rcases moveIdx_del hm with ⟨h1, rfl⟩ | ⟨h1, rfl, h0, hs⟩
  · exact List.getElem?_eraseIdx_of_lt (by omega)
  · refine List.getElem?_eraseIdx_of_ge ?_
    rcases hq with rfl | ⟨rfl, rfl | rfl⟩
    · omega
    · have := h0 rfl; omega
    · have := hs rfl; omega

/-- The cells the specification follows through the edit `e` are, in `as'`, at the positions `moveIdx` gives.  The
embedded head (position 0) is among them unless a new first element is put in: `ins 0` writes it into the head and
moves the old first element to a fresh cell. -/
def Tracks (dbl : Bool) (e : Edit) (as as' : List Nat) : Prop :=
  ∀ k b j, (e = .ins 0 → 1 ≤ k) → as[k]? = some b → moveIdx dbl e k = some j → as'[j]? = some b

theorem Tracks.refl {dbl : Bool} {as : List Nat} : Tracks dbl .none as as :=
  fun _ _ _ _ hk hm => by cases hm; exact hk

theorem Tracks.append {dbl : Bool} {as : List Nat} (c : Nat) : Tracks dbl .none as (as ++ [c]) :=
  fun _ _ _ _ hk hm => by cases hm; exact (List.getElem?_append_left (C19.lt_of_get hk)).trans hk

/-- a fresh cell goes in at `q`: at the position of the new element, or — for a new first element — behind the head -/
theorem Tracks.ins {dbl : Bool} {as : List Nat} {p q : Nat} (c : Nat) (hq : q = p ∨ p = 0 ∧ q = 1)
    (hl : q ≤ as.length) : Tracks dbl (.ins p) as (as.take q ++ c :: as.drop q) := by
  intro k b j h0 hk hm
  cases hm
  have := insert_tracks (l := as) (p := q) (k := k) (n := c) hl
  rcases hq with rfl | ⟨rfl, rfl⟩
  · exact this.trans hk
  · rw [if_pos (h0 rfl)] at this
    rw [if_pos (Nat.zero_le k)]
    exact this.trans hk

/-- the cell `q` goes: that of the removed element, or its successor's where the successor is copied over it (into the
embedded head always, into any cell of an `SList`) -/
theorem Tracks.del {dbl : Bool} {as : List Nat} {p q : Nat} (hq : q = p ∨ q = p + 1 ∧ (p = 0 ∨ dbl = false)) :
    Tracks dbl (.del p) as (as.eraseIdx q) :=
  fun _ _ _ _ hk hm => (eraseIdx_tracks hq hm).trans hk

theorem Tracks.of_if {dbl : Bool} {c : Prop} [Decidable c] {e : Edit} {as as' : List Nat}
    (h : Tracks dbl e as as') : Tracks dbl (if c then e else .none) as (if c then as' else as) := by
  split
  · exact h
  · exact Tracks.refl

/-- `Pop`: the last of `n` cells goes, unless it is the only one -/
theorem Tracks.dropLast {dbl : Bool} {as : List Nat} {n : Nat} (hn : as.length = n) :
    Tracks dbl (if n > 1 then .del (n - 1) else .none) as (if n > 1 then as.dropLast else as) := by
  subst hn
  rw [← List.eraseIdx_length_sub_one]
  exact (Tracks.del (.inl rfl)).of_if

/-- the clause as the theorems about kept handles spell it -/
theorem Tracks.pos {dbl : Bool} {e : Edit} {as as' : List Nat} (h : Tracks dbl e as as') :
    ∀ k b j, 1 ≤ k → as[k]? = some b → moveIdx dbl e k = some j → as'[j]? = some b :=
  fun k b j hk => h k b j (fun _ => hk)

/-- unless a new first element is put in, the embedded head is followed as well -/
theorem Tracks.all {dbl : Bool} {e : Edit} {as as' : List Nat} (h : Tracks dbl e as as') (he : e ≠ .ins 0) :
    ∀ k b j, as[k]? = some b → moveIdx dbl e k = some j → as'[j]? = some b :=
  fun k b j => h k b j (fun q => absurd q he)

/-- what `Tracks.all` asks of the edit of a `Delete` through a handle -/
theorem editOfH_delete_ne {xs : List Int} {i p : Nat} : editOfH xs (HShape.delete.at i) ≠ .ins p := by
  show (if xs.length > 1 then Edit.del i else .none) ≠ .ins p
  split <;> nofun

/-- following a position through "the cell AFTER the deleted one disappears" (`SList`: `eraseIdx (i+1)`), resp. "the
last cell disappears" -/
theorem del_tracks_single {l : List Nat} {i k b j : Nat} (hk : l[k]? = some b) (hi : i < l.length)
    (hm : moveIdx false (.del i) k = some j) :
    (if i + 1 < l.length then l.eraseIdx (i + 1) else l.dropLast)[j]? = some b := by
  split
  · exact (Tracks.del (.inr ⟨rfl, .inr rfl⟩)).all nofun k b j hk hm
  · rw [← eraseIdx_last l i (by omega)]
    exact (Tracks.del (.inl rfl)).all nofun k b j hk hm

theorem del_tracks_double {l : List Nat} {i k b j : Nat} (hk : l[k]? = some b) (_hi : 1 ≤ i)
    (hm : moveIdx true (.del i) k = some j) : (l.eraseIdx i)[j]? = some b :=
  (Tracks.del (.inl rfl)).all nofun k b j hk hm

/-- following a position `k ≥ 1` through a head deletion (the SECOND cell disappears, both list types) -/
theorem del_tracks_head {l : List Nat} {dbl : Bool} {k b j : Nat} (hk : l[k]? = some b)
    (hm : moveIdx dbl (.del 0) k = some j) : (l.eraseIdx 1)[j]? = some b :=
  (Tracks.del (.inr ⟨rfl, .inl rfl⟩)).all nofun k b j hk hm

theorem mem_of_idxOf? {xs : List Int} {x : Int} {p : Nat} (h : xs.idxOf? x = some p) : x ∈ xs :=
  List.isSome_idxOf?.mp (Option.isSome_of_eq_some h)

theorem idxOf?_of_mem {xs : List Int} {x : Int} (hx : x ∈ xs) : ∃ p, xs.idxOf? x = some p :=
  Option.isSome_iff_exists.mp (List.isSome_idxOf?.mpr hx)

/-- `insertAfterFirst` (`d = 1`) and `insertBeforeFirst` (`d = 0`) walk to the first `x` and put `v` in `d` places behind
it; `g` is either of them, given by its equation -/
theorem insertFirst_eq {x v : Int} {g : List Int → List Int} (d : Nat)
    (hg : ∀ y r, g (y :: r) = if y = x then (y :: r).take d ++ v :: (y :: r).drop d else y :: g r) :
    ∀ {xs : List Int} {p : Nat}, xs.idxOf? x = some p → g xs = xs.take (p + d) ++ v :: xs.drop (p + d)
  | [], _, h => by simp at h
  | y :: r, p, h => by
    simp only [List.idxOf?_cons, beq_iff_eq] at h
    rw [hg]
    by_cases hy : y = x
    · rw [if_pos hy] at h ⊢
      rw [← Option.some.inj h, Nat.zero_add]
    · rw [if_neg hy] at h ⊢
      obtain ⟨q, hq, rfl⟩ := Option.map_eq_some_iff.mp h
      rw [insertFirst_eq d hg hq, Nat.add_right_comm]
      rfl

theorem insertAfterFirst_eq {x v : Int} {xs : List Int} {p : Nat} (h : xs.idxOf? x = some p) :
    insertAfterFirst x v xs = xs.take (p + 1) ++ v :: xs.drop (p + 1) :=
  insertFirst_eq 1 (fun _ _ => rfl) h

theorem insertBeforeFirst_eq {x v : Int} {xs : List Int} {p : Nat} (h : xs.idxOf? x = some p) :
    insertBeforeFirst x v xs = xs.take p ++ v :: xs.drop p :=
  insertFirst_eq 0 (fun _ _ => rfl) h

theorem erase_eq_eraseIdx {x : Int} {xs : List Int} {p : Nat} (h : xs.idxOf? x = some p) :
    xs.erase x = xs.eraseIdx p := by
  rw [List.erase_eq_eraseIdx, h]

/-- an answer and a sequence prescribed under a condition, as one pair -/
theorem pair_ite {c : Prop} [Decidable c] {ans a a' : Ans} {xs' b b' : List Int} :
    (if c then ans = a ∧ xs' = b else ans = a' ∧ xs' = b') ↔ (ans, xs') = if c then (a, b) else (a', b') := by
  split <;> exact ⟨fun ⟨h1, h2⟩ => by rw [h1, h2], fun h => Prod.mk.inj h⟩

/-- `Allowed` is the graph of `next`, except that `Shift` on a one-element list may also leave `[0]` (`DList.Shift`
resets the value) -/
theorem allowed_iff {sv : Bool} {xs xs' : List Int} {op : Op} {ans : Ans} :
    Allowed sv xs op ans xs' ↔
      (ans, xs') = next sv xs op ∨ op = .shift ∧ ¬ xs.length > 1 ∧ (ans, xs') = ((next sv xs op).1, [0]) := by
  cases op with
  | shift =>
    simp only [Allowed, next, Prod.mk.injEq, true_and]
    rw [← apply_ite (fun a => ans = a)]
    by_cases hl : xs.length > 1
    · simp only [hl, if_true, not_true, false_and, or_false]
    · simp only [hl, if_false, not_false_iff, true_and, and_or_left]
  | insertAfter x v | insertBefore x v | replace o n =>
    simp only [reduceCtorEq, false_and, or_false]
    exact pair_ite
  | delete x =>
    simp only [Allowed, next, reduceCtorEq, false_and, or_false]
    by_cases hx : x ∈ xs
    · simp only [if_pos hx]
      exact pair_ite
    · simp only [if_neg hx, Prod.mk.injEq]
  | _ => simp only [Allowed, next, Prod.mk.injEq, reduceCtorEq, false_and, or_false]

/-- the three operations that look a value up and then work through the handle `Find` gives -/
def viaFind : Op → Option (Int × HShape)
  | .insertAfter x v => some (x, .insertAfter v)
  | .insertBefore x v => some (x, .insertBefore v)
  | .delete x => some (x, .delete)
  | _ => none

/-- an operation that looks a value up (`viaFind`) is specified as the handle operation at the first position of the
value, and answers `notFound` where there is none -/
theorem next_viaFind {sv : Bool} {xs : List Int} {op : Op} {x : Int} {s : HShape} (h : viaFind op = some (x, s)) :
    (next sv xs op, editOf xs op) = match xs.idxOf? x with
      | some p => (nextH xs (s.at p), editOfH xs (s.at p))
      | none => ((.notFound, xs), .none) := by
  cases op with
  | insertAfter y v =>
    cases h
    cases e : xs.idxOf? x with
    | none => simp only [next, editOf, e, if_neg (List.idxOf?_eq_none_iff.mp e)]
    | some p => simp only [next, editOf, e, if_pos (mem_of_idxOf? e), insertAfterFirst_eq e]; rfl
  | insertBefore y v =>
    cases h
    cases e : xs.idxOf? x with
    | none => simp only [next, editOf, e, if_neg (List.idxOf?_eq_none_iff.mp e)]
    | some p => simp only [next, editOf, e, if_pos (mem_of_idxOf? e), insertBeforeFirst_eq e]; rfl
  | delete y =>
    cases h
    cases e : xs.idxOf? x with
    | none => simp only [next, editOf, e, if_neg (List.idxOf?_eq_none_iff.mp e)]
    | some p => simp only [next, editOf, e, if_pos (mem_of_idxOf? e), erase_eq_eraseIdx e]; rfl
  | _ => cases h

end GoguVerif.Lemmas.C19H

namespace GoguVerif.Lemmas.C19H.DList
open GoguVerif.Lemmas.C19.DList

/-- the address `Find` returns is the cell at the first position of the value -/
theorem addrOf_eq_idx {x : Int} {as : List Nat} {xs : List Int} (hl : as.length = xs.length) :
    addrOf x as xs = (xs.idxOf? x).bind (fun p => as[p]?) := by
  induction as generalizing xs with
  | nil => cases xs <;> simp_all [addrOf]
  | cons a as ih =>
    cases xs with
    | nil => simp at hl
    | cons y ys =>
      rw [addrOf, List.idxOf?_cons]
      by_cases e : y = x
      · simp [e]
      · rw [if_neg e, ih (Nat.succ.inj hl), show (y == x) = false by simpa using e]
        cases ys.idxOf? x <;> rfl

end GoguVerif.Lemmas.C19H.DList
