import GoguVerif.Lemmas.C19.DList
/-!
# C19 helper lemmas: the surgery of the `DList` methods at the head, the loops, the observers

The head taking over its successor (`Shift`, `Delete` of the first element) and a new head in front (`Unshift`,
`InsertBefore` the first element), both repaired by `relink`; the loops of `Pop` and `Replace`; `First`, `Last`.
The surgery at the `i`-th cell, `Append` included, is in `Lemmas/C19/DListMid.lean`; `Lemmas/C19Handles2.lean` puts the
methods together.
-/
namespace GoguVerif.Lemmas.C19.DList
open GoguVerif.Model GoguVerif.Model.DList
open GoguVerif.Spec.C19 (next)

/-- `Shift`, and `Delete` of the first element: the head takes over its successor, `relink` repairs -/
theorem takeover_head {h : Heap} {b : Nat} {bs : List Nat} {x y : Int} {ys : List Int}
    (r : Repr h (0 :: b :: bs) (x :: y :: ys)) :
    ∃ bn h', h[b]? = some bn ∧ relink (h.set 0 bn) = .ok h' ∧ Repr h' (0 :: bs) (y :: ys) := by
  have h0 := r.chain.head_cell
  have hn0 := (List.nodup_cons.mp r.nodup).1
  have hnd' : (0 :: bs).Nodup := ((List.sublist_cons_self b bs).cons_cons 0).nodup r.nodup
  have hL : LChain (h.set 0 ⟨y, bs.head?, some 0⟩) 3 none (0 :: bs) (y :: ys) := by
    refine ⟨⟨_, List.getElem?_set_self (lt_of_get h0)⟩,
      (r.chain.tail.tail.frame (fun d hd => List.getElem?_set_ne ?_)).forgetPrev 1⟩
    rintro rfl
    exact hn0 (by simp [hd])
  obtain ⟨h', hr, hrep⟩ := relink_chain hnd' rfl hL
  exact ⟨_, h', r.chain.tail.head_cell, hr, hrep⟩

/-- `Unshift` (and `InsertBefore` the first element): once the new value is in the embedded head and the old first
element in a fresh cell `n`, `relink` makes the store a list again -/
theorem relink_front {h hf : Heap} {as' : List Nat} {x v : Int} {xs' : List Int} {n : Nat}
    (r : Repr h (0 :: as') (x :: xs')) (hn : h.length ≤ n)
    (h0 : hf[0]? = some ⟨v, some n, none⟩) (hfn : hf[n]? = some ⟨x, as'.head?, none⟩)
    (hsame : ∀ b ∈ as', hf[b]? = h[b]?) :
    ∃ h', relink hf = .ok h' ∧ Repr h' (0 :: n :: as') (v :: x :: xs') := by
  have hlt := r.chain.lt_length
  have hl0 := hlt 0 (by simp)
  have hnd : (0 :: n :: as').Nodup := by
    refine List.nodup_cons.mpr ⟨?_, List.nodup_cons.mpr ⟨fun hm => ?_, (List.nodup_cons.mp r.nodup).2⟩⟩
    · simp only [List.mem_cons, not_or]
      exact ⟨by omega, (List.nodup_cons.mp r.nodup).1⟩
    · have := hlt n (List.mem_cons_of_mem _ hm)
      omega
  exact relink_chain hnd rfl ⟨⟨_, h0⟩, ⟨_, hfn⟩, (r.chain.tail.frame hsame).forgetPrev 0⟩

/-- `InsertBefore` the first element: the new value is written into the embedded head, the old first element moves to
the fresh cell `h.length + 1` (the copy `head`), the cell `h.length` (`newNode`) is garbage -/
theorem insertBeforeLink_head {h : Heap} {as' : List Nat} {x v : Int} {xs' : List Int}
    (r : Repr h (0 :: as') (x :: xs')) :
    ∃ h', insertBeforeLink h ⟨x, as'.head?, none⟩ 0 ⟨x, as'.head?, none⟩ v = .ok (h', .ok) ∧
      Repr h' (0 :: (h.length + 1) :: as') (v :: x :: xs') := by
  have hlt := r.chain.lt_length
  have hl0 := hlt 0 List.mem_cons_self
  -- the store after `newNode.prev = node.prev; node.prev = newNode; newNode.next = node`, plus the escaping copy `head`
  obtain ⟨h2, e2⟩ : ∃ h2, h2 = (h ++ [(⟨v, some 0, none⟩ : Node)]).set 0 ⟨x, as'.head?, some h.length⟩ ++
      [(⟨x, as'.head?, none⟩ : Node)] := ⟨_, rfl⟩
  have hl2 : h2.length = h.length + 1 + 1 := by simp [e2]
  have hnew : h2[h.length]? = some ⟨v, some 0, none⟩ := by
    rw [e2, List.getElem?_append_left (by simp), get_set_new hl0]
  have hahead : h2[h.length + 1]? = some ⟨x, as'.head?, none⟩ := by
    rw [e2, show h.length + 1 = ((h ++ [(⟨v, some 0, none⟩ : Node)]).set 0 ⟨x, as'.head?, some h.length⟩).length by
      simp, List.getElem?_concat_length]
  have hold : ∀ b ∈ as', h2[b]? = h[b]? := fun b hb => by
    have hb0 : b ≠ 0 := fun e => (List.nodup_cons.mp r.nodup).1 (e ▸ hb)
    have hbl := hlt b (List.mem_cons_of_mem _ hb)
    rw [e2, List.getElem?_append_left (lt_length_set_append hbl), get_set_append hb0 hbl]
  obtain ⟨h', hr, hrep⟩ := relink_front (v := v) r (Nat.le_succ _)
    (hf := (h2.set h.length ⟨v, some (h.length + 1), none⟩).set 0 ⟨v, some (h.length + 1), none⟩)
    (List.getElem?_set_self (by rw [List.length_set, hl2]; exact Nat.succ_pos _))
    (by rw [List.getElem?_set_ne (Nat.succ_ne_zero _).symm, List.getElem?_set_ne (Nat.ne_of_lt (Nat.lt_succ_self _)), hahead])
    (fun b hb => by
      have hb0 : b ≠ 0 := fun e => (List.nodup_cons.mp r.nodup).1 (e ▸ hb)
      have hbl := hlt b (List.mem_cons_of_mem _ hb)
      rw [List.getElem?_set_ne (Ne.symm hb0), List.getElem?_set_ne (Nat.ne_of_gt hbl), hold b hb])
  refine ⟨h', ?_, hrep⟩
  simp only [insertBeforeLink, load, List.length_set, List.length_append, List.length_cons,
    List.length_nil, Nat.zero_add, ← e2, hnew, ListRes.ok_bind,
    List.getElem?_set_self (show h.length < h2.length from hl2 ▸ Nat.lt_succ_of_lt (Nat.lt_succ_self _)), hr]
  rfl

/-- `node` is the loop's copy of the cell it stands on (`node = *tmp`): on entry it carries the value of cell `a` -/
theorem popLoop_chain {h : Heap} {p : Option Nat} {a b : Nat} {bs : List Nat} {x y : Int} {ys : List Int}
    (node : Node) (hnode : node.val = x)
    (hc : Chain h p (a :: b :: bs) (x :: y :: ys)) (hnd : (a :: b :: bs).Nodup)
    (fuel : Nat) (hf : (a :: b :: bs).length < fuel) :
    ∃ t tn nd, popLoop fuel h a node = .ok (t, nd) ∧ h[t]? = some tn ∧ t ∈ (a :: b :: bs).dropLast ∧
      nd.val = ((x :: y :: ys).dropLast).getLast?.getD 0 ∧
      Chain (h.set t { tn with next := none }) p ((a :: b :: bs).dropLast) ((x :: y :: ys).dropLast) := by
  induction bs generalizing p a b x y ys fuel node with
  | nil =>
    obtain ⟨f, rfl⟩ := fuel_pos hf
    obtain rfl := chain_nil.mp hc.tail.tail
    exact ⟨a, _, node, by simp [popLoop, hc.head_cell, hc.tail.head_cell], hc.head_cell, by simp, by simp [hnode],
      List.getElem?_set_self (lt_of_get hc.head_cell), trivial⟩
  | cons c cs ih =>
    obtain ⟨f, rfl⟩ := fuel_pos hf
    obtain ⟨z, zs, rfl, -, -⟩ := chain_cons hc.tail.tail
    obtain ⟨t, tn, nd, hp, ht, htm, hval, hch⟩ :=
      ih ⟨y, some c, some a⟩ rfl hc.tail (List.nodup_cons.mp hnd).2 f (Nat.lt_of_succ_lt_succ hf)
    have hta : t ≠ a := by
      rintro rfl
      exact (List.nodup_cons.mp hnd).1 ((List.dropLast_sublist _).subset htm)
    exact ⟨t, tn, nd, by simpa [popLoop, hc.head_cell, hc.tail.head_cell] using hp, ht, List.mem_cons_of_mem _ htm,
      by simpa [List.dropLast, List.getLast?_cons_cons] using hval,
      (List.getElem?_set_ne hta).trans hc.head_cell, hch⟩

theorem first_repr {h : Heap} {as xs} (r : Repr h as xs) : first h = .ok (xs.head?.getD 0) := by
  obtain ⟨as', x, xs', rfl, rfl, h0, -⟩ := r.cons
  simp [first, load, h0]

theorem last_repr {h : Heap} {as xs} (r : Repr h as xs) : last h = .ok (xs.getLast?.getD 0) := by
  obtain ⟨as', x, xs', rfl, rfl, -⟩ := r.cons
  have hla := lastAddr_chain r.chain (h.length + 1) (Nat.lt_of_succ_lt r.fuel)
  obtain ⟨q, hq⟩ := last_cell r.chain (by simp)
  simp only [last, hla, ListRes.ok_bind, load, hq, ListRes.pure_eq]

/-- as `SList.replaceLoop_cell` -/
theorem replaceLoop_cell {h : Heap} {a : Nat} {y : Int} {nx p : Option Nat} (e : h[a]? = some ⟨y, nx, p⟩)
    (f : Nat) (o n : Int) :
    replaceLoop (f + 1) h a o n = if y = o then .ok (h.set a ⟨n, nx, p⟩, .ok) else
      match (generalizing := false) nx with
      | none => .ok (h, .err)
      | some b => replaceLoop f h b o n := by
  cases nx <;> simp only [replaceLoop, e]

/-- as `SList.replaceLoop_chain` -/
theorem replaceLoop_chain {h : Heap} {p : Option Nat} {a : Nat} {as : List Nat} {y : Int} {ys : List Int}
    (o n : Int) (sv : Bool) (hc : Chain h p (a :: as) (y :: ys)) (hnd : (a :: as).Nodup) (fuel : Nat)
    (hf : (a :: as).length < fuel) :
    ∃ h', replaceLoop fuel h a o n = .ok (h', (next sv (y :: ys) (.replace o n)).1) ∧
      Chain h' p (a :: as) (next sv (y :: ys) (.replace o n)).2 ∧ (∀ c, c ∉ a :: as → h'[c]? = h[c]?) := by
  induction fuel generalizing p a as y ys with
  | zero => cases hf
  | succ f ih =>
    have hna := (List.nodup_cons.mp hnd).1
    rw [replaceLoop_cell hc.head_cell, next_replace_cons]
    by_cases hy : y = o
    · rw [if_pos hy, if_pos hy]
      refine ⟨_, rfl, ⟨List.getElem?_set_self (lt_of_get hc.head_cell),
        hc.tail.frame (fun c hc' => List.getElem?_set_ne ?_)⟩, fun c hc' => List.getElem?_set_ne ?_⟩
      · rintro rfl
        exact hna hc'
      · rintro rfl
        exact hc' (by simp)
    · rw [if_neg hy, if_neg hy]
      cases as with
      | nil =>
        obtain rfl := chain_nil.mp hc.tail
        exact ⟨h, rfl, hc, fun _ _ => rfl⟩
      | cons b bs =>
        obtain ⟨z, zs, rfl, -, -⟩ := chain_cons hc.tail
        obtain ⟨h', hr, hch, hfr⟩ := ih hc.tail (List.nodup_cons.mp hnd).2 (Nat.lt_of_succ_lt_succ hf)
        exact ⟨h', hr, ⟨(hfr a hna).trans hc.head_cell, hch⟩, fun c hc' => hfr c (mt (List.mem_cons_of_mem _) hc')⟩

theorem replace_repr {h : Heap} {as xs} (r : Repr h as xs) (o n : Int) (sv : Bool) :
    ∃ h', replace h o n = .ok (h', (next sv xs (.replace o n)).1) ∧ Repr h' as (next sv xs (.replace o n)).2 := by
  obtain ⟨as', x, xs', rfl, rfl, -⟩ := r.cons
  obtain ⟨h', hr, hch, -⟩ := replaceLoop_chain o n sv r.chain r.nodup (h.length + 1) r.fuel
  exact ⟨h', hr, r.head, r.nodup, hch⟩

end GoguVerif.Lemmas.C19.DList
