/-!
# Looking claims up in a table (C16)

The checks `covered…_agree_with_table` say that every claim of a list has a matching entry in the regenerated effect
table.  `foundAt` decides that, and `all_any_of_foundAt` turns its answer into the `all`/`any` form of the statements.
-/
namespace GoguVerif.Lemmas.C16Table

/-- `cs.all (fun c => tbl.any (p · c))`, looking first where a hint points.  The `k`-th hint is the position at which
the entry of the `k`-th claim stood in `Gen/Effects.lean` when the list of claims was written; an entry that does not
match there, a position outside the table or a missing hint leads to a scan of the whole table, so hints change the
work and never the answer.  They are there because evaluating `tbl.any` pays one comparison of names for every entry
in front of the matching one, and nearly all of the evaluation is such failing comparisons. -/
def foundAt {α β : Type} (tbl : List α) (p : α → β → Bool) : List β → List Nat → Bool
  | [], _ => true
  | c :: cs, [] => tbl.any (p · c) && foundAt tbl p cs []
  | c :: cs, i :: is =>
    (match tbl[i]? with
      | some e => p e c || tbl.any (p · c)
      | none => tbl.any (p · c)) && foundAt tbl p cs is

theorem all_any_of_foundAt {α β : Type} {tbl : List α} {p : α → β → Bool} {cs : List β} (hints : List Nat)
    (h : foundAt tbl p cs hints = true) : cs.all (fun c => tbl.any (fun e => p e c)) = true := by
  induction cs generalizing hints with
  | nil => rfl
  | cons c cs ih =>
    have key : tbl.any (p · c) = true ∧ ∃ is, foundAt tbl p cs is = true := by
      cases hints with
      | nil =>
        simp only [foundAt, Bool.and_eq_true] at h
        exact ⟨h.1, [], h.2⟩
      | cons i is =>
        simp only [foundAt, Bool.and_eq_true] at h
        refine ⟨?_, is, h.2⟩
        have h1 := h.1
        split at h1
        · rename_i e he
          rcases (Bool.or_eq_true _ _).mp h1 with h2 | h2
          · exact List.any_eq_true.mpr ⟨e, List.mem_of_getElem? he, h2⟩
          · exact h2
        · exact h1
    obtain ⟨k1, is, k2⟩ := key
    rw [List.all_cons, k1, ih is k2]; rfl

end GoguVerif.Lemmas.C16Table
