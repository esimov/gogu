/-!
# The de-duplicating loop

`Unique`, `UniqueBy`, `Difference`, `Without`, `DifferenceBy`, `Intersection`, `IntersectionBy` (slice.go)
and `MapUnique` (map.go) are one loop: walk the input, skip what does not qualify, skip what has an image
already recorded, else record the image and append the element.  What it computes is `firstByG f` of the
qualifying elements.
-/
namespace GoguVerif.Lemmas.Dedup

variable {α β : Type} [DecidableEq β]

/-- `Spec.C11.firstBy` for a key function into any type (`MapUnique` keys entries by their value) -/
def firstByG (f : α → β) : List α → List α
  | [] => []
  | x :: r => x :: (firstByG f r).filter (fun y => decide (f y ≠ f x))

theorem filter_const_true {γ : Type} (l : List γ) : l.filter (fun _ => true) = l :=
  List.filter_eq_self.mpr fun _ _ => rfl

theorem firstByG_sublist (f : α → β) (s : List α) : (firstByG f s).Sublist s := by
  induction s with
  | nil => exact .slnil
  | cons x r ih => exact (List.filter_sublist.trans ih).cons_cons x

theorem mem_firstByG_image (f : α → β) (s : List α) (y : β) :
    y ∈ (firstByG f s).map f ↔ y ∈ s.map f := by
  induction s with
  | nil => rfl
  | cons x r ih =>
    rw [firstByG, List.map_cons, List.map_cons, List.mem_cons, List.mem_cons, ← ih]
    by_cases hy : y = f x
    · simp only [hy, true_or]
    · simp only [hy, false_or, List.mem_map, List.mem_filter, decide_eq_true_eq]
      exact ⟨fun ⟨a, ⟨ha, _⟩, e⟩ => ⟨a, ha, e⟩, fun ⟨a, ha, e⟩ => ⟨a, ⟨ha, e ▸ hy⟩, e⟩⟩

theorem firstByG_pairwise (f : α → β) (s : List α) :
    (firstByG f s).Pairwise (fun a b => f a ≠ f b) := by
  induction s with
  | nil => exact .nil
  | cons x r ih =>
    refine List.pairwise_cons.mpr ⟨fun a ha => ?_, ih.sublist List.filter_sublist⟩
    exact fun h => of_decide_eq_true (List.mem_filter.mp ha).2 h.symm

theorem firstByG_cons_filter (f : α → β) (k : List β) (v : α) (l : List α) :
    (firstByG f (v :: l)).filter (fun y => decide (f y ∉ k)) =
      if f v ∈ k then (firstByG f l).filter (fun y => decide (f y ∉ k))
      else v :: (firstByG f l).filter (fun y => decide (f y ∉ f v :: k)) := by
  rw [firstByG, List.filter_cons, List.filter_filter]
  by_cases h : f v ∈ k
  · rw [if_pos h, if_neg (mt of_decide_eq_true (not_not_intro h))]
    refine List.filter_congr fun a _ => Bool.and_eq_left_iff_imp.mpr fun ha => ?_
    exact decide_eq_true fun e => of_decide_eq_true ha (e ▸ h)
  · rw [if_neg h, if_pos (decide_eq_true h)]
    congr 1
    refine List.filter_congr fun a _ => ?_
    rw [← Bool.decide_and]
    exact decide_eq_decide.mpr (by rw [List.mem_cons, not_or, and_comm])

theorem firstByG_filter (f : α → β) (p : α → Bool) (hp : ∀ a b, f a = f b → p a = p b) (s : List α) :
    firstByG f (s.filter p) = (firstByG f s).filter p := by
  induction s with
  | nil => rfl
  | cons x r ih =>
    rw [List.filter_cons, firstByG, List.filter_cons, List.filter_filter]
    cases hx : p x
    · rw [if_neg Bool.false_ne_true, if_neg Bool.false_ne_true, ih]
      refine List.filter_congr fun a _ => ?_
      by_cases h : f a = f x
      · simp [hp a x h, hx]
      · simp [h]
    · rw [if_pos rfl, if_pos rfl, firstByG, ih, List.filter_filter]
      congr 1
      exact List.filter_congr fun a _ => Bool.and_comm _ _

/-- `L keys result rest`: any loop with the two equations below (`q`: the element is not skipped), run
from the empty state.  The step equation may assume the two things every such loop maintains: `keys` holds
the images of `result` (`Intersection(By)` has no `keys` and tests `result` instead), and `result` followed
by what is left is a subsequence of the input (`MapUnique` stores with `m[k] = v`, which appends because the
keys of the input are distinct).  From any state, what is still appended is `firstByG` of the qualifying
rest without the images in `keys` (`run`). -/
theorem dedupLoop_eq (f : α → β) (q : α → Bool) (L : List β → List α → List α → List α) (s0 : List α)
    (hnil : ∀ k r, L k r [] = r)
    (hcons : ∀ k r v s, (∀ x, x ∈ k ↔ x ∈ r.map f) → (r ++ v :: s).Sublist s0 →
      L k r (v :: s) =
        if q v = true then if f v ∈ k then L k r s else L (f v :: k) (r ++ [v]) s else L k r s) :
    L [] [] s0 = firstByG f (s0.filter q) := by
  have run : ∀ s k r, (∀ x, x ∈ k ↔ x ∈ r.map f) → (r ++ s).Sublist s0 →
      L k r s = r ++ (firstByG f (s.filter q)).filter (fun y => decide (f y ∉ k)) := by
    intro s
    induction s with
    | nil => intro k r _ _; rw [hnil]; exact (List.append_nil r).symm
    | cons v s ih =>
      intro k r hk ht
      have hk' : ∀ x, x ∈ f v :: k ↔ x ∈ (r ++ [v]).map f := fun x => by
        rw [List.mem_cons, hk, List.map_append, List.mem_append, List.map_singleton, List.mem_singleton,
          or_comm]
      have ht' : (r ++ s).Sublist s0 :=
        (List.Sublist.append_left (List.sublist_cons_self v s) r).trans ht
      rw [hcons k r v s hk ht, List.filter_cons]
      by_cases hq : q v = true
      · rw [if_pos hq, if_pos hq, firstByG_cons_filter]
        by_cases hv : f v ∈ k
        · rw [if_pos hv, if_pos hv, ih k r hk ht']
        · rw [if_neg hv, if_neg hv, ih _ _ hk' (List.append_cons r v s ▸ ht), List.append_assoc]; rfl
      · rw [if_neg hq, if_neg hq, ih k r hk ht']
  rw [run s0 [] [] (fun _ => Iff.rfl) (List.Sublist.refl _)]
  exact filter_const_true _

theorem dedupLoop_all (f : α → β) (L : List β → List α → List α → List α) (s0 : List α)
    (hnil : ∀ k r, L k r [] = r)
    (hcons : ∀ k r v s, (∀ x, x ∈ k ↔ x ∈ r.map f) → (r ++ v :: s).Sublist s0 →
      L k r (v :: s) = if f v ∈ k then L k r s else L (f v :: k) (r ++ [v]) s) :
    L [] [] s0 = firstByG f s0 :=
  (dedupLoop_eq f (fun _ => true) L s0 hnil fun k r v s hk hs =>
    (hcons k r v s hk hs).trans (if_pos rfl).symm).trans (congrArg _ (filter_const_true s0))

end GoguVerif.Lemmas.Dedup
