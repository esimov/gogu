import GoguVerif.Lemmas.C20T2
/-!
# C20 — helper lemmas: the trailing timer's callback as it is in the code, and the spacing of the permissions

`fireCode` (the callback `trail` of func.go statement by statement) gets its equations here.  With punctual
timers it is `fire` (`tstepCode_eq`; for whole runs `Theorems/C20Late.lean: trunCode_eq_trun`): at the deadline of a timer of a reachable state its two extra tests are
no-ops.

`Spaced` is what the spacing of the permissions rests on: a permission waits or is handed out only when the
period that began with the last one is over.  It is kept by every transition function of the code (`tcall`,
`tnext`, `tcancel`, the passage of time, `fireCode` run at ANY instant), so it holds however late the runtime
runs the callback (`lateRun_spaced`), and in the punctual model, where `fire` is `fireCode` (`trun_reach`).
Like `TInv` it is stated over the components of the state it reads.  `Reach` bundles what every state between two
steps of the punctual model satisfies (`TInv`, `Spaced`, `Strict`); a proof that follows a run step by step carries it
instead of the history.
-/
namespace GoguVerif.Lemmas.C20Code
open GoguVerif.Spec.C20 GoguVerif.Model.C20 GoguVerif.Lemmas.C20T GoguVerif.Lemmas.C20T2

theorem fireCode_skip {s : TState} (cfg : TCfg) (ch : Choice) (sc : Sched) (h : s.stop = true ∨ s.waiting = true) :
    fireCode cfg ch s sc = { s with scheduled := none } := by
  unfold fireCode; exact if_pos h

theorem fireCode_rearm {s : TState} (cfg : TCfg) (ch : Choice) (sc : Sched) {l : Int}
    (hc : ¬ (s.stop = true ∨ s.waiting = true)) (hl : s.last = some l) (hin : s.now - l < cfg.dur) :
    fireCode cfg ch s sc = { s with
      scheduled := some { deadline := s.now + (cfg.dur - (s.now - l)), ctime := sc.ctime, cepoch := sc.cepoch } } := by
  unfold fireCode
  dsimp only
  rw [if_neg hc, hl]
  exact if_pos hin

theorem fireCode_wake {s : TState} (cfg : TCfg) (ch : Choice) (sc : Sched)
    (hc : ¬ (s.stop = true ∨ s.waiting = true)) (h : ∀ l, s.last = some l → cfg.dur ≤ s.now - l) :
    fireCode cfg ch s sc = wake ch { s with scheduled := none } (sc.ctime, sc.cepoch) := by
  unfold fireCode
  dsimp only
  rw [if_neg hc]
  cases hl : s.last with
  | none => rfl
  | some l => exact if_neg (Int.not_lt.mpr (h l hl))

/-- the two extra tests of `trail` are no-ops when no permission waits and the period is over -/
theorem fireCode_eq_fire {s : TState} (cfg : TCfg) (ch : Choice) (sc : Sched) (hw : s.waiting = false)
    (h : ∀ l, s.last = some l → cfg.dur ≤ s.now - l) : fireCode cfg ch s sc = fire ch s sc := by
  rcases Bool.eq_false_or_eq_true s.stop with hs | hs
  · rw [fireCode_skip cfg ch sc (Or.inl hs), fire_stop ch sc hs]
  · rw [fireCode_wake cfg ch sc (by rw [hs, hw]; decide) h, fire_wake ch sc hs]

theorem advanceToCode_noop (cfg : TCfg) (ch : Choice) (f : Nat) (s : TState) (t : Int)
    (h : ∀ sc, s.scheduled = some sc → t < sc.deadline) : advanceToCode cfg ch f s t = { s with now := t } := by
  cases f with
  | zero => rfl
  | succ f =>
    unfold advanceToCode
    split
    · rename_i sc hsc
      exact if_neg (Int.not_le.mpr (h sc hsc))
    · rfl

theorem advanceToCode_fire {s : TState} (cfg : TCfg) (ch : Choice) (f : Nat) {sc : Sched} (t : Int)
    (hsc : s.scheduled = some sc) (ht : sc.deadline ≤ t) :
    advanceToCode cfg ch (f + 1) s t =
      advanceToCode cfg ch f (fireCode cfg ch { s with now := max s.now sc.deadline } sc) t := by
  rw [advanceToCode, hsc]; exact if_pos ht

/-- the two extra tests of `trail` are no-ops at the deadline of a timer of a reachable state.  Fuel `f + 2`: one
unit runs `trail`, which then grants and does not re-arm, one finds no timer pending. -/
theorem advanceToCode_eq {cfg : TCfg} {s : TState} (ch : Choice) (f : Nat) (target : Int) (h : TInv cfg s) :
    advanceToCode cfg ch (f + 2) s target = advanceTo ch s target := by
  rcases due_cases s target with hd | ⟨sc, hsc, hd⟩
  · rw [advanceToCode_noop cfg ch _ s target hd, advanceTo_noop ch s target hd]
  · have hS := h.sched sc hsc
    rw [advanceToCode_fire cfg ch (f + 1) target hsc hd,
      fireCode_eq_fire (s := { s with now := max s.now sc.deadline }) cfg ch sc hS.idle hS.period_over,
      advanceToCode_noop cfg ch _ _ target (fun sc' h' => by rw [fire_scheduled] at h'; cases h'),
      advanceTo_due ch target hsc hd]

theorem tstepCode_eq {cfg : TCfg} {s : TState} (ch : Choice) (e : TEv) (h : TInv cfg s) :
    tstepCode cfg ch s e = tstep cfg ch s e := by
  -- the model's fuel 3 is `1 + 2`
  rw [tstep_eq, ← advanceToCode_eq ch 1 _ (tpre_inv ch e h)]
  cases e <;> rfl

/-- `last_eq` repeats what `TCore` says: the late run has no `TInv`, so `Spaced` stands alone. -/
structure SpacedC (cfg : TCfg) (now : Int) (last : Option Int) (waiting : Bool) (scheduled : Option Sched)
    (grants : List Grant) : Prop where
  spaced : spacedOK cfg.dur cfg.trailing (grants.map (·.t)) = true
  last_eq : last = (grants.getLast?).map (·.t)
  /-- a permission is waiting only when the period that began with the last permission is over -/
  gap : waiting = true → ∀ l, last = some l → gapOK cfg.dur cfg.trailing l now = true
  notrail : cfg.trailing = false → scheduled = none

abbrev Spaced (cfg : TCfg) (s : TState) : Prop :=
  SpacedC cfg s.now s.last s.waiting s.scheduled s.grants

theorem spaced_init (cfg : TCfg) : Spaced cfg {} :=
  ⟨rfl, rfl, fun h => (nomatch h), fun _ => rfl⟩

section
variable {cfg : TCfg} {now : Int} {last : Option Int} {waiting : Bool} {scheduled : Option Sched}
  {grants : List Grant}

theorem SpacedC.grant (h : SpacedC cfg now last waiting scheduled grants)
    (hg : ∀ l, last = some l → gapOK cfg.dur cfg.trailing l now = true) (g : Grant) (ht : g.t = now) :
    SpacedC cfg now (some now) false scheduled (grants ++ [g]) where
  spaced := by
    rw [List.map_append, List.map_singleton, spacedOK_snoc, h.spaced, Bool.true_and, List.getLast?_map, ← h.last_eq, ht]
    cases hl : last with
    | none => rfl
    | some l => exact hg l hl
  last_eq := by rw [List.getLast?_concat, Option.map_some, ht]
  gap := fun hw => nomatch hw
  notrail := h.notrail

theorem SpacedC.set_now (h : SpacedC cfg now last waiting scheduled grants) {t : Int} (ht : now ≤ t) :
    SpacedC cfg t last waiting scheduled grants :=
  { h with gap := fun hw l hl => gapOK_mono (h.gap hw l hl) ht }

end

theorem wake_spaced {cfg : TCfg} {s : TState} (ch : Choice) (w : Int × Nat) (h : Spaced cfg s)
    (hg : ∀ l, s.last = some l → gapOK cfg.dur cfg.trailing l s.now = true) : Spaced cfg (wake ch s w) := by
  have hu := wake_up ch s w
  generalize wake ch s w = s' at hu
  cases hu with
  | waits _ => exact { h with gap := fun _ => hg }
  | grants id rest _ _ _ => exact h.grant hg _ rfl

theorem tcall_spaced {cfg : TCfg} {s : TState} (ch : Choice) (h : Spaced cfg s) : Spaced cfg (tcall cfg ch s) := by
  have hd := tcall_does cfg ch s
  generalize tcall cfg ch s = s' at hd
  cases hd with
  | logs => exact h
  | wakes _ ha => exact wake_spaced (s := logCall s) ch _ h fun l hl => gapOK_of_lt (after_period (ha l hl))
  | arms l _ _ _ htr => exact { h with notrail := fun hf => nomatch htr.symm.trans hf }

theorem tnext_spaced {cfg : TCfg} {s : TState} (id : Nat) (h : Spaced cfg s) : Spaced cfg (tnext s id) := by
  have hd := tnext_does s id
  generalize tnext s id = s' at hd
  cases hd with
  | refused _ => exact h
  | granted hw _ => exact h.grant (h.gap hw) _ rfl
  | blocks _ _ => exact h

/-- the callback `trail`, run at ANY instant: it grants only when the period since the last permission is over -/
theorem fireCode_spaced {cfg : TCfg} {s : TState} (ch : Choice) (sc : Sched) (h : Spaced cfg s)
    (hsc : s.scheduled = some sc) : Spaced cfg (fireCode cfg ch s sc) := by
  have htr : cfg.trailing ≠ false := fun ht => nomatch hsc.symm.trans (h.notrail ht)
  by_cases hc : s.stop = true ∨ s.waiting = true
  · rw [fireCode_skip cfg ch sc hc]; exact { h with notrail := fun _ => rfl }
  · by_cases hin : ∃ l, s.last = some l ∧ s.now - l < cfg.dur
    · obtain ⟨l, hl, hlt⟩ := hin
      rw [fireCode_rearm cfg ch sc hc hl hlt]
      exact { h with notrail := fun hf => absurd hf htr }
    · have hout : ∀ l, s.last = some l → cfg.dur ≤ s.now - l := fun l hl =>
        Int.not_lt.mp fun hlt => hin ⟨l, hl, hlt⟩
      rw [fireCode_wake cfg ch sc hc hout]
      exact wake_spaced (s := { s with scheduled := none }) ch _ { h with notrail := fun _ => rfl } fun l hl =>
        gapOK_iff.mpr ⟨Int.add_le_of_le_sub_left (hout l hl), fun hf => absurd hf htr⟩

theorem lateStep_spaced {cfg : TCfg} {s : TState} (ch : Choice) (e : LateEv) (h : Spaced cfg s) :
    Spaced cfg (lateStep cfg ch s e) := by
  unfold lateStep
  cases e with
  | call => exact tcall_spaced ch h
  | cancel => exact h
  | next id => exact tnext_spaced id h
  | tick dt => exact h.set_now (Int.le_add_of_nonneg_right (Int.natCast_nonneg dt))
  | trail =>
    dsimp only
    cases hsc : s.scheduled with
    | none => exact h
    | some sc =>
      dsimp only
      by_cases hd : sc.deadline ≤ s.now
      · rw [if_pos hd]; exact fireCode_spaced ch sc h hsc
      · rw [if_neg hd]; exact h

theorem lateRun_spaced (cfg : TCfg) (ch : Choice) (evs : List LateEv) : Spaced cfg (lateRun cfg ch evs) :=
  List.foldlRecOn evs _ (spaced_init cfg) fun _ hs e _ => lateStep_spaced ch e hs

/-- with punctual timers the callback runs at the deadline of a timer of a reachable state: there `fire` is
`fireCode`, so the spacing is kept by the model's steps too -/
theorem advanceTo_spaced {cfg : TCfg} {s : TState} (ch : Choice) (t : Int) (hI : TInv cfg s) (h : Spaced cfg s)
    (ht : s.now ≤ t) : Spaced cfg (advanceTo ch s t) := by
  rcases due_cases s t with hd | ⟨sc, hsc, hd⟩
  · rw [advanceTo_noop ch s t hd]; exact h.set_now ht
  · have hS := hI.sched sc hsc
    rw [advanceTo_due ch t hsc hd]
    refine SpacedC.set_now (?_ : Spaced cfg (fire ch { s with now := max s.now sc.deadline } sc))
      (by rw [(fire_frame ch _ sc).now]; exact Int.max_le.mpr ⟨ht, hd⟩)
    rw [← fireCode_eq_fire (s := { s with now := max s.now sc.deadline }) cfg ch sc hS.idle hS.period_over]
    exact fireCode_spaced (s := { s with now := max s.now sc.deadline }) ch sc (h.set_now (Int.le_max_left _ _)) hsc

theorem tpre_spaced {cfg : TCfg} {s : TState} (ch : Choice) (e : TEv) (h : Spaced cfg s) : Spaced cfg (tpre cfg ch s e) := by
  cases e with
  | call => exact tcall_spaced ch h
  | cancel => exact h
  | next id => exact tnext_spaced id h
  | advance dt => exact h

theorem tstep_spaced {cfg : TCfg} {s : TState} (ch : Choice) (e : TEv) (hI : TInv cfg s) (h : Spaced cfg s) :
    Spaced cfg (tstep cfg ch s e) := by
  rw [tstep_eq]
  exact advanceTo_spaced ch _ (tpre_inv ch e hI) (tpre_spaced ch e h) (Int.le_add_of_nonneg_right (Int.natCast_nonneg _))

structure Reach (cfg : TCfg) (s : TState) : Prop where
  inv : TInv cfg s
  spaced : Spaced cfg s
  strict : Strict s

theorem reach_init (cfg : TCfg) : Reach cfg {} :=
  ⟨tinv_init cfg, spaced_init cfg, fun _ h => nomatch h⟩

theorem Reach.step {cfg : TCfg} {s : TState} (h : Reach cfg s) (ch : Choice) (e : TEv) : Reach cfg (tstep cfg ch s e) :=
  ⟨tstep_inv ch e h.inv, tstep_spaced ch e h.inv h.spaced, tstep_strict cfg ch s e⟩

theorem trun_reach (cfg : TCfg) (ch : Choice) (evs : List TEv) : Reach cfg (trun cfg ch evs) :=
  List.foldlRecOn evs (tstep cfg ch) (reach_init cfg) fun _ h e _ => h.step ch e

end GoguVerif.Lemmas.C20Code
