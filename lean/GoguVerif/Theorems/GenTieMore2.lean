import GoguVerif.Theorems.GenTieMore2A
import GoguVerif.Theorems.GenTieMore2B
import GoguVerif.Theorems.GenTieMore2C
/-!
# The regenerated tie for the helpers outside the fragment of `translator/frag.go`

`Gen/Funcs2.lean` is produced on every run by the translator (`translator/frag_more.go`, on the machinery of
`translator/frag_heap.go`) from `slice.go`, `filter.go`, `range.go`, `math.go`: Go `int` (and every numeric type
parameter) as `Int`, slices as `Array`s, every index / slice operation failing exactly when Go panics, loops whose
termination is not structural running on FUEL (`Out.hang` when it runs out), `return` inside a loop as `Option ρ × S`.

The ties are in `GenTieMore2A` (C12), `GenTieMore2B` (C13), `GenTieMore2C` (C11); this module imports all three
(it is what the audit and the advisory check of C13 build) and closes `RangeRight` with the `Reverse` fact of `GenTieMore2A`.
-/
namespace GoguVerif.Theorems.GenTieMore2
open GoguVerif.Gen.Funcs2

/-- `RangeRight`, for ALL fuel and all argument lists: the regenerated definition is the model's `RangeRight` with its
loops run on that fuel (`RangeRightF`) -/
theorem rangeRight_tie (fuel : Nat) (params : List Int) :
    RangeRight fuel params.toArray = rangeOut (RangeRightF fuel params) :=
  rangeRight_tie_of (fun sl fuel hf => reverse_eq_reverse sl fuel hf) fuel params

theorem rangeRight_tie_model (params : List Int) :
    RangeRight (modelFuel params) params.toArray = rangeOut (Model.C13.RangeRight params) :=
  rangeRight_tie_model_of (fun sl fuel hf => reverse_eq_reverse sl fuel hf) params

/-- `h` holds for every argument list (`Theorems.C13.range_terminates`, which the tie modules do not import) -/
theorem rangeRight_tie_enough (params : List Int) (fuel : Nat) (hle : modelFuel params ≤ fuel)
    (h : Model.C13.Range params ≠ .hang) :
    RangeRight fuel params.toArray = rangeOut (Model.C13.RangeRight params) :=
  rangeRight_tie_enough_of (fun sl fuel hf => reverse_eq_reverse sl fuel hf) params fuel hle h

example : modelFuel [2, 1, 5] ≤ 100 ∧ Model.C13.Range [2, 1, 5] ≠ .hang := by
  exact ⟨by decide, by decide⟩

end GoguVerif.Theorems.GenTieMore2
