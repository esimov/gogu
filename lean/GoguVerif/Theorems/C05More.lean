import GoguVerif.Theorems.C05
/-!
# C05 — whole-history laws of the FIFO (arbitrary interleaved histories)

`Theorems/C05.lean` proves that both queue models produce exactly the answers of the abstract FIFO
`Spec.C05.run` for every history, and states the clauses of the property step by step.  This file
proves the clauses as laws of WHOLE histories `ops` (any interleaving of all six operations) about
`Spec.C05.run`: conservation and order (`dequeued ++ final = initial ++ enqueued`, counted since the
last `Clear`), the size answers as counts of the history, and what `Peek`, `Search` and `Dequeue`
answer at any point of a history.  They are transferred to the slice-backed `Queue` through
`queue_refines`; to the linked `LQueue`, whose `Dequeue` has no error flag, only conservation and
size are transferred (through `lqueue_refines`, reading the successful dequeues with `dequeuedL`).
-/
namespace GoguVerif.Theorems.C05More
open Spec.C05

-- some of the statements below carry the instance arguments of `α` without using them
set_option linter.unusedSectionVars false
variable {α : Type} [Inhabited α] [DecidableEq α]

def enqueued : List (Op α) → List α
  | [] => []
  | .enqueue x :: ops => x :: enqueued ops
  | _ :: ops => enqueued ops

/-- the values handed back by the SUCCESSFUL dequeues (answers `deq v false`), in order.  Only
`Dequeue` ever answers `deq`, so this is a function of the answers alone. -/
def dequeued : List (Out α) → List α
  | [] => []
  | .deq v false :: os => v :: dequeued os
  | _ :: os => dequeued os

theorem enqueued_append (a b : List (Op α)) : enqueued (a ++ b) = enqueued a ++ enqueued b := by
  induction a with
  | nil => rfl
  | cons op a ih =>
    cases op with
    | enqueue x => exact congrArg (x :: ·) ih
    | _ => exact ih

theorem dequeued_append (a b : List (Out α)) : dequeued (a ++ b) = dequeued a ++ dequeued b := by
  induction a with
  | nil => rfl
  | cons o a ih =>
    cases o with
    | deq v e =>
      cases e with
      | false => exact congrArg (v :: ·) ih
      | true => exact ih
    | _ => exact ih

theorem run_length (s : List α) (ops : List (Op α)) : (run s ops).2.length = ops.length := by
  induction ops generalizing s with
  | nil => rfl
  | cons op ops ih => exact congrArg (· + 1) (ih _)

theorem run_drop (s : List α) (a b : List (Op α)) :
    (run s (a ++ b)).2.drop a.length = (run (run s a).1 b).2 := by
  rw [run_append, ← run_length s a]; exact List.drop_left

theorem run_snoc (s : List α) (pre : List (Op α)) (op : Op α) :
    (run s (pre ++ [op])).1 = (step (run s pre).1 op).1 := by rw [run_append]; rfl

/-- The answer observed at any point of any history is the abstract FIFO's answer in the content
reached by the history so far. -/
theorem observation (s : List α) (pre post : List (Op α)) (op : Op α) :
    (run s (pre ++ op :: post)).2[pre.length]? = some (step (run s pre).1 op).2 := by
  rw [← List.head?_drop, run_drop]; rfl

theorem observation_after (s : List α) (pre mid post : List (Op α)) (a b : Op α) :
    (run s (pre ++ a :: (mid ++ b :: post))).2[pre.length + 1 + mid.length]? =
      some (step (run (step (run s pre).1 a).1 mid).1 b).2 := by
  have h := observation s (pre ++ a :: mid) post b
  have e : (run s (pre ++ a :: mid)).1 = (run (step (run s pre).1 a).1 mid).1 := by
    rw [run_append]; rfl
  rw [List.append_assoc, List.cons_append, List.length_append, List.length_cons, e] at h
  rw [Nat.add_right_comm]; exact h

/-- One step conserves; the whole-history laws below are this, added up along the history. -/
theorem step_conservation (s : List α) (op : Op α) (h : op ≠ .clear) :
    dequeued [(step s op).2] ++ (step s op).1 = s ++ enqueued [op] := by
  cases op with
  | enqueue x => rfl
  | dequeue =>
    cases s with
    | nil => rfl
    | cons x r => exact (List.append_nil _).symm
  | clear => exact absurd rfl h
  | _ => exact (List.append_nil s).symm

/-- Conservation and order, any initial content: for every history without `Clear`, whatever the
interleaving: the values handed back by the successful dequeues, followed by what is still held, are
exactly the initial content followed by the enqueued values — every element exactly once, in the
order it was enqueued. -/
theorem conservation (s : List α) (ops : List (Op α)) (hc : Op.clear ∉ ops) :
    dequeued (run s ops).2 ++ (run s ops).1 = s ++ enqueued ops := by
  induction ops generalizing s with
  | nil => exact (List.append_nil s).symm
  | cons op ops ih =>
    rw [run_cons, ← List.singleton_append, dequeued_append, List.append_assoc,
      ih _ (List.not_mem_of_not_mem_cons hc), ← List.append_assoc,
      step_conservation s op (List.ne_of_not_mem_cons hc).symm, List.append_assoc, ← enqueued_append]
    rfl

theorem conservation_empty (ops : List (Op α)) (hc : Op.clear ∉ ops) :
    dequeued (run ([] : List α) ops).2 ++ (run ([] : List α) ops).1 = enqueued ops :=
  conservation ([] : List α) ops hc

/-- Dequeue order = enqueue order: the dequeued values are the first `n` of `initial ++ enqueued`,
where `n` is the number of successful dequeues. -/
theorem dequeued_is_prefix (s : List α) (ops : List (Op α)) (hc : Op.clear ∉ ops) :
    dequeued (run s ops).2 = (s ++ enqueued ops).take (dequeued (run s ops).2).length := by
  rw [← conservation s ops hc]; exact List.take_left.symm

/-- The content is `initial ++ enqueued` without its first `n` values, `n` the number of successful
dequeues. -/
theorem content_is_rest (s : List α) (ops : List (Op α)) (hc : Op.clear ∉ ops) :
    (run s ops).1 = (s ++ enqueued ops).drop (dequeued (run s ops).2).length := by
  rw [← conservation s ops hc]; exact List.drop_left.symm

/-- A `Clear` forgets everything before it. -/
theorem run_after_clear (s : List α) (pre suf : List (Op α)) :
    (run s (pre ++ Op.clear :: suf)).1 = (run [] suf).1 ∧
    (run s (pre ++ Op.clear :: suf)).2.drop (pre.length + 1) = (run [] suf).2 := by
  have h0 : (run s (pre ++ [Op.clear])).1 = [] := run_snoc s pre Op.clear
  have hl : pre.length + 1 = (pre ++ [Op.clear]).length :=
    (List.length_append (as := pre) (bs := [Op.clear])).symm
  rw [List.append_cons, hl, run_drop, run_append, h0]
  exact ⟨rfl, rfl⟩

/-- Histories with `Clear`, explicit split: if the last `Clear` of the history is at position
`pre.length`, the answers after it and the final content satisfy the conservation law of the suffix
started empty, whatever happened before. -/
theorem conservation_split (s : List α) (pre suf : List (Op α)) (hc : Op.clear ∉ suf) :
    dequeued ((run s (pre ++ Op.clear :: suf)).2.drop (pre.length + 1)) ++
      (run s (pre ++ Op.clear :: suf)).1 = enqueued suf := by
  rw [(run_after_clear s pre suf).1, (run_after_clear s pre suf).2]
  exact conservation_empty suf hc

def cleared (ops : List (Op α)) : Bool := ops.any (fun o => decide (o = Op.clear))

/-- the operations after the last `Clear` (the whole history if it never clears) -/
def lastSeg : List (Op α) → List (Op α)
  | [] => []
  | op :: ops => if cleared ops then lastSeg ops else if op = Op.clear then ops else op :: ops

theorem cleared_false_iff (ops : List (Op α)) : cleared ops = false ↔ Op.clear ∉ ops := by
  rw [cleared, List.any_eq_false]
  exact ⟨fun h hm => h _ hm (decide_eq_true rfl), fun h x hx e => h (of_decide_eq_true e ▸ hx)⟩

theorem lastSeg_spec (ops : List (Op α)) :
    Op.clear ∉ lastSeg ops ∧
    ((cleared ops = false ∧ lastSeg ops = ops) ∨
     (cleared ops = true ∧ ∃ pre, ops = pre ++ Op.clear :: lastSeg ops)) := by
  induction ops with
  | nil => exact ⟨List.not_mem_nil, Or.inl ⟨rfl, rfl⟩⟩
  | cons op ops ih =>
    have hcl : cleared (op :: ops) = (decide (op = Op.clear) || cleared ops) := rfl
    have hls : lastSeg (op :: ops) =
        if cleared ops then lastSeg ops else if op = Op.clear then ops else op :: ops := rfl
    obtain ⟨ih1, ⟨hc, hl⟩ | ⟨hc, pre, hp⟩⟩ := ih
    · rw [hl] at ih1
      rw [hcl, hls, hc, Bool.or_false]
      by_cases hop : op = Op.clear
      · rw [if_neg Bool.false_ne_true, if_pos hop, decide_eq_true hop]
        exact ⟨ih1, Or.inr ⟨rfl, [], by rw [hop]; rfl⟩⟩
      · rw [if_neg Bool.false_ne_true, if_neg hop, decide_eq_false hop]
        exact ⟨List.not_mem_cons_of_ne_of_not_mem (Ne.symm hop) ih1, Or.inl ⟨rfl, rfl⟩⟩
    · rw [hcl, hls, hc, Bool.or_true, if_pos rfl]
      exact ⟨ih1, Or.inr ⟨rfl, op :: pre, congrArg (op :: ·) hp⟩⟩

/-- the content the last segment starts from -/
def base (s : List α) (ops : List (Op α)) : List α := if cleared ops then [] else s

/-- the answers given to the operations of the last segment -/
def lastOuts (ops : List (Op α)) (outs : List (Out α)) : List (Out α) :=
  outs.drop (ops.length - (lastSeg ops).length)

/-- Everything after the last `Clear` is a run of the last segment from its starting content. -/
theorem run_since_clear (s : List α) (ops : List (Op α)) :
    (run s ops).1 = (run (base s ops) (lastSeg ops)).1 ∧
    lastOuts ops (run s ops).2 = (run (base s ops) (lastSeg ops)).2 := by
  obtain ⟨_, ⟨hc, hl⟩ | ⟨hc, pre, hp⟩⟩ := lastSeg_spec ops
  · rw [lastOuts, base, hc, hl, Nat.sub_self]
    exact ⟨rfl, rfl⟩
  · rw [lastOuts, base, hc]
    generalize lastSeg ops = suf at hp
    subst hp
    rw [List.length_append, List.length_cons, ← Nat.add_assoc, Nat.add_right_comm,
      Nat.add_sub_cancel]
    exact run_after_clear s pre suf

/-- Conservation and order, every history (with or without `Clear`s): since the last `Clear` (or
since the start), dequeued values followed by the content are the starting content followed by the
enqueued values. -/
theorem conservation_since_clear (s : List α) (ops : List (Op α)) :
    dequeued (lastOuts ops (run s ops).2) ++ (run s ops).1 = base s ops ++ enqueued (lastSeg ops) := by
  rw [(run_since_clear s ops).1, (run_since_clear s ops).2]
  exact conservation _ _ (lastSeg_spec ops).1

example : dequeued (run [1] [.enqueue 2, .dequeue, .peek, .enqueue 3, .dequeue, .dequeue, .dequeue,
      .enqueue (4 : Int), .size]).2 = [1, 2, 3] ∧
    (run [1] [.enqueue 2, .dequeue, .peek, .enqueue 3, .dequeue, .dequeue, .dequeue,
      .enqueue (4 : Int), .size]).1 = [4] ∧
    enqueued [.enqueue 2, .dequeue, .peek, .enqueue 3, .dequeue, .dequeue, .dequeue,
      .enqueue (4 : Int), .size] = [2, 3, 4] := ⟨rfl, rfl, rfl⟩

example : lastSeg [.enqueue (1 : Int), .clear, .enqueue 2, .clear, .enqueue 3, .dequeue, .enqueue 4]
      = [.enqueue 3, .dequeue, .enqueue 4] ∧
    base [7] [.enqueue (1 : Int), .clear, .enqueue 2, .clear, .enqueue 3, .dequeue, .enqueue 4] = [] ∧
    lastOuts [.enqueue (1 : Int), .clear, .enqueue 2, .clear, .enqueue 3, .dequeue, .enqueue 4]
      (run [7] [.enqueue (1 : Int), .clear, .enqueue 2, .clear, .enqueue 3, .dequeue, .enqueue 4]).2
      = [.unit, .deq 3 false, .unit] := ⟨rfl, rfl, rfl⟩

theorem final_size_nat (s : List α) (ops : List (Op α)) :
    (run s ops).1.length + (dequeued (lastOuts ops (run s ops).2)).length =
      (base s ops).length + (enqueued (lastSeg ops)).length := by
  have := congrArg List.length (conservation_since_clear s ops)
  rw [List.length_append, List.length_append, Nat.add_comm] at this
  exact this

/-- The final length is `|starting content| + #enqueues − #successful
dequeues`, both counted since the last `Clear` (or the start); in particular the right-hand side is
never negative. -/
theorem final_size (s : List α) (ops : List (Op α)) :
    ((run s ops).1.length : Int) =
      (base s ops).length + (enqueued (lastSeg ops)).length
        - (dequeued (lastOuts ops (run s ops).2)).length := by
  have := final_size_nat s ops
  omega

/-- Every `Size` observation inside a history is the length of the abstract queue at that point. -/
theorem size_observation (s : List α) (pre post : List (Op α)) :
    (run s (pre ++ Op.size :: post)).2[pre.length]? = some (Out.int (run s pre).1.length) := by
  rw [observation]; rfl

/-- Every `Size` observation is the count of the history so far: `|start| + #enqueues − #successful
dequeues` since the last `Clear`. -/
theorem size_observation_counts (s : List α) (pre post : List (Op α)) :
    (run s (pre ++ Op.size :: post)).2[pre.length]? =
      some (Out.int ((base s pre).length + (enqueued (lastSeg pre)).length
        - (dequeued (lastOuts pre (run s pre).2)).length)) := by
  rw [size_observation, final_size]

/-- A `Size` call issued after any history answers the count of that history. -/
theorem size_answer_final (s : List α) (ops : List (Op α)) :
    (run s (ops ++ [Op.size])).2.getLast? =
      some (Out.int ((base s ops).length + (enqueued (lastSeg ops)).length
        - (dequeued (lastOuts ops (run s ops).2)).length)) := by
  rw [List.getLast?_eq_getElem?, run_length, List.length_append]
  exact size_observation_counts s ops []

def readOnly : Op α → Bool
  | .peek | .search _ | .size => true
  | _ => false

theorem step_readOnly (s : List α) {op : Op α} (h : readOnly op = true) : (step s op).1 = s := by
  cases op with
  | peek | search | size => rfl
  | _ => cases h

theorem run_readOnly (s : List α) (mid : List (Op α)) (h : ∀ op ∈ mid, readOnly op = true) :
    (run s mid).1 = s := by
  induction mid with
  | nil => rfl
  | cons op mid ih =>
    rw [run_cons, step_readOnly s (h op List.mem_cons_self)]
    exact ih fun o ho => h o (List.mem_cons_of_mem _ ho)

/-- Peek shows what the next Dequeue returns, at any point of any history: if a `Peek` is
followed (after any number of observing calls) by a `Dequeue`, then both answer the same value, the
`Dequeue` succeeds iff the queue was non-empty, and on the empty queue both answer the zero value. -/
theorem peek_then_dequeue (s : List α) (pre mid post : List (Op α))
    (hm : ∀ op ∈ mid, readOnly op = true) :
    ∃ v e, (run s (pre ++ Op.peek :: (mid ++ Op.dequeue :: post))).2[pre.length]? = some (Out.val v) ∧
      (run s (pre ++ Op.peek :: (mid ++ Op.dequeue :: post))).2[pre.length + 1 + mid.length]?
        = some (Out.deq v e) ∧
      (e = true ↔ (run s pre).1 = []) ∧ ((run s pre).1 = [] → v = default) := by
  rw [observation, observation_after, run_readOnly _ mid hm]
  cases (run s pre).1 with
  | nil => exact ⟨default, true, rfl, rfl, ⟨fun _ => rfl, fun _ => rfl⟩, fun _ => rfl⟩
  | cons x r => exact ⟨x, false, rfl, rfl, ⟨nofun, nofun⟩, nofun⟩

def noRemoval : Op α → Bool
  | .dequeue | .clear => false
  | _ => true

theorem head_stable (x : α) (r : List α) (mid : List (Op α))
    (h : ∀ op ∈ mid, noRemoval op = true) : ∃ r', (run (x :: r) mid).1 = x :: r' := by
  induction mid generalizing r with
  | nil => exact ⟨r, rfl⟩
  | cons op mid ih =>
    have h1 := h op List.mem_cons_self
    have h2 : ∀ o ∈ mid, noRemoval o = true := fun o ho => h o (List.mem_cons_of_mem _ ho)
    cases op with
    | dequeue | clear => cases h1
    | enqueue y => exact ih (r ++ [y]) h2
    | _ => exact ih r h2

/-- Peek = next Dequeue on a non-empty queue, with enqueues in between: any calls except
`Dequeue`/`Clear` may separate the `Peek` from the next `Dequeue`, since the oldest element stays the
next to be handed back (`head_stable`). -/
theorem peek_then_dequeue_nonempty (s : List α) (pre mid post : List (Op α))
    (hm : ∀ op ∈ mid, noRemoval op = true) (hne : (run s pre).1 ≠ []) :
    ∃ v, (run s (pre ++ Op.peek :: (mid ++ Op.dequeue :: post))).2[pre.length]? = some (Out.val v) ∧
      (run s (pre ++ Op.peek :: (mid ++ Op.dequeue :: post))).2[pre.length + 1 + mid.length]?
        = some (Out.deq v false) := by
  rw [observation, observation_after]
  cases hs : (run s pre).1 with
  | nil => exact absurd hs hne
  | cons x r =>
    obtain ⟨r', hr'⟩ := head_stable x r mid hm
    exact ⟨x, rfl, by rw [show (step (x :: r) Op.peek).1 = x :: r from rfl, hr']; rfl⟩

/-- Search reports exactly the elements currently held, at any point of any history. -/
theorem search_observation (s : List α) (pre post : List (Op α)) (x : α) :
    (run s (pre ++ Op.search x :: post)).2[pre.length]? = some (Out.bool (decide (x ∈ (run s pre).1))) := by
  rw [observation]; rfl

/-- Search in terms of the history alone (no `Clear` so far): `x` is reported iff it is among the initial
and enqueued values that have not been handed back yet. -/
theorem search_observation_history (s : List α) (pre post : List (Op α)) (x : α) (hc : Op.clear ∉ pre) :
    (run s (pre ++ Op.search x :: post)).2[pre.length]? =
      some (Out.bool (decide (x ∈ (s ++ enqueued pre).drop (dequeued (run s pre).2).length))) := by
  rw [search_observation, ← content_is_rest s pre hc]

/-- On an empty queue, at any point: `Dequeue` reports emptiness, `Peek` answers the zero value, and
neither changes anything. -/
theorem dequeue_empty_observation (s : List α) (pre post : List (Op α)) (he : (run s pre).1 = []) :
    (run s (pre ++ Op.dequeue :: post)).2[pre.length]? = some (Out.deq default true) ∧
    (run s (pre ++ [Op.dequeue])).1 = [] ∧
    (run s (pre ++ Op.peek :: post)).2[pre.length]? = some (Out.val default) ∧
    (run s (pre ++ [Op.peek])).1 = [] := by
  rw [observation, observation, run_snoc, run_snoc, he]
  exact ⟨rfl, rfl, rfl, rfl⟩

/-- Conversely a `Dequeue` reports emptiness only on the empty queue. -/
theorem dequeue_reports_empty_iff (s : List α) (pre post : List (Op α)) :
    (∃ v, (run s (pre ++ Op.dequeue :: post)).2[pre.length]? = some (Out.deq v true)) ↔
      (run s pre).1 = [] := by
  rw [observation]
  cases (run s pre).1 <;> simp [step]

theorem queue_run_eq : @Model.Queue.run α _ _ = run := funext fun s => funext (C05.queue_refines s)

theorem queue_conservation (s : List α) (ops : List (Op α)) :
    dequeued (lastOuts ops (Model.Queue.run s ops).2) ++ (Model.Queue.run s ops).1 =
      base s ops ++ enqueued (lastSeg ops) := by
  rw [queue_run_eq]; exact conservation_since_clear s ops

theorem queue_conservation_empty (ops : List (Op α)) (hc : Op.clear ∉ ops) :
    dequeued (Model.Queue.run ([] : List α) ops).2 ++ (Model.Queue.run ([] : List α) ops).1 =
      enqueued ops := by
  rw [queue_run_eq]; exact conservation_empty ops hc

theorem queue_final_size (s : List α) (ops : List (Op α)) :
    ((Model.Queue.run s ops).1.length : Int) =
      (base s ops).length + (enqueued (lastSeg ops)).length
        - (dequeued (lastOuts ops (Model.Queue.run s ops).2)).length := by
  rw [queue_run_eq]; exact final_size s ops

theorem queue_size_observation_counts (s : List α) (pre post : List (Op α)) :
    (Model.Queue.run s (pre ++ Op.size :: post)).2[pre.length]? =
      some (Out.int ((base s pre).length + (enqueued (lastSeg pre)).length
        - (dequeued (lastOuts pre (Model.Queue.run s pre).2)).length)) := by
  rw [queue_run_eq]; exact size_observation_counts s pre post

theorem queue_peek_then_dequeue (s : List α) (pre mid post : List (Op α))
    (hm : ∀ op ∈ mid, readOnly op = true) :
    ∃ v e, (Model.Queue.run s (pre ++ Op.peek :: (mid ++ Op.dequeue :: post))).2[pre.length]?
        = some (Out.val v) ∧
      (Model.Queue.run s (pre ++ Op.peek :: (mid ++ Op.dequeue :: post))).2[pre.length + 1 + mid.length]?
        = some (Out.deq v e) ∧
      (e = true ↔ (Model.Queue.run s pre).1 = []) ∧ ((Model.Queue.run s pre).1 = [] → v = default) := by
  rw [queue_run_eq]; exact peek_then_dequeue s pre mid post hm

theorem queue_search_observation (s : List α) (pre post : List (Op α)) (x : α) :
    (Model.Queue.run s (pre ++ Op.search x :: post)).2[pre.length]? =
      some (Out.bool (decide (x ∈ (Model.Queue.run s pre).1))) := by
  rw [queue_run_eq]; exact search_observation s pre post x

/-! `LQueue.Dequeue` has no error result (its answers are compared after `C05.obsLinked`, which erases
the flag), so the successful dequeues cannot be read off the answers alone: they are the `Dequeue`s
issued while the count `|start| + #enqueues − #successful dequeues` (since the last `Clear`) is
positive.  `dequeuedL n` reads them off the history and the answers, `n` being that count.  It is total on any two
lists: it stops at the end of the shorter, and an answer to a `Dequeue` that is not a `.val` (there is none among the
answers of `LQueue.run`) contributes nothing. -/

def dequeuedL : Nat → List (Op α) → List (Out α) → List α
  | n, op :: ops, o :: os =>
    match op with
    | .enqueue _ => dequeuedL (n + 1) ops os
    | .dequeue =>
      if n = 0 then dequeuedL 0 ops os
      else (match o with | .val v => [v] | _ => []) ++ dequeuedL (n - 1) ops os
    | .clear => dequeuedL 0 ops os
    | _ => dequeuedL n ops os
  | _, _, _ => []

theorem dequeuedL_step (s : List α) (op : Op α) (ops : List (Op α)) (os : List (Out α)) :
    dequeuedL s.length (op :: ops) (C05.obsLinked (step s op).2 :: os) =
      dequeued [(step s op).2] ++ dequeuedL (step s op).1.length ops os := by
  cases op with
  | enqueue x =>
    exact (congrArg (dequeuedL · ops os) (List.length_append (as := s) (bs := [x]))).symm
  | dequeue =>
    cases s with
    | nil => rfl
    | cons x r => rfl
  | _ => rfl

/-- On the answers of the abstract FIFO with the flag erased, `dequeuedL` finds exactly the
successfully dequeued values. -/
theorem dequeuedL_eq (s : List α) (ops : List (Op α)) :
    dequeuedL s.length ops ((run s ops).2.map C05.obsLinked) = dequeued (run s ops).2 := by
  induction ops generalizing s with
  | nil => rfl
  | cons op ops ih =>
    rw [run_cons, List.map_cons, dequeuedL_step, ih, ← dequeued_append]
    rfl

theorem lqueue_dequeuedL (t : α) (ops : List (Op α)) :
    dequeuedL (base [t] ops).length (lastSeg ops)
        (lastOuts ops (Model.LQueue.run (Model.LQueue.new t) ops).2) =
      dequeued (lastOuts ops (run [t] ops).2) := by
  rw [C05.lqueue_refines, lastOuts, ← List.map_drop, ← lastOuts, (run_since_clear [t] ops).2,
    dequeuedL_eq]

theorem lqueue_content (t : α) (ops : List (Op α)) :
    C05.absL (Model.LQueue.run (Model.LQueue.new t) ops).1 = (run [t] ops).1 :=
  ((C05.RepL.new t).run ops).2.absL_eq

/-- Linked `LQueue` from `NewLinked(t)` (which holds `t`): conservation and order for every history
— since the last `Clear`, the dequeued values followed by the content are the starting content
followed by the enqueued values. -/
theorem lqueue_conservation (t : α) (ops : List (Op α)) :
    dequeuedL (base [t] ops).length (lastSeg ops)
        (lastOuts ops (Model.LQueue.run (Model.LQueue.new t) ops).2) ++
      C05.absL (Model.LQueue.run (Model.LQueue.new t) ops).1 =
      base [t] ops ++ enqueued (lastSeg ops) := by
  rw [lqueue_dequeuedL, lqueue_content]
  exact conservation_since_clear [t] ops

theorem lqueue_conservation_noclear (t : α) (ops : List (Op α)) (hc : Op.clear ∉ ops) :
    dequeuedL 1 ops (Model.LQueue.run (Model.LQueue.new t) ops).2 ++
      C05.absL (Model.LQueue.run (Model.LQueue.new t) ops).1 = t :: enqueued ops := by
  rw [C05.lqueue_refines, lqueue_content]
  exact (congrArg (· ++ _) (dequeuedL_eq [t] ops)).trans (conservation [t] ops hc)

/-- Linked `LQueue`: every `Size` observation is the count of the history so far. -/
theorem lqueue_size_observation_counts (t : α) (pre post : List (Op α)) :
    (Model.LQueue.run (Model.LQueue.new t) (pre ++ Op.size :: post)).2[pre.length]? =
      some (Out.int ((base [t] pre).length + (enqueued (lastSeg pre)).length
        - (dequeuedL (base [t] pre).length (lastSeg pre)
            (lastOuts pre (Model.LQueue.run (Model.LQueue.new t) pre).2)).length)) := by
  rw [lqueue_dequeuedL, C05.lqueue_refines, List.getElem?_map, size_observation_counts]
  rfl

example : dequeuedL 1 [.enqueue 2, .dequeue, .peek, .dequeue, .dequeue, .enqueue (0 : Int), .dequeue]
    (Model.LQueue.run (Model.LQueue.new (1 : Int))
      [.enqueue 2, .dequeue, .peek, .dequeue, .dequeue, .enqueue 0, .dequeue]).2 = [1, 2, 0] :=
  rfl

end GoguVerif.Theorems.C05More
