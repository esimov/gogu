import GoguVerif.Lemmas.C16Store
import GoguVerif.Spec.C16
import GoguVerif.Gen.Effects
/-!
# C16 — property theorems (helpers do not disturb their arguments or each other's results)

Two parts.

1. **Decided table** (`effects_ok`): the per-helper write/alias classification that the translator
   REGENERATES from /repo's source on every run (`Gen/Effects.lean`) is decided to put every exported
   helper into one of the admitted classes: writes through no parameter; only the self-assignment
   idiom; in the in-place allow-list of the property with exactly the designated argument; or one of
   the call-count wrappers whose caller-owned counter / cache are their state by contract (C18's
   business, outside C16).  Results that may alias an argument are admitted only for the
   view-returner `Drop` and the in-place helpers that return their argument.
2. **Store theorems**: what those classes mean in the slice-store model — for every program, every
   store, every size.
-/
namespace GoguVerif.Theorems.C16
open Model.Store Lemmas.C16Store

/-- in-place by contract (property statement), with the designated parameter -/
def inPlaceAllow : List (String × List Nat) :=
  [("Reverse", [0]), ("Reject", [0]), ("Omit", [0]), ("OmitBy", [0]), ("heap.FromSlice", [0]), ("heap.Sort", [0])]

/-- call-count wrappers: the caller-owned counter and cache they are handed are their state (`After`: counter 0;
`Before`: counter 0, cache 1; `Once`: cache 0) -/
def statefulWrappers : List (String × List Nat) := [("After", [0]), ("Before", [0, 1]), ("Once", [0])]

/-- helpers whose result may alias a parameter: views and in-place helpers returning their argument -/
def aliasAllow : List (String × List Nat) :=
  [("Drop", [0]), ("Reverse", [0]), ("Reject", [0]), ("Omit", [0]), ("OmitBy", [0])]

/-- writes: none, or only the self-assignment idiom, or exactly the designated parameter of an in-place helper, or
the state of a call-count wrapper; aliases: none, or those of a view-returner / in-place helper -/
def entryOk (e : EffectEntry) : Bool :=
  (e.writes.isEmpty || e.selfAssignOnly || inPlaceAllow.contains (e.name, e.writes) ||
    statefulWrappers.contains (e.name, e.writes)) &&
  (e.aliases.isEmpty || aliasAllow.contains (e.name, e.aliases))

/-- the in-place allow list of the theorem is the one of the specification (the monitor's) and of the
property statement -/
theorem allow_lists_agree :
    inPlaceAllow.map (·.1) = ["Reverse", "Reject", "Omit", "OmitBy", "heap.FromSlice", "heap.Sort"] ∧
    (Spec.C16.inPlace.map (·.1)).isPerm (inPlaceAllow.map (·.1)) = true := by decide +kernel

/-- OBLIGATION re-checked against the current source on every run: every exported helper is in an
admitted class. -/
theorem effects_ok : Gen.effects.all entryOk = true := by decide +kernel

/-- the helpers the property names as in-place are present in the table, write exactly their
designated parameter, and nothing that is not listed writes through a parameter otherwise than by the
self-assignment idiom -/
theorem effects_exact :
    (Gen.effects.filter (fun e => !e.writes.isEmpty && !e.selfAssignOnly)).map (fun e => (e.name, e.writes)) =
      [("After", [0]), ("Before", [0, 1]), ("Omit", [0]), ("OmitBy", [0]), ("Once", [0]), ("Reject", [0]),
       ("Reverse", [0]), ("heap.FromSlice", [0]), ("heap.Sort", [0])] := by decide +kernel

theorem step_frame (base : Nat) (m : Machine) (i : Instr) (hb : base ≤ m.σ.length) (a : Nat) (ha : a < base) :
    (step base m i).σ[a]? = m.σ[a]? :=
  (stepped base m i).frame hb a ha

/-- Frame theorem (i): ANY program obeying the builder discipline leaves EVERY pre-existing array
unchanged in all cells — the spare capacity behind every argument included — whatever the store, the
registers, and the length of the program. -/
theorem run_frame (base : Nat) (prog : List Instr) (m : Machine) (hb : base ≤ m.σ.length)
    (a : Nat) (ha : a < base) : (run base m prog).σ[a]? = m.σ[a]? := by
  induction prog generalizing m with
  | nil => rfl
  | cons i is ih =>
    simp only [run]
    rw [ih (step base m i) (Nat.le_trans hb (stepped base m i).length_ge), step_frame base m i hb a ha]

/-- registers that point into pre-existing storage are only ever created by re-slicing: every register
of the result either existed before, or points into fresh storage, or is a view (same array) of a
register that was there. -/
theorem step_regs_fresh_or_view (base : Nat) (m : Machine) (i : Instr) (hb : base ≤ m.σ.length)
    (hreg : ∀ s ∈ m.regs, s.arr < base ∨ base ≤ s.arr) :
    ∀ s ∈ (step base m i).regs, s ∈ m.regs ∨ base ≤ s.arr ∨ ∃ s0 ∈ m.regs, s.arr = s0.arr :=
  (stepped base m i).regs hb

/-- (ii) views write nothing: a helper that only re-slices (`Drop`, `Chunk`) leaves the whole
store unchanged. -/
theorem run_views_only (base : Nat) (prog : List Instr) (m : Machine)
    (h : ∀ i ∈ prog, ∃ r lo hi, i = .reslice r lo hi) : (run base m prog).σ = m.σ := by
  induction prog generalizing m with
  | nil => rfl
  | cons i is ih =>
    obtain ⟨r, lo, hi, rfl⟩ := h i (by simp)
    simp only [run]
    rw [ih _ (fun j hj => h j (by simp [hj]))]
    simp only [step]
    split
    · split <;> rfl
    · rfl

/-- (iii) self-assignment (`PartitionMap`'s `m[k] = v` inside `for k, v := range m`): writing back
the value just read leaves the store unchanged. -/
theorem write_back_same (σ σ' : Store) (s : Slice) (i : Nat) (v : Int)
    (hr : read σ s i = some v) (hw : write σ s i v = some σ') : σ' = σ := by
  obtain ⟨hi, rfl⟩ := write_eq hw
  rw [Model.Store.read, if_pos hi] at hr
  apply List.ext_getElem?
  intro a
  by_cases ha : a = s.arr
  · subst ha
    rw [setCell_same]
    cases hσ : σ[s.arr]? with
    | none => rfl
    | some arr =>
      rw [hσ] at hr
      obtain ⟨hlt, rfl⟩ := List.getElem?_eq_some_iff.mp hr
      exact congrArg some (List.set_getElem_self hlt)
  · exact setCell_other _ _ _ _ _ (Ne.symm ha)

/-- (iv) in-place helpers touch only their one designated argument: every other array is
unchanged, and in the designated array every cell outside the argument's window `[off, off+len)` —
in particular the spare capacity behind it — is unchanged. -/
theorem runInPlace_frame (m : Machine) (r : Nat) (ws : List (Nat × Int)) (s : Slice)
    (hs : m.regs[r]? = some s) :
    (∀ a, a ≠ s.arr → (runInPlace m r ws).σ[a]? = m.σ[a]?) ∧
    (∀ j, (j < s.off ∨ s.off + s.len ≤ j) →
      ((runInPlace m r ws).σ[s.arr]?).bind (·[j]?) = (m.σ[s.arr]?).bind (·[j]?)) := by
  have h : Model.StoreHelpers.InPlace m.σ (runInPlace m r ws).σ s := by
    induction ws generalizing m with
    | nil => exact InPlace.refl ..
    | cons w ws ih =>
      obtain ⟨i, v⟩ := w
      simp only [runInPlace, hs]
      cases hw : write m.σ s i v with
      | none => exact ih m hs
      | some σ' => exact InPlace.trans (InPlace.of_write hw) (ih { m with σ := σ' } hs)
  exact ⟨fun _ ha => InPlace.other h ha, fun _ hj => InPlace.outside h hj⟩

/-- (v) the counterexample behind `Merge`: `append(arg, v)` with spare capacity DOES write the
argument's backing array (the cell just behind the argument). -/
theorem undisciplined_append_writes (m : Machine) (r : Nat) (v : Int) (s : Slice) (arr : List Int)
    (hs : m.regs[r]? = some s) (hcap : s.len < s.cap) (ha : m.σ[s.arr]? = some arr)
    (hlen : s.off + s.len < arr.length) :
    ((undisciplinedAppend m r v).σ[s.arr]?).bind (·[s.off + s.len]?) = some v := by
  simp only [undisciplinedAppend, hs, append, hcap, if_true, setCell_same, ha, Option.map_some, Option.bind_some]
  exact List.getElem?_set_self hlen

/-- concrete instance: two results of an undisciplined `append(arg, …)` share the argument's storage
and the second call rewrites what the first returned — while a run of the disciplined builder (`make`, then
appends to the made slice) leaves the argument's array, spare capacity included, as it was. -/
example :
    let m0 : Machine := { σ := [[1, 2, -777, -777]], regs := [{ arr := 0, off := 0, len := 2, cap := 4 }] }
    let m1 := undisciplinedAppend m0 0 7          -- first result: [1,2,7] in the argument's array
    let m2 := undisciplinedAppend m0 0 9          -- second call on the same argument
    elems m1.σ { arr := 0, off := 0, len := 3, cap := 4 } = [1, 2, 7] ∧
    elems { m1 with σ := m2.σ }.σ { arr := 0, off := 0, len := 3, cap := 4 } = [1, 2, 9] ∧
    (run 1 m0 [.alloc 0 2, .append 1 1, .append 1 2, .append 1 7]).σ[0]? = some [1, 2, -777, -777] := by
  decide +kernel

end GoguVerif.Theorems.C16
