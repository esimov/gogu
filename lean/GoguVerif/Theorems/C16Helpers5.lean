import GoguVerif.Lemmas.C16Helpers5
import GoguVerif.Theorems.C16Helpers4
import GoguVerif.Theorems.C14
/-!
# C16 — store-level refinement of concrete helpers, fifth batch: the map-returning helpers

The same as `Theorems/C16Helpers4.lean`, for the helpers written over the slice store and the map store in
`Model/StoreHelpers5.lean`.  For each of the twelve helpers of `covered5`, for ALL stores, all argument map objects
that exist, EVERY visiting order of every `range` over a map (any function whose result is a permutation of the
entries; one order per position where several maps are ranged over), all callbacks:

1. **value refinement** — the result object shows the answer of the value-level model (`Model/C14.lean`) for
   the visited order;
2. **frame** — every map object that existed before the call is unchanged (`MFresh.frame`; for the helpers that
   make no map the map store comes back as it was), every slice array that existed is unchanged (`Frame`; where
   the helper touches no slice storage the slice store comes back as it was).  `PartitionMap` is the one helper
   that WRITES its argument maps (`m[k] = v` inside `for k, v := range m`): the whole map store is proved to be
   unchanged;
3. **fresh result** — the result is ONE map object under an id that did not exist (`MFresh.fresh`, `MFresh.one`).

For `GroupBy` and `DuplicateWithIndex` (`covered5_partial`), which build a local map of slice headers, only 2. and 3.
are proved, of a call that returns (`…_frame_partial`, by the invariant `HInv` of `Lemmas/C16Helpers5.lean`): no
value refinement, and not that the call returns.

Assumed, as in the earlier files: key and value type `Int`, callbacks are pure Lean functions, `WF` for slice
headers, map objects have pairwise distinct keys (`Spec.C14.WF`, where a theorem needs it: every Go map has), and that
`Model/StoreHelpers5.lean` mirrors the Go statements (read off the source, not regenerated).  A map argument is an
object that exists (`hm : m < μ.length`).  `PickBy`, `Pick`, `Find` and `Invert` need that: they read the argument
again by its id after the result was made, and the id `μ.length` is then the result itself.  The theorems of
`FilterMap`, `MapValues`, `MapKeys`, `MapUnique` and `FindByKey` carry the hypothesis too but hold without it, which
their statements do not show: an id without object (a nil map) reads like an empty object, before and after the
result is made.
-/
set_option autoImplicit false
namespace GoguVerif.Theorems.C16Helpers5
open Model.Store Model.StoreHelpers Model.StoreHelpers3 Model.StoreHelpers5
open Lemmas.C16Helpers Lemmas.C16Helpers4 Lemmas.C16Helpers5 Theorems.C16Helpers
-- the stores of the examples (`μx`, `σh`, `keysx` of `Lemmas/C16Fixtures.lean`) are in `Theorems.C16Helpers3`
open Theorems.C16Helpers3 Theorems.C16Helpers4

/-- what a map-returning helper does to the map store: the result `res` shows `obj`; it is an id that did
not exist; every object that existed is unchanged; exactly one object was made -/
structure MFresh (μ μ' : MStore) (res : Nat) (obj : List (Int × Int)) : Prop where
  shows : mget μ' res = obj
  fresh : μ.length ≤ res
  frame : ∀ j, j < μ.length → μ'[j]? = μ[j]?
  one : μ'.length = μ.length + 1

theorem MFresh.push (μ : MStore) (obj : List (Int × Int)) : MFresh μ (μ ++ [obj]) μ.length obj :=
  ⟨(mstore_push μ obj).1, Nat.le_refl _, (mstore_push μ obj).2, List.length_append⟩

/-- the counterpart of `builder_refines` for the map store: a helper whose store function is known to answer
`μ ++ [obj]` under the id `μ.length` has made one new object showing `obj` and changed no other -/
theorem MFresh.of_eq {o : Option (MStore × Nat)} {μ : MStore} {obj : List (Int × Int)}
    (h : o = some (μ ++ [obj], μ.length)) : ∃ μ' res, o = some (μ', res) ∧ MFresh μ μ' res obj :=
  ⟨_, _, h, MFresh.push μ obj⟩

/-- an argument map reads the same after the call -/
theorem MFresh.arg {μ μ' : MStore} {res : Nat} {obj : List (Int × Int)} (h : MFresh μ μ' res obj) {m : Nat}
    (hm : m < μ.length) : mget μ' m = mget μ m := by
  exact Lemmas.C16Helpers3.mget_congr (h.frame m hm)

/-- FilterMap, for every visiting order: never panics; the result is a new map object showing the
value-level model's answer for the order visited; every map object that existed (the argument included) is
unchanged. -/
theorem filterMap_refines (order : Order) (μ : MStore) (m : Nat) (fn : Int → Bool) (hm : m < μ.length) :
    ∃ μ' res, filterMapStoreIn order μ m fn = some (μ', res) ∧
      MFresh μ μ' res (Model.C14.FilterMap (order (mget μ m)) fn) :=
  MFresh.of_eq (by simp only [filterMapStoreIn, mnew, mget_push_old [] hm, filterMapLoopM_eq]; rfl)

/-- as a map the answer does not depend on the order: with distinct keys it is always the entries whose value
qualifies (listed in the order visited) -/
theorem filterMap_any_order (order : Order) (μ : MStore) (m : Nat) (fn : Int → Bool)
    (hwf : Spec.C14.WF (mget μ m)) (ho : (order (mget μ m)).Perm (mget μ m)) :
    (Model.C14.FilterMap (order (mget μ m)) fn).Perm ((mget μ m).filter (fun e => fn e.2)) := by
  rw [Theorems.C14.filterMap_eq_filter (Lemmas.C14.WF.perm hwf ho.symm)]
  exact ho.filter _

/-- map 1 of `μx` is `{1:10, 2:20, 3:30, 4:40}`; values above 15, visited backwards: the new object is number 3 -/
example : filterMapStoreIn List.reverse μx 1 (fun v => decide (v > 15)) =
    some (μx ++ [[(4, 40), (3, 30), (2, 20)]], 3) := by decide +kernel

/-- the hypotheses hold there -/
example : 1 < μx.length ∧ Spec.C14.WF (mget μx 1) ∧ (List.reverse (mget μx 1)).Perm (mget μx 1) :=
  ⟨by decide, by decide, List.reverse_perm _⟩

theorem mapValues_refines (order : Order) (μ : MStore) (m : Nat) (fn : Int → Int) (hm : m < μ.length) :
    ∃ μ' res, mapValuesStoreIn order μ m fn = some (μ', res) ∧
      MFresh μ μ' res (Model.C14.MapValues (order (mget μ m)) fn) :=
  MFresh.of_eq (by simp only [mapValuesStoreIn, mnew, mget_push_old [] hm, mapValuesLoopM_eq]; rfl)

/-- MapKeys (two keys may collide under `fn`: then the entry visited later wins — in the store-level model
exactly as in the value-level one). -/
theorem mapKeys_refines (order : Order) (μ : MStore) (m : Nat) (fn : Int → Int → Int) (hm : m < μ.length) :
    ∃ μ' res, mapKeysStoreIn order μ m fn = some (μ', res) ∧
      MFresh μ μ' res (Model.C14.MapKeys (order (mget μ m)) fn) :=
  MFresh.of_eq (by simp only [mapKeysStoreIn, mnew, mget_push_old [] hm, mapKeysLoopM_eq]; rfl)

/-- MapUnique (which of two entries with the same value survives depends on the order: the result is the
value-level model's for the order visited). -/
theorem mapUnique_refines (order : Order) (μ : MStore) (m : Nat) (hm : m < μ.length) :
    ∃ μ' res, mapUniqueStoreIn order μ m = some (μ', res) ∧
      MFresh μ μ' res (Model.C14.MapUnique (order (mget μ m))) :=
  MFresh.of_eq (by simp only [mapUniqueStoreIn, mnew, mget_push_old [] hm, mapUniqueLoopM_eq]; rfl)

/-- FindByKey (the `break` leaves at most one entry in the result). -/
theorem findByKey_refines (order : Order) (μ : MStore) (m : Nat) (fn : Int → Bool) (hm : m < μ.length) :
    ∃ μ' res, findByKeyStoreIn order μ m fn = some (μ', res) ∧
      MFresh μ μ' res (Model.C14.FindByKey fn (order (mget μ m))) :=
  MFresh.of_eq (by simp only [findByKeyStoreIn, mnew, mget_push_old [] hm, findByKeyLoopM_eq])

example : mapValuesStoreIn id μx 1 (fun v => v + 1) = some (μx ++ [[(1, 11), (2, 21), (3, 31), (4, 41)]], 3) ∧
    mapKeysStoreIn List.reverse μx 1 (fun k _ => k % 2) = some (μx ++ [[(0, 20), (1, 10)]], 3) ∧
    mapUniqueStoreIn id (μx ++ [[(1, 5), (2, 5), (3, 6)]]) 3 =
      some (μx ++ [[(1, 5), (2, 5), (3, 6)]] ++ [[(1, 5), (3, 6)]], 4) ∧
    findByKeyStoreIn List.reverse μx 1 (fun k => decide (k < 4)) = some (μx ++ [[(3, 30)]], 3) :=
  ⟨by decide +kernel, by decide +kernel, by decide +kernel, by decide +kernel⟩

/-- PickBy: `result[k] = collection[k]` READS the argument map again — from the current store. -/
theorem pickBy_refines (order : Order) (μ : MStore) (c : Nat) (fn : Int → Int → Bool) (hc : c < μ.length)
    (hwf : Spec.C14.WF (mget μ c)) (ho : (order (mget μ c)).Perm (mget μ c)) :
    ∃ μ' res, pickByStoreIn order μ c fn = some (μ', res) ∧
      MFresh μ μ' res (Model.C14.PickBy (order (mget μ c)) fn) :=
  MFresh.of_eq (by
    simp only [pickByStoreIn, mnew, mget_push_old [] hc, pickByLoopM_eq fn μ hc (Lemmas.C14.idx_perm hwf ho.symm)]
    rfl)

/-- Pick, for every variadic slice `keys` anywhere in the slice store: never panics; the error flag and
the result object are the value-level model's; the slice store comes back AS IT WAS (`keys` is only read); one
new map object, the others unchanged. -/
theorem pick_refines (order : Order) (σ : Store) (μ : MStore) (c : Nat) (keys : Slice) (hk : WF σ keys)
    (hc : c < μ.length) (hwf : Spec.C14.WF (mget μ c)) (ho : (order (mget μ c)).Perm (mget μ c)) :
    ∃ μ' res, pickStoreIn order σ μ c keys =
        some (σ, μ', res, (Model.C14.Pick (order (mget μ c)) (elems σ keys)).2) ∧
      MFresh μ μ' res (Model.C14.Pick (order (mget μ c)) (elems σ keys)).1 := by
  have hlen := elems_length hk
  unfold Model.C14.Pick
  by_cases h0 : keys.len = 0
  · refine ⟨μ ++ [[]], μ.length, ?_, ?_⟩
    · simp only [pickStoreIn, mnew, h0, if_true, hlen]
    · simp only [hlen, h0, if_true]; exact MFresh.push μ []
  · refine ⟨μ ++ [Model.C14.pickLoop (order (mget μ c)) (elems σ keys) (order (mget μ c)) []], μ.length, ?_, ?_⟩
    · simp only [pickStoreIn, mnew, h0, if_false, hlen, mget_push_old [] hc,
        pickLoopM_eq hk μ hc (Lemmas.C14.idx_perm hwf ho.symm)]
    · simp only [hlen, h0, if_false]
      exact MFresh.push μ _

/-- `keysx = [2, 9]` (array 1 of `σh`, a sentinel behind it): `Pick(map1, 2, 9)`; `Pick(map1)` with no key
returns the (new, empty) map and the error -/
example : pickStoreIn List.reverse σh μx 1 keysx = some (σh, μx ++ [[(2, 20)]], 3, false) ∧
    pickStoreIn id σh μx 1 { arr := 1, off := 0, len := 0, cap := 3 } = some (σh, μx ++ [[]], 3, true) ∧
    pickByStoreIn id μx 1 (fun k v => decide (k + v > 30)) = some (μx ++ [[(3, 30), (4, 40)]], 3) :=
  ⟨by decide +kernel, by decide +kernel, by decide +kernel⟩

theorem c14_find_eq (m : List (Int × Int)) (fn : Int → Bool) :
    Model.C14.Find m fn = .ok (Model.C14.findLoop m fn (Model.C14.sortKeys (m.map Prod.fst))) :=
  Theorems.C14.find_eq m fn

/-- Find, for every visiting order: never panics; the result is a new map object showing the value-level
model's answer; every map object that existed is unchanged; the slice store gets ONE new array (the local
`keys`, filled and sorted in place), every array that existed is unchanged. -/
theorem find_refines (order : Order) (σ : Store) (μ : MStore) (m : Nat) (fn : Int → Bool) (hm : m < μ.length)
    (hwf : Spec.C14.WF (mget μ m)) (ho : (order (mget μ m)).Perm (mget μ m)) :
    ∃ σ' μ' res obj, findStoreIn order σ μ m fn = some (σ', μ', res) ∧
      Model.C14.Find (order (mget μ m)) fn = .ok obj ∧ MFresh μ μ' res obj ∧
      Frame σ σ' ∧ σ'.length = σ.length + 1 := by
  -- `keys`: made to measure and filled with the keys in the order visited
  obtain ⟨σ1, w0, e1, h3, hl1, _⟩ := filler_spec σ (n := (mget μ m).length)
    (vs := (order (mget μ m)).map (fun e => e.1)) (by rw [List.length_map, ho.length_eq])
  generalize hkeys : (alloc σ (mget μ m).length (mget μ m).length).2 = keys at w0 e1 h3
  -- `sort.Slice`: the sorted keys written back through the same header
  have hsl : (Model.C14.sortKeys (elems σ1 keys)).length = keys.len := by
    rw [(Lemmas.C14.sortKeys_perm _).length_eq, elems_length h3.wf]
  obtain ⟨σ2, w1, w2, w3⟩ := writeAll_spec h3.wf hsl
  have h4 := h3.inplace w3
  have he2 : elems σ2 keys = Model.C14.sortKeys ((order (mget μ m)).map Prod.fst) := by rw [w2, e1]
  refine ⟨σ2, _, _, _, ?_, c14_find_eq _ fn, MFresh.push μ _, h4.frame, by rw [Lemmas.C16Store.InPlace.length_eq w3, hl1]⟩
  simp only [findStoreIn, mnew, mget_push_old [] hm, mapFillLoop_eq_writeAll, hkeys, w0, sortSliceStore, w1,
    findLoopM_eq fn h4.wf μ hm (Lemmas.C14.idx_perm hwf ho.symm), he2]

/-- map 1 of `μx`, first value above 15 in KEY order, whatever the visiting order; the local `keys` is array 2 -/
example : findStoreIn List.reverse σh μx 1 (fun v => decide (v > 15)) =
    some (σh ++ [[1, 2, 3, 4]], μx ++ [[(2, 20)]], 3) := by decide +kernel

/-- Invert: `keys := Keys(m)` makes one new array; the result is a new map object showing the value-level
model's answer; everything that existed is unchanged. -/
theorem invert_refines (order : Order) (σ : Store) (μ : MStore) (m : Nat) (hm : m < μ.length)
    (hwf : Spec.C14.WF (mget μ m)) (ho : (order (mget μ m)).Perm (mget μ m)) :
    ∃ σ' μ' res obj, invertStoreIn order σ μ m = some (σ', μ', res) ∧
      Model.C14.Invert (order (mget μ m)) = .ok obj ∧ MFresh μ μ' res obj ∧ Frame σ σ' := by
  have hg : mget (μ ++ [[]]) m = mget μ m := mget_push_old [] hm
  obtain ⟨σ1, keys, k1, k2, _, k4, _, k6⟩ := keys_refines order σ (μ ++ [[]]) m (by rw [hg]; exact ho)
  rw [hg] at k2
  refine ⟨σ1, μ ++ [Model.C14.invertLoop (order (mget μ m)) (elems σ1 keys) []], μ.length, _, ?_, ?_,
    MFresh.push μ _, k4⟩
  · simp only [invertStoreIn, mnew, k1, invertLoopM_eq k6 μ hm (Lemmas.C14.idx_perm hwf ho.symm)]
  · unfold Model.C14.Invert
    rw [k2]

example : invertStoreIn List.reverse σh μx 1 =
    some (σh ++ [[4, 3, 2, 1]], μx ++ [[(40, 4), (30, 3), (20, 2), (10, 1)]], 3) := by decide +kernel

/-- FilterMapCollection, for every choice of visiting orders (one per position): the map store comes back
as it was; the result — a list made by the helper — holds the ids of the maps with a qualifying value, in the
order of the collection, whatever the visiting orders; what these ids show is the value-level model's answer. -/
theorem filterMapCollection_refines (orders : Nat → Order) (ho : ∀ i l, (orders i l).Perm l) (μ : MStore)
    (coll : List Nat) (fn : Int → Bool) :
    filterMapCollectionStoreIn orders μ coll fn =
        (μ, coll.filter (fun id => (mget μ id).any (fun e => fn e.2))) ∧
      (filterMapCollectionStoreIn orders μ coll fn).2.map (mget μ) =
        Model.C14.FilterMapCollection (coll.map (mget μ)) fn := by
  have h1 : filterMapCollectionStoreIn orders μ coll fn =
      (μ, coll.filter (fun id => (mget μ id).any (fun e => fn e.2))) := by
    simp only [filterMapCollectionStoreIn, filterCollLoopM_eq orders ho, List.nil_append]
  refine ⟨h1, ?_⟩
  rw [h1, show Model.C14.FilterMapCollection _ fn = _ from Theorems.C14.filterMapCollection_spec _ fn, List.filter_map]
  rfl

/-- what an outer map of `Filter2DMapCollection` shows: its inner map references replaced by their entries -/
def show2 (μ2 : M2Store) (μ : MStore) (id : Nat) : List (Int × List (Int × Int)) :=
  (m2get μ2 id).map (fun e => (e.1, mget μ e.2))

/-- Filter2DMapCollection: both map stores come back as they were; the result holds the ids of the outer
maps with a qualifying inner map, whatever the visiting orders; they show the value-level model's answer. -/
theorem filter2DMapCollection_refines (orders : Nat → List (Int × Nat) → List (Int × Nat))
    (ho : ∀ i l, (orders i l).Perm l) (μ2 : M2Store) (μ : MStore) (coll : List Nat)
    (fn : List (Int × Int) → Bool) :
    filter2DMapCollectionStoreIn orders μ2 μ coll fn =
        (μ2, μ, coll.filter (fun id => (m2get μ2 id).any (fun e => fn (mget μ e.2)))) ∧
      (filter2DMapCollectionStoreIn orders μ2 μ coll fn).2.2.map (show2 μ2 μ) =
        Model.C14.Filter2DMapCollection (coll.map (show2 μ2 μ)) fn := by
  have h1 : filter2DMapCollectionStoreIn orders μ2 μ coll fn =
      (μ2, μ, coll.filter (fun id => (m2get μ2 id).any (fun e => fn (mget μ e.2)))) := by
    simp only [filter2DMapCollectionStoreIn, filter2DLoopM_eq orders ho, List.nil_append]
  refine ⟨h1, ?_⟩
  rw [h1, show Model.C14.Filter2DMapCollection _ fn = _ from Theorems.C14.filter2DMapCollection_spec _ fn,
    List.filter_map]
  congr 1
  apply List.filter_congr
  intro id _
  simp [Spec.C14.hasQualifying, show2, List.any_map, Function.comp_def]

/-- the collection `[map 1, map 0, map 2, map 1]` of `μx`, values above 80: map 2 only (`{2:99}`); the second
visit of map 1 goes the other way round.  Outer maps `{5: map 0, 6: map 2}` and `{5: map 0}`, inner maps holding
key 2. -/
example : filterMapCollectionStoreIn (fun i => if i = 3 then List.reverse else id) μx [1, 0, 2, 1]
      (fun v => decide (v > 80)) = (μx, [2]) ∧
    filter2DMapCollectionStoreIn (fun _ => List.reverse) [[(5, 0), (6, 2)], [(5, 0)]] μx [0, 1, 0]
      (fun m => (Model.C14.get? m 2).isSome) = ([[(5, 0), (6, 2)], [(5, 0)]], μx, [0, 0]) :=
  by decide +kernel

/-- PartitionMap, for every choice of visiting orders: never panics; the WHOLE map store comes back as it
was — `m[k] = v` inside `for k, v := range m` writes back the value just read, whichever entry is visited
first —; the two result lists (made by the helper) hold the ids of the non-empty maps that qualify / do not;
what they show is the value-level model's answer. -/
theorem partitionMap_refines (orders : Nat → Order) (ho : ∀ i l, (orders i l).Perm l) (μ : MStore)
    (ms : List Nat) (fn : List (Int × Int) → Bool) (hwf : ∀ m ∈ ms, Spec.C14.WF (mget μ m)) :
    ∃ r0 r1, partitionMapStoreIn orders μ ms fn = some (μ, r0, r1) ∧
      r0 = ms.filter (fun m => !(mget μ m).isEmpty && fn (mget μ m)) ∧
      r1 = ms.filter (fun m => !(mget μ m).isEmpty && !fn (mget μ m)) ∧
      (r0.map (mget μ), r1.map (mget μ)) = Model.C14.PartitionMap (ms.map (mget μ)) fn := by
  refine ⟨_, _, ?_, rfl, rfl, ?_⟩
  · simp only [partitionMapStoreIn, partitionMapLoopM_eq orders ho fn μ ms hwf, List.nil_append]
  · obtain ⟨e1, e2⟩ := Theorems.C14.partitionMap_spec (ms.map (mget μ)) fn
    exact Prod.ext (by rw [e1, List.filter_map]; rfl) (by rw [e2, List.filter_map]; rfl)

/-- the write is a real write: on an object whose entry for the key held ANOTHER value it would show (the
statement above is about the value the `range` has just read) -/
example : mput μx 1 2 21 = some [[(7, 70)], [(1, 10), (2, 21), (3, 30), (4, 40)], [(2, 99)]] ∧
    mput μx 1 2 20 = some μx := by decide +kernel

/-- maps 1, 0, 2 and a map that does not exist (a nil map: skipped), "has key 2": the map store is unchanged -/
example : partitionMapStoreIn (fun _ => List.reverse) μx [1, 0, 7, 2] (fun m => (Model.C14.get? m 2).isSome) =
    some (μx, [1, 2], [0]) := by decide +kernel

/-- the hypothesis holds of that collection -/
example : ∀ m ∈ [1, 0, 7, 2], Spec.C14.WF (mget μx m) := by decide +kernel

/-- mapByIndex (slice.go:465-476), on any two headers, a call that returns: every array that existed when it
was called is unchanged, the result is ONE new map object, and every header stored in it points into an array made
by this call — although the helper `append`s through headers it reads back from a map, and those appends are IN
PLACE (`make([]T2, 0, len(mapSlice))` leaves spare capacity). -/
theorem mapByIndex_frame {σ σ' : Store} {η η' : HStore} {orig ms : Slice} {res : Nat}
    (hr : mapByIndexStore σ η orig ms = some (σ', η', res)) : HInv σ η σ' η' ∧ res = η.length := by
  simp only [mapByIndexStore] at hr
  split at hr
  · cases hr
  · rename_i hl
    cases hr
    exact ⟨mapByIndexLoopS_hinv orig ms _ 0 σ _ (HInv.new σ η) hl, rfl⟩

/-- GroupBy — frame and freshness (partial).  For every store, every well-formed argument header
and every callback, a call that returns: every array that existed before the call is unchanged in every cell
(spare capacity included); the result is ONE new map object; every header stored in it points into an array that
did not exist before the call (so no group aliases the argument or anything else the caller holds; `GroupBy` is
`mapByIndex` on the result of `Map`, and `mapByIndex_frame`, from the store `Map` leaves, says the same of the `Map`
result).

Left out: value refinement (that the groups show `Model.C12.groupBy`'s answer; it needs the further invariant that
different keys own different arrays), and that the call never panics (`origSlice[idx]` is in range because `Map`
returns a slice of the same length). -/
theorem groupBy_frame_partial (σ : Store) (η : HStore) (slice : Slice) (fn : Int → Int) (h : WF σ slice)
    {σ' : Store} {η' : HStore} {res : Nat} (hr : groupByStore σ η slice fn = some (σ', η', res)) :
    Frame σ σ' ∧ σ.length ≤ σ'.length ∧ res = η.length ∧
      ∃ obj, η' = η ++ [obj] ∧ ∀ e ∈ obj, σ.length ≤ e.2.arr := by
  obtain ⟨σ1, keys, m1, _, m3, _⟩ := map_refines σ slice fn h
  simp only [groupByStore, m1] at hr
  obtain ⟨hi, hres⟩ := mapByIndex_frame hr
  have hl := Frame.length_le m3
  obtain ⟨obj, e, hf⟩ := hi.last
  have hfr : Frame σ σ' := Frame.trans m3 hi.frame
  exact ⟨hfr, Frame.length_le hfr, hres, obj, e, fun x hx => Nat.le_trans hl (hf x hx)⟩

/-- `GroupBy(arg0, x % 2)` on `σx` (`arg0 = [1,2,3,4]` inside array 0, sentinels around it): array 2 is `Map`'s
result, arrays 3 and 4 the two groups `1 ↦ [1,3]`, `0 ↦ [2,4]` (capacity 4 each, filled in place); `σx` is a
prefix of the new store: the call returns, and the hypothesis of the theorem holds (`wf_arg0`) -/
example : groupByStore σx [] arg0 (fun x => x % 2) =
    some (σx ++ [[1, 0, 1, 0], [1, 3, 0, 0], [2, 4, 0, 0]],
      [[(1, { arr := 3, off := 0, len := 2, cap := 4 }), (0, { arr := 4, off := 0, len := 2, cap := 4 })]], 0) := by
  decide +kernel

/-- DuplicateWithIndex — frame and freshness (partial).  For every store, every argument header, EVERY
visiting order of `range kvMap` (any function at all), a call that returns: every slice array that existed is
unchanged — the helper writes `kvMap[v][0]`, `kvMap[v][1]` through headers read back from its local map —;
the result is ONE new object of the map store and every map object that existed is unchanged; the local
`kvMap` is one new object of the header-map store, all its headers pointing into arrays that did not exist.

Left out: value refinement (for every order that permutes `kvMap` the result object is a permutation of
`Model.C11.duplicateWithIndex (elems σ slice)`), and that the call never panics for a well-formed argument. -/
theorem duplicateWithIndex_frame_partial (order : List (Int × Slice) → List (Int × Slice)) (σ : Store)
    (μ : MStore) (η : HStore) (slice : Slice) {σ' : Store} {μ' : MStore} {η' : HStore} {res : Nat}
    (hr : duplicateWithIndexStoreIn order σ μ η slice = some (σ', μ', η', res)) :
    Frame σ σ' ∧ σ.length ≤ σ'.length ∧ res = μ.length ∧ (∃ obj, μ' = μ ++ [obj]) ∧
      ∃ kv, η' = η ++ [kv] ∧ ∀ e ∈ kv, σ.length ≤ e.2.arr := by
  simp only [duplicateWithIndexStoreIn] at hr
  split at hr
  · cases hr
  · rename_i hl
    have hi := dupIdxLoopS_hinv slice _ 0 0 σ _ (HInv.new σ η) hl
    split at hr
    · cases hr
    · rename_i hc
      cases hr
      exact ⟨hi.frame, Frame.length_le hi.frame, rfl, dupIdxCollectM_push _ _ _ _ hc, hi.last⟩

/-- `[3,1,3,1,3,2]` inside an array with sentinels: `3` first at 0, `1` first at 1; arrays 1–3 are the two-cell
slices of `kvMap` (`[first index, last count]` — the ONE `count` variable runs on across values: `3 ↦ 4`,
`1 ↦ 3`); `kvMap` visited backwards.  By `rfl`: `decide` finds no `Decidable` instance for an equation between
4-tuples holding an `HStore` -/
example : duplicateWithIndexStoreIn List.reverse [[-555, 3, 1, 3, 1, 3, 2, -777, -777]] μx []
      { arr := 0, off := 1, len := 6, cap := 8 } =
    some ([[-555, 3, 1, 3, 1, 3, 2, -777, -777], [0, 4], [1, 3], [5, 1]], μx ++ [[(1, 1), (3, 0)]],
      [[(3, { arr := 1, off := 0, len := 2, cap := 2 }), (1, { arr := 2, off := 0, len := 2, cap := 2 }),
        (2, { arr := 3, off := 0, len := 2, cap := 2 })]], 3) := by rfl

/-- the helpers covered here with what is PROVED about them: (name, parameters written through, parameters the
result may alias, all writes are the self-assignment idiom).  The alias column is about the storage of the result
itself: `FilterMapCollection`, `Filter2DMapCollection` and `PartitionMap` return NEW outer slices, whose elements
are map references copied from the argument (the same map ids, as their theorems say). -/
def covered5 : List (String × List Nat × List Nat × Bool) :=
  [("FilterMap", [], [], false), ("FilterMapCollection", [], [], false), ("Filter2DMapCollection", [], [], false),
   ("MapValues", [], [], false), ("MapKeys", [], [], false), ("MapUnique", [], [], false),
   ("Find", [], [], false), ("FindByKey", [], [], false), ("Invert", [], [], false),
   ("Pick", [], [], false), ("PickBy", [], [], false), ("PartitionMap", [0], [], true)]

/-- for every helper covered here the classification in the translator's table (`Gen.effects`, regenerated from the
source on every run) is the one proved above (no parameter written through
and no result aliasing a parameter; for `PartitionMap`: parameter 0 written, by self-assignments only —
`partitionMap_refines` proves these leave every map object as it was). -/
theorem covered5_agree_with_table :
    covered5.all (fun c => Gen.effects.any (fun e => e.name == c.1 && e.writes == c.2.1 && e.aliases == c.2.2.1 &&
      e.selfAssignOnly == c.2.2.2)) = true :=
  Lemmas.C16Table.all_any_of_foundAt [21, 22, 20, 56, 53, 55, 23, 25, 44, 76, 77, 75] (by decide +kernel)

/-- the helpers for which the frame / freshness half is proved here (`…_frame_partial`), value refinement open -/
def covered5_partial : List (String × List Nat × List Nat × Bool) :=
  [("GroupBy", [], [], false), ("DuplicateWithIndex", [], [], false)]

theorem covered5_partial_agree_with_table :
    covered5_partial.all (fun c => Gen.effects.any (fun e => e.name == c.1 && e.writes == c.2.1 &&
      e.aliases == c.2.2.1 && e.selfAssignOnly == c.2.2.2)) = true :=
  Lemmas.C16Table.all_any_of_foundAt [39, 16] (by decide +kernel)

end GoguVerif.Theorems.C16Helpers5
