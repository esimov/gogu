import GoguVerif.Gen.Funcs2
/-!
# The primitives of `Gen/Funcs2.lean` on natural-number arguments

What the parts `GenTieMore2A` (C12), `GenTieMore2B` (C13), `GenTieMore2C` (C11) share; the header of the umbrella
`Theorems/GenTieMore2.lean` says how `Gen/Funcs2.lean` is produced.  All five modules declare into the namespace
`GenTieMore2`: this module and part A at its root, parts B and C keep their own helpers in the sub-namespaces `B`, `C`.
-/
namespace GoguVerif.Theorems.GenTieMore2
open GoguVerif.Gen.Funcs2

variable {α : Type}

@[simp] theorem bind_ok {β γ : Type} (b : β) (f : β → Out γ) : Out.bind (Out.ok b) f = f b := rfl
@[simp] theorem bind_panic {β γ : Type} (f : β → Out γ) : Out.bind (Out.panic : Out β) f = Out.panic := rfl
@[simp] theorem bind_hang {β γ : Type} (f : β → Out γ) : Out.bind (Out.hang : Out β) f = Out.hang := rfl

theorem hIdx_lt (s : Array α) (i : Nat) (h : i < s.size) : hIdx s (i : Int) = .ok s[i] := by
  rw [hIdx, if_neg (Int.not_lt.mpr (Int.natCast_nonneg i)), Int.toNat_natCast, Array.getElem?_eq_getElem h]

theorem hIdx_ge (s : Array α) (i : Nat) (h : s.size ≤ i) : hIdx s (i : Int) = .panic := by
  rw [hIdx, if_neg (Int.not_lt.mpr (Int.natCast_nonneg i)), Int.toNat_natCast, Array.getElem?_eq_none h]

theorem hSet_nat (s : Array α) (i : Nat) (v : α) :
    hSet s (i : Int) v = if h : i < s.size then .ok (s.set i v h) else .panic := by
  rw [hSet, if_neg (Int.not_lt.mpr (Int.natCast_nonneg i))]
  simp only [Int.toNat_natCast]

theorem hSet_lt (s : Array α) (i : Nat) (v : α) (h : i < s.size) : hSet s (i : Int) v = .ok (s.set i v h) := by
  rw [hSet_nat, dif_pos h]

theorem hSet_ge (s : Array α) (i : Nat) (v : α) (h : s.size ≤ i) : hSet s (i : Int) v = .panic := by
  rw [hSet_nat, dif_neg (Nat.not_lt.mpr h)]

theorem hSlice_nat (s : Array α) (lo hi : Nat) (h1 : lo ≤ hi) (h2 : hi ≤ s.size) :
    hSlice s (lo : Int) (hi : Int) = .ok (s.extract lo hi) := by
  rw [hSlice, if_pos ⟨Int.natCast_nonneg lo, Int.ofNat_le.mpr h1, Int.ofNat_le.mpr h2⟩, Int.toNat_natCast,
    Int.toNat_natCast]

/-- one iteration at position `i < a` uses up one unit of a fuel bound `a - i + c` -/
theorem fuel_step {a i c f : Nat} (hlt : i < a) (hf : a - i + c ≤ f + 1) : a - (i + 1) + c ≤ f := by
  rw [← Nat.sub_add_cancel (Nat.sub_pos_of_lt hlt), Nat.add_right_comm] at hf
  exact Nat.le_of_succ_le_succ hf

end GoguVerif.Theorems.GenTieMore2
