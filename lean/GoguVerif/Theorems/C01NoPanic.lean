import GoguVerif.Theorems.C02Inst
import GoguVerif.Theorems.C04
import GoguVerif.Theorems.C09
import GoguVerif.Theorems.C19
/-!
# C01, remaining clause — "no call panics, and the instance stays usable", along concurrent histories

`Theorems/C01.lean` proves race- and deadlock-freedom of the lock discipline; `Theorems/C02Inst.lean`
proves that every concurrent (micro-step interleaved, RWMutex-admitted) history of each container is
a legal sequential run of the container's sequential object.  This file composes the latter with the
SEQUENTIAL no-panic / invariant-preservation theorems of the containers (C03, C04, C08, C09, C19; the slice queue and stack are in
`Theorems/C01NoPanicGen.lean`):

Given an invariant `I` that every step preserves and a property `Good` of the answer of every step from an
`I`-state: along every legal run, hence in every reachable state of the fine-grained system
`oneStep step mode`, the abstract object satisfies `I`, every linearized and every RETURNED result is
`Good`, and the concrete shared state satisfies `I` whenever nobody holds the write lock.  Each container
instantiates `I` and `Good`.

"Stays usable": the conclusion `I s.absObj` is the hypothesis `I init` of the same theorem (and of
the sequential theorems of the container) again, so any continuation — sequential or concurrent — is
covered by the same theorems.
-/
namespace GoguVerif.Theorems.C01NoPanic
open GoguVerif.Model GoguVerif.Model.Lin
open GoguVerif.Model.Lock (Mode)
open GoguVerif.Theorems.C02Inst

section Generic
variable {σ Op Ret : Type}

/-- Along a legal sequential run from an `I`-state: `I` holds at the end, and every operation's
recorded result is `Good` (for that operation).  `C02More.legal_preserves_on` with no condition on the operations. -/
theorem legal_preserves {O : Obj σ Op Ret} (I : σ → Prop) (Good : Op → Ret → Prop)
    (hstep : ∀ s op, I s → I (O.step s op).1 ∧ Good op (O.step s op).2)
    {s ops s'} (l : Legal O s ops s') (hi : I s) : I s' ∧ ∀ p ∈ ops, Good p.1 p.2 :=
  C02More.legal_preserves_on I (fun _ => True) Good (fun s op hi _ => hstep s op hi) l (fun _ _ => trivial) hi

/-- The same with a property `Q` of the operation's PRE-state: every operation of a legal run from
an `I`-state was applied to some `I`-state `s0` with `Q s0 op`, and its result is the one the object
gives there. -/
theorem legal_preserves_at {O : Obj σ Op Ret} (I : σ → Prop) (Q : σ → Op → Prop)
    (hstep : ∀ s op, I s → I (O.step s op).1 ∧ Q s op)
    {s ops s'} (l : Legal O s ops s') (hi : I s) :
    I s' ∧ ∀ p ∈ ops, ∃ s0, I s0 ∧ Q s0 p.1 ∧ p.2 = (O.step s0 p.1).2 :=
  legal_preserves (O := O) I (fun op res => ∃ s0, I s0 ∧ Q s0 op ∧ res = (O.step s0 op).2)
    (fun s op hi => ⟨(hstep s op hi).1, s, hi, (hstep s op hi).2, rfl⟩) l hi

variable [Inhabited Ret] {step : σ → Op → σ × Ret} {mode : Op → Mode}

/-- In every reachable state of the fine-grained system of a
lock-guarded object (read-mode operations being observers), started in an `I`-state: the abstract
object state satisfies `I`, every linearized result is `Good`, every RETURNED value is `Good`:
`C02More.reach_preserves` along `oneStep_history_is_atomic`. -/
theorem oneStep_preserves (ro : ∀ op, mode op = .r → ∀ s, (step s op).1 = s)
    (I : σ → Prop) (Good : Op → Ret → Prop)
    (hstep : ∀ s op, I s → I (step s op).1 ∧ Good op (step s op).2)
    {init : σ} (hi : I init) {h s} (r : Fine.Reach (oneStep step mode) init h s) :
    I s.absObj ∧ (∀ p ∈ linOps h, Good p.1 p.2) ∧
      (∀ t c op res, Ev.ret t c op res ∈ h → Good op res) :=
  C02More.reach_preserves (O := ⟨init, step⟩) I Good hstep hi (oneStep_history_is_atomic ro r)

/-- `oneStep_preserves` with a property `Q` of the pre-state at the linearization point. -/
theorem oneStep_preserves_at (ro : ∀ op, mode op = .r → ∀ s, (step s op).1 = s)
    (I : σ → Prop) (Q : σ → Op → Prop)
    (hstep : ∀ s op, I s → I (step s op).1 ∧ Q s op)
    {init : σ} (hi : I init) {h s} (r : Fine.Reach (oneStep step mode) init h s) :
    I s.absObj ∧ (∀ p ∈ linOps h, ∃ s0, I s0 ∧ Q s0 p.1 ∧ p.2 = (step s0 p.1).2) ∧
      (∀ t c op res, Ev.ret t c op res ∈ h → ∃ s0, I s0 ∧ Q s0 op ∧ res = (step s0 op).2) :=
  oneStep_preserves ro I (fun op res => ∃ s0, I s0 ∧ Q s0 op ∧ res = (step s0 op).2)
    (fun s op hi => ⟨(hstep s op hi).1, s, hi, (hstep s op hi).2, rfl⟩) hi r

theorem oneStep_abs_inv (ro : ∀ op, mode op = .r → ∀ s, (step s op).1 = s)
    (I : σ → Prop) (hstep : ∀ s op, I s → I (step s op).1)
    {init : σ} (hi : I init) {h s} (r : Fine.Reach (oneStep step mode) init h s) : I s.absObj :=
  (oneStep_preserves ro I (fun _ _ => True) (fun s op hi => ⟨hstep s op hi, trivial⟩) hi r).1

/-- The CONCRETE shared state (what the next lock holder will find) satisfies the invariant whenever
nobody is inside a write-mode critical section — in particular in every quiescent state. -/
theorem oneStep_shared_inv (ro : ∀ op, mode op = .r → ∀ s, (step s op).1 = s)
    (I : σ → Prop) (hstep : ∀ s op, I s → I (step s op).1)
    {init : σ} (hi : I init) {h s} (r : Fine.Reach (oneStep step mode) init h s)
    (hw : ∀ i, Fine.holds (s.th i) ≠ some .w) : I s.shared := by
  have hinv := (C02Fine.fine_refines_atomic (oneStep_readOnly step mode ro) r).1
  rw [← hinv.noWriter hw]
  exact oneStep_abs_inv ro I hstep hi r

end Generic

/-! ## Heap `heap.Heap`

The model `Model.Heap.step` has explicit `panic` / `hang` outcomes; `heapStep` reports them as the
call's answer. -/
section HeapNP
variable {α : Type} [Inhabited α] [DecidableEq α]

/-- Goroutines calling `Push`/`Pop`/`Peek`/`Size`/`Clear` concurrently on a heap that
starts in a state with the representation invariant (strict-weak-order comparator, heap-ordered
array): every linearized and every returned answer is `ok` (neither Go's index panic nor the
`moveUp` hang), and the abstract heap state satisfies the invariant again. -/
theorem heap_concurrent_never_panics {init : Heap.Heap α} (hi : Lemmas.C03.Inv init) {h s}
    (r : Fine.Reach (oneStep heapStep heapMode) init h s) :
    Lemmas.C03.Inv s.absObj ∧ (∀ p ∈ linOps h, ∃ out, p.2 = Heap.Outcome.ok out) ∧
      (∀ t c op res, Ev.ret t c op res ∈ h → ∃ out, res = Heap.Outcome.ok out) :=
  oneStep_preserves heap_observers Lemmas.C03.Inv (fun _ res => ∃ out, res = Heap.Outcome.ok out) heapStep_inv hi r

/-- the array itself is a heap whenever no writer is inside -/
theorem heap_shared_inv {init : Heap.Heap α} (hi : Lemmas.C03.Inv init) {h s}
    (r : Fine.Reach (oneStep heapStep heapMode) init h s)
    (hw : ∀ i, Fine.holds (s.th i) ≠ some .w) : Lemmas.C03.Inv s.shared :=
  oneStep_shared_inv heap_observers Lemmas.C03.Inv (fun s op hi => (heapStep_inv s op hi).1) hi r hw

end HeapNP

/-- hypotheses satisfiable: `NewHeap(<)` on `Int`, and a non-trivial reachable history -/
example : Lemmas.C03.Inv (Heap.new C03.ltI) := C03.inv_init C03.swo_lt
example : ∃ s, Fine.Reach (oneStep heapStep (heapMode (α := Int))) (Heap.new C03.ltI)
    (serialHist heapStep (Heap.new C03.ltI) .pop (.push 7)) s :=
  (overlap_serial heapStep heapMode (Heap.new C03.ltI) .pop (.push 7)).imp fun _ h => h.1

/-! ## BST `bstree.BsTree`

The sequential objects of the instances, `bstStep comp` (ordered-map specification) and
`bstPatchedStep comp` (… with finding F10), have NO panic outcome.  The code model `Model.Bst.step`
has one (`none`: the nil dereferences in `upsert`/`min`).  Invariant: the association list is sorted
by a strict total order `comp`; at every linearization point, EVERY tree `t` that is a binary search
tree representing the abstract state answers without panic, is a BST again and represents the
successor state (`C04.step_refines_patched` / `C04.step_refines_spec`). -/
section BstNP
variable {κ ν : Type} {comp : κ → κ → Bool}
open GoguVerif.Spec.OrdMap

/-- the code model, run on any BST representing the patched-specification state `p0`, does not panic,
answers the specification's answer and represents the specification's successor -/
def bstPatchedCodeOk (comp : κ → κ → Bool) (p0 : Spec.C04.Patched.St κ ν) (op : BstOp κ ν) : Prop :=
  ∀ t : Model.Bst.St κ ν, C04.Inv comp t → C04.absP t = p0 →
    ∃ t', Model.Bst.step comp t op.toOp = some (t', (bstPatchedStep comp p0 op).2) ∧
      C04.Inv comp t' ∧ C04.absP t' = (bstPatchedStep comp p0 op).1

/-- the code model, run on any BST whose in-order traversal is `m0`: no panic, BST again, represents
the successor -/
def bstCodeOk (comp : κ → κ → Bool) (m0 : List (κ × ν)) (op : BstOp κ ν) : Prop :=
  ∀ t : Model.Bst.St κ ν, C04.Inv comp t → C04.abs t = m0 →
    ∃ t' o, Model.Bst.step comp t op.toOp = some (t', o) ∧
      C04.Inv comp t' ∧ C04.abs t' = (bstStep comp m0 op).1

theorem bstStep_sorted (hc : STO comp) (m : List (κ × ν)) (op : BstOp κ ν) (hs : Sorted comp m) :
    Sorted comp (bstStep comp m op).1 := by
  cases op with
  | upsert k v => exact Lemmas.C04.sorted_insert hc k v hs
  | get k => exact hs
  | delete k => exact Lemmas.C04.sorted_erase k hs
  | size => exact hs

theorem bstPatchedStep_sorted (hc : STO comp) (p : Spec.C04.Patched.St κ ν) (op : BstOp κ ν)
    (hs : Sorted comp p.m) : Sorted comp (bstPatchedStep comp p op).1.m := by
  rw [bstPatchedStep, Lemmas.C04.patched_step]
  exact bstStep_sorted hc p.m op hs

/-- BST, ordered-map specification.  Concurrent `Upsert`/`Get`/`Delete`/`Size` from a sorted map
(comparator a strict total order): the abstract map stays sorted, and every linearized / returned
answer was computed in a sorted state `m0` on which the code model cannot panic. -/
theorem bst_concurrent_never_panics (hc : STO comp) {init : List (κ × ν)} (hi : Sorted comp init) {h s}
    (r : Fine.Reach (oneStep (bstStep comp) bstMode) init h s) :
    Sorted comp s.absObj ∧
      (∀ p ∈ linOps h, ∃ m0, Sorted comp m0 ∧ bstCodeOk comp m0 p.1 ∧ p.2 = (bstStep comp m0 p.1).2) ∧
      (∀ t c op res, Ev.ret t c op res ∈ h →
        ∃ m0, Sorted comp m0 ∧ bstCodeOk comp m0 op ∧ res = (bstStep comp m0 op).2) :=
  oneStep_preserves_at (bst_observers comp) (Sorted comp) (bstCodeOk comp)
    (fun m op hs => ⟨bstStep_sorted hc m op hs, fun t ht ha => by
      obtain ⟨t', o, e, i, a, _⟩ := C04.step_refines_spec hc t op.toOp ht
      exact ⟨t', o, e, i, by rw [a, ha]; rfl⟩⟩) hi r

/-- BST, patched specification (what the code implements).  As `bst_concurrent_never_panics`; here the code model's
answer IS the linearized answer. -/
theorem bstPatched_concurrent_never_panics (hc : STO comp) {init : Spec.C04.Patched.St κ ν}
    (hi : Sorted comp init.m) {h s}
    (r : Fine.Reach (oneStep (bstPatchedStep comp) bstMode) init h s) :
    Sorted comp s.absObj.m ∧
      (∀ p ∈ linOps h, ∃ p0 : Spec.C04.Patched.St κ ν, Sorted comp p0.m ∧ bstPatchedCodeOk comp p0 p.1 ∧
        p.2 = (bstPatchedStep comp p0 p.1).2) ∧
      (∀ t c op res, Ev.ret t c op res ∈ h →
        ∃ p0 : Spec.C04.Patched.St κ ν, Sorted comp p0.m ∧ bstPatchedCodeOk comp p0 op ∧
          res = (bstPatchedStep comp p0 op).2) :=
  oneStep_preserves_at (bstPatched_observers comp) (fun p => Sorted comp p.m) (bstPatchedCodeOk comp)
    (fun p op hs => ⟨bstPatchedStep_sorted hc p op hs, fun t ht ha => by
      obtain ⟨t', o, e, i, a⟩ := C04.step_refines_patched hc t op.toOp ht
      rw [ha] at a
      exact ⟨t', (congrArg Prod.snd a).symm ▸ e, i, (congrArg Prod.fst a).symm⟩⟩) hi r

end BstNP

/-- hypotheses satisfiable: `<` on `Int`, the empty tree -/
example : Spec.OrdMap.Sorted (fun a b : Int => decide (a < b)) ([] : List (Int × Int)) := trivial
example : Spec.OrdMap.STO (fun a b : Int => decide (a < b)) := C04.sto_lt
/-- `bstCodeOk` is about existing trees: the empty tree represents `[]` -/
example : C04.Inv (fun a b : Int => decide (a < b)) ({} : Model.Bst.St Int Int) ∧
    C04.abs ({} : Model.Bst.St Int Int) = [] := ⟨C04.inv_init, C04.abs_init⟩

/-! ## Trie `trie.Trie`

The specification object `trieStep` has NO panic outcome; the code model `Model.Trie.step` has
(`none`), and `Put` with the EMPTY key does panic (`C09.put_empty_panics`, as `key[0]` does in Go):
that call is outside the property's domain (`ValidOp`).  Invariant: the map is sorted in
byte-lexicographic order; at every linearization point of a valid operation every trie with the
representation invariant that represents the abstract state answers without panic, keeps its
invariant and represents the successor (`C09.trie_step_refines`). -/
section TrieNP
open GoguVerif.Spec.OrdMap

def trieCodeOk (m0 : List (Spec.C09.Key × Int)) (op : TrieOp) : Prop :=
  Lemmas.C09.ValidOp op.toOp → ∀ t : Model.Trie.Trie, Lemmas.C09.Inv t → Lemmas.C09.abs t = m0 →
    ∃ t', Model.Trie.step t op.toOp = some (t', (trieStep m0 op).2) ∧
      Lemmas.C09.abs t' = (trieStep m0 op).1 ∧ Lemmas.C09.Inv t'

theorem trieStep_sorted (m : List (Spec.C09.Key × Int)) (op : TrieOp) (hs : Sorted Spec.C09.lexLt m) :
    Sorted Spec.C09.lexLt (trieStep m op).1 := by
  cases op with
  | put k v => exact Lemmas.C04.sorted_insert C09.lexLt_strict_total k v hs
  | get k => exact hs
  | contains k => exact hs
  | size => exact hs

/-- Concurrent `Put`/`Get`/`Contains`/`Size` from a sorted map: the abstract map stays
sorted, and every linearized / returned answer was computed in a sorted state `m0` on which the code
model cannot panic (for `Put`: provided the key is non-empty). -/
theorem trie_concurrent_never_panics {init : List (Spec.C09.Key × Int)} (hi : Sorted Spec.C09.lexLt init)
    {h s} (r : Fine.Reach (oneStep trieStep trieMode) init h s) :
    Sorted Spec.C09.lexLt s.absObj ∧
      (∀ p ∈ linOps h, ∃ m0, Sorted Spec.C09.lexLt m0 ∧ trieCodeOk m0 p.1 ∧ p.2 = (trieStep m0 p.1).2) ∧
      (∀ t c op res, Ev.ret t c op res ∈ h →
        ∃ m0, Sorted Spec.C09.lexLt m0 ∧ trieCodeOk m0 op ∧ res = (trieStep m0 op).2) :=
  oneStep_preserves_at trie_observers (Sorted Spec.C09.lexLt) trieCodeOk
    (fun m op hs => ⟨trieStep_sorted m op hs, fun hv t ht ha => by
      obtain ⟨t', e, a, i⟩ := C09.trie_step_refines t op.toOp ht hv
      rw [ha] at e a
      exact ⟨t', e, a, i⟩⟩) hi r

end TrieNP

/-- hypotheses satisfiable: the empty trie -/
example : Spec.OrdMap.Sorted Spec.C09.lexLt ([] : List (Spec.C09.Key × Int)) := trivial
example : Lemmas.C09.Inv {} ∧ Lemmas.C09.abs {} = [] := C09.trie_init
example : Lemmas.C09.ValidOp (TrieOp.put [97] 1).toOp := by simp [TrieOp.toOp, Lemmas.C09.ValidOp]

/-! ## Expiring cache `cache.Cache` at a fixed instant

Neither the specification `cacheStep cfg c` nor the code model `cacheCall cfg now`
(`Model.Cache.call`: Go map operations on a map created by `New`) has a panic outcome — both are total
functions into `Spec.C08.Out`.  What is proved is invariant preservation along concurrent histories:
unique keys (the association list is a map) and, for the specification, the fixed clock. -/
section CacheNP

def specKeys (s : Spec.C08.St) : List Int := s.es.map (·.key)

theorem specKeys_filter (p : Spec.C08.Entry → Bool) (es : List Spec.C08.Entry)
    (hn : (es.map (·.key)).Nodup) : ((es.filter p).map (·.key)).Nodup :=
  (List.Sublist.map _ List.filter_sublist).nodup hn

theorem specKeys_store (k v x : Int) (es : List Spec.C08.Entry) (hn : (es.map (·.key)).Nodup) :
    ((Spec.C08.store k v x es).map (·.key)).Nodup := by
  simp only [Spec.C08.store, List.map_cons, List.nodup_cons]
  refine ⟨?_, specKeys_filter _ es hn⟩
  intro hm
  obtain ⟨e, he, hk⟩ := List.mem_map.1 hm
  have := (List.mem_filter.1 he).2
  simp [hk] at this

/-- invariant of the specification state: unique keys, clock at `now0` -/
def CacheInv (now0 : Int) (s : Spec.C08.St) : Prop := (specKeys s).Nodup ∧ s.now = now0

theorem cacheStep_inv (cfg : Spec.C08.Cfg) (c : Bool) (now0 : Int) (s : Spec.C08.St) (op : CacheOp)
    (hi : CacheInv now0 s) : CacheInv now0 (cacheStep cfg c s op).1 := by
  refine ⟨?_, by rw [cache_now_fixed]; exact hi.2⟩
  obtain ⟨_, e, h⟩ := cacheStep_fst cfg c op s
  rw [e]
  rcases h with rfl | ⟨_, _, _, rfl⟩ | ⟨_, rfl⟩
  · exact hi.1
  · exact specKeys_store _ _ _ _ hi.1
  · exact specKeys_filter _ _ hi.1

/-- Cache, specification.  Concurrent `Set`/`Get`/`Update`/`Delete`/`Count` at a fixed instant, from
a state with unique keys: keys stay unique and the clock stays put (the object has no panic outcome;
every answer is the total specification's answer in a state with the invariant). -/
theorem cache_concurrent_never_panics (cfg : Spec.C08.Cfg) (c : Bool) {init : Spec.C08.St}
    (hi : (specKeys init).Nodup) {h s}
    (r : Fine.Reach (oneStep (cacheStep cfg c) cacheMode) init h s) :
    CacheInv init.now s.absObj ∧
      (∀ p ∈ linOps h, ∃ s0, CacheInv init.now s0 ∧ p.2 = (cacheStep cfg c s0 p.1).2) ∧
      (∀ t c' op res, Ev.ret t c' op res ∈ h →
        ∃ s0, CacheInv init.now s0 ∧ res = (cacheStep cfg c s0 op).2) :=
  oneStep_preserves (cache_observers cfg c) (CacheInv init.now)
    (fun op res => ∃ s0, CacheInv init.now s0 ∧ res = (cacheStep cfg c s0 op).2)
    (fun s op hs => ⟨cacheStep_inv cfg c init.now s op hs, s, hs, rfl⟩) (init := init) ⟨hi, rfl⟩ r

/-- Cache, code model `Model.Cache.call cfg now` (the Go map as an association list): from a map
with unique keys, the keys stay unique (the representation invariant of `Lemmas.C08.Inv` that the
single-element calls can touch; `Lemmas.C08.nodup_call`), in the abstract state and — when no writer
is inside — in the shared map itself. -/
theorem cacheModel_concurrent_never_panics (cfg : Cache.Cfg) (now : Int) {init : Cache.Items}
    (hi : (Lemmas.C08.keys init).Nodup) {h s}
    (r : Fine.Reach (oneStep (cacheCall cfg now) cacheMode) init h s) :
    (Lemmas.C08.keys s.absObj).Nodup ∧
      (∀ p ∈ linOps h, ∃ m0, (Lemmas.C08.keys m0).Nodup ∧ p.2 = (cacheCall cfg now m0 p.1).2) ∧
      (∀ t c op res, Ev.ret t c op res ∈ h →
        ∃ m0, (Lemmas.C08.keys m0).Nodup ∧ res = (cacheCall cfg now m0 op).2) ∧
      ((∀ i, Fine.holds (s.th i) ≠ some .w) → (Lemmas.C08.keys s.shared).Nodup) := by
  have hstep : ∀ (m : Cache.Items) (op : CacheOp), (Lemmas.C08.keys m).Nodup →
      (Lemmas.C08.keys (cacheCall cfg now m op).1).Nodup :=
    fun m op hn => Lemmas.C08.nodup_call op.toOp hn
  obtain ⟨i, g1, g2⟩ := oneStep_preserves (cacheModel_observers cfg now) (fun m => (Lemmas.C08.keys m).Nodup)
    (fun op res => ∃ m0, (Lemmas.C08.keys m0).Nodup ∧ res = (cacheCall cfg now m0 op).2)
    (fun m op hn => ⟨hstep m op hn, m, hn, rfl⟩) hi r
  exact ⟨i, g1, g2,
    oneStep_shared_inv (cacheModel_observers cfg now) (fun m => (Lemmas.C08.keys m).Nodup) hstep hi r⟩

end CacheNP

/-- hypotheses satisfiable: the empty cache, and a one-entry cache -/
example : (specKeys {}).Nodup := by simp [specKeys]
example : (specKeys { now := 0, es := [⟨1, 11, 0⟩] }).Nodup := by simp [specKeys]
example : (Lemmas.C08.keys []).Nodup := by simp

/-! ## Linked queue `queue.LQueue` and linked stack `stack.LStack`: sequence level

The models `Model.LQueue.step` / `Model.LStack.step` work on the sequence held by the `list.DList`
(`Model/DSeq.lean`) and the counter `n`; their result types have NO panic outcome.  The invariants
below are the ones the models maintain: the `DList` is never empty (its head node is embedded), and
the counter is consistent with it. -/
section LinkedSeq
variable {α : Type} [Inhabited α] [DecidableEq α]

/-- `LQueue`: the list is non-empty; the counter is its length — or `0` with a single (stale) node
left, the state after `Clear` or after dequeuing the last element (`DSeq.clear` keeps the head node, `DSeq.shift` of a
single node keeps it with the zero value: `Model/DSeq.lean`) -/
def LQInv (s : LQueue.St α) : Prop :=
  s.list ≠ [] ∧ (s.n = s.list.length ∨ (s.n = 0 ∧ s.list.length = 1))

theorem lqueue_step_inv (s : LQueue.St α) (op : Spec.C05.Op α) (hi : LQInv s) :
    LQInv (LQueue.step s op).1 := by
  obtain ⟨l, n⟩ := s
  obtain ⟨hne, hn⟩ : l ≠ [] ∧ (n = l.length ∨ (n = 0 ∧ l.length = 1)) := hi
  obtain ⟨x, r, rfl⟩ := List.exists_cons_of_ne_nil hne
  -- a state with the invariant is in use, `⟨x :: r, length⟩`, or drained, `⟨[x], 0⟩`: on either shape the step computes
  -- (as for `C05.RepL.step`)
  rcases hn with rfl | ⟨rfl, hl⟩
  · cases op with
    | enqueue y =>
      exact ⟨List.cons_ne_nil _ _, .inl (show ((r.length + 1 : Nat) : Int) + 1 = ((x :: (r ++ [y])).length : Nat) by
        rw [List.length_cons, List.length_append]; rfl)⟩
    | dequeue =>
      cases r with
      | nil => exact ⟨List.cons_ne_nil _ _, .inr ⟨rfl, rfl⟩⟩
      | cons y r => exact ⟨List.cons_ne_nil _ _, .inl (Int.add_sub_cancel ((r.length + 1 : Nat) : Int) 1)⟩
    | clear => exact ⟨List.cons_ne_nil _ _, .inr ⟨rfl, rfl⟩⟩
    | _ => exact ⟨hne, .inl rfl⟩
  · cases r with
    | cons y r => cases hl
    | nil =>
      cases op with
      | enqueue y => exact ⟨List.cons_ne_nil _ _, .inl rfl⟩
      | _ => exact ⟨List.cons_ne_nil _ _, .inr ⟨rfl, rfl⟩⟩

/-- `LStack` (with the findings F12a/F12b the counter may lag behind): non-empty list, `0 ≤ n ≤ length` -/
def LSInv (s : LStack.St α) : Prop := s.list ≠ [] ∧ 0 ≤ s.n ∧ s.n ≤ s.list.length

/-- `Pop`'s counter, decremented only while positive, stays within `0 … k` when it was within `0 … k + 1` -/
theorem pop_counter {n k : Int} (h0 : 0 ≤ n) (hk : 0 ≤ k) (hn : n ≤ k + 1) :
    0 ≤ (if n > 0 then n - 1 else n) ∧ (if n > 0 then n - 1 else n) ≤ k := by
  split
  · next h => exact ⟨Int.sub_nonneg_of_le h, Int.sub_right_le_of_le_add hn⟩
  · next h => exact ⟨h0, Int.le_trans (Int.not_lt.1 h) hk⟩

theorem lstack_step_inv (s : LStack.St α) (op : Spec.C06.Op α) (hi : LSInv s) :
    LSInv (LStack.step s op).1 := by
  obtain ⟨l, n⟩ := s
  obtain ⟨hne, h0, hn⟩ : l ≠ [] ∧ 0 ≤ n ∧ n ≤ l.length := hi
  obtain ⟨x, r, rfl⟩ := List.exists_cons_of_ne_nil hne
  cases op with
  | push y =>
    refine ⟨List.cons_ne_nil _ _, Int.add_nonneg h0 (by decide), ?_⟩
    show n + 1 ≤ ((x :: (r ++ [y])).length : Nat)
    rw [List.length_cons, List.length_append]
    exact Int.add_le_add_right hn 1
  | pop =>
    -- with one node nothing is unlinked, with two or more the last one is: on either shape `DSeq.pop` computes
    cases r with
    | nil =>
      have := pop_counter h0 (Int.le_refl 0) hn
      exact ⟨hne, this.1, Int.le_trans this.2 (show (0 : Int) ≤ 1 by decide)⟩
    | cons y r =>
      have := pop_counter (k := ((r.length + 1 : Nat) : Int)) h0 (Int.natCast_nonneg _) hn
      refine ⟨List.cons_ne_nil _ _, this.1, ?_⟩
      show _ ≤ (((x :: (y :: r).dropLast).length : Nat) : Int)
      rw [List.length_cons, List.length_dropLast]
      exact this.2
  | _ => exact ⟨hne, h0, hn⟩

end LinkedSeq

/-! ## Linked queue / linked stack: concurrent histories, down to the pointer store

Element type `Int` (the type of the pointer-level model `Model/DList.lean` of C19).
`lqueuePtrOk s0 op` / `lstackPtrOk s0 op`: on EVERY pointer store `h` that represents the sequence of
the model state `s0` (`Lemmas.C19.DList.Repr`), the `list.DList` method that the Go method of `op` calls
(in the branch the counter `s0.n` selects) returns `.ok` — no nil dereference (`panic`), no endless
pointer walk (`hang`), no dangling address (`stuck`) —, hands out the value the model answers, and
leaves a store representing the model's successor sequence (`C19.DList.dlist_realises_dseq`). -/
section LinkedPtr
open GoguVerif.Model.DList (Heap)
open GoguVerif.Lemmas.C19.DList (Repr)

def lqueuePtrOk (s0 : LQueue.St Int) (op : Spec.C05.Op Int) : Prop :=
  ∀ (h : Heap) (as : List Nat), Repr h as s0.list →
    ∃ h' as', Repr h' as' (LQueue.step s0 op).1.list ∧
      match op with
      | .enqueue x => if s0.n = 0 then h' = DList.init x else DList.append h x = .ok h'
      | .dequeue => if s0.n = 0 then h' = h
          else ∃ nd, DList.shift h = .ok (h', nd) ∧ (LQueue.step s0 op).2 = .val nd.val
      | .peek => h' = h ∧ (s0.n = 0 ∨ ∃ v, DList.first h = .ok v ∧ (LQueue.step s0 op).2 = .val v)
      | .search x => h' = h ∧
          (s0.n = 0 ∨ ∃ o, DList.find h x = .ok o ∧ (LQueue.step s0 op).2 = .bool o.isSome)
      | .size => h' = h
      | .clear => DList.clear h = .ok h'

theorem lqueue_ptr_ok (s0 : LQueue.St Int) (op : Spec.C05.Op Int) : lqueuePtrOk s0 op := by
  intro h as r
  obtain ⟨happ, hshift, _hpop, hfirst, _hlast, hfind, hclear⟩ := C19.DList.dlist_realises_dseq r
  cases op with
  | enqueue x =>
    by_cases hn : s0.n = 0
    · refine ⟨DList.init x, [0], ?_, by simp [hn]⟩
      simp only [LQueue.step, hn, if_true]
      exact C19.DList.dlist_init_repr x
    · obtain ⟨h', as', e, r'⟩ := happ x
      refine ⟨h', as', ?_, by simp [hn, e]⟩
      simp only [LQueue.step, hn, if_false]
      exact r'
  | dequeue =>
    by_cases hn : s0.n = 0
    · refine ⟨h, as, ?_, by simp [hn]⟩
      simp only [LQueue.step, hn, if_true]
      exact r
    · obtain ⟨h', nd, as', e, r', hv⟩ := hshift
      refine ⟨h', as', ?_, ?_⟩
      · simp only [LQueue.step, hn, if_false]
        exact r'
      · simp only [hn, if_false]
        exact ⟨nd, e, by simp only [LQueue.step, hn, if_false, hv]⟩
  | peek =>
    refine ⟨h, as, ?_, rfl, ?_⟩
    · rw [lqueue_observers .peek rfl]; exact r
    · by_cases hn : s0.n = 0
      · exact Or.inl hn
      · exact Or.inr ⟨_, hfirst, by simp only [LQueue.step, hn, if_false]⟩
  | search x =>
    refine ⟨h, as, ?_, rfl, ?_⟩
    · simp only [LQueue.step]; split <;> exact r
    · by_cases hn : s0.n = 0
      · exact Or.inl hn
      · obtain ⟨o, e, ho⟩ := hfind x
        exact Or.inr ⟨o, e, by simp only [LQueue.step, hn, if_false, ho]⟩
  | size => exact ⟨h, as, r, rfl⟩
  | clear =>
    obtain ⟨h', e, r'⟩ := hclear
    exact ⟨h', [0], r', e⟩

def lstackPtrOk (s0 : LStack.St Int) (op : Spec.C06.Op Int) : Prop :=
  ∀ (h : Heap) (as : List Nat), Repr h as s0.list →
    ∃ h' as', Repr h' as' (LStack.step s0 op).1.list ∧
      match op with
      | .push x => DList.append h x = .ok h'
      | .pop => ∃ nd, DList.pop h = .ok (h', nd) ∧ (LStack.step s0 op).2 = .val nd.val
      | .peek => h' = h ∧ ∃ v, DList.last h = .ok v ∧ (LStack.step s0 op).2 = .val v
      | .search x => h' = h ∧ ∃ o, DList.find h x = .ok o ∧ (LStack.step s0 op).2 = .bool o.isSome
      | .size => h' = h

theorem lstack_ptr_ok (s0 : LStack.St Int) (op : Spec.C06.Op Int) : lstackPtrOk s0 op := by
  intro h as r
  obtain ⟨happ, _hshift, hpop, _hfirst, hlast, hfind, _hclear⟩ := C19.DList.dlist_realises_dseq r
  cases op with
  | push x =>
    obtain ⟨h', as', e, r'⟩ := happ x
    exact ⟨h', as', r', e⟩
  | pop =>
    obtain ⟨h', nd, as', e, r', hv⟩ := hpop
    exact ⟨h', as', r', nd, e, by simp only [LStack.step, hv]⟩
  | peek => exact ⟨h, as, r, rfl, _, hlast, rfl⟩
  | search x =>
    obtain ⟨o, e, ho⟩ := hfind x
    exact ⟨h, as, r, rfl, o, e, by simp only [LStack.step, ho]⟩
  | size => exact ⟨h, as, r, rfl⟩

/-- every non-empty sequence is represented by some pointer store (so the quantifier "every store
representing `s0.list`" in `lqueuePtrOk` / `lstackPtrOk` ranges over a non-empty set) -/
theorem repr_exists (x : Int) (ys : List Int) : ∃ h as, Repr h as (x :: ys) := by
  have key : ∀ (ys : List Int) (h : Heap) (as : List Nat) (xs : List Int), Repr h as xs →
      ∃ h' as', Repr h' as' (xs ++ ys) := by
    intro ys
    induction ys with
    | nil => intro h as xs r; exact ⟨h, as, (List.append_nil xs).symm ▸ r⟩
    | cons y ys ih =>
      intro h as xs r
      obtain ⟨happ, _hshift, _hpop, _hfirst, _hlast, _hfind, _hclear⟩ := C19.DList.dlist_realises_dseq r
      obtain ⟨h1, as1, _, r1⟩ := happ y
      obtain ⟨h2, as2, r2⟩ := ih h1 as1 _ r1
      exact ⟨h2, as2, List.append_assoc xs [y] ys ▸ r2⟩
  exact key ys _ _ _ (C19.DList.dlist_init_repr x)

/-- Goroutines calling `Enqueue`/`Dequeue`/`Peek`/`Search`/`Size`/`Clear`
concurrently on an `LQueue` whose state satisfies `LQInv` (e.g. `NewLinked(t)`): the abstract state
satisfies `LQInv` again, and every linearized / returned answer was computed in a state `s0` with
`LQInv` in which the underlying `DList` calls do not fault on any store representing `s0.list`, hand
out the answered value and leave a store representing the successor.  (Since this holds for EVERY
representing store, it holds in particular for the store threaded through the history from any store
representing `init.list`.) -/
theorem lqueue_concurrent_never_panics {init : LQueue.St Int} (hi : LQInv init) {h s}
    (r : Fine.Reach (oneStep LQueue.step (lqueueMode (α := Int))) init h s) :
    LQInv s.absObj ∧
      (∀ p ∈ linOps h, ∃ s0, LQInv s0 ∧ lqueuePtrOk s0 p.1 ∧ p.2 = (LQueue.step s0 p.1).2) ∧
      (∀ t c op res, Ev.ret t c op res ∈ h →
        ∃ s0, LQInv s0 ∧ lqueuePtrOk s0 op ∧ res = (LQueue.step s0 op).2) :=
  oneStep_preserves_at lqueue_observers LQInv lqueuePtrOk
    (fun s op hs => ⟨lqueue_step_inv s op hs, lqueue_ptr_ok s op⟩) hi r

/-- As `lqueue_concurrent_never_panics`, for `Push`/`Pop`/`Peek`/`Search`/`Size` and
the invariant `LSInv` (the answers are those of the model, i.e. with the sequential findings
F12a/F12b; no fault at the pointer level). -/
theorem lstack_concurrent_never_panics {init : LStack.St Int} (hi : LSInv init) {h s}
    (r : Fine.Reach (oneStep LStack.step (stackMode (α := Int))) init h s) :
    LSInv s.absObj ∧
      (∀ p ∈ linOps h, ∃ s0, LSInv s0 ∧ lstackPtrOk s0 p.1 ∧ p.2 = (LStack.step s0 p.1).2) ∧
      (∀ t c op res, Ev.ret t c op res ∈ h →
        ∃ s0, LSInv s0 ∧ lstackPtrOk s0 op ∧ res = (LStack.step s0 op).2) :=
  oneStep_preserves_at lstack_observers LSInv lstackPtrOk
    (fun s op hs => ⟨lstack_step_inv s op hs, lstack_ptr_ok s op⟩) hi r

end LinkedPtr

/-- the sequence-level part for every element type: the invariant along concurrent histories, in the
abstract state and — when no writer is inside — in the shared state -/
theorem lqueue_concurrent_inv {α : Type} [Inhabited α] [DecidableEq α] {init : LQueue.St α}
    (hi : LQInv init) {h s} (r : Fine.Reach (oneStep LQueue.step lqueueMode) init h s) :
    LQInv s.absObj ∧ ((∀ i, Fine.holds (s.th i) ≠ some .w) → LQInv s.shared) :=
  ⟨oneStep_abs_inv lqueue_observers LQInv lqueue_step_inv hi r,
   oneStep_shared_inv lqueue_observers LQInv lqueue_step_inv hi r⟩

theorem lstack_concurrent_inv {α : Type} [Inhabited α] [DecidableEq α] {init : LStack.St α}
    (hi : LSInv init) {h s} (r : Fine.Reach (oneStep LStack.step stackMode) init h s) :
    LSInv s.absObj ∧ ((∀ i, Fine.holds (s.th i) ≠ some .w) → LSInv s.shared) :=
  ⟨oneStep_abs_inv lstack_observers LSInv lstack_step_inv hi r,
   oneStep_shared_inv lstack_observers LSInv lstack_step_inv hi r⟩

/-- hypotheses satisfiable: `NewLinked(1)`, and the state after `Clear` (counter 0, one stale node) -/
example : LQInv (LQueue.new (1 : Int)) := by simp [LQInv, LQueue.new, DSeq.init]
example : LQInv (LQueue.step (LQueue.new (1 : Int)) .clear).1 := lqueue_step_inv _ _ (by simp [LQInv, LQueue.new, DSeq.init])
example : LSInv (LStack.new (1 : Int)) := by simp [LSInv, LStack.new, DSeq.init]
/-- `NewLinked(1)`'s sequence is represented by the store `InitDList(1)` builds -/
example : Lemmas.C19.DList.Repr (DList.init 1) [0] (LQueue.new (1 : Int)).list := C19.DList.dlist_init_repr 1

end GoguVerif.Theorems.C01NoPanic
