import GoguVerif.Theorems.GenTiePrim
import GoguVerif.Model.C12
import GoguVerif.Model.C15
import GoguVerif.Lemmas.C13
import GoguVerif.Lemmas.C11
/-!
# The regenerated tie: mechanically translated Go = hand-written model

`Gen/Funcs.lean` is produced on every run by `translator/frag.go` from the Go source of /repo (a
statement-by-statement translation of a small fragment of Go).  Each theorem below states that the
regenerated definition equals the hand-written model that the property theorems (C11, C12, C13, C15) are
about — for ALL inputs.  For these functions the model is therefore tied to the code by the
translator itself, not only by the sampled correspondence run.

Statement forms.  Pure functions: `Gen.Funcs.F args = Model.Cxx.f args`.  Functions translated in RES mode
(`Res α = Except Exc α`, see translator/frag.go): `Gen.Funcs.F args = ofC12 (Model.C12.f args)` / `ofC15 (…)` where
`ofC12`, `ofC15` embed the model's outcome type into `Res`, or `toOut (Gen.Funcs.F args) = Model.C13.f args` where
`toOut` reads `Res` in the C13 outcome type (as relations: `TiedC12`, `TiedC15`, `TiedC13`).  A lemma named `…_c12`,
`…_c13`, `…_c15` relates a primitive of the prelude, a fragment of a printed text or a small helper to its counterpart
in that model: in one of these forms, or as a plain equation where no outcome is involved (`abs_c12`, `inRange_c15`).
The C12 iterators are modelled with state-passing callbacks; their tie is stated for pure callbacks (`mapPure`, `reduce`
with a callback that leaves the state alone).  The set helpers of C11 are modelled with the key list of the Go
`map[T]bool`; the regenerated definition uses an association list (`mapHas`/`mapSet`), and the proofs carry the
invariant that both stand for the same set (`SameKeys`).  A change of the Go source changes the regenerated
definition; if the new definition is no longer equal to the model, the corresponding theorem stops checking
(bin/check then explores with the thorough generators, DESIGN.md §16).

One text, one proof.  The translator prints some Go text under several names (`Difference` is the text of `Without`,
`Mean` runs the loop of `Sum`; `Min` of math.go, a `range` loop after an early return, comes out as the index loop of
`FindMin`; elsewhere the loops of `Range` once per `switch` case, `Unzip.loop1` = `Zip.loop1`, `Find.loop1` =
`Keys.loop1`), and gogu writes `X` next to `XBy` so that `X` is `XBy` at the identity (`FindMin`, `FindMax`, `Unique`,
`Without`; `DropWhile` is `Filter` of the negated predicate; `IndexOf`, `LastIndexOf`, `Contains` are `FindIndex`,
`FindLastIndex`, `Some` at the equality test) — in the Go source, in the regenerated definitions and in the models alike.  Such definitions unfold to the same term, which is stated as an
equation and checked by `rfl`; the unifier exposes the body of a structural recursion on a variable only with
`smartUnfolding` off, hence `set_option smartUnfolding false in rfl`.  The equations between regenerated definitions
(`…_gen_…`) are here; those between models of C11 and C13 are in `Lemmas/C11.lean` and `Lemmas/C13.lean`, which the
property theorems use too.  `dropWhile_model_filter` is stated here: `Lemmas/C12.lean` has the equation of the two loops
(`dropWhileLoop_eq_filterLoop`), but this module does not import it.  Only the general member of each family is tied by
induction; the tie of a copy or an instance is that tie rewritten with the two equations.  Consequence: the tie of a
copy stops checking as soon as its text is no longer the other's, even where it still equals the model.
-/
namespace GoguVerif.Theorems.GenTie
open GoguVerif.Gen.Funcs (Res goIdx goSlice goDiv goMod goMake goRepeat mapHas mapSet mapGet)

def toOut {α : Type} : Res α → Spec.C13.Out α
  | .ok a => .ok a
  | .error .err => .err
  | .error .panic => .panic

def ofC12 {α : Type} : Model.C12.Outcome α → Res α
  | .ok a => .ok a
  | .panic => .error .panic

def ofC15 {α : Type} : Model.C15.Outcome α → Res α
  | .ok a => .ok a
  | .panic => .error .panic

/-- the three forms of a RES-mode tie, as relations between a regenerated result and the model's outcome (for `ite_tie`) -/
abbrev TiedC12 {α : Type} (g : Res α) (m : Model.C12.Outcome α) : Prop := g = ofC12 m
abbrev TiedC15 {α : Type} (g : Res α) (m : Model.C15.Outcome α) : Prop := g = ofC15 m
abbrev TiedC13 {α : Type} (g : Res α) (m : Spec.C13.Out α) : Prop := toOut g = m

theorem goIdx_c13 (s : List Int) (i : Int) : toOut (goIdx s i) = Model.C13.index s i := by
  unfold goIdx Model.C13.index
  exact ite_rel (R := TiedC13) Iff.rfl (fun _ => rfl) fun _ => by cases s[i.toNat]? <;> rfl

theorem goSlice_c12 {α : Type} (s : List α) (lo hi : Int) : goSlice s lo hi = ofC12 (Model.C12.sliceOf s lo hi) := by
  unfold goSlice Model.C12.sliceOf
  split <;> rfl

theorem goSlice_c15 (s : List UInt8) (lo hi : Int) : goSlice s lo hi = ofC15 (Model.C15.goSlice s lo hi) := by
  unfold goSlice Model.C15.goSlice
  split <;> rfl

theorem goRepeat_c15 (s : List UInt8) (n : Int) : goRepeat s n = ofC15 (Model.C15.goRepeat s n) := by
  unfold goRepeat Model.C15.goRepeat
  split <;> rfl

/-! ## find.go, math.go, slice.go against `Model/C13` -/

theorem sum_loop (slice s : List Int) (k acc : Int) :
    Gen.Funcs.Sum.loop1 slice s k acc = Model.C13.sumLoop s acc := by
  induction s generalizing k acc with
  | nil => rfl
  | cons v r ih => exact ih _ _

theorem sum_tie (s : List Int) : Gen.Funcs.Sum s = Model.C13.Sum s := sum_loop s s 0 0

theorem sumBy_loop (slice : List Int) (fn : Int → Int) (s : List Int) (k acc : Int) :
    Gen.Funcs.SumBy.loop1 slice fn s k acc = Model.C13.sumByLoop fn s acc := by
  induction s generalizing k acc with
  | nil => rfl
  | cons v r ih => exact ih _ _

theorem sumBy_tie (s : List Int) (fn : Int → Int) : Gen.Funcs.SumBy s fn = Model.C13.SumBy s fn :=
  sumBy_loop s fn s 0 0

theorem mean_gen_sum : Gen.Funcs.Mean.loop1 = Gen.Funcs.Sum.loop1 := by
  set_option smartUnfolding false in rfl

theorem mean_tie (s : List Int) : toOut (Gen.Funcs.Mean s) = Model.C13.Mean s := by
  simp only [Gen.Funcs.Mean, Model.C13.Mean, mean_gen_sum, sum_loop, goDiv, Int.natCast_eq_zero]
  by_cases h : s.length = 0
  · rw [if_pos h, if_pos h]; rfl
  · rw [if_neg h, if_neg h]; rfl

theorem every_loop (s0 : List Int) (fn : Int → Bool) (s : List Int) (k : Int) :
    fromSum true (Gen.Funcs.Every.loop1 s0 fn s k ()) = Model.C13.Every fn s := by
  induction s generalizing k with
  | nil => rfl
  | cons v r ih =>
    rw [Gen.Funcs.Every.loop1, Model.C13.Every]
    cases fn v
    · rfl
    · exact ih (k + 1)

theorem every_tie (s : List Int) (fn : Int → Bool) : Gen.Funcs.Every s fn = Model.C13.Every fn s := by
  refine Eq.trans ?_ (every_loop s fn s 0)
  unfold Gen.Funcs.Every
  cases Gen.Funcs.Every.loop1 s fn s 0 () <;> rfl

theorem some_loop (s0 : List Int) (fn : Int → Bool) (s : List Int) (k : Int) :
    fromSum false (Gen.Funcs.Some.loop1 s0 fn s k ()) = Model.C13.Some fn s := by
  induction s generalizing k with
  | nil => rfl
  | cons v r ih =>
    rw [Gen.Funcs.Some.loop1, Model.C13.Some]
    cases fn v
    · exact ih (k + 1)
    · rfl

theorem some_tie (s : List Int) (fn : Int → Bool) : Gen.Funcs.Some s fn = Model.C13.Some fn s := by
  refine Eq.trans ?_ (some_loop s fn s 0)
  unfold Gen.Funcs.Some
  cases Gen.Funcs.Some.loop1 s fn s 0 () <;> rfl

/-! `Contains` is `Some` at the equality test (`Lemmas.C13.contains_eq_some` on the model side) -/

theorem contains_gen_some (s : List Int) (value : Int) :
    Gen.Funcs.Contains s value = Gen.Funcs.Some s (fun x => x == value) := by
  set_option smartUnfolding false in rfl

theorem contains_tie (s : List Int) (value : Int) : Gen.Funcs.Contains s value = Model.C13.Contains s value := by
  rw [contains_gen_some, Lemmas.C13.contains_eq_some]; exact some_tie s _

theorem findIndex_loop (s0 : List Int) (fn : Int → Bool) (s : List Int) (k : Nat) :
    fromSum (-1 : Int) (Gen.Funcs.FindIndex.loop1 s0 fn s (k : Int) ()) = Model.C13.findIndexLoop fn s k := by
  induction s generalizing k with
  | nil => rfl
  | cons v r ih =>
    rw [Gen.Funcs.FindIndex.loop1, Model.C13.findIndexLoop]
    cases fn v
    · exact ih (k + 1)
    · rfl

theorem findIndex_tie (s : List Int) (fn : Int → Bool) : Gen.Funcs.FindIndex s fn = Model.C13.FindIndex s fn := by
  refine Eq.trans ?_ (findIndex_loop s fn s 0)
  unfold Gen.Funcs.FindIndex
  cases Gen.Funcs.FindIndex.loop1 s fn s 0 () <;> rfl

/-! `IndexOf` is `FindIndex` at the equality test; the model tests the proposition `v = val`, bridged by
`Lemmas.C13.indexOfLoop_eq` -/

theorem indexOf_gen_findIndex (s : List Int) (val : Int) :
    Gen.Funcs.IndexOf s val = Gen.Funcs.FindIndex s (fun x => x == val) := by
  set_option smartUnfolding false in rfl

theorem indexOf_tie (s : List Int) (val : Int) : Gen.Funcs.IndexOf s val = Model.C13.IndexOf s val := by
  rw [indexOf_gen_findIndex, Model.C13.IndexOf, Lemmas.C13.indexOfLoop_eq]; exact findIndex_tie s _

/-- the value of a RES-mode loop with early `return`: the error, the returned value, or the default at the end -/
def resSum {α σ : Type} (d : α) : Res (α ⊕ σ) → Res α
  | .error e => .error e
  | .ok (.inl r) => .ok r
  | .ok (.inr _) => .ok d

theorem findLastIndex_loop (s : List Int) (fn : Int → Bool) (n : Nat) (j : Int) :
    toOut (resSum (-1 : Int) (Gen.Funcs.FindLastIndex.loop1 s fn n j)) = Model.C13.findLastIndexLoop fn s n := by
  induction n generalizing j with
  | zero => rfl
  | succ n ih =>
    simp only [Gen.Funcs.FindLastIndex.loop1, Model.C13.findLastIndexLoop, goIdx_nat]
    cases s[n]? with
    | none => rfl
    | some v =>
      simp only []
      cases fn v
      · exact ih _
      · rfl

theorem findLastIndex_tie (s : List Int) (fn : Int → Bool) :
    toOut (Gen.Funcs.FindLastIndex s fn) = Model.C13.FindLastIndex s fn := by
  refine Eq.trans ?_ (findLastIndex_loop s fn s.length 0)
  simp only [Gen.Funcs.FindLastIndex, len_toNat]
  cases Gen.Funcs.FindLastIndex.loop1 s fn s.length 0 with
  | error e => rfl
  | ok r => cases r <;> rfl

theorem lastIndexOf_gen_findLastIndex (s : List Int) (val : Int) :
    Gen.Funcs.LastIndexOf s val = Gen.Funcs.FindLastIndex s (fun x => x == val) := by
  set_option smartUnfolding false in rfl

theorem lastIndexOf_tie (s : List Int) (val : Int) :
    toOut (Gen.Funcs.LastIndexOf s val) = Model.C13.LastIndexOf s val := by
  rw [lastIndexOf_gen_findLastIndex, Model.C13.LastIndexOf, Lemmas.C13.lastIndexOfLoop_eq]; exact findLastIndex_tie s _

theorem findMinBy_loop (s0 : List Int) (fn : Int → Int) (s : List Int) (i m : Int) :
    Gen.Funcs.FindMinBy.loop1 s0 fn s i m = Model.C13.minByLoop fn s m := by
  induction s generalizing i m with
  | nil => rfl
  | cons x r ih =>
    simp only [Gen.Funcs.FindMinBy.loop1, Model.C13.minByLoop, ih, decide_eq_true_eq,
      apply_ite (Model.C13.minByLoop fn r)]

theorem findMinBy_tie (s : List Int) (fn : Int → Int) : Gen.Funcs.FindMinBy s fn = Model.C13.FindMinBy s fn := by
  cases s <;> exact findMinBy_loop _ _ _ _ _

theorem findMaxBy_loop (s0 : List Int) (fn : Int → Int) (s : List Int) (i m : Int) :
    Gen.Funcs.FindMaxBy.loop1 s0 fn s i m = Model.C13.maxByLoop fn s m := by
  induction s generalizing i m with
  | nil => rfl
  | cons x r ih =>
    simp only [Gen.Funcs.FindMaxBy.loop1, Model.C13.maxByLoop, ih, decide_eq_true_eq,
      apply_ite (Model.C13.maxByLoop fn r)]

theorem findMaxBy_tie (s : List Int) (fn : Int → Int) : Gen.Funcs.FindMaxBy s fn = Model.C13.FindMaxBy s fn := by
  cases s <;> exact findMaxBy_loop _ _ _ _ _

theorem findMin_gen_by (s : List Int) : Gen.Funcs.FindMin s = Gen.Funcs.FindMinBy s (fun x => x) := by
  set_option smartUnfolding false in rfl

theorem findMin_tie (s : List Int) : Gen.Funcs.FindMin s = Model.C13.FindMin s := by
  rw [findMin_gen_by, Model.C13.FindMin, Lemmas.C13.minLoop_eq_minByLoop]; exact findMinBy_tie s _

theorem findMax_gen_by (s : List Int) : Gen.Funcs.FindMax s = Gen.Funcs.FindMaxBy s (fun x => x) := by
  set_option smartUnfolding false in rfl

theorem findMax_tie (s : List Int) : Gen.Funcs.FindMax s = Model.C13.FindMax s := by
  rw [findMax_gen_by, Model.C13.FindMax, Lemmas.C13.maxLoop_eq_maxByLoop]; exact findMaxBy_tie s _

/-! `Min`, `Max` of math.go are `FindMin`, `FindMax` of find.go (the seed is taken after the test for the empty slice) -/

theorem min_gen_findMin (values : List Int) : Gen.Funcs.Min values = Gen.Funcs.FindMin values := by
  cases values <;> set_option smartUnfolding false in rfl

theorem min_tie (values : List Int) : Gen.Funcs.Min values = Model.C13.Min values := by
  rw [min_gen_findMin, Lemmas.C13.min_eq_findMin]; exact findMin_tie values

theorem max_gen_findMax (values : List Int) : Gen.Funcs.Max values = Gen.Funcs.FindMax values := by
  cases values <;> set_option smartUnfolding false in rfl

theorem max_tie (values : List Int) : Gen.Funcs.Max values = Model.C13.Max values := by
  rw [max_gen_findMax, Lemmas.C13.max_eq_findMax]; exact findMax_tie values

theorem abs_tie (x : Int) : Gen.Funcs.Abs x = Model.C13.Abs x := by
  simp only [Gen.Funcs.Abs, Model.C13.Abs, decide_eq_true_eq]

theorem clamp_tie (num mn mx : Int) : Gen.Funcs.Clamp num mn mx = Model.C13.Clamp num mn mx := by
  simp only [Gen.Funcs.Clamp, Model.C13.Clamp, decide_eq_true_eq]

theorem inRange_tie (num lo up : Int) : Gen.Funcs.InRange num lo up = Model.C13.InRange num lo up := by
  simp only [Gen.Funcs.InRange, Model.C13.InRange, Bool.and_eq_true, decide_eq_true_eq]

theorem compare_tie (a b : Int) (comp : Int → Int → Bool) :
    Gen.Funcs.Compare a b comp = Model.C13.Compare a b comp := rfl

theorem equal_tie (a b : Int) : Gen.Funcs.Equal a b = Model.C13.Equal a b := rfl
theorem less_tie (a b : Int) : Gen.Funcs.Less a b = Model.C13.Less a b := rfl

/-! ## filter.go, slice.go against `Model/C12` -/

theorem filter_loop (s0 : List Int) (fn : Int → Bool) (s : List Int) (k : Int) (res : List Int) :
    Gen.Funcs.Filter.loop1 s0 fn s k res = Model.C12.filterLoop fn s res := by
  induction s generalizing k res with
  | nil => rfl
  | cons v r ih =>
    rw [Gen.Funcs.Filter.loop1, Model.C12.filterLoop, ih]
    cases fn v <;> rfl

theorem filter_tie (s : List Int) (fn : Int → Bool) : Gen.Funcs.Filter s fn = Model.C12.filter s fn :=
  filter_loop s fn s 0 []

theorem partition_loop (s0 : List Int) (fn : Int → Bool) (s : List Int) (k : Int) (res : List Int × List Int) :
    Gen.Funcs.Partition.loop1 s0 fn s k res = Model.C12.partitionLoop fn s res := by
  induction s generalizing k res with
  | nil => rfl
  | cons v r ih =>
    rw [Gen.Funcs.Partition.loop1, Model.C12.partitionLoop, ih]
    cases fn v <;> rfl

theorem partition_tie (s : List Int) (fn : Int → Bool) : Gen.Funcs.Partition s fn = Model.C12.partition s fn :=
  partition_loop s fn s 0 ([], [])

theorem reduce_loop (s0 : List Int) (fn : Int → Int → Int) (iv : Int) (s : List Int) (k a : Int) :
    (Gen.Funcs.Reduce.loop1 s0 fn iv s k a, ()) = Model.C12.reduce (fun v a st => (fn v a, st)) s a () := by
  induction s generalizing k a with
  | nil => rfl
  | cons v r ih => exact ih _ _

theorem reduce_tie (s : List Int) (fn : Int → Int → Int) (iv : Int) :
    (Gen.Funcs.Reduce s fn iv, ()) = Model.C12.reduce (fun v a st => (fn v a, st)) s iv () :=
  reduce_loop s fn iv s 0 iv

theorem dropWhile_gen_filter (s : List Int) (fn : Int → Bool) :
    Gen.Funcs.DropWhile s fn = Gen.Funcs.Filter s (fun v => !fn v) := by
  set_option smartUnfolding false in rfl

theorem dropWhile_model_filter (s : List Int) (fn : Int → Bool) :
    Model.C12.dropWhile s fn = Model.C12.filter s (fun v => !fn v) := by
  set_option smartUnfolding false in rfl

theorem dropWhile_tie (s : List Int) (fn : Int → Bool) : Gen.Funcs.DropWhile s fn = Model.C12.dropWhile s fn := by
  rw [dropWhile_gen_filter, dropWhile_model_filter]; exact filter_tie s _

theorem merge_loop (s0 : List Int) (p0 ps : List (List Int)) (i : Int) (m : List Int) :
    Gen.Funcs.Merge.loop1 s0 p0 ps i m = Model.C12.mergeLoop ps m := by
  induction ps generalizing i m with
  | nil => rfl
  | cons p r ih => exact ih _ _

theorem merge_tie (s : List Int) (params : List (List Int)) : Gen.Funcs.Merge s params = Model.C12.merge s params :=
  merge_loop s params params 0 ([] ++ s)

theorem abs_c12 (x : Int) : Gen.Funcs.Abs x = Model.C12.abs x := abs_tie x

theorem drop_tie (s : List Int) (n : Int) : Gen.Funcs.Drop s n = ofC12 (Model.C12.drop s n) := by
  simp only [Gen.Funcs.Drop, Model.C12.drop, goSlice_c12, abs_c12]
  refine ite_tie TiedC12 (by simp only [Bool.and_eq_true, decide_eq_true_eq]) (fun _ =>
    ite_tie TiedC12 decide_eq_true_iff (fun _ => ?_) fun _ => ?_) fun _ => rfl
  · cases Model.C12.sliceOf s n s.length <;> rfl
  · cases Model.C12.sliceOf s 0 (s.length - Model.C12.abs n) <;> rfl

theorem dropRightWhile_loop (s : List Int) (fn : Int → Bool) (n : Nat) (res : List Int) :
    Gen.Funcs.DropRightWhile.loop1 s fn n res = ofC12 (Model.C12.dropRightWhileLoop fn s n res) := by
  induction n generalizing res with
  | zero => rfl
  | succ n ih =>
    simp only [Gen.Funcs.DropRightWhile.loop1, Model.C12.dropRightWhileLoop, goIdx_nat]
    cases s[n]? with
    | none => rfl
    | some v =>
      simp only []
      cases fn v <;> exact ih _

theorem dropRightWhile_tie (s : List Int) (fn : Int → Bool) :
    Gen.Funcs.DropRightWhile s fn = ofC12 (Model.C12.dropRightWhile s fn) := by
  simp only [Gen.Funcs.DropRightWhile, Model.C12.dropRightWhile, len_toNat, dropRightWhile_loop]
  cases Model.C12.dropRightWhileLoop fn s s.length [] <;> rfl

/-- `Map` with a pure callback, the model's result projected to the slice -/
def c12Fst {α σ : Type} : Model.C12.Outcome (α × σ) → Model.C12.Outcome α
  | .ok r => .ok r.1
  | .panic => .panic

theorem map_loop (s0 : List Int) (fn : Int → Int) (s : List Int) (k : Nat) (res : List Int) :
    Gen.Funcs.Map.loop1 s0 fn s (k : Int) res
      = ofC12 (c12Fst (Model.C12.mapLoop (fun x (_ : Unit) => (fn x, ())) s k res ())) := by
  induction s generalizing k res with
  | nil => rfl
  | cons v r ih =>
    simp only [Gen.Funcs.Map.loop1, Model.C12.mapLoop, goSet_nat]
    by_cases h : k < res.length
    · rw [if_pos h, if_pos h]; exact ih (k + 1) _
    · rw [if_neg h, if_neg h]; rfl

theorem map_tie (s : List Int) (fn : Int → Int) : Gen.Funcs.Map s fn = ofC12 (Model.C12.mapPure s fn) := by
  have h := map_loop s fn s 0 (List.replicate s.length 0)
  simp only [Gen.Funcs.Map, Model.C12.mapPure, Model.C12.map]
  rw [Int.default_eq_zero, show Gen.Funcs.Map.loop1 s fn s 0 (List.replicate s.length 0) = _ from h]
  cases Model.C12.mapLoop (fun x (_ : Unit) => (fn x, ())) s 0 (List.replicate s.length 0) () <;> rfl

/-! ## string.go against `Model/C15` -/

theorem wrap_tie (str tok : List UInt8) : Gen.Funcs.Wrap str tok = Model.C15.wrap str tok := by
  simp only [Gen.Funcs.Wrap, Model.C15.wrap, List.nil_append]

theorem unwrap_tie (str tok : List UInt8) : Gen.Funcs.Unwrap str tok = ofC15 (Model.C15.unwrap str tok) := by
  have e1 : ((tok.length : Int) > 0) ↔ tok.length > 0 := Int.natCast_pos
  have e2 : ((str.length : Int) ≥ 2 * (tok.length : Int)) ↔ (str.length ≥ 2 * tok.length) :=
    Int.ofNat_le (m := 2 * tok.length)
  simp only [Gen.Funcs.Unwrap, Model.C15.unwrap, goSlice_c15, Bool.and_eq_true, decide_eq_true_eq, e1, e2,
    and_assoc]
  by_cases h : tok.length > 0 ∧ str.length ≥ 2 * tok.length ∧ tok.isPrefixOf str = true ∧ tok.isSuffixOf str = true
  · rw [if_pos h, if_pos h]
    cases Model.C15.goSlice str tok.length (str.length - tok.length) <;> rfl
  · rw [if_neg h, if_neg h]; rfl

theorem splitAtIndex_tie (str : List UInt8) (index : Int) :
    Gen.Funcs.SplitAtIndex str index = ofC15 (Model.C15.splitAtIndex str index) := by
  simp only [Gen.Funcs.SplitAtIndex, Model.C15.splitAtIndex, goSlice_c15]
  refine ite_tie TiedC15 decide_eq_true_iff (fun _ => rfl) fun _ =>
    ite_tie TiedC15 decide_eq_true_iff (fun _ => rfl) fun _ => ?_
  cases Model.C15.goSlice str 0 (index + 1) <;> cases Model.C15.goSlice str (index + 1) str.length <;> rfl

theorem padCut_c15 (t : List UInt8) (d : Int) (k : List UInt8 → List UInt8) :
    (match goSlice t 0 d with
      | Except.error e_ => Except.error e_
      | Except.ok t2_ => (Except.ok (k t2_) : Res (List UInt8)))
      = ofC15 (match Model.C15.goSlice t 0 d with
        | .ok t => .ok (k t)
        | .panic => .panic) := by
  rw [goSlice_c15]
  cases Model.C15.goSlice t 0 d <;> rfl

theorem padToken_c15 (tok : List UInt8) (d : Int) (k : List UInt8 → List UInt8) :
    (match (if decide ((tok.length : Int) ≤ d) then
          (match goRepeat tok d with
          | Except.error e_ => Except.error e_
          | Except.ok t1_ => Except.ok t1_)
        else Except.ok tok) with
      | Except.error e_ => Except.error e_
      | Except.ok tokenStr =>
        (match goSlice tokenStr 0 d with
        | Except.error e_ => Except.error e_
        | Except.ok t2_ => (Except.ok (k t2_) : Res (List UInt8))))
      = ofC15 (match Model.C15.padToken tok (decide ((tok.length : Int) ≤ d)) d d with
        | .ok t => .ok (k t)
        | .panic => .panic) := by
  cases decide ((tok.length : Int) ≤ d)
  · exact padCut_c15 tok d k
  · rw [goRepeat_c15]
    unfold Model.C15.padToken
    cases Model.C15.goRepeat tok d with
    | panic => rfl
    | ok t => exact padCut_c15 t d k

theorem padLeft_tie (str : List UInt8) (size : Int) (tok : List UInt8) :
    Gen.Funcs.PadLeft str size tok = ofC15 (Model.C15.padLeft str size tok) := by
  simp only [Gen.Funcs.PadLeft, Model.C15.padLeft]
  exact ite_tie TiedC15 decide_eq_true_iff (fun _ => rfl) fun _ => padToken_c15 tok _ (· ++ str)

theorem padRight_tie (str : List UInt8) (size : Int) (tok : List UInt8) :
    Gen.Funcs.PadRight str size tok = ofC15 (Model.C15.padRight str size tok) := by
  simp only [Gen.Funcs.PadRight, Model.C15.padRight]
  exact ite_tie TiedC15 decide_eq_true_iff (fun _ => rfl) fun _ => padToken_c15 tok _ (str ++ ·)

theorem ofC15_ok_nil : (Except.ok ([] : List UInt8) : Res (List UInt8)) = ofC15 (Model.C15.Outcome.ok []) := rfl

theorem abs_c15 (x : Int) : Gen.Funcs.Abs x = Model.C15.abs x := abs_tie x

theorem inRange_c15 (a lo hi : Int) : Gen.Funcs.InRange a lo hi = Model.C15.inRange a lo hi := by
  unfold Gen.Funcs.InRange Model.C15.inRange
  cases decide (a ≥ lo) <;> cases decide (a ≤ hi) <;> rfl

/-! `Substr` repeats one text in its four branches: here it is, cut where the model is cut -/

def genSubstrEnd (str : List UInt8) (o e : Int) : Res (List UInt8) :=
  let e := if decide (e > (str.length : Int)) then (str.length : Int) else e
  if ((!(Gen.Funcs.InRange o 0 str.length)) || (!(Gen.Funcs.InRange e 0 str.length))) then
    Except.ok Gen.Funcs.Null_Str
  else match goSlice str o e with
    | Except.error e_ => Except.error e_
    | Except.ok t => Except.ok t

def genSubstrLen (str : List UInt8) (o length : Int) : Res (List UInt8) :=
  if decide (length < 0) then
    if (decide (Gen.Funcs.Abs ((str.length : Int) + length) > str.length)
        || decide ((str.length : Int) + length < o)) then
      Except.ok Gen.Funcs.Null_Str
    else genSubstrEnd str o ((str.length : Int) + length)
  else genSubstrEnd str o (if decide (o + length < o) then (str.length : Int) else o + length)

theorem substr_layers (str : List UInt8) (offset length : Int) :
    Gen.Funcs.Substr str offset length
      = if decide (offset < 0) then
          if decide (Gen.Funcs.Abs ((str.length : Int) + offset) > str.length) then Except.ok Gen.Funcs.Null_Str
          else genSubstrLen str ((str.length : Int) + offset) length
        else genSubstrLen str offset length := rfl

theorem genSubstrEnd_c15 (str : List UInt8) (o e : Int) :
    genSubstrEnd str o e = ofC15 (Model.C15.substrEnd str o e) := by
  unfold genSubstrEnd Model.C15.substrEnd
  simp only [inRange_c15, goSlice_c15, decide_eq_true_eq, apply_ite ofC15]
  generalize (if e > (str.length : Int) then (str.length : Int) else e) = e'
  split
  · rfl
  · cases Model.C15.goSlice str o e' <;> rfl

theorem genSubstrLen_c15 (str : List UInt8) (o length : Int) :
    genSubstrLen str o length = ofC15 (Model.C15.substrLen str o length) := by
  unfold genSubstrLen Model.C15.substrLen
  by_cases h3 : length < 0
  · simp only [h3, decide_true, if_true, abs_c15, genSubstrEnd_c15, Bool.or_eq_true, decide_eq_true_eq,
      apply_ite ofC15]
    rfl
  · -- the guard `end < offset` cannot fire on unbounded integers
    have : ¬ (o + length < o) := by omega
    simp only [h3, this, decide_false, if_false, Bool.false_eq_true, genSubstrEnd_c15]

theorem substr_tie (str : List UInt8) (offset length : Int) :
    Gen.Funcs.Substr str offset length = ofC15 (Model.C15.substr str offset length) := by
  rw [substr_layers, genSubstrLen_c15, genSubstrLen_c15]
  unfold Model.C15.substr
  simp only [abs_c15, decide_eq_true_eq, apply_ite ofC15]
  rfl

/-! ## set helpers of slice.go (C11): a Go `map[T]bool` used as a set -/

/-- the association list `m` and the key list `ks` of the model stand for the same set -/
def SameKeys {β : Type} (m : List (Int × β)) (ks : List Int) : Prop := ∀ x, mapHas m x = decide (x ∈ ks)

theorem sameKeys_nil {β : Type} : SameKeys ([] : List (Int × β)) [] := fun _ => rfl

theorem sameKeys_set {β : Type} (m : List (Int × β)) (ks : List Int) (k : Int) (v : β) (h : SameKeys m ks) :
    SameKeys (mapSet m k v) (k :: ks) := by
  intro x
  rw [mapHas_mapSet, h x]
  simp only [List.mem_cons, Bool.decide_or, @eq_comm _ k x]

/-- `if _, ok := keys[k]; !ok { keys[k] = true; result = append(result, v) }`.  `L` is the rest of the regenerated run
as a function of the state `(keys, result)`, `M` the rest of the model's run as a function of key list and result; when
they agree on states that stand for the same set (`hLM`), they agree after this step -/
theorem seen_step {γ : Type} (m : List (Int × Bool)) (ks res : List Int) (k v : Int) (h : SameKeys m ks)
    (L : List (Int × Bool) × List Int → γ) (M : List Int → List Int → γ)
    (hLM : ∀ m' ks' res', SameKeys m' ks' → L (m', res') = M ks' res') :
    L (if (!mapHas m k) = true then (mapSet m k true, res ++ [v]) else (m, res))
      = if k ∈ ks then M ks res else M (k :: ks) (res ++ [v]) := by
  rw [h k, apply_ite L]
  exact ite_rel_not (R := Eq) (by rw [Bool.not_eq_true', decide_eq_false_iff_not])
    (fun _ => hLM _ _ _ (sameKeys_set m ks k true h)) fun _ => hLM _ _ _ h

theorem uniqueBy_loop (s0 : List Int) (fn : Int → Int) (s : List Int) (i : Int) (m : List (Int × Bool))
    (ks res : List Int) (h : SameKeys m ks) :
    (Gen.Funcs.UniqueBy.loop1 s0 fn s i (m, res)).2 = Model.C11.uniqueByLoop fn ks res s := by
  induction s generalizing i m ks res with
  | nil => rfl
  | cons v r ih =>
    exact seen_step m ks res (fn v) v h (fun st => (Gen.Funcs.UniqueBy.loop1 s0 fn r (i + 1) st).2)
      (fun ks res => Model.C11.uniqueByLoop fn ks res r) fun m' ks' res' h' => ih _ m' ks' res' h'

theorem uniqueBy_tie (s : List Int) (fn : Int → Int) : Gen.Funcs.UniqueBy s fn = Model.C11.uniqueBy s fn :=
  uniqueBy_loop s fn s 0 [] [] [] sameKeys_nil

theorem differenceBy_scan (s1 s2 : List Int) (fn : Int → Int) (v : Int) (vals : List Int) (k : Int) :
    Gen.Funcs.DifferenceBy.loop2 s1 s2 fn v vals k ()
      = if Model.C11.skipByEq fn v vals then Sum.inl () else Sum.inr () := by
  induction vals generalizing k with
  | nil => rfl
  | cons x r ih =>
    rw [Gen.Funcs.DifferenceBy.loop2, Model.C11.skipByEq]
    by_cases h : fn v = fn x
    · rw [if_pos (decide_eq_true h), if_pos h]; rfl
    · rw [if_neg (mt of_decide_eq_true h), if_neg h]; exact ih _

theorem differenceBy_loop (s1 s2 : List Int) (fn : Int → Int) (s : List Int) (i : Int) (m : List (Int × Bool))
    (ks res : List Int) (h : SameKeys m ks) :
    (Gen.Funcs.DifferenceBy.loop1 s1 s2 fn s i (m, res)).2 = Model.C11.diffByLoop fn s2 ks res s := by
  induction s generalizing i m ks res with
  | nil => rfl
  | cons v r ih =>
    simp only [Gen.Funcs.DifferenceBy.loop1, Model.C11.diffByLoop, differenceBy_scan]
    cases Model.C11.skipByEq fn v s2
    · exact seen_step m ks res v v h (fun st => (Gen.Funcs.DifferenceBy.loop1 s1 s2 fn r (i + 1) st).2)
        (fun ks res => Model.C11.diffByLoop fn s2 ks res r) fun m' ks' res' h' => ih _ m' ks' res' h'
    · exact ih _ _ _ _ h

theorem differenceBy_tie (s1 s2 : List Int) (fn : Int → Int) :
    Gen.Funcs.DifferenceBy s1 s2 fn = Model.C11.differenceBy s1 s2 fn :=
  differenceBy_loop s1 s2 fn s1 0 [] [] [] sameKeys_nil

theorem unique_gen_by (s : List Int) : Gen.Funcs.Unique s = Gen.Funcs.UniqueBy s (fun x => x) := by
  set_option smartUnfolding false in rfl

theorem unique_tie (s : List Int) : Gen.Funcs.Unique s = Model.C11.unique s := by
  rw [unique_gen_by, Lemmas.C11.unique_eq_uniqueBy]; exact uniqueBy_tie s _

theorem without_gen_by (s vals : List Int) :
    Gen.Funcs.Without s vals = Gen.Funcs.DifferenceBy s vals (fun x => x) := by
  set_option smartUnfolding false in rfl

theorem without_tie (s vals : List Int) : Gen.Funcs.Without s vals = Model.C11.without s vals := by
  rw [without_gen_by, Model.C11.without, Lemmas.C11.diffLoop_eq_diffByLoop]; exact differenceBy_tie s vals _

/-- `Difference` has the text of `Without` (in the model both are `diffLoop`) -/
theorem difference_gen_without (s1 s2 : List Int) : Gen.Funcs.Difference s1 s2 = Gen.Funcs.Without s1 s2 := by
  set_option smartUnfolding false in rfl

theorem difference_tie (s1 s2 : List Int) : Gen.Funcs.Difference s1 s2 = Model.C11.difference s1 s2 := by
  rw [difference_gen_without]; exact without_tie s1 s2

/-! ## FindAll: the map `m[k] = v` with strictly increasing keys is an append -/

theorem findAll_loop (s0 : List Int) (fn : Int → Bool) (s : List Int) (k : Nat) (m : List (Int × Int))
    (hm : ∀ x, (k : Int) ≤ x → mapHas m x = false) :
    Gen.Funcs.FindAll.loop1 s0 fn s (k : Int) m = Model.C13.findAllLoop fn s k m := by
  induction s generalizing k m with
  | nil => rfl
  | cons v r ih =>
    have hk : ∀ x : Int, ((k + 1 : Nat) : Int) ≤ x → (k : Int) ≤ x ∧ ¬ (k : Int) = x := fun x hx => by omega
    rw [Gen.Funcs.FindAll.loop1, Model.C13.findAllLoop]
    cases fn v
    · exact ih (k + 1) m fun x hx => hm x (hk x hx).1
    · have hfresh := mapSet_fresh m k v (hm k (Int.le_refl _))
      simp only [if_true, hfresh]
      refine ih (k + 1) _ fun x hx => ?_
      rw [← hfresh, mapHas_mapSet, hm x (hk x hx).1, decide_eq_false (hk x hx).2]
      rfl

theorem findAll_tie (s : List Int) (fn : Int → Bool) : Gen.Funcs.FindAll s fn = Model.C13.FindAll s fn := by
  simp only [Gen.Funcs.FindAll, Model.C13.FindAll]
  exact findAll_loop s fn s 0 [] (fun x _ => rfl)

theorem chunk_loop (slice : List Int) (sz : Nat) (hsz : 0 < sz) (rest : List Int) (i : Nat) (result : List (List Int)) :
    Gen.Funcs.Chunk.loop1 slice (sz : Int) rest (i : Int) result
      = ofC12 (Model.C12.chunkLoop slice sz rest.length i result) := by
  induction rest generalizing i result with
  | nil => rfl
  | cons x r ih =>
    -- `sz > 0`: `goMod` does not fail; `tmod` and `<` on casts are `%` and `<` on `Nat`
    simp only [Gen.Funcs.Chunk.loop1, Model.C12.chunkLoop, List.length_cons, goMod, Int.natCast_eq_zero,
      Nat.ne_of_gt hsz, if_false, ← Int.ofNat_tmod, ← Int.natCast_add, Int.ofNat_lt, goSlice_c12]
    by_cases h1 : i % sz = 0
    · simp only [h1, decide_true, if_true]
      by_cases h2 : i + sz < slice.length
      · simp only [h2, decide_true, if_true]
        cases Model.C12.sliceOf slice (i : Int) ((i + sz : Nat) : Int) with
        | panic => rfl
        | ok c => exact ih (i + 1) (result ++ [c])
      · simp only [h2, decide_false, Bool.false_eq_true, if_false]
        cases Model.C12.sliceOf slice (i : Int) (slice.length : Int) with
        | panic => rfl
        | ok c => exact ih (i + 1) (result ++ [c])
    · simp only [h1, decide_false, Bool.false_eq_true, if_false]
      exact ih (i + 1) result

theorem chunk_tie (slice : List Int) (size : Int) : Gen.Funcs.Chunk slice size = ofC12 (Model.C12.chunk slice size) := by
  have hcap : (0 : Int) ≤ 0 ∧ (0 : Int) ≤ (Int.tdiv (slice.length : Int) 2) + 1 :=
    ⟨Int.le_refl 0, Int.add_nonneg (Int.tdiv_nonneg (Int.natCast_nonneg _) (by decide)) (by decide)⟩
  simp only [Gen.Funcs.Chunk, Model.C12.chunk, goMake, if_pos hcap]
  refine ite_tie TiedC12 decide_eq_true_iff (fun _ => rfl) fun h => ?_
  have h0 := chunk_loop slice size.toNat (by omega) slice 0 []
  rw [Int.toNat_of_nonneg (by omega)] at h0
  rw [show Gen.Funcs.Chunk.loop1 slice size slice 0 (List.replicate (Int.toNat 0) []) = _ from h0]
  cases Model.C12.chunkLoop slice size.toNat slice.length 0 [] <;> rfl

/-! ## Callbacks without result (ForEach, ForEachRight): the callback is a state transformer -/

theorem forEach_loop {σ : Type} (s0 : List Int) (fn : Int → σ → σ) (s : List Int) (k : Int) (st : σ) :
    Gen.Funcs.ForEach.loop1 s0 fn s k st = Model.C12.forEach fn s st := by
  induction s generalizing k st with
  | nil => rfl
  | cons v r ih => simp only [Gen.Funcs.ForEach.loop1, Model.C12.forEach, ih]

theorem forEach_tie {σ : Type} (s : List Int) (fn : Int → σ → σ) (st : σ) :
    Gen.Funcs.ForEach s fn st = Model.C12.forEach fn s st := by
  simp only [Gen.Funcs.ForEach, forEach_loop]

theorem forEachRight_loop {σ : Type} (s : List Int) (fn : Int → σ → σ) (n : Nat) (st : σ) :
    Gen.Funcs.ForEachRight.loop1 s fn n st = ofC12 (Model.C12.forEachRightLoop fn s n st) := by
  induction n generalizing st with
  | zero => rfl
  | succ n ih =>
    simp only [Gen.Funcs.ForEachRight.loop1, Model.C12.forEachRightLoop, goIdx_nat]
    cases s[n]? with
    | none => rfl
    | some v => simp only [ih]

theorem forEachRight_tie {σ : Type} (s : List Int) (fn : Int → σ → σ) (st : σ) :
    Gen.Funcs.ForEachRight s fn st = ofC12 (Model.C12.forEachRight s fn st) := by
  simp only [Gen.Funcs.ForEachRight, Model.C12.forEachRight, len_toNat, forEachRight_loop]
  cases Model.C12.forEachRightLoop fn s s.length st <;> rfl

/-! ## Nth (struct `Bound` as a pair, method `Enclose` as a function) -/

theorem nth_tie (s : List Int) (nth : Int) : toOut (Gen.Funcs.Nth s nth) = Model.C13.Nth s nth := by
  have hg : ∀ i : Int, toOut (match goIdx s i with
      | Except.error e_ => Except.error e_
      | Except.ok t => (Except.ok t : Res Int)) = Model.C13.index s i := by
    intro i; rw [← goIdx_c13]; cases goIdx s i <;> rfl
  have hen : Gen.Funcs.Bound_Enclose ((0 : Int), (s.length : Int)) nth = Model.C13.enclose 0 s.length nth := by
    simp only [Gen.Funcs.Bound_Enclose, Model.C13.enclose, abs_tie, Bool.and_eq_true, decide_eq_true_eq]
  -- the code tests `Enclose`, then `nth >= 0`; the model their conjunction
  have hand : ∀ (a b : Bool) (x y : Res Int),
      (if a = true then (if b = true then x else y) else y) = if (a && b) = true then x else y := by
    intro a b x y; cases a <;> cases b <;> rfl
  simp only [Gen.Funcs.Nth, Model.C13.Nth, hen, abs_tie, hand]
  exact ite_tie TiedC13 (by simp only [Bool.or_eq_true, Bool.and_eq_true, decide_eq_true_eq])
    (fun _ => rfl) fun _ => ite_tie TiedC13 Iff.rfl (fun _ => hg _) fun _ => hg _

/-! ## GroupBy = mapByIndex(slice, Map(slice, fn)): a Go `map[K][]V` built with `mapHas` / `mapSet` / `mapGet` -/

theorem map_upd_absent {β : Type} (r : List (Int × List β)) (v : Int) (x : β) (h : v ∉ r.map (·.1)) :
    r.map (fun e => if e.1 == v then (e.1, e.2 ++ [x]) else e) = r :=
  (List.map_congr_left fun e he => if_neg fun c => h (List.mem_map.2 ⟨e, he, eq_of_beq c⟩)).trans (List.map_id r)

/-- `if _, ok := result[v]; !ok { result[v] = make(…) }; result[v] = append(result[v], x)` on the association list is
the model's step (make the group if it is missing, append to it) when the keys are distinct: behind an entry with
another key both sides go on in the rest of the list; at the entry of `v` no later entry has that key -/
theorem group_step (result : List (Int × List Int)) (v x : Int) (hn : Spec.C14.WF result) :
    mapSet (if (!mapHas result v) = true then mapSet result v ([] : List Int) else result) v
        (mapGet (if (!mapHas result v) = true then mapSet result v ([] : List Int) else result) v [] ++ [x])
      = (if result.any (fun e => e.1 == v) = true then result else result ++ [(v, [])]).map
          (fun e => if e.1 == v then (e.1, e.2 ++ [x]) else e) := by
  induction result with
  | nil => simp [mapHas, mapSet, mapGet]
  | cons e r ih =>
    obtain ⟨k, l⟩ := e
    rw [Spec.C14.WF, List.map_cons, List.nodup_cons] at hn
    by_cases he : k = v
    · subst he
      simp only [mapHas, mapSet, mapGet, Bool.not_true, Bool.false_eq_true, if_false, List.any_cons,
        beq_self_eq_true, Bool.true_or, if_true, List.map_cons, map_upd_absent r k x hn.1]
    · simp only [mapHas, mapSet, if_neg he, List.any_cons, beq_false_of_ne he, Bool.false_or, List.cons_append,
        ← apply_ite (List.cons (k, l)), mapGet, List.map_cons, Bool.false_eq_true, if_false, ih hn.2]

theorem wf_mapSet {β : Type} {m : List (Int × β)} (h : Spec.C14.WF m) (k : Int) (v : β) : Spec.C14.WF (mapSet m k v) :=
  mapSet_eq m k v ▸ Lemmas.C14.wf_put h k v

/-- the keys of `result` stay distinct: every iteration stores with `mapSet`, which keeps them so (`wf_put`) -/
theorem mapByIndex_loop (orig m0 : List Int) (ks : List Int) (idx : Nat) (result : List (Int × List Int))
    (hn : Spec.C14.WF result) :
    Gen.Funcs.mapByIndex.loop1 orig m0 ks (idx : Int) result
      = ofC12 (Model.C12.mapByIndexLoop orig ks idx result) := by
  induction ks generalizing idx result with
  | nil => rfl
  | cons v r ih =>
    simp only [Gen.Funcs.mapByIndex.loop1, Model.C12.mapByIndexLoop, goIdx_nat]
    cases orig[idx]? with
    | none => rfl
    | some x =>
      simp only []
      rw [← group_step result v x hn]
      refine ih (idx + 1) _ (wf_mapSet ?_ v _)
      split
      · exact wf_mapSet hn v []
      · exact hn

theorem groupBy_tie (s : List Int) (fn : Int → Int) : Gen.Funcs.GroupBy s fn = ofC12 (Model.C12.groupBy s fn) := by
  simp only [Gen.Funcs.GroupBy, Model.C12.groupBy, map_tie, Gen.Funcs.mapByIndex]
  cases Model.C12.mapPure s fn with
  | panic => rfl
  | ok keys =>
    simp only [ofC12, show Gen.Funcs.mapByIndex.loop1 s keys keys 0 [] = _ from
      mapByIndex_loop s keys keys 0 [] List.nodup_nil]
    cases Model.C12.mapByIndexLoop s keys 0 [] <;> rfl

example : Gen.Funcs.Chunk [1, 2, 3, 4, 5] 2 = .ok [[1, 2], [3, 4], [5]] := by rfl
example : Gen.Funcs.Chunk [1, 2, 3] 0 = .error .panic := by rfl
example : Gen.Funcs.Drop [1, 2, 3, 4] (-1) = .ok [1, 2, 3] := by rfl
example : Gen.Funcs.LastIndexOf [7, 8, 7, 9] 7 = .ok 2 := by rfl
example : Gen.Funcs.Nth [10, 20, 30] (-1) = .ok 30 := by rfl
example : Gen.Funcs.Nth [10, 20, 30] 3 = .error .err := by rfl
example : Gen.Funcs.Mean [] = .error .panic := by rfl
example : Gen.Funcs.Unique [3, 1, 3, 2, 1] = [3, 1, 2] := by rfl
example : Gen.Funcs.Without [1, 2, 3, 2, 4] [2] = [1, 3, 4] := by rfl
example : Gen.Funcs.GroupBy [1, 2, 3, 4] (fun x => x.tmod 2) = .ok [(1, [1, 3]), (0, [2, 4])] := by rfl
example : Gen.Funcs.Substr [104, 101, 108, 108, 111] 1 3 = .ok [101, 108, 108] := by rfl
example : Gen.Funcs.Substr [104, 101, 108, 108, 111] (-2) 5 = .ok [108, 111] := by rfl
example : Gen.Funcs.SplitAtIndex [97, 98, 99] 0 = .ok [[97], [98, 99]] := by rfl
example : Gen.Funcs.PadLeft [97] 4 [45, 43] = .ok [45, 43, 45, 97] := by rfl
example : Gen.Funcs.Unwrap [34, 97, 34] [34] = .ok [97] := by rfl
example : Gen.Funcs.ForEachRight [1, 2, 3] (fun x (st : List Int) => st ++ [x]) [] = .ok [3, 2, 1] := by rfl
example : Gen.Funcs.FindAll [5, 6, 7, 8] (fun x => decide (x > 5)) = [(1, 6), (2, 7), (3, 8)] := by rfl

end GoguVerif.Theorems.GenTie
