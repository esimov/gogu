import GoguVerif.Model.DSeq
import GoguVerif.Lemmas.C19Handles2
/-!
# C19 — property theorems (linked lists behave as sequences under every edit)

`Repr store as xs` (`Lemmas/C19/SList.lean`, `Lemmas/C19/DList.lean`): the store holds the
sequence `xs` in the pairwise distinct cells `as`, the first of which is the embedded head
(address 0); cell `as[i]` holds `xs[i]`, its `next` is `as[i+1]?` (and, for `DList`, its `prev` is
`as[i-1]?`).  The step theorems are read off `Lemmas.C19H.SList.plain_sim` and `Lemmas.C19H.DList.plain_sim`
(`Lemmas/C19Handles.lean`, `Lemmas/C19Handles2.lean`), where the methods are put together.
-/
namespace GoguVerif.Theorems.C19
open GoguVerif.Model GoguVerif.Spec.C19

namespace SList
open GoguVerif.Model.SList GoguVerif.Lemmas.C19.SList

/-- representation invariant: the store represents *some* sequence -/
def Inv (h : Heap) : Prop := ∃ as xs, Repr h as xs

/-- abstraction function: the sequence `Each` reports -/
def abs (h : Heap) : List Int :=
  match each h with
  | .ok (_, vs) => vs
  | _ => []

/-- `Each` reports exactly the represented sequence, terminates, and leaves the store as it was (it walks with a
local pointer). -/
theorem slist_each_observes {h : Heap} {as xs} (r : Repr h as xs) : each h = .ok (h, xs) := by
  have hf := eachLoop_chain r.chain (h.length + 1) r.fuel
  rw [r.head] at hf
  simp [each, hf]

theorem abs_eq {h : Heap} {as xs} (r : Repr h as xs) : abs h = xs := by
  simp [abs, slist_each_observes r]

theorem slist_init_repr (v : Int) : Repr (init v) [0] [v] :=
  ⟨rfl, by simp, by simp [Chain, init]⟩

/-- Every `SList` operation preserves the representation and realises its sequence meaning
(no panic, no non-termination within `store.length + 1` fuel, no dangling address). -/
theorem slist_step_refines {h : Heap} {as xs} (r : Repr h as xs) (op : Op) (hs : supported op = true) :
    ∃ h' ans as' xs', step h op = .ok (h', ans) ∧ Repr h' as' xs' ∧ Allowed false xs op ans xs' := by
  obtain ⟨h', as', he, hr, -⟩ := Lemmas.C19H.SList.plain_sim r op hs
  exact ⟨h', _, as', _, he, hr, Lemmas.C19H.allowed_iff.mpr (.inl rfl)⟩

/-- The same in invariant/abstraction form: `Inv` is preserved and the abstract sequences before and
after the step, together with the answer, are admitted by the specification. -/
theorem slist_step_inv {h : Heap} (hi : Inv h) (op : Op) (hs : supported op = true) :
    ∃ h' ans, step h op = .ok (h', ans) ∧ Inv h' ∧ Allowed false (abs h) op ans (abs h') := by
  obtain ⟨as, xs, r⟩ := hi
  obtain ⟨h', ans, as', xs', he, hr, ha⟩ := slist_step_refines r op hs
  exact ⟨h', ans, he, ⟨as', xs', hr⟩, by rw [abs_eq r, abs_eq hr]; exact ha⟩

/-- Whole histories from any represented store: the run ends normally and every observation
(answer, `Each` sequence after the step) is the one the sequence specification admits. -/
theorem slist_run_from {h : Heap} {as xs} (r : Repr h as xs) (ops : List Op)
    (hs : ∀ op ∈ ops, supported op = true) :
    ∃ obs, run h ops = .ok obs ∧ Holds false xs ops obs := by
  induction ops generalizing h as xs with
  | nil => exact ⟨[], rfl, by simp [Holds]⟩
  | cons op ops ih =>
    obtain ⟨h', ans, as', xs', he, hr, ha⟩ := slist_step_refines r op (hs op List.mem_cons_self)
    obtain ⟨obs, hrun, hh⟩ := ih hr (fun o ho => hs o (List.mem_cons_of_mem _ ho))
    refine ⟨(ans, xs') :: obs, ?_, ?_⟩
    · simp [run, stepObs, he, slist_each_observes hr, hrun]
    · simp only [Holds]; exact ⟨ha, hh⟩

/-- C19 for `SList`, all histories: from `Init(v)`, every sequence of operations runs without
panic, hang or dangling pointer, and all answers and observed sequences are those of the abstract
non-empty sequence. -/
theorem slist_sequence (v : Int) (ops : List Op) (hs : ∀ op ∈ ops, supported op = true) :
    ∃ obs, run (init v) ops = .ok obs ∧ Holds false [v] ops obs :=
  slist_run_from (slist_init_repr v) ops hs

/-- no history panics, hangs or follows a dangling pointer -/
theorem slist_no_panic (v : Int) (ops : List Op) (hs : ∀ op ∈ ops, supported op = true) :
    run (init v) ops ≠ .panic ∧ run (init v) ops ≠ .hang ∧ run (init v) ops ≠ .stuck := by
  obtain ⟨obs, hr, _⟩ := slist_sequence v ops hs
  simp [hr]

-- non-vacuity: a concrete history exercising head and middle edits, evaluated on the model
example : run (init 1) [.append 2, .unshift 3, .insertAfter 1 4, .delete 3, .delete 4, .pop, .shift] =
    .ok [(.ok, [1, 2]), (.ok, [3, 1, 2]), (.ok, [3, 1, 4, 2]), (.ok, [1, 4, 2]), (.ok, [1, 2]),
         (.ok, [1]), (.ok, [1])] := by decide
example : Repr (init 7) [0] [7] := slist_init_repr 7
example : ∀ op ∈ [Op.append 2, .unshift 3, .delete 3], supported op = true := by decide

end SList

namespace DList
open GoguVerif.Model.DList GoguVerif.Lemmas.C19.DList

/-- representation invariant: the store represents *some* sequence, `prev` pointers included -/
def Inv (h : Heap) : Prop := ∃ as xs, Repr h as xs

/-- abstraction function: the sequence `Each` reports -/
def abs (h : Heap) : List Int :=
  match each h with
  | .ok (_, vs) => vs
  | _ => []

/-- As `SList.slist_each_observes`. -/
theorem dlist_each_observes {h : Heap} {as xs} (r : Repr h as xs) : each h = .ok (h, xs) := by
  have hf := eachLoop_chain r.chain (h.length + 1) r.fuel
  rw [r.head] at hf
  simp [each, hf]

theorem abs_eq {h : Heap} {as xs} (r : Repr h as xs) : abs h = xs := by
  simp [abs, dlist_each_observes r]

theorem dlist_init_repr (v : Int) : Repr (init v) [0] [v] :=
  ⟨rfl, by simp, by simp [Chain, init]⟩

/-- `relink` turns a chain whose first three `prev` pointers are stale into a represented list
(this is exactly the repair 823c4f5). -/
theorem dlist_relink_repairs {h : Heap} {as xs} (hnd : as.Nodup) (hh : as.head? = some 0)
    (hc : LChain h 3 none as xs) : ∃ h', relink h = .ok h' ∧ Repr h' as xs :=
  relink_chain hnd hh hc

/-- Every `DList` operation — the `prev` layer (`InsertAfter`, `InsertBefore`, `Delete`,
`relink`) included — preserves the representation and realises its sequence meaning (no panic,
no non-termination within `store.length + 1` fuel, no dangling address). -/
theorem dlist_step_refines {h : Heap} {as xs} (r : Repr h as xs) (op : Op) :
    ∃ h' ans as' xs', step h op = .ok (h', ans) ∧ Repr h' as' xs' ∧ Allowed true xs op ans xs' := by
  obtain ⟨h', as', he, hr, -⟩ := Lemmas.C19H.DList.plain_sim r op
  exact ⟨h', _, as', _, he, hr, Theorems.C19H.DList.nextD_allowed xs op⟩

/-- The operations that only follow `next` (`Unshift`, `Append`, `Shift`, `Pop`, `First`,
`Last`, `Find`, `Each`, `Replace` — what `LQueue` (C05) and `LStack` (C06) use) preserve the full
representation (`prev` pointers included) and realise their sequence meaning. -/
theorem dlist_next_ops_refine {h : Heap} {as xs} (r : Repr h as xs) (op : Op)
    (hop : match op with
      | .insertAfter _ _ | .insertBefore _ _ | .delete _ => False
      | _ => True) :
    ∃ h' ans as' xs', step h op = .ok (h', ans) ∧ Repr h' as' xs' ∧ Allowed true xs op ans xs' := by
  have _ := hop  -- not needed: the statement holds for every operation
  exact dlist_step_refines r op

/-- As `SList.slist_step_inv`. -/
theorem dlist_step_inv {h : Heap} (hi : Inv h) (op : Op) :
    ∃ h' ans, step h op = .ok (h', ans) ∧ Inv h' ∧ Allowed true (abs h) op ans (abs h') := by
  obtain ⟨as, xs, r⟩ := hi
  obtain ⟨h', ans, as', xs', he, hr, ha⟩ := dlist_step_refines r op
  exact ⟨h', ans, he, ⟨as', xs', hr⟩, by rw [abs_eq r, abs_eq hr]; exact ha⟩

/-- As `SList.slist_run_from`. -/
theorem dlist_run_from {h : Heap} {as xs} (r : Repr h as xs) (ops : List Op) :
    ∃ obs, run h ops = .ok obs ∧ Holds true xs ops obs := by
  induction ops generalizing h as xs with
  | nil => exact ⟨[], rfl, by simp [Holds]⟩
  | cons op ops ih =>
    obtain ⟨h', ans, as', xs', he, hr, ha⟩ := dlist_step_refines r op
    obtain ⟨obs, hrun, hh⟩ := ih hr
    refine ⟨(ans, xs') :: obs, ?_, ?_⟩
    · simp [run, stepObs, he, dlist_each_observes hr, hrun]
    · simp only [Holds]; exact ⟨ha, hh⟩

/-- C19 for `DList`, all histories: from `InitDList(v)`, every sequence of operations runs
without panic, hang or dangling pointer, and all answers and observed sequences are those of the
abstract non-empty sequence. -/
theorem dlist_sequence (v : Int) (ops : List Op) :
    ∃ obs, run (init v) ops = .ok obs ∧ Holds true [v] ops obs :=
  dlist_run_from (dlist_init_repr v) ops

/-- As `SList.slist_no_panic`. -/
theorem dlist_no_panic (v : Int) (ops : List Op) :
    run (init v) ops ≠ .panic ∧ run (init v) ops ≠ .hang ∧ run (init v) ops ≠ .stuck := by
  obtain ⟨obs, hr, _⟩ := dlist_sequence v ops
  simp [hr]

/-- `Clear` leaves a represented one-element list (the first value stays). -/
theorem dlist_clear_repr {h : Heap} {as xs} (r : Repr h as xs) :
    ∃ h', clear h = .ok h' ∧ Repr h' [0] [xs.head?.getD 0] := by
  obtain ⟨as', x, xs', rfl, rfl, h0, -⟩ := r.cons
  exact ⟨h.set 0 ⟨x, none, none⟩, by simp [clear, load, h0], rfl, by simp,
    List.getElem?_set_self (Lemmas.C19.lt_of_get h0), trivial⟩

/-! ### The sequence-level contract `Model/DSeq.lean` used by the `LQueue` (C05) and `LStack` (C06)
models is what the pointer-level `DList` does -/

/-- `DSeq.shift` on a non-empty sequence, written as `shift_repr` states `Shift` -/
theorem shift_eq {xs : List Int} (hne : xs ≠ []) :
    DSeq.shift xs = (if xs.length > 1 then xs.tail else [0], xs.head?.getD 0) := by
  match xs, hne with
  | [_], _ => rfl
  | _ :: _ :: _, _ => rfl

/-- `DSeq.pop`, written as `pop_repr` states `Pop` -/
theorem pop_eq (xs : List Int) :
    DSeq.pop xs = (if xs.length > 1 then xs.dropLast else xs, if xs.length > 1 then xs.dropLast.getLast?.getD 0 else 0) := by
  unfold DSeq.pop
  by_cases hl : xs.length > 1
  · rw [if_pos hl, if_pos hl, if_neg (Nat.not_le_of_gt hl)]
    rfl
  · rw [if_neg hl, if_neg hl, if_pos (Nat.le_of_not_gt hl)]
    rfl

/-- Every `DList` method that `LQueue`/`LStack` call realises, on a represented store, exactly the
sequence operation of `Model/DSeq.lean` — including the *value of the node copy* that `Shift` and
`Pop` hand out (`Pop` returns the new last element: the source of the `LStack` findings of C06). -/
theorem dlist_realises_dseq {h : Heap} {as xs} (r : Repr h as xs) :
    (∀ v, ∃ h' as', append h v = .ok h' ∧ Repr h' as' (DSeq.append xs v)) ∧
    (∃ h' n as', shift h = .ok (h', n) ∧ Repr h' as' (DSeq.shift xs).1 ∧ n.val = (DSeq.shift xs).2) ∧
    (∃ h' n as', pop h = .ok (h', n) ∧ Repr h' as' (DSeq.pop xs).1 ∧ n.val = (DSeq.pop xs).2) ∧
    first h = .ok (DSeq.first xs) ∧
    last h = .ok (DSeq.last xs) ∧
    (∀ v, ∃ o, find h v = .ok o ∧ o.isSome = DSeq.find xs v) ∧
    (∃ h', clear h = .ok h' ∧ Repr h' [0] (DSeq.clear xs)) := by
  obtain ⟨hs', n, hes, hn, hrs⟩ := Lemmas.C19H.DList.shift_repr r
  obtain ⟨hp', m, hep, hrp, hm⟩ := Lemmas.C19H.DList.pop_repr r
  obtain ⟨hc', hec, hrc⟩ := dlist_clear_repr r
  obtain ⟨as1, x, xs1, rfl, rfl, -⟩ := r.cons
  rw [pop_eq, shift_eq (List.cons_ne_nil x xs1)]
  refine ⟨fun v => ?_, ⟨hs', n, _, hes, hrs, hn⟩, ⟨hp', m, _, hep, hrp, hm⟩, first_repr r, last_repr r,
    fun v => Lemmas.C19H.DList.find_isSome r v, hc', hec, hrc⟩
  obtain ⟨h', he, hr⟩ := Lemmas.C19H.DList.append_repr r v
  exact ⟨h', _, he, hr⟩

/-! ### Finding F31 (fixed by 823c4f5): why `relink` is needed -/

/-- `Unshift` as it was before 823c4f5: the head is replaced by a copy and nobody re-points the
`prev` pointers of the following nodes. -/
def unshiftOld (h : Heap) (v : Int) : ListRes Heap := do
  let head ← load h 0
  pure ((h ++ [head]).set 0 ⟨v, some h.length, none⟩)

/-- Without `relink` the list is **not** a sequence: `[1,2,3]`, `Unshift 0`, `Delete(Find 2)` loses
the element `1` (witness of F31, evaluated on the model by the kernel; the same history on the
repaired model gives `[0,1,3]`, see `corpus/C19/f31-stale-prev.trace`). -/
theorem f31_unshift_without_relink_loses_element :
    (do let h ← append (init 1) 2
        let h ← append h 3
        let h ← unshiftOld h 0
        let (h, _) ← step h (.delete 2)
        let (_, vs) ← each h
        pure vs) = ListRes.ok [0, 3] := by decide

example :
    (do let h ← append (init 1) 2
        let h ← append h 3
        let h ← unshift h 0
        let (h, _) ← step h (.delete 2)
        let (_, vs) ← each h
        pure vs) = ListRes.ok [0, 1, 3] := by decide

-- non-vacuity: the history of finding F31 (stale prev after a head replacement), on the repaired model
example : run (init 1) [.append 2, .append 3, .unshift 0, .delete 2, .insertBefore 3 9, .shift,
      .insertBefore 1 5, .delete 5, .pop] =
    .ok [(.ok, [1, 2]), (.ok, [1, 2, 3]), (.ok, [0, 1, 2, 3]), (.ok, [0, 1, 3]), (.ok, [0, 1, 9, 3]),
         (.val 0, [1, 9, 3]), (.ok, [5, 1, 9, 3]), (.ok, [1, 9, 3]), (.ok, [1, 9])] := by decide
example : Repr (init 7) [0] [7] := dlist_init_repr 7
-- a store with stale prev pointers (what `Unshift` produces before `relink`) satisfies `LChain … 3`
example : LChain [⟨5, some 2, none⟩, ⟨2, none, some 0⟩, ⟨1, some 1, none⟩] 3 none [0, 2, 1] [5, 1, 2] := by
  simp [LChain]

end DList

/-! ## What the admitted answers mean (clauses of the statement, as facts about the specification) -/
namespace Clauses

/-- The functional successor is admitted. -/
theorem next_allowed (sv : Bool) (xs : List Int) (op : Op) :
    Allowed sv xs op (next sv xs op).1 (next sv xs op).2 :=
  Lemmas.C19H.allowed_iff.mpr (.inl rfl)

/-- Wherever the specification leaves no choice (anything but `Shift` on a list of one element) `next` is the
ONLY admitted outcome: judging a quiet operation by `next` is judging it by `Allowed`. -/
theorem allowed_eq_next {sv : Bool} {xs xs' : List Int} {op : Op} {ans : Ans}
    (h : Allowed sv xs op ans xs') (hs : op ≠ .shift ∨ xs.length > 1) :
    (ans, xs') = next sv xs op :=
  (Lemmas.C19H.allowed_iff.mp h).resolve_right fun q => hs.elim (fun a => a q.1) (fun a => q.2.1 a)

/-- the operations a `fill a n` line stands for -/
def fillOps (a : Int) : Nat → List Op
  | 0 => []
  | n + 1 => .unshift a :: fillOps (a + 1) n

/-- the sequence after a history: the last observed one -/
def finalSeq (xs : List Int) (obs : List (Ans × List Int)) : List Int := (obs.getLast?.map (·.2)).getD xs

/-- `fill a n` is `n` admitted `unshift` steps (all answering `ok`) that end in `fillFront a n xs` -/
theorem fillFront_steps (sv : Bool) (a : Int) (n : Nat) (xs : List Int) :
    ∃ obs, Holds sv xs (fillOps a n) obs ∧ finalSeq xs obs = fillFront a n xs ∧ ∀ o ∈ obs, o.1 = .ok := by
  induction n generalizing a xs with
  | zero => exact ⟨[], by simp [Holds, fillOps], by simp [finalSeq, fillFront], by simp⟩
  | succ n ih =>
    obtain ⟨obs, ho, hl, hk⟩ := ih (a + 1) (a :: xs)
    refine ⟨(.ok, a :: xs) :: obs, ?_, ?_, ?_⟩
    · simp only [fillOps, Holds, Allowed, and_self, true_and]; exact ho
    · rw [finalSeq, List.getLast?_cons, Option.map_some, Option.getD_some]
      exact (Option.getD_map Prod.snd (Ans.ok, a :: xs) obs.getLast?).symm.trans hl
    · exact List.forall_mem_cons.mpr ⟨rfl, hk⟩

/-! ### kept handles (`Spec.C19.AllowedH`, `moveIdx`)

A handle used right after `Find` designates the first occurrence: there the clauses for kept handles say exactly what
the value-addressed clauses say. -/

theorem insertAfterH_fresh {sv : Bool} {xs xs' : List Int} {x v : Int} {p : Nat} {ans : Ans}
    (h : xs.idxOf? x = some p) :
    Allowed sv xs (.insertAfter x v) ans xs' ↔ AllowedH xs (.insertAfterH p v) ans xs' := by
  simp only [Allowed, AllowedH, Lemmas.C19H.mem_of_idxOf? h, if_true, Lemmas.C19H.insertAfterFirst_eq h]

theorem insertBeforeH_fresh {sv : Bool} {xs xs' : List Int} {x v : Int} {p : Nat} {ans : Ans}
    (h : xs.idxOf? x = some p) :
    Allowed sv xs (.insertBefore x v) ans xs' ↔ AllowedH xs (.insertBeforeH p v) ans xs' := by
  simp only [Allowed, AllowedH, Lemmas.C19H.mem_of_idxOf? h, if_true, Lemmas.C19H.insertBeforeFirst_eq h]

theorem deleteH_fresh {sv : Bool} {xs xs' : List Int} {x : Int} {p : Nat} {ans : Ans}
    (h : xs.idxOf? x = some p) :
    Allowed sv xs (.delete x) ans xs' ↔ AllowedH xs (.deleteH p) ans xs' := by
  simp only [Allowed, AllowedH, Lemmas.C19H.mem_of_idxOf? h, if_true, Lemmas.C19H.erase_eq_eraseIdx h]

/-- the sequence after an edit that puts in `v` or takes an element out -/
def applyEdit (v : Int) (xs : List Int) : Edit → List Int
  | .ins p => xs.take p ++ v :: xs.drop p
  | .del p => xs.eraseIdx p
  | .none => xs

/-- the bookkeeping of kept handles follows the ELEMENT: wherever `moveIdx` still designates a position, that position
holds the element the handle designated before the edit -/
theorem moveIdx_follows_element (dbl : Bool) (v : Int) (xs : List Int) (e : Edit) (i j : Nat)
    (_hi : i < xs.length) (hp : ∀ p, e = .ins p → p ≤ xs.length) (h : moveIdx dbl e i = some j) :
    (applyEdit v xs e)[j]? = xs[i]? := by
  cases e with
  | none => cases h; rfl
  | ins p => cases h; exact Lemmas.C19H.insert_tracks (hp p rfl)
  | del p => exact Lemmas.C19H.eraseIdx_tracks (.inl rfl) h

/-- No admitted step makes the list empty, and no edit loses, duplicates or reorders the other
elements: after an insertion the old sequence is a subsequence of the new one which is longer by
exactly the inserted value; after a removal the new sequence is a subsequence of the old one,
shorter by exactly one; `Replace` keeps the length; observers change nothing. -/
theorem allowed_preserves_others {sv : Bool} {xs xs' : List Int} {op : Op} {ans : Ans}
    (hne : xs ≠ []) (ha : Allowed sv xs op ans xs') :
    xs' ≠ [] ∧
    (match op with
     | .unshift _ | .append _ => xs.Sublist xs' ∧ xs'.length = xs.length + 1
     | .insertAfter x _ | .insertBefore x _ =>
        xs.Sublist xs' ∧ xs'.length = xs.length + (if x ∈ xs then 1 else 0)
     | .shift => (xs.length > 1 → xs' = xs.tail) ∧ (xs.length ≤ 1 → xs'.length = 1)
     | .pop => xs' = (if xs.length > 1 then xs.dropLast else xs)
     | .delete x => xs'.Sublist xs ∧
        xs'.length = xs.length - (if x ∈ xs ∧ xs.length > 1 then 1 else 0)
     | .replace _ _ => xs'.length = xs.length
     | .find _ | .first | .last | .each => xs' = xs) := by
  have hpos : 0 < xs.length := List.length_pos_iff.mpr hne
  have ne_of_len : ∀ {l : List Int} {n : Nat}, l.length = n → 0 < n → l ≠ [] :=
    fun e h => List.length_pos_iff.mp (e ▸ h)
  cases op with
  | unshift v | append v =>
    obtain ⟨-, rfl⟩ := ha
    exact ⟨by simp, by simp, by simp⟩
  | shift =>
    obtain ⟨-, h2⟩ := ha
    by_cases hl : xs.length > 1
    · rw [if_pos hl] at h2
      subst h2
      exact ⟨ne_of_len List.length_tail (by omega), fun _ => rfl, fun q => absurd hl (by omega)⟩
    · rw [if_neg hl] at h2
      have : xs'.length = 1 := by
        rcases h2 with rfl | rfl
        · omega
        · rfl
      exact ⟨ne_of_len this Nat.one_pos, fun q => absurd q hl, fun _ => this⟩
  | pop =>
    obtain ⟨-, rfl⟩ := ha
    refine ⟨?_, rfl⟩
    split
    · exact ne_of_len List.length_dropLast (by omega)
    · exact hne
  | insertAfter x v | insertBefore x v =>
    simp only [Allowed] at ha
    split at ha <;> obtain ⟨-, rfl⟩ := ha
    · rename_i hx
      obtain ⟨p, hp⟩ := Lemmas.C19H.idxOf?_of_mem hx
      refine ⟨?_, ?_, ?_⟩ <;> first | rw [Lemmas.C19H.insertAfterFirst_eq hp] | rw [Lemmas.C19H.insertBeforeFirst_eq hp]
      · exact ne_of_len (Lemmas.C19.sublist_take_insert xs _ v).2 (Nat.succ_pos _)
      · exact (Lemmas.C19.sublist_take_insert xs _ v).1
      · rw [if_pos hx]
        exact (Lemmas.C19.sublist_take_insert xs _ v).2
    · rename_i hx
      exact ⟨hne, List.Sublist.refl _, by rw [if_neg hx]; rfl⟩
  | delete x =>
    simp only [Allowed] at ha
    by_cases hx : x ∈ xs ∧ xs.length > 1
    · rw [if_pos hx.1, if_pos hx.2] at ha
      obtain ⟨-, rfl⟩ := ha
      have hlen := List.length_erase_of_mem hx.1
      exact ⟨ne_of_len hlen (by omega), List.erase_sublist, by rw [if_pos hx, hlen]⟩
    · have : xs' = xs := by
        split at ha
        · split at ha
          · rename_i h1 h2; exact absurd ⟨h1, h2⟩ hx
          · exact ha.2
        · exact ha.2
      subst this
      exact ⟨hne, List.Sublist.refl _, by rw [if_neg hx]; rfl⟩
  | replace o n =>
    simp only [Allowed] at ha
    have : xs'.length = xs.length := by
      split at ha <;> obtain ⟨-, rfl⟩ := ha
      · exact Lemmas.C19.replaceFirst_length o n xs
      · rfl
    exact ⟨ne_of_len this hpos, this⟩
  | find x | first | last | each =>
    obtain ⟨-, rfl⟩ := ha
    exact ⟨hne, rfl⟩

example : Allowed true [1, 2, 3] (.delete 2) .ok [1, 3] := by decide
example : Allowed false [1] .shift .ok [1] ∧ Allowed true [1] .shift (.val 1) [0] := by decide

end Clauses

end GoguVerif.Theorems.C19
