import GoguVerif.Lemmas.C17Render
import GoguVerif.Lemmas.ListFacts
/-!
# C17 — property theorems (Memoize: one computation per key at a time, cached value served)

All statements are about the protocol LTS of `Model/C17.lean` (`step`: callers × keys, interleaved at
statement granularity, `singleflight.Group.Do`'s join-or-lead contract assumed).  Those on `Reachable` and
`ReachableLog` hold for EVERY reachable state: any number of callers, any number of keys, any interleaving, any instants,
any results chosen by the environment, any cache content `c0` at the start.  Those on `ReachableLogP` are about runs
under the virtual clock (time passes only while every caller is blocked); those on `Settled` moreover start at an
instant `≥ 0` and speak of callers that have all returned.  One group of theorems ties the LTS to the
sequential model `memoizeSeq` (compared exactly with the implementation) and that to the specification
`Spec.C17.seqCall`; the later ones are about the event log of a run and the monitor `Spec.C17.check`.
-/

namespace GoguVerif.Theorems.C17

open Model.C17 Lemmas.C17

variable {cfg : Cfg} {c0 : Nat → Cell} {now0 : Int}

/-- the in-flight counter of every key (incremented at `fnStart`, decremented at `fnEnd`, exactly like
the atomic counter in the harness) never exceeds 1 -/
theorem one_execution_per_key {s : State} (h : Reachable cfg (init c0 now0) s) (k : Nat) :
    s.inflight k ≤ 1 := by
  have hi := inv_reachable h
  rw [hi.infl k]
  split
  · split <;> omega
  · omega

/-- two callers of one key are never inside the supplied function at the same time -/
theorem running_unique {s : State} (h : Reachable cfg (init c0 now0) s) (c c' : Nat)
    (hk : cfg.key c = cfg.key c') (hc : s.pc c = .running) (hc' : s.pc c' = .running) : c = c' :=
  (inv_reachable h).active_unique hk (by rw [hc]; rfl) (by rw [hc']; rfl)

/-- while an execution for a key is in progress, no `fnStart` for that key is enabled -/
theorem no_second_start {s : State} (h : Reachable cfg (init c0 now0) s) (c c' : Nat)
    (hk : cfg.key c = cfg.key c') (hc : s.pc c = .running) : step cfg s (.fnStart c') = none := by
  have hi := inv_reachable h
  simp only [step]
  split
  · rename_i hl
    cases hi.active_unique hk (by rw [hc]; rfl) (by rw [hl]; rfl)
    rw [hc] at hl; cases hl
  · rfl

/-- an execution in progress stays in progress until its own `fnEnd`: nobody else can end it -/
theorem running_until_fnEnd {s s' : State} {l : Label} (c : Nat) (hc : s.pc c = .running)
    (hs : step cfg s l = some s') (hne : ∀ r, l ≠ .fnEnd c r) : s'.pc c = .running := by
  generalize hq : s'.pc c = q
  cases (Step.of_step hs).pcStep hc hq with
  | fnEnd r => exact absurd rfl (hne r)
  | other => rfl

/-- a caller that has returned `r` got
* the value read from the cache by its own `cacheCheck`, or
* the result of the execution it led or joined — an execution for the same key that had started before
  the caller returned, or
* the value the leader `l` of its flight (a caller of the same key, possibly the caller itself) read
  from the cache at its re-check inside `Do`: `l` ran nothing, nor did the caller -/
theorem result_has_source {s : State} (h : Reachable cfg (init c0 now0) s) (c : Nat) (r : Res)
    (hd : s.pc c = .done r) :
    (∃ v, r = .ok v ∧ s.src c = some (.hit v)) ∨
    (∃ l, s.src c = some (.exec l) ∧ cfg.key l = cfg.key c ∧ s.execRes l = some r ∧ s.started l = true) ∨
    (∃ l v, r = .ok v ∧ s.src c = some (.lhit l v) ∧ cfg.key l = cfg.key c ∧ s.src l = some (.lhit l v) ∧
        s.started l = false ∧ s.started c = false) := by
  rcases done_source (inv_reachable h) hd with ⟨v, k1, k2, _⟩ | ⟨l, k1, k2, k3, k4, _⟩ | k
  · exact Or.inl ⟨v, k1, k2⟩
  · exact Or.inr (Or.inl ⟨l, k1, k2, k3, k4⟩)
  · exact Or.inr (Or.inr k)

/-- the value a hit returns is the one `Cache.Get` produced at that `cacheCheck` step -/
theorem hit_reads_cache {s s' : State} (c : Nat) (v : Int)
    (hs : step cfg s (.cacheCheck c) = some s') (hv : cellGet s.now (s.cache (cfg.key c)) = some v) :
    s'.pc c = .done (.ok v) ∧ s'.src c = some (.hit v) ∧ s'.started = s.started ∧ s'.cache = s.cache := by
  cases Step.of_step hs with
  | hit _ w _ hw => cases hv.symm.trans hw; exact ⟨upd_same _ _ _, upd_same _ _ _, rfl, rfl⟩
  | miss _ _ hw => cases hv.symm.trans hw

/-- the leader's re-check: `leadHit` is enabled exactly on a live value, which is the value the caller will
return (`pc = setDone (.ok v)`: `doFinish` publishes it); nothing runs, nothing is written to the cache -/
theorem leadhit_reads_cache {s s' : State} (c : Nat) (hs : step cfg s (.leadHit c) = some s') :
    ∃ v, cellGet s.now (s.cache (cfg.key c)) = some v ∧ s.pc c = .leader ∧
      s'.pc c = .setDone (.ok v) ∧ s'.src c = some (.lhit c v) ∧ s'.started = s.started ∧
      s'.cache = s.cache ∧ s'.inflight = s.inflight ∧ s'.flight = s.flight := by
  cases Step.of_step hs with
  | leadHit _ v hpc hv => exact ⟨v, hv, hpc, upd_same _ _ _, upd_same _ _ _, rfl, rfl, rfl, rfl⟩

/-- the leader's step is determined by its re-check: with a live value only `leadHit` is enabled, without
one only `fnStart` -/
theorem leader_step_determined (s : State) (c : Nat) (hpc : s.pc c = .leader) :
    (∀ v, cellGet s.now (s.cache (cfg.key c)) = some v →
        (step cfg s (.leadHit c)).isSome = true ∧ step cfg s (.fnStart c) = none) ∧
    (cellGet s.now (s.cache (cfg.key c)) = none →
        step cfg s (.leadHit c) = none ∧ (step cfg s (.fnStart c)).isSome = true) := by
  constructor
  · intro v hv; simp [step, hpc, hv]
  · intro hv; simp [step, hpc, hv]

/-- every cached value was there at the start or is the successful result of an execution for that
very key (no contamination between keys) -/
theorem cached_value_origin {s : State} (h : Reachable cfg (init c0 now0) s) (k : Nat) (v e : Int)
    (hc : s.cache k = some (v, e)) :
    c0 k = some (v, e) ∨ ∃ l, cfg.key l = k ∧ s.execRes l = some (.ok v) :=
  (inv_reachable h).cach k v e hc

/-! ## callers that joined the same execution get the same result -/

theorem joiners_equal {s : State} (h : Reachable cfg (init c0 now0) s) (c c' l : Nat) (r r' : Res)
    (hs : s.src c = some (.exec l)) (hs' : s.src c' = some (.exec l))
    (hd : s.pc c = .done r) (hd' : s.pc c' = .done r') : r = r' := by
  have hi := inv_reachable h
  have h1 := (src_exec_done hi hd hs).1
  rw [(src_exec_done hi hd' hs').1] at h1
  exact (Option.some.inj h1).symm

/-! ## a live cached value is served and nothing runs -/

theorem hit_never_starts {s : State} (h : Reachable cfg (init c0 now0) s) (c : Nat) (v : Int)
    (hs : s.src c = some (.hit v)) : s.pc c = .done (.ok v) ∧ s.started c = false :=
  src_hit_done ((inv_reachable h).loc c) hs

theorem src_hit_stable {s s' : State} {l : Label} (hi : Inv cfg c0 s) (c : Nat) (v : Int)
    (hsrc : s.src c = some (.hit v)) (hs : step cfg s l = some s') : s'.src c = some (.hit v) := by
  have hs := Step.of_step hs
  exact (hs.frame_done (src_hit_done (hi.loc c) hsrc).1).src.trans hsrc

/-- if `cacheCheck` finds a live value, the caller returns exactly that value, and in every state
reachable afterwards — whatever everybody else does, however much time passes — the caller's function
has not been invoked -/
theorem live_value_served_without_invoking {s s1 s2 : State} (h : Reachable cfg (init c0 now0) s)
    (c : Nat) (v : Int) (hs : step cfg s (.cacheCheck c) = some s1)
    (hv : cellGet s.now (s.cache (cfg.key c)) = some v) (h2 : Reachable cfg s1 s2) :
    s2.pc c = .done (.ok v) ∧ s2.started c = false := by
  have h1 : Reachable cfg (init c0 now0) s1 := Reachable.step _ h hs
  have hsrc1 := (hit_reads_cache c v hs hv).2.1
  have hsrc2 : s2.src c = some (.hit v) := by
    induction h2 with
    | refl => exact hsrc1
    | step l hr hst ih => exact src_hit_stable (inv_reachable (reachable_trans h1 hr)) c v ih hst
  exact hit_never_starts (reachable_trans h1 h2) c v hsrc2

/-- `cacheSet` after an error leaves the whole cache as it is -/
theorem error_not_cached {s s' : State} (c : Nat) (hpc : s.pc c = .ran .err)
    (hs : step cfg s (.cacheSet c) = some s') : s'.cache = s.cache := by
  cases Step.of_step hs with
  | setOk _ v hw => cases hpc.symm.trans hw
  | setErr => rfl

/-- no step other than a `cacheSet` that follows a successful execution touches the cache -/
theorem cache_written_only_on_success {s s' : State} (l : Label) (hs : step cfg s l = some s')
    (hne : s'.cache ≠ s.cache) : ∃ c v, l = .cacheSet c ∧ s.pc c = .ran (.ok v) := by
  rcases (Step.of_step hs).cache_cases with e | ⟨c, v, e, hpc, _⟩
  · exact absurd e hne
  · exact ⟨c, v, e, hpc⟩

/-- after a history in which every execution for `k` failed, nothing is cached for `k` -/
theorem error_only_history_leaves_cache_empty {s : State} (h : Reachable cfg (init c0 now0) s) (k : Nat)
    (h0 : c0 k = none) (herr : ∀ l v, cfg.key l = k → s.execRes l ≠ some (.ok v)) : s.cache k = none := by
  cases hc : s.cache k with
  | none => rfl
  | some p =>
    obtain ⟨v, e⟩ := p
    rcases cached_value_origin h k v e hc with h1 | ⟨l, h1, h2⟩
    · rw [h0] at h1; cases h1
    · exact absurd h2 (herr l v h1)

/-- an error produced by the leader's function is what the leader and every joiner return: a caller
whose source is execution `l` returns `l`'s result, error included -/
theorem execution_result_returned {s : State} (h : Reachable cfg (init c0 now0) s) (c l : Nat) (r : Res)
    (hs : s.src c = some (.exec l)) (hd : s.pc c = .done r) : s.execRes l = some r :=
  (src_exec_done (inv_reachable h) hd hs).1

/-- frame: a step of caller `c` leaves every component of every other key and of every other caller
untouched (and the clock) -/
theorem step_frame {s s' : State} {l : Label} {c : Nat} (hc : l.caller = some c)
    (hs : step cfg s l = some s') :
    s'.now = s.now ∧
    (∀ k, k ≠ cfg.key c → s'.cache k = s.cache k ∧ s'.flight k = s.flight k ∧ s'.inflight k = s.inflight k) ∧
    (∀ c', c' ≠ c → s'.pc c' = s.pc c' ∧ s'.result c' = s.result c' ∧ s'.src c' = s.src c' ∧
        s'.started c' = s.started c' ∧ s'.execRes c' = s.execRes c') := by
  have hs := Step.of_step hs
  refine ⟨?_, fun k hk => ?_, fun c' h => ?_⟩
  · rcases hs.now_cases with e | ⟨d, rfl, _⟩
    · exact e
    · cases hc
  · cases hs with
    | tick => cases hc
    | lead a | doFinish a => cases hc; exact ⟨rfl, upd_other _ _ _ _ hk, rfl⟩
    | fnStart a | fnEnd a => cases hc; exact ⟨rfl, rfl, upd_other _ _ _ _ hk⟩
    | setOk a => cases hc; exact ⟨upd_other _ _ _ _ hk, rfl, rfl⟩
    | _ => exact ⟨rfl, rfl, rfl⟩
  · have f := hs.frame (c := c') (by rw [hc]; exact fun e => h (Option.some.inj e).symm)
    exact ⟨f.pc, f.result, f.src, f.started, f.execRes⟩

/-- two states agree on everything that belongs to key `k` (and on the clock) -/
structure AgreeOn (cfg : Cfg) (k : Nat) (s t : State) : Prop where
  now : s.now = t.now
  cache : s.cache k = t.cache k
  flight : s.flight k = t.flight k
  pc : ∀ c, cfg.key c = k → s.pc c = t.pc c
  result : ∀ c, cfg.key c = k → s.result c = t.result c

/-- independence: whether a step of caller `c` is enabled, and what it does to the components of
`c`'s key, depends only on the components of that key — whatever the rest of the state (the other
keys' cache cells, flights, callers) looks like.  In particular a step on key `k` is never disabled
(and never changed) by anything that happens on a key `k' ≠ k`. -/
theorem step_depends_on_own_key_only {s s' t : State} {l : Label} {c : Nat}
    (hi : Inv cfg c0 s) (hc : l.caller = some c) (ha : AgreeOn cfg (cfg.key c) s t)
    (hs : step cfg s l = some s') :
    ∃ t', step cfg t l = some t' ∧ AgreeOn cfg (cfg.key c) s' t' := by
  obtain ⟨a1, a2, a3, a4, a5⟩ := ha
  -- the same constructor of `Step` applies in `t`: its guard reads only `c`'s key
  have pcs : ∀ {p : PC}, s.pc c = p → t.pc c = p := fun h => (a4 c rfl).symm.trans h
  have upd' : ∀ {p : PC} c', cfg.key c' = cfg.key c → upd s.pc c p c' = upd t.pc c p c' :=
    fun c' h => upd_agree (a4 c' h)
  cases Step.of_step hs with
  | tick d => cases hc
  | invoke a hpc =>
    cases hc
    exact ⟨_, (Step.invoke c (pcs hpc)).to_step, a1, a2, a3, upd', a5⟩
  | hit a v hpc hv =>
    cases hc
    exact ⟨_, (Step.hit c v (pcs hpc) (a1 ▸ a2 ▸ hv)).to_step, a1, a2, a3, upd', a5⟩
  | miss a hpc hv =>
    cases hc
    exact ⟨_, (Step.miss c (pcs hpc) (a1 ▸ a2 ▸ hv)).to_step, a1, a2, a3, upd', a5⟩
  | join a l hpc hf =>
    cases hc
    exact ⟨_, (Step.join c l (pcs hpc) (a3 ▸ hf)).to_step, a1, a2, a3, upd', a5⟩
  | lead a hpc hf =>
    cases hc
    exact ⟨_, (Step.lead c (pcs hpc) (a3 ▸ hf)).to_step, a1, a2, (upd_same _ _ _).trans (upd_same _ _ _).symm, upd', a5⟩
  | leadHit a v hpc hv =>
    cases hc
    exact ⟨_, (Step.leadHit c v (pcs hpc) (a1 ▸ a2 ▸ hv)).to_step, a1, a2, a3, upd', a5⟩
  | fnStart a hpc hv =>
    cases hc
    exact ⟨_, (Step.fnStart c (pcs hpc) (a1 ▸ a2 ▸ hv)).to_step, a1, a2, a3, upd', a5⟩
  | fnEnd a r hpc =>
    cases hc
    exact ⟨_, (Step.fnEnd c r (pcs hpc)).to_step, a1, a2, a3, upd', a5⟩
  | setOk a v hpc =>
    cases hc
    refine ⟨_, (Step.setOk c v (pcs hpc)).to_step, a1, ?_, a3, upd', a5⟩
    show upd s.cache _ _ _ = upd t.cache _ _ _
    rw [upd_same, upd_same, a1, a2]
  | setErr a hpc =>
    cases hc
    exact ⟨_, (Step.setErr c (pcs hpc)).to_step, a1, a2, a3, upd', a5⟩
  | doFinish a r hpc =>
    cases hc
    exact ⟨_, (Step.doFinish c r (pcs hpc)).to_step, a1, a2, (upd_same _ _ _).trans (upd_same _ _ _).symm, upd',
      fun c' h => upd_agree (a5 c' h)⟩
  | wake a l r hpc hr =>
    cases hc
    -- the leader waited for has the caller's key
    exact ⟨_, (Step.wake c l r (pcs hpc) ((a5 l ((hi.loc c).waiting hpc).key).symm.trans hr)).to_step,
      a1, a2, a3, upd', a5⟩

/-- a step of a caller of key `k` that is enabled stays enabled after any step of a caller of another key -/
theorem never_disabled_by_other_key {s s1 s2 : State} {l1 l2 : Label} {c c' : Nat}
    (h : Reachable cfg (init c0 now0) s) (hc : l1.caller = some c) (hc' : l2.caller = some c')
    (hk : cfg.key c ≠ cfg.key c') (h1 : step cfg s l1 = some s1) (h2 : step cfg s l2 = some s2) :
    ∃ s3, step cfg s2 l1 = some s3 ∧ AgreeOn cfg (cfg.key c) s1 s3 := by
  have hf := step_frame hc' h2
  have hne : ∀ x, cfg.key x = cfg.key c → x ≠ c' := by
    intro x hx hxc; subst hxc; exact hk hx.symm
  have hag : AgreeOn cfg (cfg.key c) s s2 :=
    { now := hf.1.symm
      cache := (hf.2.1 _ hk).1.symm
      flight := (hf.2.1 _ hk).2.1.symm
      pc := fun x hx => ((hf.2.2 x (hne x hx)).1).symm
      result := fun x hx => ((hf.2.2 x (hne x hx)).2.1).symm }
  exact step_depends_on_own_key_only (inv_reachable h) hc hag h1

/-- the function never starts while a live value is cached: in every reachable state, whenever a step —
whatever its label, whoever takes it — starts the supplied function of a caller `c` (`c` is inside `fn()`
after the step and was not before), the cache cell of `c`'s key holds no live value at that instant.
The step is `c`'s own `fnStart`, the function-start outcome of the leader's re-check, and no other execution
for the key is in progress.  (The protocol without the leader's re-check does not have this property: see the
`stepOld` example below.) -/
theorem no_start_while_cached {s s' : State} (h : Reachable cfg (init c0 now0) s) (l : Label) (c : Nat)
    (hs : step cfg s l = some s') (hnot : s.pc c ≠ .running) (hrun : s'.pc c = .running) :
    cellGet s.now (s.cache (cfg.key c)) = none ∧ l = .fnStart c ∧ s.inflight (cfg.key c) = 0 := by
  have hs := Step.of_step hs
  generalize hp : s.pc c = p at hnot
  cases hs.pcStep hp hrun with
  | other => exact absurd rfl hnot
  | fnStart =>
    cases hs with
    | fnStart a hpc hv =>
      exact ⟨hv, rfl, (inv_reachable h).leader_idle hpc⟩

/-- a call that finds a live value: the script `invoke; cacheCheck` ends the call exactly as `memoizeSeq` says -/
theorem lts_seq_hit (s : State) (c : Nat) (lat : Int) (r : Res) (v : Int) (hpc : s.pc c = .idle)
    (hv : cellGet s.now (s.cache (cfg.key c)) = some v) :
    ∃ s', run cfg s [.invoke c, .cacheCheck c] = some s' ∧
      let m := memoizeSeq cfg.expTime s.now lat (s.cache (cfg.key c)) r
      s'.pc c = .done m.res ∧ s'.cache (cfg.key c) = m.cell ∧ s'.now = m.now ∧ m.ran = false ∧
      s'.started c = s.started c := by
  simp [run, step, hpc, hv, memoizeSeq]

/-- a call that finds nothing live, with nobody else in flight for its key: the full script ends the
call exactly as `memoizeSeq` says -/
theorem lts_seq_miss (s : State) (c : Nat) (lat : Nat) (r : Res) (hpc : s.pc c = .idle)
    (hf : s.flight (cfg.key c) = none)
    (hv : cellGet s.now (s.cache (cfg.key c)) = none) :
    ∃ s', run cfg s (seqScript c lat r) = some s' ∧
      let m := memoizeSeq cfg.expTime s.now lat (s.cache (cfg.key c)) r
      s'.pc c = .done m.res ∧ s'.cache (cfg.key c) = m.cell ∧ s'.now = m.now ∧ m.ran = true ∧
      s'.started c = true ∧ s'.flight (cfg.key c) = none := by
  cases r with
  | ok v => simp [run, step, seqScript, hpc, hv, hf, memoizeSeq]
  | err => simp [run, step, seqScript, hpc, hv, hf, memoizeSeq]

/-- what the harness prints for a result -/
def outOf : Res → Int × Int
  | .ok v => (0, v)
  | .err => (1, 0)

/-- for every instant, latency, cache cell and function result, the sequential model of `Memoize`
answers exactly what the specification demands: a live value is served without running the function;
otherwise the function runs once, its result is returned, a success is cached (with the default
expiration, from the instant the function returns), an error is not -/
theorem memoizeSeq_meets_spec (expTime now lat : Int) (cell : Cell) (r : Res) (h0 : 0 ≤ now) (hl : 0 ≤ lat)
    (m : SeqOut) (hm : m = memoizeSeq expTime now lat cell r) :
    Spec.C17.seqCall expTime now lat (absCell cell) (outOf r).1 (outOf r).2 =
      (((outOf m.res).1, (outOf m.res).2, (if m.ran then 1 else 0), m.now - now), absCell m.cell) := by
  unfold Spec.C17.seqCall
  rw [live_abs]
  unfold memoizeSeq at hm
  cases hg : cellGet now cell with
  | some v =>
    simp only [hg] at hm ⊢
    subst hm
    simp [outOf]
  | none =>
    cases r with
    | ok v =>
      simp only [hg] at hm ⊢
      subst hm
      simp only [outOf]
      rw [offer_abs _ _ _ _ (by omega)]
      simp
      omega
    | err =>
      simp only [hg] at hm ⊢
      subst hm
      simp [outOf]
      omega

/-! ## non-vacuity: concrete runs of the LTS -/

def exCfg (e : Int) : Cfg := { expTime := e, key := fun _ => 0 }

def exInit : State := init (fun _ => none) 0

/-- two callers of key 0, the second joins the first's execution and both return its value 7; a third
caller, invoked 5 ms after the value was cached, is served from the cache and runs nothing -/
def exScript : List Label := [.invoke 1, .cacheCheck 1, .doEnter 1, .fnStart 1, .invoke 2, .cacheCheck 2,
  .doEnter 2, .tick 40, .fnEnd 1 (.ok 7), .cacheSet 1, .doFinish 1, .wake 2, .tick 5, .invoke 3, .cacheCheck 3]

example : (run (exCfg 30) exInit exScript).map (fun s => (s.pc 1, s.pc 2, s.pc 3)) =
    some (.done (.ok 7), .done (.ok 7), .done (.ok 7)) := by decide

example : (run (exCfg 30) exInit exScript).map (fun s => (s.src 2, s.src 3)) =
    some (some (.exec 1), some (.hit 7)) := by decide

example : (run (exCfg 30) exInit exScript).map (fun s => (s.inflight 0, s.cache 0, s.started 3)) =
    some (0, some (7, 70), false) := by decide

/-- a second `fnStart` for the same key is not enabled while the first is running -/
example :
    (run (exCfg 30) exInit [.invoke 1, .cacheCheck 1, .doEnter 1, .fnStart 1, .invoke 2,
      .cacheCheck 2, .doEnter 2, .fnStart 2]).isNone = true := by
  decide

/-- an error is returned to leader and joiner and leaves the cache empty -/
example :
    (run (exCfg (-1)) exInit [.invoke 1, .cacheCheck 1, .doEnter 1, .fnStart 1, .invoke 2, .cacheCheck 2,
      .doEnter 2, .fnEnd 1 .err, .cacheSet 1, .doFinish 1, .wake 2]).map
      (fun s => (s.pc 1, s.pc 2, s.cache 0)) = some (.done .err, .done .err, none) := by
  decide

/-- the late leader: caller 2 misses the cache before caller 1 has stored its value and enters `Do` after
caller 1 has left.  Its re-check as leader finds caller 1's value: it does NOT run the function (`fnStart 2`
is not enabled), it returns the cached value — and so does caller 3, which had missed too and joined
caller 2's flight -/
def exLateLeader : List Label := [.invoke 1, .invoke 2, .invoke 3, .cacheCheck 1, .cacheCheck 2, .cacheCheck 3,
  .doEnter 1, .fnStart 1, .fnEnd 1 (.ok 7), .cacheSet 1, .doFinish 1, .doEnter 2, .doEnter 3]

example :
    (run (exCfg (-1)) exInit (exLateLeader ++ [.leadHit 2, .doFinish 2, .wake 3])).map
      (fun s => (s.pc 1, s.pc 2, s.pc 3, s.cache 0)) =
    some (.done (.ok 7), .done (.ok 7), .done (.ok 7), some (7, -1)) := by
  decide

example :
    (run (exCfg (-1)) exInit (exLateLeader ++ [.leadHit 2, .doFinish 2, .wake 3])).map
      (fun s => (s.src 2, s.src 3, s.started 2, s.started 3, s.inflight 0)) =
    some (some (.lhit 2 7), some (.lhit 2 7), false, false, 0) := by
  decide

example : (run (exCfg (-1)) exInit (exLateLeader ++ [.fnStart 2])).isNone = true := by decide

/-- the protocol without the leader's re-check (`fnStart` is enabled at a leader whatever the cache holds), for the
negative witness below -/
def stepOld (cfg : Cfg) (s : State) : Label → Option State
  | .leadHit _ => none
  | .fnStart c =>
    match s.pc c with
    | .leader => some { s with pc := upd s.pc c .running, started := upd s.started c true,
                               inflight := upd s.inflight (cfg.key c) (s.inflight (cfg.key c) + 1) }
    | _ => none
  | l => step cfg s l

def runOld (cfg : Cfg) (s : State) : List Label → Option State
  | [] => some s
  | l :: ls => match stepOld cfg s l with
    | some s' => runOld cfg s' ls
    | none => none

/-- negative witness: in the protocol without the re-check the same late leader starts the function although a live value
is cached for its key (and goes on to return its own value 8, not the cached 7) -/
example :
    (runOld (exCfg (-1)) exInit exLateLeader).map
      (fun s => (cellGet s.now (s.cache 0), (stepOld (exCfg (-1)) s (.fnStart 2)).map (fun s' => (s'.pc 2, s'.started 2)))) =
    some (some 7, some (.running, true)) := by
  decide

example :
    (runOld (exCfg (-1)) exInit (exLateLeader ++ [.fnStart 2, .fnEnd 2 (.ok 8), .cacheSet 2, .doFinish 2, .wake 3])).map
      (fun s => (s.pc 1, s.pc 2, s.pc 3, s.cache 0)) =
    some (.done (.ok 7), .done (.ok 8), .done (.ok 8), some (7, -1)) := by
  decide

example : memoizeSeq 30 100 5 (some (7, 90)) (.ok 8) =
    { cell := some (8, 135), res := .ok 8, ran := true, now := 105 } := by decide

example : memoizeSeq 30 90 5 (some (7, 90)) (.ok 8) =
    { cell := some (7, 90), res := .ok 7, ran := false, now := 90 } := by decide

/-! `ReachableLog cfg (init c0 now0) s g`: `g` is the event log of some run of the LTS that ends in `s`
(`Model/C17.lean`, "the event log of a run"): every step gets the next sequence number, so `x < y` between
log entries means "really happened before".  `invAt c` / `retAt c` stamp caller `c`'s invocation and
return, `startAt l` / `endAt l` the start and end of the execution of `l`'s function.  The theorems hold
for every run: any number of callers and keys, any interleaving, any passage of time. -/

variable {s : State} {g : EvLog}

/-- executions of one key never overlap: of two executions for the same key, one has ended
before the other starts (their `[startAt, endAt]` intervals are disjoint; an execution still in
progress has no later rival) -/
theorem log_executions_disjoint (h : ReachableLog cfg (init c0 now0) s g) (c c' a a' : Nat)
    (hne : c ≠ c') (hk : cfg.key c = cfg.key c') (hs : g.startAt c = some a) (hs' : g.startAt c' = some a') :
    (∃ b, g.endAt c = some b ∧ b < a') ∨ (∃ b', g.endAt c' = some b' ∧ b' < a) := by
  have hi := sinv_reachable h
  rcases Nat.le_total a a' with hle | hle
  · exact Or.inl (hi.dis c c' a a' hne hk hs hs' hle).2
  · exact Or.inr (hi.dis c' c a' a (Ne.symm hne) hk.symm hs' hs hle).2

/-- every caller that has returned `r` was invoked before it returned, and `r` is either
* the cached value its `cacheCheck` read (and then the caller has no execution of its own), or
* the result of an execution `l` of the same key, where the execution started and ended before the
  caller returned (`a < b < t`) and the caller was invoked before the execution's own caller `l`
  returned (`i < tl ≤ t`), or
* the cached value the leader `l` of the caller's flight (a caller of the same key, possibly the caller
  itself) read at its re-check inside `Do`; then neither the caller nor `l` has an execution in the log,
  and a joiner was invoked before `l` returned and returned after it (`i < tl < t`).  Where that value
  comes from: `log_leadhit_value_live`.
In the second case the execution *overlapped or preceded* the call in exactly this sense: it never starts
after the caller has returned, and the call never starts after the execution's result has been handed back
to its own caller.  It is NOT always true that the execution ended after the caller was invoked: a caller
invoked between `fnEnd` and `doFinish` of the leader still joins (see the `example` below). -/
theorem log_result_has_source (h : ReachableLog cfg (init c0 now0) s g) (c : Nat) (r : Res)
    (hd : s.pc c = .done r) :
    ∃ i t, g.invAt c = some i ∧ g.retAt c = some t ∧ i < t ∧
      ((∃ v, r = .ok v ∧ s.src c = some (.hit v) ∧ g.startAt c = none) ∨
       (∃ l a b tl, s.src c = some (.exec l) ∧ cfg.key l = cfg.key c ∧ s.execRes l = some r ∧
          g.startAt l = some a ∧ g.endAt l = some b ∧ g.retAt l = some tl ∧
          a < b ∧ b < t ∧ i < tl ∧ tl ≤ t) ∨
       (∃ l v, r = .ok v ∧ s.src c = some (.lhit l v) ∧ cfg.key l = cfg.key c ∧ s.src l = some (.lhit l v) ∧
          g.startAt c = none ∧ g.startAt l = none ∧ (l = c ∨ ∃ tl, g.retAt l = some tl ∧ i < tl ∧ tl < t))) := by
  have hi := inv_reachableLog h
  have hs := sinv_reachable h
  obtain ⟨i, t, h1, h2⟩ := stamps_of_done hs hd
  refine ⟨i, t, h1, h2, hs.ord .inv .ret c i t trivial h1 h2, ?_⟩
  rcases done_source hi hd with ⟨v, k1, k2, k3⟩ | ⟨l, k1, k2, k3, k4, k5⟩ | ⟨l, v, k1, k2, k3, k4, k5, k6⟩
  · exact Or.inl ⟨v, k1, k2, (hs.startAt_none c).2 k3⟩
  · -- the execution is in the log, before its caller's return; a joiner returned after that
    obtain ⟨a, ha⟩ := hs.stamped (e := .start) k4
    obtain ⟨b, hb⟩ := endAt_of_execRes hs k3
    obtain ⟨tl, htl⟩ := hs.stamped (e := .ret) ⟨r, k5⟩
    have hab := hs.ord .start .end l a b trivial ha hb
    have hbt := hs.ord .end .ret l b tl trivial hb htl
    obtain ⟨e2, e3⟩ := hs.served (by rw [k1]; rfl) h1 h2 htl
    exact Or.inr (Or.inl ⟨l, a, b, tl, k1, k2, k3, ha, hb, htl, hab, Nat.lt_of_lt_of_le hbt e3, e2, e3⟩)
  · refine Or.inr (Or.inr ⟨l, v, k1, k2, k3, k4, (hs.startAt_none c).2 k6, (hs.startAt_none l).2 k5, ?_⟩)
    by_cases hlc : l = c
    · exact Or.inl hlc
    · exact Or.inr (hs.join c l i t (by rw [k2]; rfl) hlc h1 h2)

/-- callers that joined the same execution (leader included) got equal results -/
theorem log_joiners_equal (h : ReachableLog cfg (init c0 now0) s g) (c c' l : Nat) (r r' : Res)
    (hs : s.src c = some (.exec l)) (hs' : s.src c' = some (.exec l))
    (hd : s.pc c = .done r) (hd' : s.pc c' = .done r') : r = r' :=
  joiners_equal (reachableLog_reachable h) c c' l r r' hs hs' hd hd'

/-- a caller whose `cacheCheck` found a live value (its source is that hit — `hit_reads_cache`
— and stays so — `src_hit_stable`) has returned that value and the log of every later moment contains
no execution of its function: it caused no `fnStart` -/
theorem log_hit_causes_no_start (h : ReachableLog cfg (init c0 now0) s g) (c : Nat) (v : Int)
    (hs : s.src c = some (.hit v)) :
    s.pc c = .done (.ok v) ∧ g.startAt c = none ∧ g.endAt c = none := by
  have hi := inv_reachableLog h
  have hsi := sinv_reachable h
  obtain ⟨hp, hst⟩ := src_hit_done (hi.loc c) hs
  exact ⟨hp, (hsi.startAt_none c).2 hst, (hsi.endAt_none c).2 ((hi.loc c).execRes_none_of_unstarted hst)⟩

/-- conversely, an execution in the log belongs to a caller that missed the cache and became the
leader of its key's call -/
theorem log_start_only_by_leader (h : ReachableLog cfg (init c0 now0) s g) (c a : Nat)
    (hs : g.startAt c = some a) : s.src c = some (.exec c) ∧ ∃ i, g.invAt c = some i ∧ i < a := by
  have hi := inv_reachableLog h
  have hsi := sinv_reachable h
  have S := (hi.loc c).toStarted (hsi.of_cell (e := .start) hs)
  obtain ⟨i, hi'⟩ := hsi.stamped (e := .inv) S.invoked
  exact ⟨S.src, i, hi', hsi.ord .inv .start c i a trivial hi' hs⟩

/-- an execution ends after it started, after its caller was invoked; only a caller whose source is
its own execution has one -/
theorem log_execution_wellformed (h : ReachableLog cfg (init c0 now0) s g) (l b : Nat)
    (he : g.endAt l = some b) :
    ∃ i a, g.invAt l = some i ∧ g.startAt l = some a ∧ i < a ∧ a < b ∧ s.src l = some (.exec l) ∧
      ∃ r, s.execRes l = some r := by
  have hi := inv_reachableLog h
  have hs := sinv_reachable h
  obtain ⟨r, hr⟩ := Option.ne_none_iff_exists'.1 (hs.of_cell (e := .end) he)
  obtain ⟨a, ha⟩ := startAt_of_execRes hi hs hr
  obtain ⟨hsrc, i, hi', hia⟩ := log_start_only_by_leader h l a ha
  exact ⟨i, a, hi', ha, hia, hs.ord .start .end l a b trivial ha he, hsrc, r, hr⟩

/-- after a history in which every execution for `k` that has ended returned an error (and
nothing was cached for `k` beforehand), the cache holds no entry for `k` -/
theorem log_error_only_history (h : ReachableLog cfg (init c0 now0) s g) (k : Nat) (h0 : c0 k = none)
    (herr : ∀ l b, cfg.key l = k → g.endAt l = some b → s.execRes l = some .err) : s.cache k = none := by
  refine error_only_history_leaves_cache_empty (reachableLog_reachable h) k h0 ?_
  intro l v hl hr
  obtain ⟨b, hb⟩ := endAt_of_execRes (sinv_reachable h) hr
  have := herr l b hl hb
  rw [this] at hr
  cases hr

/-- the log of a script: `runLog` produces reachable (state, log) pairs -/
theorem runLog_reachable (s0 : State) (ls : List Label) (s1 s2 : State) (g1 g2 : EvLog)
    (h : ReachableLog cfg s0 s1 g1) (hr : runLog cfg s1 g1 ls = some (s2, g2)) :
    ReachableLog cfg s0 s2 g2 := by
  induction ls generalizing s1 g1 with
  | nil => simp only [runLog, Option.some.injEq, Prod.mk.injEq] at hr; rw [← hr.1, ← hr.2]; exact h
  | cons l ls ih =>
    simp only [runLog] at hr
    split at hr
    · rename_i s' hs'
      exact ih s' _ (ReachableLog.step l h hs') hr
    · cases hr

/-- "ended after the caller was invoked" is not a theorem: caller 2 is invoked (event 5) after caller
1's function has ended (event 4) and still receives that execution's result through the flight -/
def exLateJoin : List Label := [.invoke 1, .cacheCheck 1, .doEnter 1, .fnStart 1, .fnEnd 1 (.ok 7),
  .invoke 2, .cacheCheck 2, .doEnter 2, .cacheSet 1, .doFinish 1, .wake 2]

example : (runLog (exCfg (-1)) exInit EvLog.empty exLateJoin).map (fun p => (p.1.pc 2, p.1.src 2)) =
    some (.done (.ok 7), some (.exec 1)) := by decide

example : (runLog (exCfg (-1)) exInit EvLog.empty exLateJoin).map
    (fun p => (p.2.endAt 1, p.2.invAt 2, p.2.retAt 1, p.2.retAt 2)) = some (some 4, some 5, some 9, some 10) := by
  decide

/-! On the event log of a run of the LTS, rendered by `specExecs` / `specCallsOn` in the format the
decidable monitor `Spec.C17.check` evaluates, the monitor's clauses evaluate to `true`: of EVERY run for the clauses
stated on `ReachableLog`, of every run under the virtual clock for those on `ReachableLogP`. -/

/-- monitor clause `one-execution-per-key-at-a-time` (interval part): on the log of every run, for
every duplicate-free list of callers, `Spec.C17.exclusive` holds of the rendered executions -/
theorem monitor_exclusive (h : ReachableLog cfg (init c0 now0) s g) (ids : List Nat) (hn : ids.Nodup) :
    Spec.C17.exclusive (specExecs cfg s g ids) = true := by
  apply exclusive_of_pairwise
  unfold specExecs
  refine List.Pairwise.filterMap (R := fun a b => a ≠ b) _ ?_ hn
  intro l l' hne e he e' he'
  obtain ⟨a, b, r, E⟩ := specExec_some he
  obtain ⟨a', b', r', E'⟩ := specExec_some he'
  by_cases hk : cfg.key l = cfg.key l'
  · right
    simp only [Spec.C17.disjoint, Bool.or_eq_true, decide_eq_true_eq, E.startSeq, E.endSeq, E'.startSeq, E'.endSeq]
    rcases log_executions_disjoint h l l' a a' hne hk E.startAt E'.startAt with ⟨x, hx, hlt⟩ | ⟨x, hx, hlt⟩
    · cases E.endAt.symm.trans hx; left; omega
    · cases E'.endAt.symm.trans hx; right; omega
  · left
    rw [E.key, E'.key]
    intro hc
    exact hk (by omega)

theorem all_le_one {f : Nat → Nat} (hf : ∀ k, f k ≤ 1) (ks : List Nat) :
    (ks.map (fun k => (f k : Int))).all (· ≤ 1) = true := by
  simp only [List.all_eq_true, List.mem_map, decide_eq_true_eq]
  rintro x ⟨k, _, rfl⟩
  exact Int.ofNat_le.2 (hf k)

/-- the counter behind the monitor clause `one-execution-per-key-at-a-time`: the in-flight counter of every key
is at most 1 at every moment of every run.  (The maximum the rendered log carries is `h.maxIn`; `monitor_accepts` takes
its bound from `OrdInv.maxIn`.) -/
theorem monitor_maxIn (h : ReachableLog cfg (init c0 now0) s g) (keys : List Nat) :
    (keys.map (fun k => (s.inflight k : Int))).all (· ≤ 1) = true :=
  all_le_one (one_execution_per_key (reachableLog_reachable h)) keys

/-- monitor clause `joiners-get-the-executions-result`: on the log of every run, every returned
caller whose source index points at an execution has that execution's key, outcome and value -/
theorem monitor_srcConsistent (h : ReachableLog cfg (init c0 now0) s g) (L ids : List Nat) :
    (specCallsOn cfg s g L ids).all (Spec.C17.srcConsistent (specExecs cfg s g L)) = true := by
  simp only [List.all_eq_true]
  intro x hx
  obtain ⟨c, r, _, _, _, R⟩ := mem_specCallsOn hx
  unfold Spec.C17.srcConsistent
  rcases call_served (inv_reachable (reachableLog_reachable h)) R with h1 | ⟨j, _, e, _, _, h1, _, he, _, _, _, hk, hres⟩ <;>
    rw [h1]
  · rfl
  · simp only [Bool.or_eq_true]
    right
    simp only [ge_iff_le, Int.natCast_nonneg j, if_true, Int.toNat_natCast, he, Bool.and_eq_true, beq_iff_eq]
    exact ⟨hk, hres⟩

/-- monitor clause `result-is-value-or-error` -/
theorem monitor_resultShape (L ids : List Nat) :
    (specCallsOn cfg s g L ids).all (fun c => c.out == 0 || c.out == 1) = true := by
  simp only [List.all_eq_true]
  intro x hx
  obtain ⟨c, r, _, _, _, R⟩ := mem_specCallsOn hx
  cases r <;> simp [R.out, resOut]

/-- monitor clause `execution-started-at-once-by-its-caller` (second half): no caller leads two
executions -/
theorem monitor_leadsAtMostOnce (ids : List Nat) (hn : ids.Nodup) :
    Spec.C17.leadsAtMostOnce (specExecs cfg s g ids) = true := by
  unfold Spec.C17.leadsAtMostOnce
  simp only [Lemmas.ListFacts.eraseDups_of_nodup _ (leaders_nodup (cfg := cfg) (s := s) (g := g) ids hn), beq_self_eq_true]

/-- monitor clause `execution-started-at-once-by-its-caller` (first half), under the virtual clock
and once the scenario's callers have returned: every execution in the log belongs to a returned
caller of the same key, lies strictly inside that caller's call, and started at the very instant the
caller was invoked -/
theorem monitor_execOwned (h : ReachableLogP cfg (init c0 now0) s g) (L ids : List Nat)
    (hsub : ∀ l ∈ L, l ∈ ids) (hq : Quiescent s ids) :
    (specExecs cfg s g L).all (Spec.C17.execOwned (specCallsOn cfg s g L ids)) = true := by
  obtain ⟨hi, hsi, K⟩ := loginv_reachable h
  simp only [List.all_eq_true]
  intro e he
  obtain ⟨l, a, b, r, hl, E⟩ := mem_specExecs he
  -- its caller has returned
  obtain ⟨r', hd⟩ : ∃ r', s.pc l = .done r' :=
    (hq l (hsub l hl)).resolve_left ((hi.loc l).toStarted (hsi.of_cell (e := .start) E.startAt)).invoked
  obtain ⟨x, hx⟩ := specCall_complete hsi (specExecs cfg s g L) l r' hd
  obtain ⟨_, i, t, R⟩ := specCall_some hx
  simp only [Spec.C17.execOwned, List.any_eq_true]
  refine ⟨x, (List.mem_filterMap (f := specCall cfg s g (specExecs cfg s g L))).2 ⟨l, hsub l hl, hx⟩, ?_⟩
  simp only [Bool.and_eq_true, beq_iff_eq, decide_eq_true_eq]
  refine ⟨⟨⟨⟨by rw [R.id, E.leader], by rw [R.key, E.key]⟩, ?_⟩, ?_⟩, ?_⟩
  · rw [R.invSeq, E.startSeq]; exact Int.ofNat_lt.2 (hsi.ord .inv .start l i a trivial R.invAt E.startAt)
  · rw [R.retSeq, E.endSeq]; exact Int.ofNat_lt.2 (hsi.ord .end .ret l b t trivial E.endAt R.retAt)
  · exact Option.some.inj ((K.start l _ E.startT).symm.trans R.invT)

/-- the monitor's `hasSource` test for callers served by an execution, under the
virtual clock: every returned caller whose result is an execution's very result object
(`src ≥ 0`) passes `Spec.C17.hasSource` — same key, same outcome and value, the execution started
before the caller returned, the caller was invoked before the execution's own caller returned, and
the caller returned at `max (its invocation instant) (the instant the execution ended)`.
(`exp`, `e0` — the cache part of the monitor — play no role for these callers.) -/
theorem monitor_hasSource_exec (h : ReachableLogP cfg (init c0 now0) s g) (L ids : List Nat)
    (hsub : ∀ l ∈ L, l ∈ ids)
    (exp : Int) (e0 : Int → Spec.C17.Entry) (x : Spec.C17.Call) (hx : x ∈ specCallsOn cfg s g L ids)
    (hsrc : x.src ≥ 0) :
    Spec.C17.hasSource exp e0 (specCallsOn cfg s g L ids) (specExecs cfg s g L) x = true := by
  obtain ⟨hi, hsi, K⟩ := loginv_reachable h
  obtain ⟨c, r, i, t, _, R⟩ := mem_specCallsOn hx
  rcases call_served hi R with h1 | ⟨j, l, e, a, b, h1, hs, he, hl, E, hld, hkey, hres⟩
  · rw [h1] at hsrc; exact absurd hsrc (by decide)
  · -- `c` was served by the execution of `l`, which has returned with that result
    obtain ⟨tl, htl⟩ := hsi.stamped (e := .ret) ⟨r, hld⟩
    have hlr := leaderRet_of_done hsi L ids l (hsub l hl) r tl hld htl e E.leader
    obtain ⟨e2, e3⟩ := hsi.served (by rw [hs]; rfl) R.invAt R.retAt htl
    have hseq : a < t ∧ i < tl := ⟨Nat.lt_of_lt_of_le (hsi.ord .start .ret l a tl trivial E.startAt htl) e3, e2⟩
    have htime : x.retT = max x.invT e.endT := by
      rw [Option.some.inj (E.endT.symm.trans (K.exec c l x.retT hs R.retT))]
      exact (Int.max_eq_right (K.ord c _ _ R.invT R.retT)).symm
    unfold Spec.C17.hasSource
    simp only [Bool.or_eq_true, List.any_eq_true]
    left
    refine ⟨j, List.mem_range.2 (List.getElem?_eq_some_iff.1 he).1, ?_⟩
    simp only [he, Spec.C17.fromExec, hlr, Bool.and_eq_true, Bool.or_eq_true, beq_iff_eq, decide_eq_true_eq]
    refine ⟨⟨⟨⟨⟨hkey, hres⟩, Or.inl h1⟩, ?_⟩, ?_⟩, htime⟩
    · rw [E.startSeq, R.retSeq]; exact Int.ofNat_lt.2 hseq.1
    · rw [R.invSeq]; exact Int.ofNat_lt.2 hseq.2

/-- under the virtual clock, every entry in the cache is the entry from before the run or was left
by a successful execution for that very key, with the deadline `defaultExp expTime (the instant that
execution ended)`: "until it expires" counts from the end of the execution that produced the value -/
theorem log_cached_entry_origin (h : ReachableLogP cfg (init c0 now0) s g) (k : Nat) (v e : Int)
    (hc : s.cache k = some (v, e)) : CellOrigin cfg c0 s g k v e :=
  have ⟨_, hh⟩ := reachableLogP_hist h
  cellOrigin_of_sets (allinv_reachable hh).sets k v e hc

/-- under the virtual clock, the value a cache hit returned is an entry for the
caller's own key that was live (`cellGet … = some v`) at the caller's invocation instant: the entry
from before the run, or the one left by a successful execution of that key that had ended before the
caller returned, with the deadline counted from that execution's end -/
theorem log_hit_value_live (h : ReachableLogP cfg (init c0 now0) s g) (c : Nat) (v : Int)
    (hs : s.src c = some (.hit v)) : HitSource cfg c0 s g c v :=
  have ⟨_, hh⟩ := reachableLogP_hist h
  have A := allinv_reachable hh
  hitSource_of_read A.sinv A.sets A.read c v (by rw [hs]; rfl) _ (src_hit_done (A.inv.loc c) hs).1

/-- under the virtual clock, the value a returned caller
was served because the leader `l` of its flight (possibly the caller itself) read it from the cache at
its re-check inside `Do` is, exactly as for a hit of the caller's own `cacheCheck`, an entry for the
caller's own key that was live at the caller's invocation instant: the entry from before the run, or the
one left by a successful execution of that key that had ended before the caller returned -/
theorem log_leadhit_value_live (h : ReachableLogP cfg (init c0 now0) s g) (c l : Nat) (v : Int)
    (hs : s.src c = some (.lhit l v)) (r : Res) (hd : s.pc c = .done r) : HitSource cfg c0 s g c v :=
  have ⟨_, hh⟩ := reachableLogP_hist h
  have A := allinv_reachable hh
  hitSource_of_read A.sinv A.sets A.read c v (by rw [hs]; rfl) r hd

/-! `Settled cfg c0 now0 s g h ids`: a run under the virtual clock with both logs (`ReachableH`,
`Model/C17.lean`); the executions are rendered in start order (`h.order`), as the harness prints them; the
callers `ids` contain every caller whose function ran, and all of them have returned or were never invoked. -/

variable {h : HLog}

/-- monitor clause on the cache after the scenario (`getOk`): in a settled state `Cache.Get k` — the
model's `cellGet now (cache k)` — is exactly the live value the executions imply -/
theorem monitor_getOk {ids : List Nat} (st : Settled cfg c0 now0 s g h ids) (k : Nat) :
    Spec.C17.getOk cfg.expTime s.now (e0Of c0) (execsH cfg s g h) (k : Int) (cellGet s.now (s.cache k)) = true := by
  unfold Spec.C17.getOk
  rw [finalEntry_is_cache st k, live_abs]
  simp

/-- a caller that hit the cache leads no rendered execution -/
theorem hit_not_leads {ids : List Nat} (st : Settled cfg c0 now0 s g h ids) (c : Nat) (v : Int)
    (hs : s.src c = some (.hit v)) (x : Spec.C17.Call) (hid : x.id = (c : Int)) :
    Spec.C17.leads x (execsH cfg s g h) = false :=
  noStart_not_leads st c (log_hit_causes_no_start st.log c v hs).2.1 x hid

/-- `fromCache`: in a settled state, a caller that hit the cache passes the monitor's cache-source
test (`fromCache_of_cached` for `Src.hit`) -/
theorem monitor_fromCache {ids : List Nat} (st : Settled cfg c0 now0 s g h ids) (c : Nat) (v : Int)
    (hs : s.src c = some (.hit v)) (x : Spec.C17.Call)
    (hx : specCall cfg s g (execsH cfg s g h) c = some x) :
    Spec.C17.fromCache x (e0Of c0 x.key)
      (Spec.C17.history cfg.expTime x.key (e0Of c0 x.key) (execsH cfg s g h)) (execsH cfg s g h) = true :=
  fromCache_of_cached st c v (by rw [hs]; rfl) x hx

/-- `fromCache` for the leader's re-check: a caller that was served the value the leader `l` of its
flight read at its re-check inside `Do` (the leader itself, `l = c`, or a joiner) passes the very same
cache-source test: the monitor needs no further alternative (`fromCache_of_cached` for `Src.lhit`) -/
theorem monitor_fromCache_lead {ids : List Nat} (st : Settled cfg c0 now0 s g h ids) (c l : Nat) (v : Int)
    (hs : s.src c = some (.lhit l v)) (x : Spec.C17.Call)
    (hx : specCall cfg s g (execsH cfg s g h) c = some x) :
    Spec.C17.fromCache x (e0Of c0 x.key)
      (Spec.C17.history cfg.expTime x.key (e0Of c0 x.key) (execsH cfg s g h)) (execsH cfg s g h) = true :=
  fromCache_of_cached st c v (by rw [hs]; rfl) x hx

/-- the monitor's `hasSource` test, complete: in a settled state every rendered caller
passes `Spec.C17.hasSource` — through the execution that served it, or through the cache -/
theorem monitor_hasSource {ids : List Nat} (st : Settled cfg c0 now0 s g h ids) :
    (callsH cfg s g h ids).all
      (Spec.C17.hasSource cfg.expTime (e0Of c0) (callsH cfg s g h ids) (execsH cfg s g h)) = true := by
  simp only [List.all_eq_true]
  intro x hx
  obtain ⟨c, r, _, _, hc, R⟩ := mem_specCallsOn hx
  cases hs : s.src c with
  | none => exact absurd hs (src_ne_none_of_done st.all.inv R.pc)
  | some y =>
    cases y with
    | hit v =>
      unfold Spec.C17.hasSource
      rw [Bool.or_eq_true]
      right
      exact monitor_fromCache st c v hs x hc
    | lhit l v =>
      unfold Spec.C17.hasSource
      rw [Bool.or_eq_true]
      right
      exact monitor_fromCache_lead st c l v hs x hc
    | exec l =>
      refine monitor_hasSource_exec st.logP h.order ids st.sub cfg.expTime (e0Of c0) x hx ?_
      rw [R.src, hs]
      exact srcIndex_nonneg st c l r R.pc hs

/-- the entry the monitor holds certain at `c`'s invocation, if live then, is what `c`'s `cacheCheck`
read: the offers made in between were refused -/
theorem certain_is_read {ids : List Nat} (st : Settled cfg c0 now0 s g h ids) (c : Nat) (x : Spec.C17.Call)
    (hx : specCall cfg s g (execsH cfg s g h) c = some x) (m : Nat) (hm : h.readLen c = some m) (ti v : Int)
    (hti : g.invT c = some ti)
    (hlive : Spec.C17.live ti (Spec.C17.certainEntry cfg.expTime (e0Of c0 x.key) (callsH cfg s g h ids)
      (execsH cfg s g h) x) = some v) :
    cellGet ti (foldSets cfg.expTime (c0 (cfg.key c)) (offersSeen cfg h c m)) = some v := by
  have A := st.all
  obtain ⟨r, ic, t, R⟩ := specCall_some hx
  have he0 : e0Of c0 x.key = absCell (c0 (cfg.key c)) := by simp [e0Of, R.key]
  have S := A.read.seen c m hm
  have hseen : ∀ p ∈ offersSeen cfg h c m, p.2.2 ≤ ti := fun p hp => by
    obtain ⟨ti', h1, h2, _⟩ := S.fact
    cases hti.symm.trans h1
    exact h2 p (List.filter_sublist.subset hp)
  unfold Spec.C17.certainEntry at hlive
  simp only at hlive
  split at hlive
  · -- some execution is known to have been served before `c` was invoked
    rename_i i en hlast
    have hmemk := List.mem_of_getLast? hlast
    rw [List.mem_filter] at hmemk
    obtain ⟨hhist, hany⟩ := hmemk
    simp only [List.any_eq_true, Bool.and_eq_true, beq_iff_eq, decide_eq_true_eq] at hany
    obtain ⟨rc, hrc, hrsrc, hrret⟩ := hany
    obtain ⟨cr, rr, _, tr, _, Rr⟩ := mem_specCallsOn hrc
    -- the history member, and the execution `l0` it stands for
    rw [he0, R.key] at hhist
    obtain ⟨Ao, Bo, l0, hO, hi, hget, hkl, ⟨w, hw⟩, hent⟩ := offer_of_history st (cfg.key c) i en hhist
    -- the served caller's source is that execution
    have hsl : s.src cr = some (.exec l0) := by
      rcases call_served A.inv Rr with h1 | ⟨j, l, e', _, _, h1, hsr, he', _, E, _⟩
      · rw [h1, hi] at hrsrc; omega
      · rw [h1, hi] at hrsrc
        cases Int.ofNat_inj.1 hrsrc
        cases hget.symm.trans he'
        obtain ⟨_, _, _, E0⟩ := specExec_some (order_rendered st l0 (hO ▸ List.mem_append_right Ao List.mem_cons_self))
        rw [hsr, Int.ofNat_inj.1 (E.leader.symm.trans E0.leader)]
    -- its offer was among those `c` saw
    have htrlt : tr < ic := by rw [Rr.retSeq, R.invSeq] at hrret; exact Int.ofNat_lt.1 hrret
    obtain ⟨p, hptake, hpl⟩ := S.known cr l0 tr ic w Rr.retAt R.invAt htrlt hsl hw
    have hpT : p ∈ offersSeen cfg h c m := by
      simp only [offersSeen, List.mem_filter, beq_iff_eq]
      exact ⟨hptake, by rw [hpl]; exact hkl⟩
    obtain ⟨T1, T2, hsplit⟩ := List.append_of_mem hpT
    have hen' := hent T1 p _ (offers_split hsplit) hpl
    rw [hen', live_abs] at hlive
    -- the later offers were refused
    have hfold : foldSets cfg.expTime (c0 (cfg.key c)) (offersSeen cfg h c m) =
        foldSets cfg.expTime (foldSets cfg.expTime (c0 (cfg.key c)) (T1 ++ [p])) T2 := by
      rw [hsplit]
      rw [List.append_cons]
      simp only [foldSets, List.foldl_append]
    rw [hfold, foldSets_of_live T2 _ hlive (fun q hq => hseen q (by rw [hsplit]; simp [hq]))]
    exact hlive
  · -- nothing is known: the entry from before the run
    rw [he0, live_abs] at hlive
    rw [foldSets_of_live _ _ hlive hseen]
    exact hlive

/-- monitor clause `cached-value-served-without-invoking` (`servedIfCached`): in a settled state, for
every rendered caller: if the entry certainly in the cache when it was invoked was live at that instant,
the caller returned that value, at once, and led no execution -/
theorem monitor_servedIfCached {ids : List Nat} (st : Settled cfg c0 now0 s g h ids) :
    (callsH cfg s g h ids).all
      (Spec.C17.servedIfCached cfg.expTime (e0Of c0) (callsH cfg s g h ids) (execsH cfg s g h)) = true := by
  simp only [List.all_eq_true]
  intro x hx
  obtain ⟨c, r, ic, t, hc, R⟩ := mem_specCallsOn hx
  obtain ⟨m, hm, hread⟩ := call_read st R
  unfold Spec.C17.servedIfCached
  split
  · rename_i v hlive
    rw [certain_is_read st c x hc m hm x.invT v R.invT hlive] at hread
    -- so `c` was served the cached value `v`: by its own `cacheCheck`, or by the re-check of its flight's leader
    obtain ⟨c1, cv, _, c3, c4⟩ := cached_served st hread.symm R
    simp only [Bool.and_eq_true, beq_iff_eq, Bool.not_eq_true']
    exact ⟨⟨⟨c1, cv⟩, c3⟩, c4⟩
  · rfl

/-- the monitor accepts the log of every run: for every run of the protocol LTS under the virtual
clock (any number of callers and keys, any interleaving, any results, any cache before the run, starting
at an instant `≥ 0`), once the callers `ids` — which include every caller whose function ran — have
returned, `Spec.C17.check` finds no violated clause in the rendered log -/
theorem monitor_accepts {ids : List Nat} (st : Settled cfg c0 now0 s g h ids) (nkeys : Nat) :
    Spec.C17.check cfg.expTime (e0Of c0) (specLog cfg s g h ids nkeys) = none := by
  have hn := order_nodup st
  have c1 : ((List.range nkeys).map (fun k => (h.maxIn k : Int))).all (· ≤ 1) = true :=
    all_le_one st.all.ord.maxIn _
  have c2 : Spec.C17.exclusive (execsH cfg s g h) = true := monitor_exclusive st.log h.order hn
  have c3 : (callsH cfg s g h ids).all (fun c => c.out == 0 || c.out == 1) = true :=
    monitor_resultShape h.order ids
  have c4 : (callsH cfg s g h ids).all (Spec.C17.srcConsistent (execsH cfg s g h)) = true :=
    monitor_srcConsistent st.log h.order ids
  have c5 : (execsH cfg s g h).all (Spec.C17.execOwned (callsH cfg s g h ids)) = true :=
    monitor_execOwned st.logP h.order ids st.sub st.quiet
  have c5' : Spec.C17.leadsAtMostOnce (execsH cfg s g h) = true := monitor_leadsAtMostOnce h.order hn
  have c6 := monitor_hasSource st
  have c7 := monitor_servedIfCached st
  have c8 : (List.range ((List.range nkeys).map (fun k => cellGet s.now (s.cache k))).length).find?
      (fun (k : Nat) => !(Spec.C17.getOk cfg.expTime s.now (e0Of c0) (execsH cfg s g h) (k : Int)
        ((((List.range nkeys).map (fun k => cellGet s.now (s.cache k)))[k]?).getD none))) = none := by
    rw [List.find?_eq_none]
    intro k hk
    simp only [List.length_map, List.length_range, List.mem_range] at hk
    have : ((List.range nkeys).map (fun k => cellGet s.now (s.cache k)))[k]? = some (cellGet s.now (s.cache k)) := by
      simp [hk]
    rw [this]
    simp [monitor_getOk st k]
  unfold Spec.C17.check
  simp only [specLog]
  simp only [c1, c2, c3, c4, c5, c5', c6, c7, c8, Bool.not_true, Bool.or_self, Bool.false_eq_true, if_false]

/-! ### non-vacuity: a settled run exists, and the monitor accepts its log -/

/-- run a script keeping both logs -/
def runH (cfg : Cfg) (s : State) (g : EvLog) (h : HLog) : List Label → Option (State × EvLog × HLog)
  | [] => some (s, g, h)
  | l :: ls => match step cfg s l with
    | some s' => runH cfg s' (logStep cfg s g l) (histStep cfg s h l) ls
    | none => none

theorem no_tick_of_callers {ls : List Label} (h : (ls.all fun l => l.caller.isSome) = true) :
    ∀ l ∈ ls, ∀ d, l ≠ .tick d := by
  intro l hl d e
  have := List.all_eq_true.1 h l hl
  rw [e] at this; cases this

/-- for scripts without `tick` only: the side condition of `ReachableH.step` (a `tick` needs every caller blocked) is then
empty, so the settled examples below let no time pass -/
theorem runH_reachable (s0 : State) : ∀ (ls : List Label) (s1 : State) (g1 : EvLog) (h1 : HLog)
    (s2 : State) (g2 : EvLog) (h2 : HLog), (∀ l ∈ ls, ∀ d, l ≠ .tick d) →
    ReachableH cfg s0 s1 g1 h1 → runH cfg s1 g1 h1 ls = some (s2, g2, h2) → ReachableH cfg s0 s2 g2 h2
  | [], s1, g1, h1, s2, g2, h2, _, hr, hrun => by
    simp only [runH, Option.some.injEq, Prod.mk.injEq] at hrun
    obtain ⟨e1, e2, e3⟩ := hrun
    rw [← e1, ← e2, ← e3]; exact hr
  | l :: ls, s1, g1, h1, s2, g2, h2, hno, hr, hrun => by
    simp only [runH] at hrun
    split at hrun
    · rename_i s' hs'
      exact runH_reachable s0 ls s' _ _ s2 g2 h2 (fun x hx => hno x (List.mem_cons_of_mem _ hx))
        (ReachableH.step l hr hs' (fun d hd => absurd hd (hno l List.mem_cons_self d))) hrun
    · cases hrun

/-- one evaluation of the script gives the run, what makes it settled, and whatever else `X` reads off its end.  For
scripts of the callers 1, 2, 3 that end with all three returned and caller 1's function the only one that ran
(`order = [1]`, which gives `Settled.sub`) -/
theorem settled_of_script {α : Type} {e : Int} {script : List Label} {r1 r2 r3 : Res}
    (X : State × EvLog × HLog → α) {x : α}
    (hf : (runH (exCfg e) exInit EvLog.empty HLog.empty script).map
        (fun p => ((p.1.pc 1, p.1.pc 2, p.1.pc 3), p.2.2.order, X p)) = some ((.done r1, .done r2, .done r3), [1], x))
    (hnt : (script.all fun l => l.caller.isSome) = true) :
    ∃ s g h, Settled (exCfg e) (fun _ => none) 0 s g h [1, 2, 3] ∧ X (s, g, h) = x := by
  obtain ⟨⟨s, g, h⟩, hrun, hp⟩ := Option.map_eq_some_iff.1 hf
  simp only [Prod.mk.injEq] at hp
  obtain ⟨⟨p1, p2, p3⟩, ho, hx⟩ := hp
  refine ⟨s, g, h, ⟨?_, Int.le_refl 0, fun c hc => ?_, fun l hl => ?_⟩, hx⟩
  · exact runH_reachable exInit script exInit EvLog.empty HLog.empty s g h (no_tick_of_callers hnt) ReachableH.refl hrun
  · simp only [List.mem_cons, List.not_mem_nil, or_false] at hc
    rcases hc with h | h | h <;> subst h
    · exact Or.inr ⟨_, p1⟩
    · exact Or.inr ⟨_, p2⟩
    · exact Or.inr ⟨_, p3⟩
  · rw [ho] at hl; simp at hl; subst hl; simp

/-- caller 1 leads (value 7), caller 2 joins, caller 3 is invoked afterwards and hits the cache -/
def exSettledScript : List Label := [.invoke 1, .cacheCheck 1, .doEnter 1, .fnStart 1, .invoke 2, .cacheCheck 2,
  .doEnter 2, .fnEnd 1 (.ok 7), .cacheSet 1, .doFinish 1, .wake 2, .invoke 3, .cacheCheck 3]

example : ∃ s g h, Settled (exCfg 30) (fun _ => none) 0 s g h [1, 2, 3] ∧
    Spec.C17.check (exCfg 30).expTime (e0Of (fun _ => none)) (specLog (exCfg 30) s g h [1, 2, 3] 1) = none := by
  obtain ⟨s, g, h, st, _⟩ := settled_of_script (script := exSettledScript) (e := 30) (r1 := .ok 7) (r2 := .ok 7)
    (r3 := .ok 7) (fun _ => ()) (x := ()) (by decide) (by decide)
  exact ⟨s, g, h, st, monitor_accepts st 1⟩

/-- the late leader under the monitor: caller 1 leads (value 7); callers 2 and 3 missed the cache before the
value was stored; caller 2 becomes the leader of a second flight after caller 1 has left, caller 3 joins it;
caller 2's re-check finds the value: nobody runs the function a second time, both return 7 -/
def exSettledLate : List Label := exLateLeader ++ [.leadHit 2, .doFinish 2, .wake 3]

example : ∃ s g h, Settled (exCfg (-1)) (fun _ => none) 0 s g h [1, 2, 3] ∧ s.src 3 = some (.lhit 2 7) ∧
    Spec.C17.check (exCfg (-1)).expTime (e0Of (fun _ => none)) (specLog (exCfg (-1)) s g h [1, 2, 3] 1) = none := by
  obtain ⟨s, g, h, st, hs3⟩ := settled_of_script (script := exSettledLate) (e := -1) (r1 := .ok 7) (r2 := .ok 7)
    (r3 := .ok 7) (fun p => p.1.src 3) (x := some (.lhit 2 7)) (by decide) (by decide)
  exact ⟨s, g, h, st, hs3, monitor_accepts st 1⟩

end GoguVerif.Theorems.C17
