import GoguVerif.Theorems.C19Handles
/-!
# C19 — kept node handles on the pointer-level models, part 2: `DList` at any position, and mixed histories

`Theorems/C19Handles.lean` states the `DList` handle methods only for a handle that designates the FIRST occurrence of
its value (`…_partial`).  The pointer surgery reads no value: here the handle is ANY `i`-th cell of the chain
(`as[i]? = some a`, duplicates allowed), with the tracking clause (`dlist_*H_refines`, `dlist_step_tracks`,
`dlist_kept_handle`).  Then, for both list types, histories in which handle operations occur in the MIDDLE
(`slist_mixed_history`, `dlist_mixed_history`): the specification keeps a table of the handles it still follows
(`specItems`, `moveTable`), the pointer model gives the specification's answers and sequence and every handle left in
the table is the cell at its position.

Excluded situations (the specification's `moveIdx` answers `none`): a handle to the embedded head (position 0) —
`Unshift`/`InsertBefore(first)` move the element to a fresh cell, `Shift`/`Delete(first)` overwrite it; a handle to the
second cell when `Shift`/`Delete(first)` copy it into the head; the deleted cell itself.  Unlike `SList`, the successor
of a deleted middle node stays followed (`DList.Delete` unlinks, it does not copy).  See `excluded_head_handle_dlist`
here and `excluded_stale_handle_dlist` in `Theorems/C19Handles.lean`.
-/
namespace GoguVerif.Theorems.C19H.DList
open GoguVerif.Model GoguVerif.Spec.C19
open GoguVerif.Model.DList GoguVerif.Lemmas.C19 GoguVerif.Lemmas.C19.DList GoguVerif.Lemmas.C19H
  GoguVerif.Lemmas.C19H.DList

/-- `Delete(handle)` where the handle is the `i`-th cell (whatever values the list holds) removes exactly the `i`-th
element (refuses, changing nothing, on a one-element list), keeps the representation — `prev` pointers included —, does
not fault; every other cell that `moveIdx true` follows is where `moveIdx` says. -/
theorem dlist_deleteH_refines {h : Heap} {as xs} {i a : Nat} (r : Repr h as xs) (hi : as[i]? = some a) :
    ∃ h' ans as' xs', delete h (some a) = .ok (h', ans) ∧ Repr h' as' xs' ∧
      AllowedH xs (.deleteH i) ans xs' ∧
      ∀ k b j, as[k]? = some b → moveIdx true (editOfH xs (.deleteH i)) k = some j → as'[j]? = some b := by
  obtain ⟨h', as', he, hr, ht⟩ := handle_sim r hi .delete
  exact ⟨h', _, as', _, he, hr, allowedH_iff_nextH.mpr rfl, ht.all editOfH_delete_ne⟩

/-- `InsertAfter(handle, v)` where the handle is the `i`-th cell places `v` right after the `i`-th element. -/
theorem dlist_insertAfterH_refines {h : Heap} {as xs} {i a : Nat} (r : Repr h as xs) (hi : as[i]? = some a)
    (v : Int) :
    ∃ h' ans as' xs', insertAfter h (some a) v = .ok (h', ans) ∧ Repr h' as' xs' ∧
      AllowedH xs (.insertAfterH i v) ans xs' ∧
      ∀ k b j, as[k]? = some b → moveIdx true (editOfH xs (.insertAfterH i v)) k = some j → as'[j]? = some b := by
  obtain ⟨h', as', he, hr, ht⟩ := handle_sim r hi (.insertAfter v)
  exact ⟨h', _, as', _, he, hr, allowedH_iff_nextH.mpr rfl, ht.all nofun⟩

/-- `InsertBefore(handle, v)` where the handle is the `i`-th cell places `v` right before the `i`-th element.  The
tracking clause is for cells other than the embedded head (`1 ≤ k`): inserting before the FIRST element writes the new
value into the embedded head and moves the old first element to a fresh cell. -/
theorem dlist_insertBeforeH_refines {h : Heap} {as xs} {i a : Nat} (r : Repr h as xs) (hi : as[i]? = some a)
    (v : Int) :
    ∃ h' ans as' xs', insertBefore h (some a) v = .ok (h', ans) ∧ Repr h' as' xs' ∧
      AllowedH xs (.insertBeforeH i v) ans xs' ∧
      ∀ k b j, 1 ≤ k → as[k]? = some b → moveIdx true (editOfH xs (.insertBeforeH i v)) k = some j →
        as'[j]? = some b := by
  obtain ⟨h', as', he, hr, ht⟩ := handle_sim r hi (.insertBefore v)
  exact ⟨h', _, as', _, he, hr, allowedH_iff_nextH.mpr rfl, ht.pos⟩

-- non-vacuity: a represented store with duplicates, a handle to the SECOND `2` (cell 2, position 2) …
example : Repr [⟨1, some 1, none⟩, ⟨2, some 2, some 0⟩, ⟨2, some 3, some 1⟩, ⟨3, none, some 2⟩] [0, 1, 2, 3]
    [1, 2, 2, 3] := ⟨rfl, by decide, rfl, rfl, rfl, rfl, trivial⟩
example : ([0, 1, 2, 3] : List Nat)[2]? = some 2 := rfl
example : ([1, 2, 2, 3] : List Int).idxOf? 2 ≠ some 2 := by decide
-- … first `[1,2,7,2]`, where `Delete` of the LAST cell (cell 3, position 3: the second `2`) removes that one; then the
-- store above, on which the pointer model inserts after and before position 2
example : (do let (h, a) ← delete [⟨1, some 1, none⟩, ⟨2, some 2, some 0⟩, ⟨7, some 3, some 1⟩, ⟨2, none, some 2⟩]
                  (some 3)
              let (_, vs) ← each h
              pure (a, vs)) = ListRes.ok (.ok, [1, 2, 7]) := by decide
example : (do let (h, a) ← insertAfter [⟨1, some 1, none⟩, ⟨2, some 2, some 0⟩, ⟨2, some 3, some 1⟩, ⟨3, none, some 2⟩]
                  (some 2) 9
              let (_, vs) ← each h
              pure (a, vs)) = ListRes.ok (.ok, [1, 2, 2, 9, 3]) := by decide
example : (do let (h, a) ← insertBefore [⟨1, some 1, none⟩, ⟨2, some 2, some 0⟩, ⟨2, some 3, some 1⟩, ⟨3, none, some 2⟩]
                  (some 2) 9
              let (_, vs) ← each h
              pure (a, vs)) = ListRes.ok (.ok, [1, 2, 9, 2, 3]) := by decide

/-- Every plain `DList` operation moves the kept cells as `moveIdx` says: `dlist_step_refines` with the address list
made explicit enough to follow handles — a cell that was the `k`-th (`k ≥ 1`: not the embedded head) and that
`moveIdx true` sends to `j` is the `j`-th cell afterwards. -/
theorem dlist_step_tracks {h : Heap} {as xs} (r : Repr h as xs) (op : Op) :
    ∃ h' ans as' xs', step h op = .ok (h', ans) ∧ Repr h' as' xs' ∧ Allowed true xs op ans xs' ∧
      ∀ k b j, 1 ≤ k → as[k]? = some b → moveIdx true (editOf xs op) k = some j → as'[j]? = some b := by
  obtain ⟨h', as', he, hr, ht⟩ := plain_sim r op
  exact ⟨h', _, as', _, he, hr, nextD_allowed xs op, ht.pos⟩

/-- plain operations one after the other (answers dropped) -/
def runOps (h : Heap) : List Op → ListRes Heap
  | [] => .ok h
  | op :: ops =>
    match step h op with
    | .ok (h', _) => runOps h' ops
    | .panic => .panic
    | .hang => .hang
    | .stuck => .stuck

/-- the specification's bookkeeping over a history: the sequence evolves by `Spec.C19.next true`, the position by
`moveIdx true` -/
def follow : List Int → List Op → Nat → Option Nat
  | _, [], i => some i
  | xs, op :: ops, i => (moveIdx true (editOf xs op) i).bind (follow (next true xs op).2 ops)

def seqAfter : List Int → List Op → List Int
  | xs, [] => xs
  | xs, op :: ops => seqAfter (next true xs op).2 ops

/-- A kept `DList` handle, all histories.  The handle `a` is the `i`-th cell (`i ≥ 1`; e.g. it came from `Find`,
`dlist_find_handle`, but it may as well designate a later occurrence of a repeated value) of a represented store; any
history `ops` of plain operations follows (`DList` has all of them); the specification's bookkeeping still follows the
element, to position `j` (`follow … = some j`).  Then the pointer model runs the history without fault, the store
represents the specification's sequence, the handle is the `j`-th cell, and `Delete(handle)`, `InsertAfter(handle, v)`,
`InsertBefore(handle, v)` realise exactly the sequence operations at position `j`, keeping the representation. -/
theorem dlist_kept_handle {h : Heap} {as xs} (r : Repr h as xs) (ops : List Op)
    {i a j : Nat} (hi1 : 1 ≤ i) (hi : as[i]? = some a) (hfol : follow xs ops i = some j) :
    ∃ h' as', runOps h ops = .ok h' ∧ Repr h' as' (seqAfter xs ops) ∧ as'[j]? = some a ∧ 1 ≤ j ∧
      (∃ h'' ans as'' xs'', delete h' (some a) = .ok (h'', ans) ∧ Repr h'' as'' xs'' ∧
        AllowedH (seqAfter xs ops) (.deleteH j) ans xs'') ∧
      (∀ v, ∃ h'' ans as'' xs'', insertAfter h' (some a) v = .ok (h'', ans) ∧ Repr h'' as'' xs'' ∧
        AllowedH (seqAfter xs ops) (.insertAfterH j v) ans xs'') ∧
      (∀ v, ∃ h'' ans as'' xs'', insertBefore h' (some a) v = .ok (h'', ans) ∧ Repr h'' as'' xs'' ∧
        AllowedH (seqAfter xs ops) (.insertBeforeH j v) ans xs'') := by
  induction ops generalizing h as xs i with
  | nil =>
    have hj : i = j := Option.some.inj hfol
    subst hj
    have hH : ∀ s : HShape, ∃ h'' ans as'' xs'', stepItem h (.handle a s) = .ok (h'', ans) ∧ Repr h'' as'' xs'' ∧
        AllowedH xs (s.at i) ans xs'' := fun s => by
      obtain ⟨h2, as2, he, hr, -⟩ := handle_sim r hi s
      exact ⟨h2, _, as2, _, he, hr, allowedH_iff_nextH.mpr rfl⟩
    exact ⟨h, as, rfl, r, hi, hi1, hH .delete, fun v => hH (.insertAfter v), fun v => hH (.insertBefore v)⟩
  | cons op ops ih =>
    rw [follow, Option.bind_eq_some_iff] at hfol
    obtain ⟨i', hm, hfol⟩ := hfol
    obtain ⟨h1, as1, he, hr, htr⟩ := plain_sim r op
    -- a handle at a position `≥ 1`: the list has two elements at least, where `nextD` is `next true`
    have hxl : 1 < xs.length := r.chain.length_eq ▸ Nat.lt_of_le_of_lt hi1 (lt_of_get hi)
    rw [nextD_of_gt hxl] at he hr
    obtain ⟨h', as', hrun, hrest⟩ := ih hr (moveIdx_pos hi1 hm) (htr.pos i a i' hi1 hi hm) hfol
    exact ⟨h', as', by simp only [runOps, he, hrun], hrest⟩

-- non-vacuity: `[1,2,2,4]`, handle to the SECOND `2` (cell 2, position 2); the history — which deletes the first `2`,
-- i.e. the handle's PREDECESSOR (a situation `SList` excludes) — leaves it followed
example : follow [1, 2, 2, 4] [.unshift 0, .delete 2, .insertBefore 4 5, .append 7, .pop, .shift, .last] 2 = some 1 := by
  decide
example : seqAfter [1, 2, 2, 4] [.unshift 0, .delete 2, .insertBefore 4 5, .append 7, .pop, .shift, .last] =
    [1, 2, 5, 4] := by decide
example : Repr [⟨1, some 1, none⟩, ⟨2, some 2, some 0⟩, ⟨2, some 3, some 1⟩, ⟨4, none, some 2⟩] [0, 1, 2, 3]
    [1, 2, 2, 4] := ⟨rfl, by decide, rfl, rfl, rfl, rfl, trivial⟩

/-! ### the excluded situations really behave differently -/

/-- `[1,2]`, handle to `1` (the embedded head, cell 0).  After `Unshift 0` cell 0 holds the new element `0` and the old
`1` lives in a fresh cell: `Delete(handle)` removes `0`, not `1`; the specification never follows position 0
(`dlist_kept_handle` asks `1 ≤ i`) — if it did, `moveIdx` would say position 1. -/
theorem excluded_head_handle_dlist :
    (do let h ← append (init 1) 2
        let r ← find h 1
        let h ← unshift h 0
        let (h, ans) ← delete h r
        let (_, vs) ← each h
        pure (r, ans, vs)) = ListRes.ok (some 0, .ok, [1, 2]) ∧
      moveIdx true (editOf [1, 2] (.unshift 0)) 0 = some 1 := by decide

/-- `[1,2,3]`, handle to `2` (cell 1, position 1).  `InsertBefore(first, 0)` and `Shift` leave it followed, a second
`Shift` copies the cell into the embedded head (`follow = none`): the cell is off the chain, `InsertAfter(handle, 9)` is
still ACCEPTED (the value 2 is found) and answers `ok`, but the list does not change — position-wise `[2,9,3]` would be
due. -/
theorem excluded_copied_handle_dlist :
    follow [1, 2, 3] [.insertBefore 1 0, .shift] 1 = some 1 ∧
    follow [1, 2, 3] [.insertBefore 1 0, .shift, .shift] 1 = none ∧
    (do let h ← append (init 1) 2
        let h ← append h 3
        let r ← find h 2
        let h ← runOps h [.insertBefore 1 0, .shift, .shift]
        let (h, ans) ← insertAfter h r 9
        let (_, vs) ← each h
        pure (r, ans, vs)) = ListRes.ok (some 1, .ok, [2, 3]) := by decide

end GoguVerif.Theorems.C19H.DList

/-! ## histories in which handle operations occur in the MIDDLE

An item of a mixed history is a plain operation or an operation through a kept handle (an address); the definitions
are in `Lemmas/C19/Items.lean`.  The specification keeps, next to the sequence, a TABLE of the handles it still follows
(handle, position); a plain operation or a handle operation moves every entry by `moveIdx` (entries for which `moveIdx`
answers `none` are dropped: the property says nothing about those handles any more), a handle operation is judged at the
position the table gives for its handle, and the specification gives no verdict (`none`) for a history that uses a
handle the table does not hold. -/
namespace GoguVerif.Theorems.C19H
open GoguVerif.Model GoguVerif.Spec.C19

theorem valid_move {dbl : Bool} {e : Edit} {as as' : List Nat} {T : Table} (hv : Valid as T)
    (htr : ∀ k b j, 1 ≤ k → as[k]? = some b → moveIdx dbl e k = some j → as'[j]? = some b) :
    Valid as' (moveTable dbl e T) := by
  intro a j hm
  simp only [moveTable, List.mem_filterMap, Option.map_eq_some_iff, Prod.mk.injEq] at hm
  obtain ⟨⟨a0, p⟩, hmem, j', hmv, rfl, rfl⟩ := hm
  obtain ⟨hp1, hp⟩ := hv a0 p hmem
  exact ⟨moveIdx_pos hp1 hmv, htr p a0 j' hp1 hp hmv⟩

/-- Mixed histories over any store: `runI` is given by its two equations, and `stepI` realises every item the
specification gives a verdict on, moving the kept cells as the specification says (`plain_sim`, `handle_sim` of either
list type). -/
theorem mixed_of_sim {σ : Type} {R : σ → List Nat → List Int → Prop} {dbl : Bool}
    {nxt : List Int → Op → Ans × List Int} {stepI : σ → Item → ListRes (σ × Ans)}
    {runI : σ → List Item → ListRes (σ × List Ans)} {ok : Item → Prop}
    (run_nil : ∀ h, runI h [] = .ok (h, []))
    (run_cons : ∀ h h' it r ans, stepI h it = .ok (h', ans) →
      runI h (it :: r) = (runI h' r >>= fun q => pure (q.1, ans :: q.2)))
    (plain : ∀ {h as xs} op, R h as xs → ok (.plain op) →
      ∃ h' as', stepI h (.plain op) = .ok (h', (nxt xs op).1) ∧ R h' as' (nxt xs op).2 ∧
        Lemmas.C19H.Tracks dbl (editOf xs op) as as')
    (handle : ∀ {h as xs p a} s, R h as xs → ok (.handle a s) → as[p]? = some a →
      ∃ h' as', stepI h (.handle a s) = .ok (h', (nextH xs (s.at p)).1) ∧ R h' as' (nextH xs (s.at p)).2 ∧
        Lemmas.C19H.Tracks dbl (editOfH xs (s.at p)) as as')
    {h : σ} {as xs} (r : R h as xs) {T : Table} (hv : Valid as T) (items : List Item) (hs : ∀ it ∈ items, ok it)
    {answers : List Ans} {xs' : List Int} {T' : Table}
    (hspec : specItems dbl nxt xs T items = some (answers, xs', T')) :
    ∃ h' as', runI h items = .ok (h', answers) ∧ R h' as' xs' ∧ Valid as' T' := by
  induction items generalizing h as xs T answers with
  | nil =>
    cases hspec
    exact ⟨h, as, run_nil h, r, hv⟩
  | cons it items ih =>
    have hok := hs it List.mem_cons_self
    -- the verdict on the first item (answer, sequence, edit), which the pointer model realises, and that on the rest
    obtain ⟨ans, ys, e, hrest, h1, as1, he, hr, htr⟩ : ∃ (ans : Ans) (ys : List Int) (e : Edit),
        (specItems dbl nxt ys (moveTable dbl e T) items).map (fun res => (ans :: res.1, res.2)) =
          some (answers, xs', T') ∧
        ∃ h' as', stepI h it = .ok (h', ans) ∧ R h' as' ys ∧ Lemmas.C19H.Tracks dbl e as as' := by
      cases it with
      | plain op => exact ⟨(nxt xs op).1, (nxt xs op).2, editOf xs op, hspec, plain op r hok⟩
      | handle a s =>
        rw [specItems] at hspec
        cases hl : T.lookup a with
        | none => rw [hl] at hspec; cases hspec
        | some p =>
          rw [hl] at hspec
          exact ⟨(nextH xs (s.at p)).1, (nextH xs (s.at p)).2, editOfH xs (s.at p), hspec,
            handle s r hok (hv.cell hl)⟩
    rw [Option.map_eq_some_iff] at hrest
    obtain ⟨⟨ansr, xsr, Tr⟩, hrec, heq⟩ := hrest
    cases heq
    obtain ⟨h', as', hrun, hrep, hval⟩ :=
      ih hr (valid_move hv htr.pos) (fun o ho => hs o (List.mem_cons_of_mem _ ho)) hrec
    exact ⟨h', as', by rw [run_cons h h1 it items _ he, hrun]; rfl, hrep, hval⟩

namespace SList
open GoguVerif.Model.SList GoguVerif.Lemmas.C19.SList GoguVerif.Lemmas.C19H.SList

/-- `slist_step_tracks` with the outcome as a function (`Spec.C19.next false`; `SList.Shift` on a one-element list keeps
the value, which is what `next` says) -/
theorem slist_step_tracks_next {h : Heap} {as xs} (r : Repr h as xs) (op : Op) (hs : supported op = true) :
    ∃ h' as', step h op = .ok (h', (next false xs op).1) ∧ Repr h' as' (next false xs op).2 ∧
      ∀ k b j, 1 ≤ k → as[k]? = some b → moveIdx false (editOf xs op) k = some j → as'[j]? = some b := by
  obtain ⟨h', as', he, hr, ht⟩ := plain_sim r op hs
  exact ⟨h', as', he, hr, ht.pos⟩

/-- Mixed histories, `SList`.  From a represented store and a table of valid handles (each is the cell at its
position, none is the embedded head), any history of plain operations and of `Delete(handle)` / `InsertAfter(handle, v)`
for which the specification gives a verdict — every handle operation uses a handle the table still holds — runs on the
pointer model without fault, with exactly the specification's answers; the final store represents the specification's
final sequence and the final table is valid again. -/
theorem slist_mixed_history {h : Heap} {as xs} (r : Repr h as xs) {T : Table} (hv : Valid as T)
    (items : List Item) (hs : ∀ it ∈ items, supportedItem it = true)
    {answers : List Ans} {xs' : List Int} {T' : Table}
    (hspec : specItems false (next false) xs T items = some (answers, xs', T')) :
    ∃ h' as', runItems h items = .ok (h', answers) ∧ Repr h' as' xs' ∧ Valid as' T' :=
  mixed_of_sim (R := Repr) (stepI := stepItem) (runI := runItems) (fun _ => rfl)
    (fun h h' it r ans he => by simp only [runItems, he]; cases runItems h' r <;> rfl)
    (fun op r hs => plain_sim r op hs) (fun s r hs hp => handle_sim r hp s hs) r hv items hs hspec

-- non-vacuity: `[1,2,2,4,5]` in cells 0…4, handles to the second `2` (cell 2) and to `5` (cell 4); the history uses the
-- first handle in the middle (InsertAfter), goes on with plain operations (`Pop` removes the `5`: the table drops the
-- second handle), then deletes through the first handle
example : Repr [⟨1, some 1⟩, ⟨2, some 2⟩, ⟨2, some 3⟩, ⟨4, some 4⟩, ⟨5, none⟩] [0, 1, 2, 3, 4] [1, 2, 2, 4, 5] :=
  ⟨rfl, by decide, rfl, rfl, rfl, rfl, rfl, trivial⟩
example : Valid [0, 1, 2, 3, 4] [(2, 2), (4, 4)] := by
  intro a p hm
  simp at hm
  rcases hm with ⟨rfl, rfl⟩ | ⟨rfl, rfl⟩ <;> simp
example : specItems false (next false) [1, 2, 2, 4, 5] [(2, 2), (4, 4)]
    [.plain (.unshift 0), .handle 2 (.insertAfter 9), .plain (.delete 1), .plain .pop, .handle 2 .delete,
     .plain (.append 7)] =
    some ([.ok, .ok, .ok, .ok, .ok, .ok], [0, 2, 9, 4, 7], []) := by decide
example : ∀ it ∈ [Item.plain (.unshift 0), .handle 2 (.insertAfter 9), .plain (.delete 1), .plain .pop,
    .handle 2 .delete, .plain (.append 7)], supportedItem it = true := by decide
-- … and the pointer model on it
example : (do let (h, answers) ← runItems [⟨1, some 1⟩, ⟨2, some 2⟩, ⟨2, some 3⟩, ⟨4, some 4⟩, ⟨5, none⟩]
                  [.plain (.unshift 0), .handle 2 (.insertAfter 9), .plain (.delete 1), .plain .pop,
                   .handle 2 .delete, .plain (.append 7)]
              let (_, vs) ← each h
              pure (answers, vs)) = ListRes.ok ([.ok, .ok, .ok, .ok, .ok, .ok], [0, 2, 9, 4, 7]) := by decide

/-- an excluded history: `[1,2,3]`, handles to `2` (cell 1) and `3` (cell 2).  `Delete(handle 2)` copies cell 2 over
cell 1: the table drops BOTH handles (the deleted one, and its successor whose cell is now off the chain), and the
specification gives no verdict for a later use of the handle to `3` — the pointer model accepts it, answers `ok` and
changes nothing. -/
theorem excluded_mixed_slist :
    specItems false (next false) [1, 2, 3] [(1, 1), (2, 2)] [.handle 1 .delete] = some ([.ok], [1, 3], []) ∧
    specItems false (next false) [1, 2, 3] [(1, 1), (2, 2)] [.handle 1 .delete, .handle 2 (.insertAfter 9)] = none ∧
    (do let (h, answers) ← runItems [⟨1, some 1⟩, ⟨2, some 2⟩, ⟨3, none⟩]
            [.handle 1 .delete, .handle 2 (.insertAfter 9)]
        let (_, vs) ← each h
        pure (answers, vs)) = ListRes.ok ([.ok, .ok], [1, 3]) := by decide

end SList

namespace DList
open GoguVerif.Model.DList GoguVerif.Lemmas.C19.DList GoguVerif.Lemmas.C19H.DList

/-- `dlist_step_tracks` with the outcome as a function (`nextD`) -/
theorem dlist_step_tracks_next {h : Heap} {as xs} (r : Repr h as xs) (op : Op) :
    ∃ h' as', step h op = .ok (h', (nextD xs op).1) ∧ Repr h' as' (nextD xs op).2 ∧
      ∀ k b j, 1 ≤ k → as[k]? = some b → moveIdx true (editOf xs op) k = some j → as'[j]? = some b := by
  obtain ⟨h', as', he, hr, ht⟩ := plain_sim r op
  exact ⟨h', as', he, hr, ht.pos⟩

/-- Mixed histories, `DList`.  As `slist_mixed_history`, with `InsertBefore(handle, v)` as a third handle operation
and `moveIdx true` (the successor of a deleted node stays followed). -/
theorem dlist_mixed_history {h : Heap} {as xs} (r : Repr h as xs) {T : Table} (hv : Valid as T)
    (items : List Item) {answers : List Ans} {xs' : List Int} {T' : Table}
    (hspec : specItems true nextD xs T items = some (answers, xs', T')) :
    ∃ h' as', runItems h items = .ok (h', answers) ∧ Repr h' as' xs' ∧ Valid as' T' :=
  mixed_of_sim (R := Repr) (stepI := stepItem) (runI := runItems) (ok := fun _ => True) (fun _ => rfl)
    (fun h h' it r ans he => by simp only [runItems, he]; cases runItems h' r <;> rfl)
    (fun op r _ => plain_sim r op) (fun s r _ hp => handle_sim r hp s) r hv items (fun _ _ => trivial) hspec

-- non-vacuity: `[1,2,2,4]` in cells 0…3, handles to the second `2` (cell 2) and to `4` (cell 3); handle operations in
-- the middle, `Delete 2` removes the FIRST `2` (an element in front of both handles, while the first handle designates
-- the second `2`), the second handle is used after the first was deleted
example : Valid [0, 1, 2, 3] [(2, 2), (3, 3)] := by
  intro a p hm
  simp at hm
  rcases hm with ⟨rfl, rfl⟩ | ⟨rfl, rfl⟩ <;> simp
example : specItems true nextD [1, 2, 2, 4] [(2, 2), (3, 3)]
    [.plain (.unshift 0), .handle 2 (.insertBefore 8), .plain (.delete 2), .handle 2 (.insertAfter 9),
     .plain .shift, .handle 2 .delete, .handle 3 (.insertBefore 6), .plain (.append 7)] =
    some ([.ok, .ok, .ok, .ok, .val 0, .ok, .ok, .ok], [1, 8, 9, 6, 4, 7], [(3, 4)]) := by decide
example : (do let (h, answers) ← runItems
                  [⟨1, some 1, none⟩, ⟨2, some 2, some 0⟩, ⟨2, some 3, some 1⟩, ⟨4, none, some 2⟩]
                  [.plain (.unshift 0), .handle 2 (.insertBefore 8), .plain (.delete 2), .handle 2 (.insertAfter 9),
                   .plain .shift, .handle 2 .delete, .handle 3 (.insertBefore 6), .plain (.append 7)]
              let (_, vs) ← each h
              pure (answers, vs)) =
    ListRes.ok ([.ok, .ok, .ok, .ok, .val 0, .ok, .ok, .ok], [1, 8, 9, 6, 4, 7]) := by decide

/-- an excluded history: `[1,2,3]`, handle to `2` (cell 1).  `Shift` copies cell 1 into the embedded head: the table
drops the handle, the specification gives no verdict for `Delete(handle)` afterwards (the pointer model accepts it,
answers `ok` and removes nothing: `excluded_stale_handle_dlist`). -/
theorem excluded_mixed_dlist :
    specItems true nextD [1, 2, 3] [(1, 1)] [.plain .shift] = some ([.val 1], [2, 3], []) ∧
    specItems true nextD [1, 2, 3] [(1, 1)] [.plain .shift, .handle 1 .delete] = none := by decide

end DList
end GoguVerif.Theorems.C19H
