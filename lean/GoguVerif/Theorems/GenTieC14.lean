import GoguVerif.Theorems.GenTiePrim
import GoguVerif.Lemmas.C14
/-!
# The regenerated tie for the map helpers (`map.go`, `filter.go`; property C14)

`Gen/Funcs.lean` is produced by the translator from the Go source.  Each `…_tie` theorem below states
that the regenerated definition equals the hand-written model of `Model/C14.lean`, instantiated at
`K = V = Int` (the zero value of `Int` being `default = 0`), for ALL inputs: a map is an arbitrary
`List (Int × Int)`; no theorem needs the keys of the list to be distinct.

Statement forms.  Pure functions: `Gen.Funcs.F args = Model.C14.F args'`.  RES-mode functions
(`Res α = Except Exc α`): `Gen.Funcs.F args = ofC14 (Model.C14.F args')`, where `ofC14` is the embedding of the
model's `Outcome` into `Res` (`ofC14_injective`, stated for the reader of these equations: nothing here uses it).
`Pick` returns an error (not a panic) for an empty key list: the model's second component says so.

The `…_loop` lemmas.  The translator threads the Go parameters through every loop function: the untyped arguments
`m0`, `c0`, `s0`, `ms0`, `keys0` are such parameters that the loop's body does not read; `k_` is the range index, not
read either.  The printed loops of `Keys` / `Values` and of `FilterMapCollection` / `Filter2DMapCollection` are
pairwise the same proof, but not the same term (the first pair stores the key and the value, the second is one text at
two element types), so each is tied by its own induction; `Find.loop1` is the text of `Keys.loop1`
(`find_loop1_gen_keys`).

`MapCollection` has no counterpart in `Model/C14.lean`, so it has no tie (here or anywhere else).

This module imports `Theorems/GenTiePrim.lean` (whose declarations live in the namespace `Theorems.GenTie`), not
`Theorems/GenTie.lean`: the two break independently.  The price is `Contains`, which both tie, each against the model of
its own property (`Model.C14.Contains` here, `Model.C13.Contains` there).
-/
namespace GoguVerif.Theorems.GenTieC14
open GoguVerif.Gen.Funcs (Res Exc goSet mapGet goSortAsc goInsertAsc)
open GoguVerif.Theorems.GenTie (fromSum goIdx_nat goSet_nat mapHas_eq mapSet_eq mapDel_eq)

def ofC14 {α : Type} : Model.C14.Outcome α → Res α
  | .ok a => .ok a
  | .panic => .error .panic

theorem ofC14_injective {α : Type} (a b : Model.C14.Outcome α) (h : ofC14 a = ofC14 b) : a = b := by
  cases a <;> cases b
  · exact congrArg _ (Except.ok.inj h)
  · cases h
  · cases h
  · rfl

/-- the value of a loop with `break`: the state at the `break`, or the state at the end -/
def joinSum {α : Type} : α ⊕ α → α
  | .inl a => a
  | .inr a => a

def resSnd {α β : Type} : Res (α × β) → Res β
  | .error e => .error e
  | .ok p => .ok p.2

theorem resSnd_error {α β : Type} {r : Res (α × β)} {e : Exc} (h : resSnd r = .error e) : r = .error e := by
  cases r with
  | error e' => exact congrArg Except.error (Except.error.inj h)
  | ok p => cases h

theorem resSnd_ok {α β : Type} {r : Res (α × β)} {b : β} (h : resSnd r = .ok b) : ∃ a, r = .ok (a, b) := by
  cases r with
  | error e => cases h
  | ok p => exact ⟨p.1, congrArg (fun b => Except.ok (p.1, b)) (Except.ok.inj h)⟩

/-! ## Bridging lemmas: the prelude of `Gen/Funcs.lean` = the primitives of `Model/C14.lean` (`mapHas_eq`, `mapSet_eq`, `mapDel_eq`: in `GenTiePrim`) -/

/-- `0` is `(default : Int)`, the value `idx` gives for a missing key -/
theorem mapGet_int (m : List (Int × Int)) (k : Int) : mapGet m k (0 : Int) = Model.C14.idx m k := by
  induction m with
  | nil => rfl
  | cons e r ih =>
    obtain ⟨k', v⟩ := e
    simp only [mapGet, Model.C14.idx, Model.C14.get?] at ih ⊢
    by_cases h : k' = k
    · simp [h]
    · simp [h, ih]

/-- `s[i] = v` for `0 ≤ i` (the index written as a natural number) -/
theorem goSet_storeAt {α : Type} (s : List α) (i : Nat) (x : α) :
    goSet s (i : Int) x = ofC14 (Model.C14.storeAt s i x) := by
  rw [goSet_nat, Lemmas.C14.storeAt_eq]
  split <;> rfl

theorem goSet_storeAt_int {α : Type} (s : List α) (i : Int) (hi : 0 ≤ i) (x : α) :
    goSet s i x = ofC14 (Model.C14.storeAt s i.toNat x) := by
  have := goSet_storeAt s i.toNat x
  rwa [Int.toNat_of_nonneg hi] at this

theorem goInsertAsc_eq (x : Int) (l : List Int) : goInsertAsc x l = Model.C14.insertSorted x l := by
  induction l with
  | nil => rfl
  | cons y r ih => simp only [goInsertAsc, Model.C14.insertSorted, ih]

theorem goSortAsc_eq (l : List Int) : goSortAsc l = Model.C14.sortKeys l := by
  induction l with
  | nil => rfl
  | cons y r ih =>
    simp only [goSortAsc, Model.C14.sortKeys, List.foldr_cons] at ih ⊢
    rw [ih, goInsertAsc_eq]

theorem contains_loop (s0 value s k) :
    fromSum false (Gen.Funcs.Contains.loop1 s0 value s k ()) = Model.C14.Contains s value := by
  induction s generalizing k with
  | nil => rfl
  | cons v r ih =>
    simp only [Gen.Funcs.Contains.loop1, Model.C14.Contains, decide_eq_true_eq]
    split
    · rfl
    · exact ih (k + 1)

theorem contains_tie (s : List Int) (value : Int) : Gen.Funcs.Contains s value = Model.C14.Contains s value := by
  rw [← contains_loop s value s 0]
  unfold Gen.Funcs.Contains
  cases Gen.Funcs.Contains.loop1 s value s 0 () <;> rfl

theorem keys_loop (m0 m) (i : Nat) (keys) :
    resSnd (Gen.Funcs.Keys.loop1 m0 m ((i : Int), keys)) = ofC14 (Model.C14.keysLoop m keys i) := by
  induction m generalizing i keys with
  | nil => rfl
  | cons e r ih =>
    obtain ⟨k, v⟩ := e
    simp only [Gen.Funcs.Keys.loop1, Model.C14.keysLoop, goSet_storeAt]
    cases Model.C14.storeAt keys i k with
    | panic => rfl
    | ok keys' => exact ih (i + 1) keys'

theorem keys_tie (m : List (Int × Int)) : Gen.Funcs.Keys m = ofC14 (Model.C14.Keys m) := by
  have h : resSnd (Gen.Funcs.Keys.loop1 m m (0, List.replicate m.length 0)) = ofC14 (Model.C14.Keys m) :=
    keys_loop m m 0 _
  simp only [Gen.Funcs.Keys, ← h]
  cases Gen.Funcs.Keys.loop1 m m (0, List.replicate m.length 0) <;> rfl

theorem values_loop (m0 m) (i : Nat) (values) :
    resSnd (Gen.Funcs.Values.loop1 m0 m ((i : Int), values)) = ofC14 (Model.C14.valuesLoop m values i) := by
  induction m generalizing i values with
  | nil => rfl
  | cons e r ih =>
    obtain ⟨k, v⟩ := e
    simp only [Gen.Funcs.Values.loop1, Model.C14.valuesLoop, goSet_storeAt]
    cases Model.C14.storeAt values i v with
    | panic => rfl
    | ok values' => exact ih (i + 1) values'

theorem values_tie (m : List (Int × Int)) : Gen.Funcs.Values m = ofC14 (Model.C14.Values m) := by
  have h : resSnd (Gen.Funcs.Values.loop1 m m (0, List.replicate m.length 0)) = ofC14 (Model.C14.Values m) :=
    values_loop m m 0 _
  simp only [Gen.Funcs.Values, ← h]
  cases Gen.Funcs.Values.loop1 m m (0, List.replicate m.length 0) <;> rfl

theorem mapValues_loop (m0 fn m newMap) :
    Gen.Funcs.MapValues.loop1 m0 fn m newMap = Model.C14.mapValuesLoop fn m newMap := by
  induction m generalizing newMap with
  | nil => rfl
  | cons e r ih =>
    obtain ⟨k, v⟩ := e
    simp only [Gen.Funcs.MapValues.loop1, Model.C14.mapValuesLoop, mapSet_eq, ih]

theorem mapValues_tie (m : List (Int × Int)) (fn : Int → Int) :
    Gen.Funcs.MapValues m fn = Model.C14.MapValues m fn := by
  simp only [Gen.Funcs.MapValues, Model.C14.MapValues, mapValues_loop]

theorem mapKeys_loop (m0 fn m newMap) :
    Gen.Funcs.MapKeys.loop1 m0 fn m newMap = Model.C14.mapKeysLoop fn m newMap := by
  induction m generalizing newMap with
  | nil => rfl
  | cons e r ih =>
    obtain ⟨k, v⟩ := e
    simp only [Gen.Funcs.MapKeys.loop1, Model.C14.mapKeysLoop, mapSet_eq, ih]

theorem mapKeys_tie (m : List (Int × Int)) (fn : Int → Int → Int) :
    Gen.Funcs.MapKeys m fn = Model.C14.MapKeys m fn := by
  simp only [Gen.Funcs.MapKeys, Model.C14.MapKeys, mapKeys_loop]

theorem mapEvery_loop (m0 fn m) :
    fromSum true (Gen.Funcs.MapEvery.loop1 m0 fn m ()) = Model.C14.MapEvery fn m := by
  induction m with
  | nil => rfl
  | cons e r ih =>
    obtain ⟨k, v⟩ := e
    simp only [Gen.Funcs.MapEvery.loop1, Model.C14.MapEvery]
    split
    · rfl
    · exact ih

theorem mapEvery_tie (m : List (Int × Int)) (fn : Int → Bool) :
    Gen.Funcs.MapEvery m fn = Model.C14.MapEvery fn m := by
  rw [← mapEvery_loop m fn m]
  unfold Gen.Funcs.MapEvery
  cases Gen.Funcs.MapEvery.loop1 m fn m () <;> rfl

theorem mapSome_loop (m0 fn m) :
    fromSum false (Gen.Funcs.MapSome.loop1 m0 fn m ()) = Model.C14.MapSome fn m := by
  induction m with
  | nil => rfl
  | cons e r ih =>
    obtain ⟨k, v⟩ := e
    simp only [Gen.Funcs.MapSome.loop1, Model.C14.MapSome]
    split
    · rfl
    · exact ih

theorem mapSome_tie (m : List (Int × Int)) (fn : Int → Bool) :
    Gen.Funcs.MapSome m fn = Model.C14.MapSome fn m := by
  rw [← mapSome_loop m fn m]
  unfold Gen.Funcs.MapSome
  cases Gen.Funcs.MapSome.loop1 m fn m () <;> rfl

/-- `MapContains` is `MapSome` at the equality test (`Lemmas.C14.mapContains_eq_mapSome` on the model side) -/
theorem mapContains_gen_mapSome (m : List (Int × Int)) (value : Int) :
    Gen.Funcs.MapContains m value = Gen.Funcs.MapSome m (fun v => decide (v = value)) := by
  set_option smartUnfolding false in rfl

theorem mapContains_tie (m : List (Int × Int)) (value : Int) :
    Gen.Funcs.MapContains m value = Model.C14.MapContains value m := by
  rw [mapContains_gen_mapSome, Lemmas.C14.mapContains_eq_mapSome]; exact mapSome_tie m _

theorem mapUnique_loop (m0 m ref result) :
    (Gen.Funcs.MapUnique.loop1 m0 m (ref, result)).2 = Model.C14.mapUniqueLoop m result ref := by
  induction m generalizing ref result with
  | nil => rfl
  | cons e r ih =>
    obtain ⟨k, v⟩ := e
    simp only [Gen.Funcs.MapUnique.loop1, Model.C14.mapUniqueLoop, mapHas_eq, mapSet_eq]
    cases Model.C14.get? ref v <;> exact ih _ _

theorem mapUnique_tie (m : List (Int × Int)) : Gen.Funcs.MapUnique m = Model.C14.MapUnique m := by
  rw [Model.C14.MapUnique, ← mapUnique_loop m m [] []]
  rfl

theorem find_loop1_gen_keys (m0 fn m p) :
    Gen.Funcs.Find.loop1 m0 fn m p = Gen.Funcs.Keys.loop1 m0 m p := by
  set_option smartUnfolding false in rfl

theorem find_loop2 (m fn ks k_) :
    joinSum (Gen.Funcs.Find.loop2 m fn ks k_ []) = Model.C14.findLoop m fn ks := by
  induction ks generalizing k_ with
  | nil => rfl
  | cons k r ih =>
    simp only [Gen.Funcs.Find.loop2, Model.C14.findLoop, mapGet_int, mapSet_eq]
    split
    · rfl
    · exact ih (k_ + 1)

theorem find_tie (m : List (Int × Int)) (fn : Int → Bool) :
    Gen.Funcs.Find m fn = ofC14 (Model.C14.Find m fn) := by
  have h : resSnd (Gen.Funcs.Keys.loop1 m m (0, List.replicate m.length 0))
      = ofC14 (Model.C14.keysLoop m (List.replicate m.length default) 0) := keys_loop m m 0 _
  simp only [Gen.Funcs.Find, Model.C14.Find, find_loop1_gen_keys]
  cases hm : Model.C14.keysLoop m (List.replicate m.length default) 0 with
  | panic => rw [resSnd_error (h.trans (congrArg ofC14 hm))]; rfl
  | ok keys =>
    obtain ⟨i, hg⟩ := resSnd_ok (h.trans (congrArg ofC14 hm))
    rw [hg]
    simp only [ofC14, goSortAsc_eq, ← find_loop2 m fn (Model.C14.sortKeys keys) 0]
    cases Gen.Funcs.Find.loop2 m fn (Model.C14.sortKeys keys) 0 [] <;> rfl

theorem findKey_loop (m0 fn m) :
    joinSum (Gen.Funcs.FindKey.loop1 m0 fn m 0) = Model.C14.FindKey fn m := by
  induction m with
  | nil => rfl
  | cons e r ih =>
    obtain ⟨k, v⟩ := e
    simp only [Gen.Funcs.FindKey.loop1, Model.C14.FindKey]
    split
    · rfl
    · exact ih

theorem findKey_tie (m : List (Int × Int)) (fn : Int → Bool) :
    Gen.Funcs.FindKey m fn = Model.C14.FindKey fn m := by
  rw [← findKey_loop m fn m]
  simp only [Gen.Funcs.FindKey]
  cases Gen.Funcs.FindKey.loop1 m fn m 0 <;> rfl

theorem findByKey_loop (m0 fn m) :
    joinSum (Gen.Funcs.FindByKey.loop1 m0 fn m []) = Model.C14.FindByKey fn m := by
  induction m with
  | nil => rfl
  | cons e r ih =>
    obtain ⟨k, v⟩ := e
    simp only [Gen.Funcs.FindByKey.loop1, Model.C14.FindByKey, mapSet_eq]
    split
    · rfl
    · exact ih

theorem findByKey_tie (m : List (Int × Int)) (fn : Int → Bool) :
    Gen.Funcs.FindByKey m fn = Model.C14.FindByKey fn m := by
  rw [← findByKey_loop m fn m]
  simp only [Gen.Funcs.FindByKey]
  cases Gen.Funcs.FindByKey.loop1 m fn m [] <;> rfl

theorem invert_loop (m keys0 ks i inverted) :
    Gen.Funcs.Invert.loop1 m keys0 ks i inverted = Model.C14.invertLoop m ks inverted := by
  induction ks generalizing i inverted with
  | nil => rfl
  | cons k r ih =>
    simp only [Gen.Funcs.Invert.loop1, Model.C14.invertLoop, mapGet_int, mapSet_eq, ih]

theorem invert_tie (m : List (Int × Int)) : Gen.Funcs.Invert m = ofC14 (Model.C14.Invert m) := by
  simp only [Gen.Funcs.Invert, Model.C14.Invert, keys_tie]
  cases Model.C14.Keys m with
  | panic => rfl
  | ok keys => simp only [ofC14, invert_loop]

theorem pluck_loop (ms0 key ms k_ result) :
    Gen.Funcs.Pluck.loop1 ms0 key ms k_ result = Model.C14.pluckLoop key ms result := by
  induction ms generalizing k_ result with
  | nil => rfl
  | cons m r ih =>
    simp only [Gen.Funcs.Pluck.loop1, Model.C14.pluckLoop, findByKey_tie, mapHas_eq, mapGet_int]
    cases Model.C14.get? (Model.C14.FindByKey (fun k => decide (k = key)) m) key <;> exact ih _ _

theorem pluck_tie (mapSlice : List (List (Int × Int))) (key : Int) :
    Gen.Funcs.Pluck mapSlice key = Model.C14.Pluck mapSlice key := by
  simp only [Gen.Funcs.Pluck, Model.C14.Pluck, pluck_loop]

/-! ## selections: Pick, PickBy, Omit, OmitBy, PartitionMap

`Pick` and `Omit` are printed from the text of `PickBy` and `OmitBy` with the membership test for the predicate, so
their loops are those loops by unfolding (`Lemmas.C14.pickLoop_eq_pickByLoop`, `omitLoop_eq_omitByLoop` on the
model side). -/

theorem pickBy_loop (collection fn m result) :
    Gen.Funcs.PickBy.loop1 collection fn m result = Model.C14.pickByLoop collection fn m result := by
  induction m generalizing result with
  | nil => rfl
  | cons e r ih =>
    obtain ⟨k, v⟩ := e
    simp only [Gen.Funcs.PickBy.loop1, Model.C14.pickByLoop, mapGet_int, mapSet_eq]
    cases fn k v <;> simp [ih]

theorem pickBy_tie (collection : List (Int × Int)) (fn : Int → Int → Bool) :
    Gen.Funcs.PickBy collection fn = Model.C14.PickBy collection fn := by
  simp only [Gen.Funcs.PickBy, Model.C14.PickBy, pickBy_loop]

theorem pick_loop_gen_pickBy (collection keys m result) :
    Gen.Funcs.Pick.loop1 collection keys m result
      = Gen.Funcs.PickBy.loop1 collection (fun k _ => Gen.Funcs.Contains keys k) m result := by
  set_option smartUnfolding false in rfl

theorem pick_loop (collection keys m result) :
    Gen.Funcs.Pick.loop1 collection keys m result = Model.C14.pickLoop collection keys m result := by
  rw [pick_loop_gen_pickBy, pickBy_loop, Lemmas.C14.pickLoop_eq_pickByLoop]
  simp only [contains_tie]

/-- `Pick` returns an error (`Exc.err`, not a panic) exactly when the model's flag is set -/
theorem pick_tie (collection : List (Int × Int)) (keys : List Int) :
    Gen.Funcs.Pick collection keys
      = (if (Model.C14.Pick collection keys).2 then Except.error Exc.err
         else Except.ok (Model.C14.Pick collection keys).1) := by
  cases keys with
  | nil => rfl
  | cons k ks => simp [Gen.Funcs.Pick, Model.C14.Pick, pick_loop]

/-- the first argument of the generated loop (the `collection` parameter of the Go function, which the
loop body reassigns) is not read by the loop: the statement is for every value of it -/
theorem omitBy_loop (c0 fn m collection) :
    Gen.Funcs.OmitBy.loop1 c0 fn m collection = Model.C14.omitByLoop fn m collection := by
  induction m generalizing c0 collection with
  | nil => rfl
  | cons e r ih =>
    obtain ⟨k, v⟩ := e
    simp only [Gen.Funcs.OmitBy.loop1, Model.C14.omitByLoop, mapDel_eq]
    cases fn k v <;> simp [ih]

theorem omitBy_tie (collection : List (Int × Int)) (fn : Int → Int → Bool) :
    Gen.Funcs.OmitBy collection fn = Model.C14.OmitBy collection fn := by
  simp only [Gen.Funcs.OmitBy, Model.C14.OmitBy, omitBy_loop]

theorem omit_loop_gen_omitBy (c0 keys m collection) :
    Gen.Funcs.Omit.loop1 c0 keys m collection
      = Gen.Funcs.OmitBy.loop1 c0 (fun k _ => Gen.Funcs.Contains keys k) m collection := by
  set_option smartUnfolding false in rfl

theorem omit_loop (c0 keys m collection) :
    Gen.Funcs.Omit.loop1 c0 keys m collection = Model.C14.omitLoop keys m collection := by
  rw [omit_loop_gen_omitBy, omitBy_loop, Lemmas.C14.omitLoop_eq_omitByLoop]
  simp only [contains_tie]

theorem omit_tie (collection : List (Int × Int)) (keys : List Int) :
    Gen.Funcs.Omit collection keys = Model.C14.Omit collection keys := by
  simp only [Gen.Funcs.Omit, Model.C14.Omit, omit_loop]

theorem partitionMap_loop (ms0 fn ms k_ result) :
    Gen.Funcs.PartitionMap.loop1 ms0 fn ms k_ result = Model.C14.partitionLoop fn ms result := by
  induction ms generalizing k_ result with
  | nil => rfl
  | cons m r ih =>
    cases m with
    | nil =>
      simp only [Gen.Funcs.PartitionMap.loop1, Gen.Funcs.PartitionMap.loop2, Model.C14.partitionLoop]
      exact ih _ _
    | cons e rest =>
      obtain ⟨k, v⟩ := e
      simp only [Gen.Funcs.PartitionMap.loop1, Gen.Funcs.PartitionMap.loop2, Model.C14.partitionLoop, mapSet_eq]
      cases fn (Model.C14.put ((k, v) :: rest) k v) <;> simp [ih]

theorem partitionMap_tie (mapSlice : List (List (Int × Int))) (fn : List (Int × Int) → Bool) :
    Gen.Funcs.PartitionMap mapSlice fn = Model.C14.PartitionMap mapSlice fn := by
  simp only [Gen.Funcs.PartitionMap, Model.C14.PartitionMap, partitionMap_loop]

/-- the generated loop ranges over the rest of `s1` (`p`: the part already visited); the model counts
the iterations left and reads `s1[i]` -/
theorem sliceToMap_loop (s1' s2) (p rest : List Int) (result) :
    Gen.Funcs.SliceToMap.loop1 s1' s2 rest (p.length : Int) result
      = ofC14 (Model.C14.sliceToMapLoop (p ++ rest) s2 rest.length p.length result) := by
  induction rest generalizing p result with
  | nil => rfl
  | cons x r ih =>
    have hx : (p ++ x :: r)[p.length]? = some x := by
      rw [List.getElem?_append_right (Nat.le_refl _), Nat.sub_self]; rfl
    simp only [Gen.Funcs.SliceToMap.loop1, List.length_cons, Model.C14.sliceToMapLoop, goIdx_nat, hx, mapSet_eq]
    cases s2[p.length]? with
    | none => rfl
    | some v =>
      have h := ih (p ++ [x]) (Model.C14.put result x v)
      rw [List.length_append, List.length_singleton, ← List.append_cons] at h
      exact h

theorem sliceToMap_tie (s1 s2 : List Int) :
    Gen.Funcs.SliceToMap s1 s2 = ofC14 (Model.C14.SliceToMap s1 s2) := by
  have h : Gen.Funcs.SliceToMap.loop1 s1 s2 s1 0 [] = ofC14 (Model.C14.sliceToMapLoop s1 s2 s1.length 0 []) :=
    sliceToMap_loop s1 s2 [] s1 []
  simp only [Gen.Funcs.SliceToMap, Model.C14.SliceToMap, ne_eq, Int.natCast_inj, decide_not, Bool.not_eq_true',
    decide_eq_false_iff_not]
  split
  · rfl
  · rw [h]
    cases Model.C14.sliceToMapLoop s1 s2 s1.length 0 [] <;> rfl

theorem filterMap_loop (m0 fn m filtered) :
    Gen.Funcs.FilterMap.loop1 m0 fn m filtered = Model.C14.filterMapLoop fn m filtered := by
  induction m generalizing filtered with
  | nil => rfl
  | cons e r ih =>
    obtain ⟨k, v⟩ := e
    simp only [Gen.Funcs.FilterMap.loop1, Model.C14.filterMapLoop, mapSet_eq]
    cases fn v <;> simp [ih]

theorem filterMap_tie (m : List (Int × Int)) (fn : Int → Bool) :
    Gen.Funcs.FilterMap m fn = Model.C14.FilterMap m fn := by
  simp only [Gen.Funcs.FilterMap, Model.C14.FilterMap, filterMap_loop]

theorem filterMapCollection_loop2 (c0 fn item m filtered) :
    joinSum (Gen.Funcs.FilterMapCollection.loop2 c0 fn item m filtered)
      = Model.C14.filterInner fn item m filtered := by
  induction m with
  | nil => rfl
  | cons e r ih =>
    obtain ⟨k, v⟩ := e
    simp only [Gen.Funcs.FilterMapCollection.loop2, Model.C14.filterInner]
    split
    · rfl
    · exact ih

theorem filterMapCollection_loop1 (c0 fn c k_ filtered) :
    Gen.Funcs.FilterMapCollection.loop1 c0 fn c k_ filtered = Model.C14.filterCollLoop fn c filtered := by
  induction c generalizing k_ filtered with
  | nil => rfl
  | cons item r ih =>
    simp only [Gen.Funcs.FilterMapCollection.loop1, Model.C14.filterCollLoop,
      ← filterMapCollection_loop2 c0 fn item item filtered]
    rw [← ih (k_ + 1)]
    cases Gen.Funcs.FilterMapCollection.loop2 c0 fn item item filtered <;> rfl

theorem filterMapCollection_tie (collection : List (List (Int × Int))) (fn : Int → Bool) :
    Gen.Funcs.FilterMapCollection collection fn = Model.C14.FilterMapCollection collection fn := by
  simp only [Gen.Funcs.FilterMapCollection, Model.C14.FilterMapCollection, filterMapCollection_loop1]

theorem filter2DMapCollection_loop2 (c0 fn item m filtered) :
    joinSum (Gen.Funcs.Filter2DMapCollection.loop2 c0 fn item m filtered)
      = Model.C14.filterInner fn item m filtered := by
  induction m with
  | nil => rfl
  | cons e r ih =>
    obtain ⟨k, v⟩ := e
    simp only [Gen.Funcs.Filter2DMapCollection.loop2, Model.C14.filterInner]
    split
    · rfl
    · exact ih

theorem filter2DMapCollection_loop1 (c0 fn c k_ filtered) :
    Gen.Funcs.Filter2DMapCollection.loop1 c0 fn c k_ filtered = Model.C14.filterCollLoop fn c filtered := by
  induction c generalizing k_ filtered with
  | nil => rfl
  | cons item r ih =>
    simp only [Gen.Funcs.Filter2DMapCollection.loop1, Model.C14.filterCollLoop,
      ← filter2DMapCollection_loop2 c0 fn item item filtered]
    rw [← ih (k_ + 1)]
    cases Gen.Funcs.Filter2DMapCollection.loop2 c0 fn item item filtered <;> rfl

theorem filter2DMapCollection_tie (collection : List (List (Int × List (Int × Int)))) (fn : List (Int × Int) → Bool) :
    Gen.Funcs.Filter2DMapCollection collection fn = Model.C14.Filter2DMapCollection collection fn := by
  simp only [Gen.Funcs.Filter2DMapCollection, Model.C14.Filter2DMapCollection, filter2DMapCollection_loop1]

/-! the regenerated definitions evaluate to the expected answers on concrete inputs -/
example : Gen.Funcs.Keys [(3, 30), (1, 10)] = .ok [3, 1] := by rfl
example : Gen.Funcs.Find [(3, 30), (1, 10), (2, 20)] (fun v => decide (v > 10)) = .ok [(2, 20)] := by rfl
example : Gen.Funcs.Invert [(3, 30), (1, 10)] = .ok [(30, 3), (10, 1)] := by rfl
example : Gen.Funcs.Pick [(3, 30), (1, 10)] [] = .error .err := by rfl
example : Gen.Funcs.Pick [(3, 30), (1, 10)] [1] = .ok [(1, 10)] := by rfl
example : Gen.Funcs.Omit [(3, 30), (1, 10)] [1] = [(3, 30)] := by rfl
example : Gen.Funcs.SliceToMap [1, 2] [10] = .error .panic := by rfl
example : Gen.Funcs.SliceToMap [1, 2] [10, 20] = .ok [(1, 10), (2, 20)] := by rfl

end GoguVerif.Theorems.GenTieC14
