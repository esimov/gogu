import GoguVerif.Model.Queue
import GoguVerif.Model.LQueue
/-!
# C05 — property theorems (queues are FIFO)

* `queue_refines`: every history of the model of the slice-backed `Queue` produces exactly the
  abstract FIFO's answers.
* `lqueue_refines`: every history of the model of the linked `LQueue` (counter + `list.DList` at
  sequence level) produces exactly the abstract FIFO's answers (`Dequeue` has no error flag there:
  answers are compared after `obsLinked`, which erases the flag).
* the clauses of the property statement as corollaries about the abstract FIFO.
-/
/-! The two equations of `Spec.C05.run` that `fifo_order` below rests on, in the namespace of `Theorems/C05More.lean`,
under whose names the audit lists them. -/
namespace GoguVerif.Theorems.C05More
open Spec.C05

variable {α : Type} [Inhabited α] [DecidableEq α]

theorem run_cons (s : List α) (op : Op α) (ops : List (Op α)) :
    run s (op :: ops) = ((run (step s op).1 ops).1, (step s op).2 :: (run (step s op).1 ops).2) := rfl

theorem run_append (s : List α) (a b : List (Op α)) :
    run s (a ++ b) = ((run (run s a).1 b).1, (run s a).2 ++ (run (run s a).1 b).2) := by
  induction a generalizing s with
  | nil => rfl
  | cons op a ih => simp [run_cons, ih]

end GoguVerif.Theorems.C05More

namespace GoguVerif.Theorems.C05
open Spec.C05

variable {α : Type} [Inhabited α] [DecidableEq α]

-- `C06.searchLoop_eq_mem` is the same fact about `Model.Stack.searchLoop`, the same loop (`GenTieQS.stack_searchLoop_eq`);
-- `Theorems/C06.lean` does not import this file
theorem searchLoop_eq_mem {α : Type} [DecidableEq α] (x : α) (l : List α) : Model.Queue.searchLoop x l = decide (x ∈ l) := by
  induction l with
  | nil => rfl
  | cons y r ih =>
    rw [Model.Queue.searchLoop, ih]
    by_cases h : y = x <;> simp [h, eq_comm (a := x)]

theorem queue_step_refines (s : List α) (op : Op α) :
    Model.Queue.step s op = Spec.C05.step s op := by
  cases op with
  | enqueue x => rfl
  | dequeue => cases s <;> rfl
  | peek => cases s <;> rfl
  | search x => exact congrArg (fun b => (s, Out.bool b)) (searchLoop_eq_mem x s)
  | size => rfl
  | clear => rfl

theorem queue_refines (s : List α) (ops : List (Op α)) :
    Model.Queue.run s ops = Spec.C05.run s ops := by
  induction ops generalizing s with
  | nil => rfl
  | cons op ops ih => simp only [Model.Queue.run, Spec.C05.run, queue_step_refines, ih]

/-- `LQueue.Dequeue` returns only the value: the emptiness flag of the abstract answer is erased. -/
def obsLinked : Out α → Out α
  | .deq v _ => .val v
  | o => o

/-- abstraction: with `n = 0` whatever the list holds is not content (in reachable states: the placeholder head) -/
def absL (s : Model.LQueue.St α) : List α := if s.n = 0 then [] else s.list

def InvL (s : Model.LQueue.St α) : Prop := s.n = (absL s).length

/-- The states that satisfy the invariant, each with the queue it stands for: a drained queue keeps whatever its list
holds (the placeholder head), a queue in use holds its list and counts it. -/
inductive RepL {α : Type} : Model.LQueue.St α → List α → Prop
  | drained (l : List α) : RepL ⟨l, 0⟩ []
  | held (x : α) (r : List α) {n : Int} (hn : n = ((r.length + 1 : Nat) : Int)) : RepL ⟨x :: r, n⟩ (x :: r)

theorem RepL.of_inv {α : Type} {s : Model.LQueue.St α} (h : InvL s) : RepL s (absL s) := by
  obtain ⟨l, n⟩ := s
  by_cases h0 : n = 0
  · subst h0; exact .drained l
  · have ha : absL ⟨l, n⟩ = l := if_neg h0
    rw [InvL, ha] at h
    rw [ha]
    cases l with
    | nil => exact absurd h h0
    | cons x r => exact .held x r h

theorem RepL.invL {α : Type} {s : Model.LQueue.St α} {q : List α} (h : RepL s q) : InvL s := by
  cases h with
  | drained l => rfl
  | held x r hn => subst hn; rfl

theorem RepL.absL_eq {α : Type} {s : Model.LQueue.St α} {q : List α} (h : RepL s q) : absL s = q := by
  cases h with
  | drained l => rfl
  | held x r hn => subst hn; rfl

theorem RepL.new {α : Type} (t : α) : RepL (Model.LQueue.new t) [t] := .held t [] rfl

theorem RepL.step {s : Model.LQueue.St α} {q : List α} (h : RepL s q) (op : Op α) :
    RepL (Model.LQueue.step s op).1 (Spec.C05.step q op).1 ∧
    (Model.LQueue.step s op).2 = obsLinked (Spec.C05.step q op).2 := by
  -- on either shape both steps compute
  cases h with
  | drained l =>
    cases op with
    | enqueue y => exact ⟨.held y [] rfl, rfl⟩
    | _ => exact ⟨.drained _, rfl⟩
  | held x r hn =>
    subst hn
    cases op with
    | enqueue y => exact ⟨.held x (r ++ [y]) (by rw [List.length_append]; rfl), rfl⟩
    | dequeue =>
      cases r with
      | nil => exact ⟨.drained _, rfl⟩
      | cons y r => exact ⟨.held y r (Int.add_sub_cancel ((r.length + 1 : Nat) : Int) 1), rfl⟩
    | clear => exact ⟨.drained _, rfl⟩
    | _ => exact ⟨.held x r rfl, rfl⟩

-- the step-level statement in terms of `InvL`/`absL`; `lqueue_run_refines` goes through `RepL.run` and does not use it
theorem lqueue_step_refines (s : Model.LQueue.St α) (op : Op α) (h : InvL s) :
    InvL (Model.LQueue.step s op).1 ∧
    absL (Model.LQueue.step s op).1 = (Spec.C05.step (absL s) op).1 ∧
    (Model.LQueue.step s op).2 = obsLinked (Spec.C05.step (absL s) op).2 :=
  have h := (RepL.of_inv h).step op
  ⟨h.1.invL, h.1.absL_eq, h.2⟩

theorem RepL.run {s : Model.LQueue.St α} {q : List α} (h : RepL s q) (ops : List (Op α)) :
    (Model.LQueue.run s ops).2 = ((Spec.C05.run q ops).2).map obsLinked ∧
    RepL (Model.LQueue.run s ops).1 (Spec.C05.run q ops).1 := by
  induction ops generalizing s q with
  | nil => exact ⟨rfl, h⟩
  | cons op ops ih =>
    obtain ⟨h1, h2⟩ := h.step op
    obtain ⟨r1, r2⟩ := ih h1
    exact ⟨congr (congrArg List.cons h2) r1, r2⟩

/-- Every history of the linked queue (started by `NewLinked t`, or from any state satisfying the
invariant) produces exactly the abstract FIFO's answers. -/
theorem lqueue_run_refines (s : Model.LQueue.St α) (h : InvL s) (ops : List (Op α)) :
    (Model.LQueue.run s ops).2 = ((Spec.C05.run (absL s) ops).2).map obsLinked ∧
    absL (Model.LQueue.run s ops).1 = (Spec.C05.run (absL s) ops).1 ∧
    InvL (Model.LQueue.run s ops).1 :=
  have h := (RepL.of_inv h).run ops
  ⟨h.1, h.2.absL_eq, h.2.invL⟩

theorem lqueue_refines (t : α) (ops : List (Op α)) :
    (Model.LQueue.run (Model.LQueue.new t) ops).2 = ((Spec.C05.run [t] ops).2).map obsLinked :=
  ((RepL.new t).run ops).1

/-! The clauses of the property as facts about the abstract FIFO: by the two refinement theorems they hold of both
models for every history. -/

def content (s : List α) (ops : List (Op α)) : List α := (Spec.C05.run s ops).1

theorem run_enqueues (s xs : List α) :
    Spec.C05.run s (xs.map .enqueue) = (s ++ xs, xs.map fun _ => Out.unit) := by
  induction xs generalizing s with
  | nil => rw [List.append_nil]; rfl
  | cons x xs ih => rw [List.append_cons s x xs]; exact congrArg (fun r => (r.1, Out.unit :: r.2)) (ih (s ++ [x]))

theorem run_dequeues (s : List α) :
    Spec.C05.run s (List.replicate s.length (Op.dequeue : Op α)) = ([], s.map fun x => Out.deq x false) := by
  induction s with
  | nil => rfl
  | cons x s ih => exact congrArg (fun r => (r.1, Out.deq x false :: r.2)) ih

/-- Dequeue order = enqueue order, each element exactly once: enqueueing `xs` into an empty queue
and dequeuing `xs.length` times yields exactly `xs`, and leaves the queue empty. -/
theorem fifo_order (xs : List α) :
    Spec.C05.run ([] : List α) (xs.map .enqueue ++ List.replicate xs.length .dequeue) =
      ([], xs.map (fun _ => Out.unit) ++ xs.map (fun x => Out.deq x false)) := by
  rw [C05More.run_append, run_enqueues, List.nil_append, run_dequeues]

/-- `Peek` is the element the next `Dequeue` returns (on a non-empty queue), and does not change
the content. -/
theorem peek_is_next_dequeue (s : List α) (h : s ≠ []) :
    ∃ x, (Spec.C05.step s .peek) = (s, .val x) ∧ (Spec.C05.step s .dequeue).2 = .deq x false := by
  cases s with
  | nil => exact absurd rfl h
  | cons x r => exact ⟨x, by simp [Spec.C05.step]⟩

theorem dequeue_empty : Spec.C05.step ([] : List α) .dequeue = ([], .deq default true) := rfl

/-- `Size` is never negative and equals enqueues − successful dequeues since the last `Clear`:
stepwise form. -/
theorem size_step (s : List α) (op : Op α) :
    ((Spec.C05.step s op).1.length : Int) =
      match op with
      | .enqueue _ => (s.length : Int) + 1
      | .dequeue => if s = [] then 0 else (s.length : Int) - 1
      | .clear => 0
      | _ => s.length := by
  cases op with
  | enqueue x => exact congrArg Nat.cast List.length_append
  | dequeue =>
    cases s with
    | nil => rfl
    | cons x r => exact (Int.add_sub_cancel (r.length : Int) 1).symm
  | _ => rfl

theorem size_nonneg (s : List α) : (Spec.C05.step s .size).2 = .int s.length ∧ (0 : Int) ≤ s.length := by
  simp [Spec.C05.step]

theorem search_iff (s : List α) (x : α) : (Spec.C05.step s (.search x)).2 = .bool true ↔ x ∈ s := by
  simp [Spec.C05.step]

/-- non-vacuity: the invariant of the linked queue holds in a non-trivial reachable state -/
example : InvL (Model.LQueue.run (Model.LQueue.new (7 : Int)) [.enqueue 8, .dequeue, .enqueue 9]).1 ∧
    (Model.LQueue.run (Model.LQueue.new (7 : Int)) [.enqueue 8, .dequeue, .enqueue 9]).1.list = [8, 9] := by
  unfold InvL absL; decide

end GoguVerif.Theorems.C05
