import GoguVerif.Gen.Bst
import GoguVerif.Lemmas.C04
import GoguVerif.Lemmas.TieRules
import GoguVerif.Lemmas.ListFacts
/-!
# The regenerated tie for `bstree/bstree.go` (C04)

`Gen/Bst.lean` is produced on every run by the translator (`translator/frag_bst.go`) from `bstree/bstree.go`
(and `gogu.Compare` from `generic.go`): a `*Node[K,V]` as a value of the generated inductive type `Gen.Bst.Node`
(fields in declaration order: `Left`, `Right`, the embedded `Item`), in-place assignments as functional updates
handed back to the caller, a field read of a possibly-nil node as `Out.panic`, the `*BsTree` handle's fields
(`comp`, `root`, `size`) as variables, `error` as `Option String`, callbacks without result as transformers of an
abstract world.

The theorems below state, for ALL trees, keys, values, comparators (and callbacks, worlds, size counters), that
each regenerated definition computes exactly what the hand-written definition of `Model/Bst.lean` computes — the
definitions the theorems of C04 are about.  The two tree types differ in field order only; `toM` / `ofM` are the
bijection between them (`toM_ofM`, `ofM_toM`), and every tie is stated through `toM`.  The model's `Option`
(`none` = the call panics) corresponds to `Out.panic`; `Out.hang` never occurs.

The inductions that carry a relation are `upsert_ok` and `delete_ok` (the regenerated call returns, with the model's answer;
`delete_ok` goes through `min_loop_node`); `upsert_tie`, `min_tie`, `delete_tie` and the ties of the exported
methods are read off them.
-/
namespace GoguVerif.Theorems.GenTieBst
open GoguVerif.Gen.Bst
open GoguVerif.Model.Bst (Tree St)

variable {κ ν : Type}

/-- the regenerated tree as a tree of the model (same shape; `Left, Right, Item{Key,Val}` ↦ `l k v r`) -/
def toM : Node κ ν → Tree κ ν
  | .nil => .nil
  | .node l r it => .node (toM l) it.Key it.Val (toM r)

def ofM : Tree κ ν → Node κ ν
  | .nil => .nil
  | .node l k v r => .node (ofM l) (ofM r) ⟨k, v⟩

/-- `toM` and `ofM` are inverse to each other: the two tree types are the same type up to field order, so a
statement "for all `Node`" is a statement "for all `Tree`". -/
theorem toM_ofM (t : Tree κ ν) : toM (ofM t) = t := by
  induction t with
  | nil => rfl
  | node l k v r ihl ihr => simp only [ofM, toM, ihl, ihr]

theorem ofM_toM (n : Node κ ν) : ofM (toM n) = n := by
  induction n with
  | nil => rfl
  | node l r it ihl ihr => cases it; simp only [toM, ofM, ihl, ihr]

/-- an `Option` of the model (`none` = Go panics) as an outcome -/
def optOut {β : Type} : Option β → Out β
  | some b => .ok b
  | none => .panic

def Out.map {β γ : Type} (f : β → γ) : Out β → Out γ
  | .ok b => .ok (f b)
  | .panic => .panic
  | .hang => .hang

/-- the model's error flag (`true` = nil error) as the regenerated `error` -/
def errOf : Bool → Err
  | true => none
  | false => some "ErrorNotFound"

/-- the model's answer of `get` as the Go result pair `(Item, error)` -/
def getRes [Inhabited κ] [Inhabited ν] : Option (κ × ν) → Item κ ν × Err
  | none => (⟨default, default⟩, some "ErrorNotFound")
  | some (k, v) => (⟨k, v⟩, none)

@[simp] theorem bind_ok {β γ : Type} (b : β) (f : β → Out γ) : Out.bind (Out.ok b) f = f b := rfl
@[simp] theorem bind_panic {β γ : Type} (f : β → Out γ) : Out.bind (Out.panic : Out β) f = Out.panic := rfl
@[simp] theorem map_ok {β γ : Type} (b : β) (f : β → γ) : Out.map f (Out.ok b) = Out.ok (f b) := rfl
@[simp] theorem map_panic {β γ : Type} (f : β → γ) : Out.map f (Out.panic : Out β) = Out.panic := rfl
@[simp] theorem optOut_some {β : Type} (b : β) : optOut (some b) = Out.ok b := rfl
@[simp] theorem optOut_none {β : Type} : optOut (none : Option β) = Out.panic := rfl
@[simp] theorem isNil_nil : Node.isNil (Node.nil : Node κ ν) = true := rfl
@[simp] theorem isNil_node (l r : Node κ ν) (it : Item κ ν) : Node.isNil (Node.node l r it) = false := rfl

theorem map_eq_optOut {β γ : Type} {f : β → γ} {x : Out β} {y : Option γ} (h : Out.map f x = optOut y) :
    (∃ b, x = Out.ok b ∧ y = some (f b)) ∨ (x = Out.panic ∧ y = none) := by
  cases x <;> cases y <;> simp_all [Out.map, optOut]

/-- `gogu.Compare` regenerated = the model's `compare`. -/
theorem compare_tie [Inhabited κ] (comp : κ → κ → Bool) (a b : κ) :
    gogu_Compare a b comp = Model.Bst.compare comp a b := by
  unfold gogu_Compare Model.Bst.compare
  rfl

/-- `NewNode(key, val)` is the leaf the model builds. -/
theorem newNode_tie [Inhabited κ] [Inhabited ν] (key : κ) (val : ν) :
    toM (NewNode key val) = Tree.node .nil key val .nil := rfl

/-- `(*Node).get` regenerated = `Model.Bst.get`, for every tree, key and comparator (it never panics: the
regenerated definition is not even in outcome form). -/
theorem get_tie [Inhabited κ] [Inhabited ν] (comp : κ → κ → Bool) (key : κ) (n : Node κ ν) :
    Node_get n comp key = getRes (Model.Bst.get comp key (toM n)) := by
  induction n with
  | nil => rfl
  | node l r it ihl ihr =>
    unfold Node_get
    rw [toM, Model.Bst.get]
    simp only [compare_tie, beq_iff_eq]
    exact ite_rel (R := fun x mo => x = getRes mo) Iff.rfl (fun _ => ihl) fun _ =>
      ite_rel (R := fun x mo => x = getRes mo) Iff.rfl (fun _ => ihr) fun _ => rfl

/-- `BsTree.Get` regenerated = the model's `get` on the root. -/
theorem Get_tie [Inhabited κ] [Inhabited ν] (comp : κ → κ → Bool) (key : κ) (root : Node κ ν) :
    BsTree_Get comp root key = getRes (Model.Bst.get comp key (toM root)) := by
  unfold BsTree_Get
  simp only [get_tie]

/-- the form of `upsert_ok` (and, with the error, of `delete_ok` below): the regenerated call RETURNS, with the model's answer -/
abbrev UpsOk (x : Out (Node κ ν × Int)) (mo : Option (Tree κ ν × Int)) : Prop :=
  ∃ b, x = Out.ok b ∧ mo = some (toM b.1, b.2)

/-- On a non-nil node the regenerated `upsert` does not panic and returns the model's answer. -/
theorem upsert_ok [Inhabited κ] [Inhabited ν] (comp : κ → κ → Bool) (key : κ) (val : ν) (n : Node κ ν) (size : Int)
    (hn : n.isNil = false) :
    UpsOk (Node_upsert n comp size key val) (Model.Bst.upsertNode comp key val (toM n) size) := by
  induction n with
  | nil => cases hn
  | node l r it ihl ihr =>
    unfold Node_upsert
    rw [toM, Lemmas.C04.upsertNode_node]
    simp only [compare_tie, beq_iff_eq]
    refine ite_rel (R := UpsOk) Iff.rfl (fun _ => ?_) fun _ =>
      ite_rel (R := UpsOk) Iff.rfl (fun _ => ?_) fun _ => ⟨_, rfl, rfl⟩
    · cases l with
      | nil => exact ⟨_, rfl, rfl⟩
      | node ll lr lit =>
        obtain ⟨b, e1, e2⟩ := ihl rfl
        rw [toM] at e2
        simp only [e1, toM, e2]
        exact ⟨_, rfl, rfl⟩
    · cases r with
      | nil => exact ⟨_, rfl, rfl⟩
      | node rl rr rit =>
        obtain ⟨b, e1, e2⟩ := ihr rfl
        rw [toM] at e2
        simp only [e1, toM, e2]
        exact ⟨_, rfl, rfl⟩

/-- `(*Node).upsert` regenerated = `Model.Bst.upsertNode`: the updated node and the size counter, and a panic
exactly on the nil receiver. -/
theorem upsert_tie [Inhabited κ] [Inhabited ν] (comp : κ → κ → Bool) (key : κ) (val : ν) (n : Node κ ν) (size : Int) :
    Out.map (fun r => (toM r.1, r.2)) (Node_upsert n comp size key val)
      = optOut (Model.Bst.upsertNode comp key val (toM n) size) := by
  cases n with
  | nil => rfl
  | node l r it =>
    obtain ⟨b, e1, e2⟩ := upsert_ok comp key val (.node l r it) size rfl
    rw [e1, e2]; rfl

/-- `BsTree.Upsert` regenerated = the model's `step` for `upsert` (new root and size). -/
theorem Upsert_tie [Inhabited κ] [Inhabited ν] (comp : κ → κ → Bool) (key : κ) (val : ν) (root : Node κ ν) (size : Int) :
    Out.map (fun r => (toM r.1, r.2)) (BsTree_Upsert comp root size key val)
      = optOut ((Model.Bst.step comp ⟨toM root, size⟩ (.upsert key val)).map fun p => (p.1.root, p.1.size)) := by
  cases root with
  | nil => rfl
  | node l r it =>
    obtain ⟨b, e1, e2⟩ := upsert_ok comp key val (.node l r it) size rfl
    rw [toM] at e2
    simp only [BsTree_Upsert, e1, toM, Model.Bst.step, e2]
    rfl

/-- the walk of `min` on a non-nil node ends in a node without left child whose item is what the model's `min`
answers -/
theorem min_loop_node [Inhabited κ] [Inhabited ν] (l r : Node κ ν) (it : Item κ ν) :
    ∃ r' it', Node_min_loop1 (Node.node l r it) = Out.ok (Node.node .nil r' it')
      ∧ Model.Bst.min (toM (Node.node l r it)) = some (it'.Key, it'.Val) := by
  induction l generalizing r it with
  | nil => exact ⟨r, it, rfl, rfl⟩
  | node ll lr lit ihl _ =>
    obtain ⟨r', it', h1, h2⟩ := ihl lr lit
    refine ⟨r', it', ?_, ?_⟩
    · unfold Node_min_loop1
      simp only [isNil_node, Bool.not_false, if_true]
      exact h1
    · simp only [toM, Model.Bst.min] at h2 ⊢
      exact h2

/-- `(*Node).min` regenerated = `Model.Bst.min`: the item of the node it returns (never `nil`) is the model's
answer, and it panics exactly on the nil receiver. -/
theorem min_tie [Inhabited κ] [Inhabited ν] (n : Node κ ν) :
    Out.bind (Node_min n) (fun m => match m with
        | .nil => Out.panic
        | .node _ _ it => Out.ok (it.Key, it.Val))
      = optOut (Model.Bst.min (toM n)) := by
  cases n with
  | nil => rfl
  | node l r it =>
    obtain ⟨r', it', h1, h2⟩ := min_loop_node l r it
    unfold Node_min
    simp only [h1, h2, bind_ok, optOut_some]

/-- the form of `delete_ok`: the regenerated call returns the subtree and, as `errOf e`, the model's flag `e`
(`true` = nil error); the third component of the result is not constrained -/
abbrev DelOk (x : Out (Node κ ν × Err × Node κ ν)) (mo : Option (Tree κ ν × Bool)) : Prop :=
  ∃ b e, x = Out.ok b ∧ b.2.1 = errOf e ∧ mo = some (toM b.1, e)

/-- The regenerated `delete` does not panic and returns the model's answer: the subtree and the error, in
all four cases of the key's node including the successor case.  (The third component of the regenerated
result, the receiver as the call leaves it, is overwritten by every caller.) -/
theorem delete_ok [Inhabited κ] [Inhabited ν] (comp : κ → κ → Bool) (n : Node κ ν) : ∀ key : κ,
    DelOk (Node_delete n comp key) (Model.Bst.delete comp key (toM n)) := by
  induction n with
  | nil => exact fun _ => ⟨_, false, rfl, rfl, rfl⟩
  | node l r it ihl ihr =>
    intro key
    unfold Node_delete
    rw [toM, Lemmas.C04.delete_node]
    simp only [compare_tie, beq_iff_eq]
    refine ite_rel (R := DelOk) Iff.rfl (fun _ => ?_) fun _ => ite_rel (R := DelOk) Iff.rfl (fun _ => ?_) fun _ => ?_
    · obtain ⟨b, e, e1, e2, e3⟩ := ihl key
      rw [e1, e3]
      exact ⟨_, e, rfl, e2, rfl⟩
    · obtain ⟨b, e, e1, e2, e3⟩ := ihr key
      rw [e1, e3]
      exact ⟨_, e, rfl, e2, rfl⟩
    · cases l with
      | nil => cases r <;> exact ⟨_, true, rfl, rfl, rfl⟩
      | node ll lr lit =>
        cases r with
        | nil => exact ⟨_, true, rfl, rfl, rfl⟩
        | node rl rr rit =>
          obtain ⟨r', it', hl1, hl2⟩ := min_loop_node rl rr rit
          obtain ⟨b, e, e1, e2, e3⟩ := ihr it'.Key
          rw [toM] at hl2 e3
          simp only [isNil_node, Bool.false_and, Bool.and_false, Bool.not_false, Bool.and_self,
            Bool.false_eq_true, if_false, Node_min, hl1, bind_ok, toM, hl2, e1, e3]
          exact ⟨_, e, rfl, e2, rfl⟩

/-- `(*Node).delete` regenerated = `Model.Bst.delete`: the returned subtree and the error; a panic exactly
where the model has one (nowhere). -/
theorem delete_tie [Inhabited κ] [Inhabited ν] (comp : κ → κ → Bool) (key : κ) (n : Node κ ν) :
    Out.map (fun r => (toM r.1, r.2.1)) (Node_delete n comp key)
      = optOut ((Model.Bst.delete comp key (toM n)).map fun p => (p.1, errOf p.2)) := by
  obtain ⟨b, e, e1, e2, e3⟩ := delete_ok comp n key
  rw [e1, e3, map_ok, e2]; rfl

/-- `BsTree.Delete` regenerated = the model's `step` for `delete`: error, new root, and the size counter
decremented unconditionally (finding F10: also for an absent key) — exactly as the model has it. -/
theorem Delete_tie [Inhabited κ] [Inhabited ν] (comp : κ → κ → Bool) (key : κ) (root : Node κ ν) (size : Int) :
    Out.map (fun r => (r.1, toM r.2.1, r.2.2)) (BsTree_Delete comp root size key)
      = optOut ((Model.Bst.delete comp key (toM root)).map fun p => (errOf p.2, p.1, size - 1)) := by
  obtain ⟨b, e, e1, e2, e3⟩ := delete_ok comp root key
  rw [BsTree_Delete, e1, e3, bind_ok, map_ok, e2]; rfl

/-- F10 at the level of the regenerated code: deleting from the empty tree reports `ErrorNotFound` and still
decrements the counter. -/
theorem Delete_absent_decrements [Inhabited κ] [Inhabited ν] (comp : κ → κ → Bool) (key : κ) (size : Int) :
    BsTree_Delete comp (Node.nil : Node κ ν) size key = Out.ok (some "ErrorNotFound", Node.nil, size - 1) := rfl

/-- `BsTree.Size` regenerated = the counter, as in the model's `step`. -/
theorem Size_tie [Inhabited κ] [Inhabited ν] (s : St κ ν) :
    Model.Bst.step (fun _ _ => false) s (.size) = some (s, .int (BsTree_Size (κ := κ) (ν := ν) s.size)) := rfl

/-- `(*Node).traverse` regenerated: the callback is applied to the items of `Model.Bst.traverse`, in that
order, for every callback and every world. -/
theorem traverse_tie [Inhabited κ] [Inhabited ν] {σ : Type} (n : Node κ ν) (visit : Item κ ν → σ → σ) (w : σ) :
    Node_traverse n visit w
      = (Model.Bst.traverse (toM n)).foldl (fun w p => visit ⟨p.1, p.2⟩ w) w := by
  induction n generalizing w with
  | nil => rfl
  | node l r it ihl ihr =>
    unfold Node_traverse
    simp only [toM, Model.Bst.traverse, List.foldl_append, List.foldl_cons, ihl, ihr]

/-- with the collecting callback of `BsTree.Traverse` the walk appends exactly the model's in-order list -/
theorem traverse_collect [Inhabited κ] [Inhabited ν] (n : Node κ ν) (acc : List (Item κ ν)) :
    Node_traverse n (fun item items => items ++ [item]) acc
      = acc ++ (Model.Bst.traverse (toM n)).map (fun p => ⟨p.1, p.2⟩) := by
  rw [traverse_tie]
  exact Lemmas.ListFacts.foldl_snoc_map (fun p : κ × ν => (⟨p.1, p.2⟩ : Item κ ν)) _ acc

/-- `BsTree.Traverse` regenerated: `fn` is called on the items of `Model.Bst.traverse` of the root, in order. -/
theorem Traverse_tie [Inhabited κ] [Inhabited ν] {σ : Type} (root : Node κ ν) (fn : Item κ ν → σ → σ) (w : σ) :
    BsTree_Traverse root fn w
      = (Model.Bst.traverse (toM root)).foldl (fun w p => fn ⟨p.1, p.2⟩ w) w := by
  unfold BsTree_Traverse
  simp only [traverse_collect, List.nil_append, List.foldl_map]

/-- In particular the items handed to the callback are, as a list, what the model's `step` answers for
`traverse`. -/
theorem Traverse_items [Inhabited κ] [Inhabited ν] (root : Node κ ν) :
    BsTree_Traverse root (fun it acc => acc ++ [(it.Key, it.Val)]) ([] : List (κ × ν))
      = Model.Bst.traverse (toM root) := by
  rw [Traverse_tie]
  exact (Lemmas.ListFacts.foldl_snoc_map (fun p : κ × ν => (p.1, p.2)) _ []).trans (List.map_id _)

/-! ## whole calls: the regenerated exported methods against `Model.Bst.step`

`Upsert` and `Size` against `step` are `Upsert_tie` and `Size_tie` above; for `Traverse`, `step` answers
`Model.Bst.traverse` of the root, which `Traverse_items` is about. -/

/-- `Get` against `step`: the state is unchanged and the answer is the value the regenerated method returns,
or "not found" when it returns an error. -/
theorem Get_step [Inhabited κ] [Inhabited ν] (comp : κ → κ → Bool) (key : κ) (root : Node κ ν) (size : Int) :
    Model.Bst.step comp ⟨toM root, size⟩ (.get key)
      = some (⟨toM root, size⟩,
          .got (match (BsTree_Get comp root key).2 with
                | none => some (BsTree_Get comp root key).1.Val
                | some _ => none)) := by
  rw [Get_tie]
  simp only [Model.Bst.step]
  cases Model.Bst.get comp key (toM root) with
  | none => rfl
  | some p => cases p; rfl

/-- `Delete` against `step`: new root, decremented counter and the found flag. -/
theorem Delete_step [Inhabited κ] [Inhabited ν] (comp : κ → κ → Bool) (key : κ) (root : Node κ ν) (size : Int) :
    optOut (Model.Bst.step comp ⟨toM root, size⟩ (.delete key))
      = Out.map (fun r => ((⟨toM r.2.1, r.2.2⟩ : St κ ν), Spec.C04.Out.deleted r.1.isNone))
          (BsTree_Delete comp root size key) := by
  obtain ⟨b, e, e1, e2, e3⟩ := delete_ok comp root key
  rw [Model.Bst.step, BsTree_Delete, e1, e3, bind_ok, map_ok, e2]
  cases e <;> rfl

/-- the tree `2 ← 4 → 6` with `5` under `6` (values = 10 × key), `comp = (· < ·)` as in the tests -/
def sample : Node Int Int :=
  .node (.node .nil .nil ⟨2, 20⟩) (.node (.node .nil .nil ⟨5, 50⟩) .nil ⟨6, 60⟩) ⟨4, 40⟩

example : (BsTree_Delete (fun a b => decide (a < b)) sample 4 4)
    = Out.ok (none, .node (.node .nil .nil ⟨2, 20⟩) (.node .nil .nil ⟨6, 60⟩) ⟨5, 50⟩, 3) := by rfl
example : (BsTree_Delete (fun a b => decide (a < b)) sample 4 7)
    = Out.ok (some "ErrorNotFound", sample, 3) := by rfl
example : (BsTree_Get (fun a b => decide (a < b)) sample 5) = (⟨5, 50⟩, none) := by rfl
example : Out.map (fun r => r.2) (BsTree_Upsert (fun a b => decide (a < b)) sample 4 3 30) = Out.ok 5 := by rfl
example : BsTree_Traverse sample (fun it acc => acc ++ [it.Key]) [] = [2, 4, 5, 6] := by rfl
example : Node_min (Node.nil : Node Int Int) = Out.panic := rfl

end GoguVerif.Theorems.GenTieBst
