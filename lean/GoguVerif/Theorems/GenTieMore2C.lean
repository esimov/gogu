import GoguVerif.Theorems.GenTieMore2Base
import GoguVerif.Model.C11
/-!
# The regenerated tie for `Contains`, `Intersection`, `IntersectionBy` (C11)

The theorems below state that the regenerated definitions compute exactly the outcome of the hand-written model of
`Model/C11.lean`, for every amount of fuel above an explicit bound (the loops over indices run on fuel; the inner scan
runs on what the outer loop has left).  Like part B this part imports the model and no lemma module, so that a tie
stops checking only when its own text changes: the model-side equations `…_model_…` of namespace `C` are stated here
although `Lemmas/C11.lean` has them too (`interLoop_eq_interByLoop`).
-/
namespace GoguVerif.Theorems.GenTieMore2
open GoguVerif.Gen.Funcs2

variable {α : Type} [Inhabited α] [DecidableEq α]

-- Helpers of this part live in the sub-namespace `C`.  `C.bind_…` restate the `bind` equations of `GenTieMore2Base` for
-- whoever reads or extends this part; inside `C` the short names mean these, outside it those of the Base module.
namespace C

@[simp] theorem bind_ok {β γ : Type} (b : β) (f : β → Out γ) : Out.bind (Out.ok b) f = f b :=
  GenTieMore2.bind_ok b f
@[simp] theorem bind_panic {β γ : Type} (f : β → Out γ) : Out.bind (Out.panic : Out β) f = Out.panic :=
  GenTieMore2.bind_panic f
@[simp] theorem bind_hang {β γ : Type} (f : β → Out γ) : Out.bind (Out.hang : Out β) f = Out.hang :=
  GenTieMore2.bind_hang f

theorem drop_toList_lt {β : Type} (s : Array β) (i : Nat) (h : i < s.size) :
    s.toList.drop i = s[i] :: s.toList.drop (i + 1) := by
  rw [List.drop_eq_getElem_cons (by rw [Array.length_toList]; exact h), Array.getElem_toList]

theorem drop_toList_ge {β : Type} (s : Array β) (i : Nat) (h : ¬ i < s.size) : s.toList.drop i = [] :=
  List.drop_eq_nil_of_le (by rw [Array.length_toList]; omega)

theorem contains_loop (s : Array α) (v : α) (xs : List α) :
    (Contains_loop1 s v xs).1 = (if Model.C11.contains v xs then some true else none) := by
  induction xs with
  | nil => rfl
  | cons x rest ih =>
    unfold Contains_loop1 Model.C11.contains
    by_cases h : x = v
    · simp [h]
    · simp [h, ih]

end C
open C

theorem contains_tie (s : Array α) (v : α) : Contains s v = Model.C11.contains v s.toList := by
  simp only [Contains, contains_loop]
  cases Model.C11.contains v s.toList <;> rfl

/-- the closure `has` (its captured `j` and the fuel are irrelevant) -/
theorem hasImage_tie (fn : α → α) (params : Array (Array α)) (result : Array α) (i : Int) (item : α)
    (j : Int) (fuel : Nat) (xs : List α) :
    IntersectionBy_loop3 fn params result i item j fuel xs
      = Out.ok (if Model.C11.hasImage fn item xs then some true else none, ()) := by
  induction xs with
  | nil => rfl
  | cons x rest ih =>
    unfold IntersectionBy_loop3 Model.C11.hasImage
    by_cases h : fn x = fn item
    · simp [h]
    · simp [h, ih]

/-- the inner scan `for j = …; j < len(params); j++ { has := func() bool {…}; if !has() { break } }` -/
theorem interBy_scan_tie (fn : α → α) (params : Array (Array α)) (result : Array α) (i : Int) (item : α)
    (fuel j : Nat) (hf : params.size - j + 1 ≤ fuel) :
    IntersectionBy_loop2 fn params result i item fuel (j : Int)
      = Out.ok ((Model.C11.interByScan fn item ((params.toList.drop j).map Array.toList) j : Nat) : Int) := by
  induction fuel generalizing j with
  | zero => omega
  | succ f ih =>
    rw [IntersectionBy_loop2]
    by_cases hlt : j < params.size
    · rw [if_pos (Int.ofNat_lt.mpr hlt), hIdx_lt _ _ hlt, drop_toList_lt _ _ hlt, List.map_cons,
        Model.C11.interByScan]
      simp only [bind_ok, hasImage_tie]
      cases Model.C11.hasImage fn item params[j].toList
      · rfl
      · exact ih (j + 1) (fuel_step hlt hf)
    · rw [if_neg (fun h => hlt (Int.ofNat_lt.mp h)), drop_toList_ge _ _ hlt]
      rfl

example : IntersectionBy_loop2 (· % 2) (#[#[1, 2], #[4]] : Array (Array Nat)) #[] 0 2 2 (1 : Nat)
    = Out.ok ((Model.C11.interByScan (· % 2) 2
        (((#[#[1, 2], #[4]] : Array (Array Nat)).toList.drop 1).map Array.toList) 1 : Nat) : Int) :=
  interBy_scan_tie _ _ _ _ _ 2 1 (by decide)

/-- the outer loop `for i := 0; i < len(params[0]); i++ { … }` from position `i`: one unit of fuel per iteration, and
`len(params) + 2` kept back so that every inner scan has enough -/
theorem interBy_loop_tie (fn : α → α) (params : Array (Array α)) (hpos : 0 < params.size) (result : Array α)
    (i fuel : Nat) (hf : (params[0]).size - i + params.size + 2 ≤ fuel) :
    Out.bind (IntersectionBy_loop1 fn params fuel result (i : Int)) (fun r => Out.ok r.1)
      = Out.ok (Model.C11.interByLoop fn params.size ((params.toList.drop 1).map Array.toList)
          result.toList ((params[0]).toList.drop i)).toArray := by
  -- the bound in the shape of `fuel_step`: `len(params[0]) - i + c` with `c = len(params) + 2`
  rw [Nat.add_assoc] at hf
  induction fuel generalizing result i with
  | zero => exact absurd hf (Nat.not_succ_le_zero _)
  | succ f ih =>
    rw [IntersectionBy_loop1, show hIdx params (0 : Int) = _ from hIdx_lt params 0 hpos]
    simp only [bind_ok]
    by_cases hlt : i < (params[0]).size
    · rw [if_pos (Int.ofNat_lt.mpr hlt), hIdx_lt _ _ hlt, drop_toList_lt _ _ hlt, Model.C11.interByLoop]
      simp only [bind_ok, contains_tie]
      cases Model.C11.contains (params[0])[i] result.toList
      · have hscan : IntersectionBy_loop2 fn params result i (params[0])[i] f (1 : Int) = _ :=
          -- the scan runs on the `f` this iteration leaves: `hf` keeps `len(params) + 2 ≤ f + 1`, and the scan from
          -- `j = 1` needs `len(params) - 1 + 1`
          interBy_scan_tie fn params result i _ f 1 (by
            rw [Nat.sub_add_cancel hpos]
            exact Nat.le_of_succ_le (Nat.le_of_succ_le_succ (Nat.le_trans (Nat.le_add_left _ _) hf)))
        simp only [Bool.false_eq_true, if_false, hscan, bind_ok, Int.natCast_inj]
        split
        · rw [bind_ok, ← Array.toList_push]
          exact ih (result.push _) (i + 1) (fuel_step hlt hf)
        · exact ih result (i + 1) (fuel_step hlt hf)
      · exact ih result (i + 1) (fuel_step hlt hf)
    · rw [if_neg (fun h => hlt (Int.ofNat_lt.mp h)), drop_toList_ge _ _ hlt]
      rfl

example : Out.bind (IntersectionBy_loop1 (· % 2) (#[#[1, 2], #[4]] : Array (Array Nat)) 6 #[] (0 : Nat))
      (fun r => Out.ok r.1)
    = Out.ok (Model.C11.interByLoop (· % 2) 2 [[4]] [] [1, 2]).toArray :=
  interBy_loop_tie (· % 2) (#[#[1, 2], #[4]] : Array (Array Nat)) (by decide) #[] 0 6 (by decide)

/-- `IntersectionBy`: with fuel at least `len(params[0]) + len(params) + 2` (that is 2 when there is no argument, where
one unit would do: `params[0]` then panics in the first iteration, as the model says) -/
theorem intersectionBy_tie (fn : α → α) (params : Array (Array α)) (fuel : Nat)
    (hf : (params[0]?.map Array.size).getD 0 + params.size + 2 ≤ fuel) :
    IntersectionBy fuel fn params
      = (match Model.C11.intersectionBy fn (params.toList.map Array.toList) with
         | .ok l => Out.ok l.toArray
         | .panic => Out.panic) := by
  by_cases hpos : 0 < params.size
  · rw [Array.getElem?_eq_getElem hpos] at hf
    have h := interBy_loop_tie fn params hpos #[] 0 fuel hf
    rw [List.drop_zero] at h
    have hl := drop_toList_lt params 0 hpos
    rw [List.drop_zero] at hl
    rw [hl, List.map_cons, Model.C11.intersectionBy, List.length_cons, List.length_map, List.length_drop, Array.length_toList, Nat.sub_add_cancel hpos]
    exact h
  · cases fuel with
    | zero => exact absurd hf (Nat.not_succ_le_zero _)
    | succ f =>
      have hl : params.toList = [] := drop_toList_ge params 0 hpos
      have h0 : hIdx params (0 : Int) = .panic := hIdx_ge params 0 (Nat.le_of_not_lt hpos)
      rw [IntersectionBy, IntersectionBy_loop1, h0, hl]
      rfl

example : IntersectionBy 6 (· % 2) (#[#[1, 2], #[4]] : Array (Array Nat))
    = (match Model.C11.intersectionBy (· % 2) ((#[#[1, 2], #[4]] : Array (Array Nat)).toList.map Array.toList) with
       | .ok l => Out.ok l.toArray
       | .panic => Out.panic) :=
  intersectionBy_tie _ _ 6 (by decide)

example : IntersectionBy 2 (· % 2) (#[] : Array (Array Nat)) = Out.panic :=
  intersectionBy_tie _ _ 2 (by decide)

/-! `Intersection` is `IntersectionBy` at the identity.  In the model the two are the same text after β-reduction, so they
unfold to the same term (see the header of `Theorems/GenTie.lean`); the regenerated `Intersection` calls `Contains` where
`IntersectionBy` runs its closure `has`, which takes the two inductions over the fuel. -/

namespace C

omit [Inhabited α] in
theorem contains_model_hasImage (v : α) (xs : List α) : Model.C11.contains v xs = Model.C11.hasImage id v xs := by
  set_option smartUnfolding false in rfl

omit [Inhabited α] in
theorem interScan_model_by (item : α) (ps : List (List α)) (j : Nat) :
    Model.C11.interScan item ps j = Model.C11.interByScan id item ps j := by
  set_option smartUnfolding false in rfl

omit [Inhabited α] in
theorem interLoop_model_by (n : Nat) (others : List (List α)) (result rest : List α) :
    Model.C11.interLoop n others result rest = Model.C11.interByLoop id n others result rest := by
  set_option smartUnfolding false in rfl

omit [Inhabited α] in
theorem intersection_model_by (ps : List (List α)) : Model.C11.intersection ps = Model.C11.intersectionBy id ps := by
  set_option smartUnfolding false in rfl

theorem inter_loop2_at_id (params : Array (Array α)) (result : Array α) (i : Int) (item : α) (fuel : Nat) (j : Int) :
    Intersection_loop2 params result i item fuel j = IntersectionBy_loop2 id params result i item fuel j := by
  induction fuel generalizing j with
  | zero => rfl
  | succ f ih =>
    rw [Intersection_loop2, IntersectionBy_loop2]
    split
    · cases hIdx params j with
      | ok p =>
        simp only [bind_ok, hasImage_tie, contains_tie, contains_model_hasImage, ih]
        cases Model.C11.hasImage id item p.toList <;> rfl
      | panic => rfl
      | hang => rfl
    · rfl

theorem inter_loop1_at_id (params : Array (Array α)) (fuel : Nat) (result : Array α) (i : Int) :
    Intersection_loop1 params fuel result i = IntersectionBy_loop1 id params fuel result i := by
  induction fuel generalizing result i with
  | zero => rfl
  | succ f ih => simp only [Intersection_loop1, IntersectionBy_loop1, inter_loop2_at_id, ih]

end C

/-- the inner scan `for j = …; j < len(params); j++ { if !Contains(params[j], item) { break } }` -/
theorem inter_scan_tie (params : Array (Array α)) (result : Array α) (i : Int) (item : α)
    (fuel j : Nat) (hf : params.size - j + 1 ≤ fuel) :
    Intersection_loop2 params result i item fuel (j : Int)
      = Out.ok ((Model.C11.interScan item ((params.toList.drop j).map Array.toList) j : Nat) : Int) := by
  rw [inter_loop2_at_id, interScan_model_by]
  exact interBy_scan_tie id params result i item fuel j hf

example : Intersection_loop2 (#[#[1, 2], #[2]] : Array (Array Nat)) #[] 0 2 2 (1 : Nat)
    = Out.ok ((Model.C11.interScan 2 (((#[#[1, 2], #[2]] : Array (Array Nat)).toList.drop 1).map Array.toList) 1 : Nat) : Int) :=
  inter_scan_tie _ _ _ _ 2 1 (by decide)

/-- the outer loop `for i := 0; i < len(params[0]); i++ { … }` from position `i` -/
theorem inter_loop_tie (params : Array (Array α)) (hpos : 0 < params.size) (result : Array α)
    (i fuel : Nat) (hf : (params[0]).size - i + params.size + 2 ≤ fuel) :
    Out.bind (Intersection_loop1 params fuel result (i : Int)) (fun r => Out.ok r.1)
      = Out.ok (Model.C11.interLoop params.size ((params.toList.drop 1).map Array.toList)
          result.toList ((params[0]).toList.drop i)).toArray := by
  rw [inter_loop1_at_id, interLoop_model_by]
  exact interBy_loop_tie id params hpos result i fuel hf

example : Out.bind (Intersection_loop1 (#[#[1, 2], #[2]] : Array (Array Nat)) 6 #[] (0 : Nat)) (fun r => Out.ok r.1)
    = Out.ok (Model.C11.interLoop 2 [[2]] [] [1, 2]).toArray :=
  inter_loop_tie (#[#[1, 2], #[2]] : Array (Array Nat)) (by decide) #[] 0 6 (by decide)

/-- `Intersection`: same fuel bound as `intersectionBy_tie` -/
theorem intersection_tie (params : Array (Array α)) (fuel : Nat)
    (hf : (params[0]?.map Array.size).getD 0 + params.size + 2 ≤ fuel) :
    Intersection fuel params
      = (match Model.C11.intersection (params.toList.map Array.toList) with
         | .ok l => Out.ok l.toArray
         | .panic => Out.panic) := by
  rw [intersection_model_by, ← intersectionBy_tie id params fuel hf, Intersection, IntersectionBy, inter_loop1_at_id]

example : Intersection 6 (#[#[1, 2], #[2]] : Array (Array Nat))
    = (match Model.C11.intersection ((#[#[1, 2], #[2]] : Array (Array Nat)).toList.map Array.toList) with
       | .ok l => Out.ok l.toArray
       | .panic => Out.panic) :=
  intersection_tie _ 6 (by decide)

example : Intersection 2 (#[] : Array (Array Nat)) = Out.panic :=
  intersection_tie _ 2 (by decide)

end GoguVerif.Theorems.GenTieMore2
