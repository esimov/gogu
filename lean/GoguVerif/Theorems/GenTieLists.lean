import GoguVerif.Gen.Lists
import GoguVerif.Lemmas.C19.Store
import GoguVerif.Lemmas.TieRules
import GoguVerif.Lemmas.ListFacts
/-!
# Regenerated tie for the pointer-level singly linked list (`list/slist.go`)

`Gen/Lists.lean` is regenerated from /repo's current source by `translator/frag_list.go` (statement by statement, over
the store `Heap = List Node` of `Model/SList.lean`).  Each theorem here says that a regenerated method equals the
hand-written model function for ALL stores (also ill-formed ones: dangling or cyclic), handles and values; the fuel
of every walk is the model's (`h.length + 1`).
-/
namespace GoguVerif.Theorems.GenTieLists
open GoguVerif.Model GoguVerif.Model.SList
open GoguVerif.Spec.C19 (Ans)
-- `G.X` is the regenerated `X` of `slist.go`
namespace G
export GoguVerif.Gen.Lists.SList (Init Unshift Append Append_loop1 Find Find_loop1 InsertAfter Replace Replace_loop1
  Pop Pop_loop1 Delete Delete_loop1 Shift Each Each_loop1)
end G

theorem bind_assoc {α β γ : Type} (x : ListRes α) (f : α → ListRes β) (g : β → ListRes γ) :
    (x >>= f >>= g) = (x >>= fun a => f a >>= g) := by
  cases x <;> rfl

theorem load_ok {h : Heap} {a : Nat} {c : Node} (hl : load h a = .ok c) : h[a]? = some c := by
  unfold load at hl
  cases hg : h[a]? with
  | none => rw [hg] at hl; cases hl
  | some n => rw [hg] at hl; cases hl; rfl

theorem load_new (h : Heap) (a : Nat) (x y : Node) (ha : a < h.length) :
    load ((h ++ [x]).set a y) h.length = .ok x := by
  rw [load, Lemmas.C19.get_set_new ha]

theorem slist_init_tie (v : Int) : G.Init v = SList.init v := rfl

theorem slist_unshift_tie (h : Heap) (v : Int) : G.Unshift h v = SList.unshift h v := by
  unfold G.Unshift SList.unshift
  cases load h 0 <;> rfl

theorem slist_shift_tie (h : Heap) : G.Shift h = SList.shift h := by
  unfold G.Shift SList.shift
  simp only [ListRes.deref, ListRes.ok_bind]
  cases load h 0 with
  | ok hd =>
    simp only [ListRes.ok_bind]
    cases hd.next <;> rfl
  | _ => rfl

/-- the walk of `Find`: the regenerated loop is the model's `findLoop`; a hit writes the saved head back. -/
theorem find_loop_tie (fuel : Nat) (h : Heap) (head : Node) (v : Int) (n : Option Nat) :
    G.Find_loop1 fuel h head v n =
      (findLoop fuel h n v >>= fun r =>
        match r with
        | some a => pure (some (some a, true), h.set 0 head, some a)
        | none => pure (none, h, none)) := by
  induction fuel generalizing n with
  | zero => rfl
  | succ k ih =>
    unfold G.Find_loop1 findLoop
    cases n with
    | none => rfl
    | some a =>
      simp only [ListRes.deref, load, reduceCtorEq, if_false, ListRes.ok_bind]
      cases h[a]? with
      | none => rfl
      | some nd =>
        simp only [ListRes.ok_bind]
        split
        · rfl
        · exact ih _

/-- `Find`: the model's store and handle; the flag is "the handle is not nil". -/
theorem slist_find_tie (h : Heap) (v : Int) :
    G.Find h v = (SList.find h v >>= fun p => pure (p.1, p.2, p.2.isSome)) := by
  unfold G.Find SList.find
  simp only [find_loop_tie, bind_assoc]
  refine bind_congr fun hd => bind_congr fun r => ?_
  cases r <;> rfl

theorem append_loop_tie (fuel : Nat) (h : Heap) (a : Nat) :
    G.Append_loop1 fuel h (some a) = (lastAddr fuel h a >>= fun b => pure (h, some b)) := by
  induction fuel generalizing a with
  | zero => rfl
  | succ k ih =>
    unfold G.Append_loop1 lastAddr
    simp only [ListRes.deref, load, ListRes.ok_bind]
    cases h[a]? with
    | none => rfl
    | some nd =>
      simp only [ListRes.ok_bind]
      cases nd.next with
      | none => rfl
      | some b => exact ih b

theorem slist_append_tie (h : Heap) (v : Int) : G.Append h v = SList.append h v := by
  unfold G.Append SList.append
  cases hl : load h 0 with
  | ok hd =>
    -- both branches of the guard go on alike: the self-assignment `l.SingleNode = *head` changes nothing
    simp only [ListRes.ok_bind, ListRes.deref, hl, Lemmas.C19.set_self (load_ok hl), ite_self, append_loop_tie,
      bind_assoc, ListRes.pure_eq]
    obtain ⟨x, _ | b⟩ := hd <;> refine bind_congr fun a => ?_
    all_goals
      cases hla : load h a with
      | ok n =>
        -- `newNode.next = nil` writes back what the fresh cell holds
        have hnew := load_new h a ⟨v, none⟩ { n with next := some h.length } (Lemmas.C19.lt_of_get (load_ok hla))
        simp only [ListRes.ok_bind, hnew]
        rw [Lemmas.C19.set_self (load_ok hnew)]
      | _ => rfl
  | _ => rfl

theorem pop_loop_tie (fuel : Nat) (h : Heap) (a : Nat) :
    G.Pop_loop1 fuel h (some a) = (popLoop fuel h a >>= fun b => pure (h, some b)) := by
  induction fuel generalizing a with
  | zero => rfl
  | succ k ih =>
    unfold G.Pop_loop1 popLoop
    simp only [ListRes.deref, load, ListRes.ok_bind]
    cases h[a]? with
    | none => rfl
    | some nd =>
      simp only [ListRes.ok_bind]
      cases nd.next with
      | none => rfl
      | some b =>
        simp only [ListRes.ok_bind]
        cases h[b]? with
        | none => rfl
        | some bn =>
          simp only [ListRes.ok_bind]
          cases bn.next with
          | none => rfl
          | some c => exact ih b

theorem slist_pop_tie (h : Heap) : G.Pop h = SList.pop h := by
  unfold G.Pop SList.pop
  simp only [ListRes.deref, ListRes.ok_bind]
  refine bind_congr fun hd => ?_
  cases hd.next with
  | none => rfl
  | some b =>
    simp only [reduceCtorEq, if_false, pop_loop_tie, bind_assoc]
    exact bind_congr fun t => rfl

/-- the loop of `Replace` is the model's `replaceLoop` (a `break` is the answer `ok`) -/
theorem replace_loop_tie (fuel : Nat) (h : Heap) (o n : Int) (a : Nat) :
    (G.Replace_loop1 fuel h n o (some a) >>= fun p =>
        match p.1 with
        | some r => pure (p.2.1, r)
        | none => pure (p.2.1, Ans.ok)) = replaceLoop fuel h a o n := by
  induction fuel generalizing a with
  | zero => rfl
  | succ k ih =>
    unfold G.Replace_loop1 replaceLoop
    simp only [ListRes.deref, load, ListRes.ok_bind]
    cases h[a]? with
    | none => rfl
    | some nd =>
      simp only [ListRes.ok_bind]
      cases nd.next with
      | none => simp only [if_true]; split <;> rfl
      | some b =>
        simp only [reduceCtorEq, if_false]
        split
        · rfl
        · exact ih b

theorem slist_replace_tie (h : Heap) (o n : Int) : G.Replace h o n = SList.replace h o n := by
  unfold G.Replace SList.replace
  rw [← replace_loop_tie]
  refine bind_congr fun ⟨r, h', hd⟩ => ?_
  cases r <;> rfl

theorem slist_insertAfter_tie (h : Heap) (prev : Option Nat) (v : Int) :
    G.InsertAfter h prev v = SList.insertAfter h prev v := by
  unfold G.InsertAfter SList.insertAfter
  cases prev with
  | none => rfl
  | some p =>
    simp only [reduceCtorEq, if_false, ListRes.deref, ListRes.ok_bind, slist_find_tie, bind_assoc, ListRes.pure_eq]
    refine bind_congr fun pn => bind_congr fun ⟨h1, r⟩ => ?_
    cases r with
    | none => rfl
    | some a => cases load h1 p <;> rfl

theorem delete_loop_tie (fuel : Nat) (h : Heap) (node a : Nat) (prev : Node) :
    G.Delete_loop1 fuel h (some node) (some a) prev =
      (deleteLoop fuel h a node prev >>= fun p => pure (h, some p.1, p.2)) := by
  induction fuel generalizing a prev with
  | zero => rfl
  | succ k ih =>
    unfold G.Delete_loop1 deleteLoop
    simp only [ListRes.deref, load, ListRes.ok_bind]
    cases h[a]? with
    | none => rfl
    | some hn =>
      simp only [ListRes.ok_bind]
      cases hn.next with
      | none => rfl
      | some b =>
        simp only [reduceCtorEq, if_false, Option.some.injEq]
        split
        · rfl
        · exact ih b hn

theorem slist_delete_tie (h : Heap) (node : Option Nat) :
    G.Delete h node = SList.delete h node := by
  unfold G.Delete SList.delete
  cases node with
  | none => rfl
  | some a =>
    simp only [reduceCtorEq, if_false, ListRes.deref, ListRes.ok_bind, slist_find_tie, bind_assoc, ListRes.pure_eq,
      slist_pop_tie, delete_loop_tie]
    refine bind_congr fun nd => bind_congr fun ⟨h1, r⟩ => ?_
    cases r with
    | none => rfl
    | some f =>
      -- the printed guard `head == node` compares pointers (`Option Nat`), the model's `0 = a` addresses
      refine ite_rel (R := Eq) Option.some_inj (fun _ => ?_) (fun _ => bind_congr fun ⟨head, pv⟩ => ?_)
      -- the printed text reads `head.next` a second time: split on the read, not `bind_congr`
      · cases load h1 0 with
        | ok hd => obtain ⟨_, _ | _⟩ := hd <;> rfl
        | _ => rfl
      · cases load h1 head with
        | ok hn => obtain ⟨_, _ | _⟩ := hn <;> rfl
        | _ => rfl

/-- the walk of `Each`: the callback (a state transformer) is folded over the values the model's `eachLoop` lists -/
theorem each_loop_tie {σ : Type} (fuel : Nat) (h : Heap) (fn : σ → Int → σ) (n : Option Nat) (s : σ) :
    G.Each_loop1 fuel h fn n s = (eachLoop fuel h n >>= fun vs => pure (h, none, vs.foldl fn s)) := by
  induction fuel generalizing n s with
  | zero => rfl
  | succ k ih =>
    unfold G.Each_loop1 eachLoop
    cases n with
    | none => rfl
    | some a =>
      simp only [reduceCtorEq, if_false, ListRes.deref, load, ListRes.ok_bind]
      cases h[a]? with
      | none => rfl
      | some nd =>
        simp only [ListRes.ok_bind, ih]
        cases eachLoop k h nd.next <;> rfl

/-- `Each` with an arbitrary state-transformer callback: the store is unchanged and the callback has been folded over
the values of the model's `each`, in order. -/
theorem slist_each_tie {σ : Type} (h : Heap) (fn : σ → Int → σ) (s : σ) :
    G.Each h fn s = (SList.each h >>= fun p => pure (p.1, p.2.foldl fn s)) := by
  unfold G.Each SList.each
  simp only [each_loop_tie, bind_assoc]
  rfl

/-- `Each` with the logging callback of the harness is the model's `each`. -/
theorem slist_each_log_tie (h : Heap) :
    G.Each h (fun (s : List Int) v => s ++ [v]) [] = SList.each h := by
  rw [slist_each_tie]
  simp only [Lemmas.ListFacts.foldl_snoc, List.nil_append]
  cases SList.each h <;> rfl

/-- a concrete run of the regenerated code: Init 1; Append 2; Unshift 0; Delete (the handle of 1) -/
example :
    (do
      let h ← G.Append (G.Init 1) 2
      let h ← G.Unshift h 0
      let (h, n, _) ← G.Find h 1
      let (h, r) ← G.Delete h n
      let (_, vs) ← G.Each h (fun (s : List Int) v => s ++ [v]) []
      pure (r, vs)) = ListRes.ok (Ans.ok, [0, 2]) := by decide

end GoguVerif.Theorems.GenTieLists
