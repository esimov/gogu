import GoguVerif.Theorems.C02Inst
/-!
# C02 — methods made of several critical sections (`Heap.Clear`, `Cache.Update`) at micro-step granularity

`Model/Fine2.lean`: a method is a list of read-mode pre-sections (each may decide to return early)
followed by one final section; between two sections of one call the lock is free and other threads
may run whole operations.

Under `Fine2.Cond meth step` —

* pre-sections and read-mode final sections do not write the shared state,
* the final section's effect and result do not depend on what the earlier sections read and are
  the sequential meaning `step` of the operation at the state it finds,
* an early return with `r` is taken only when `step` at the state read is a no-op with result `r` —

every fine-grained execution (any number of threads, any interleaving admitted by the RWMutex rules)
is an execution of the ATOMIC system of `Model/Lin.lean` for the sequential object `step`, with the
same events (`inv`, `tau` = a pre-section entered, `lin`, `ret`); linearization point: the acquisition
of the final section, or the release of the deciding pre-section on an early-return path.  So
Theorem 1 of `Theorems/C02.lean` applies verbatim, and the sections of a method run back to back in
isolation ARE `step`.  `Inv` and `Good` are what the statements speak of; `inv_iff` says that `Inv` is `Sections.InvOn`,
the readers-writer invariant of `Lemmas/RWLock.lean` over `Sections.GoodOn`, without a condition on the local state
(`good_iff` for `Good`), and every proof goes through it.

Instances (`twoStep`: the `oneStep` table of `C02Inst` with a pre-check section in front of the
designated operations): `heap.Heap` with `Clear` = {`r`: `Size() == 0` → return} ; {`w`: truncate}
against `heapStep`; `cache.Cache` with `Update` = {`r`: `Get`} ; {`w`: `add`} against
`Model.Cache.call`.  Unlike `C02Inst.heapMode`, where `Clear` is one `w` section, the early-return path of `Clear` takes
only the READ lock here, as the code does.
-/
namespace GoguVerif.Theorems.C02Two
open GoguVerif.Model GoguVerif.Model.Fine2
open GoguVerif.Model.Fine (runSteps)
open GoguVerif.Model.Lock (Mode)
open GoguVerif.Lemmas.Sections (runSteps_ro_eq)
open GoguVerif.Lemmas.RWLock (free_01 no_writer_of_free)

section Generic
variable {σ lam Op Ret : Type}

/-- what a thread's state must satisfy, given the shared state `sh` and the abstract state `ab`: `Sections.GoodOn` without
its condition on the local state (`good_iff`); nothing below reads the clauses, every proof goes through `inv_iff` -/
def Good (meth : Op → Meth σ lam Ret) (step : σ → Op → σ × Ret) (sh ab : σ) : TState σ lam Op Ret → Prop
  | .idle => True
  | .waiting _ op pre _ => ∀ x ∈ pre, x ∈ (meth op).pre
  | .inPre _ op rest sec pre loc =>
      ab = sh ∧ RO rest ∧ (∀ x ∈ pre, x ∈ (meth op).pre) ∧
      (∀ r, sec.early (runSteps rest (sh, loc)).2 = some r → step sh op = (sh, r))
  | .inFinal _ op m rest loc r =>
      m = (meth op).mode ∧ (meth op).result (runSteps rest (sh, loc)).2 = r ∧
      (m = .r → RO rest ∧ ab = sh) ∧ (m = .w → ab = (runSteps rest (sh, loc)).1)
  | .finished _ _ _ => True

structure Inv (meth : Op → Meth σ lam Ret) (step : σ → Op → σ × Ret) (s : State σ lam Op Ret) : Prop where
  /-- a writer inside excludes everybody else -/
  excl : ∀ i j, i ≠ j → holds (s.th i) = some .w → holds (s.th j) = none
  good : ∀ i, Good meth step s.shared s.absObj (s.th i)
  /-- without a writer inside the abstract object is the shared state -/
  noWriter : (∀ i, holds (s.th i) ≠ some .w) → s.absObj = s.shared

theorem good_iff {meth : Op → Meth σ lam Ret} {step : σ → Op → σ × Ret} {sh ab : σ} (ts : TState σ lam Op Ret) :
    Good meth step sh ab ts ↔ Lemmas.Sections.GoodOn meth step (fun _ _ => True) sh ab ts := by
  cases ts with
  | waiting c op pre loc => exact ⟨fun h => ⟨h, trivial⟩, fun h => h.1⟩
  | inPre c op rest sec pre loc =>
    exact ⟨fun ⟨a, b, c, d⟩ => ⟨a, b, c, trivial, d⟩, fun ⟨a, b, c, _, d⟩ => ⟨a, b, c, d⟩⟩
  | _ => exact Iff.rfl

theorem inv_iff {meth : Op → Meth σ lam Ret} {step : σ → Op → σ × Ret} {s : State σ lam Op Ret} :
    Inv meth step s ↔ Lemmas.Sections.InvOn meth step (fun _ _ => True) s :=
  ⟨fun h => ⟨h.excl, fun i => (good_iff _).1 (h.good i), h.noWriter⟩,
   fun h => ⟨h.excl, fun i => (good_iff _).2 (h.good i), h.noWriter⟩⟩

theorem inv_init (meth : Op → Meth σ lam Ret) (step : σ → Op → σ × Ret) (init : σ) :
    Inv meth step (initState init : State σ lam Op Ret) :=
  ⟨nofun, fun _ => trivial, fun _ => rfl⟩

theorem inv_step {meth : Op → Meth σ lam Ret} {step : σ → Op → σ × Ret} (cond : Cond meth step)
    {s s' : State σ lam Op Ret} {e} (hi : Inv meth step s) (st : Step meth s e s') : Inv meth step s' :=
  inv_iff.2 (Lemmas.Sections.invOn_step (.of_cond cond) (inv_iff.1 hi) st)

/-- Theorem 2 for multi-section methods.  Every fine-grained execution is an execution of the
atomic system of the sequential object `step` with the same events, and the invariant (mutual
exclusion, ghost consistency) holds in every reachable state. -/
theorem fine2_refines_atomic {meth : Op → Meth σ lam Ret} {step : σ → Op → σ × Ret} (cond : Cond meth step)
    {init : σ} {h s} (r : Fine2.Reach meth init h s) :
    Inv meth step s ∧ Lin.Reach ⟨init, step⟩ h (abs s) :=
  (Lemmas.Sections.refines_on (.of_cond cond) r).imp_left inv_iff.2

/-- The operations in the order of their linearization
points (acquisition of the final section / release of the deciding pre-section) are a legal
sequential run of `step` producing exactly the values returned and ending in the abstract state. -/
theorem fine2_linearizable {meth : Op → Meth σ lam Ret} {step : σ → Op → σ × Ret} (cond : Cond meth step)
    {init : σ} {h s} (r : Fine2.Reach meth init h s) :
    Lin.Legal ⟨init, step⟩ init (Lin.linOps h) s.absObj :=
  C02.lin_legal (fine2_refines_atomic cond r).2

/-- real-time order: a call that returned before another was invoked is linearized before it -/
theorem fine2_real_time_order {meth : Op → Meth σ lam Ret} {step : σ → Op → σ × Ret} (cond : Cond meth step)
    {init : σ} {h s} (r : Fine2.Reach meth init h s)
    (n1 n2 older : List (Lin.Ev Op Ret)) (ta a tb b : Nat) (opa opb : Op) (ra : Ret)
    (hsplit : h = n1 ++ Lin.Ev.inv tb b opb :: (n2 ++ Lin.Ev.ret ta a opa ra :: older)) :
    (Lin.Ev.lin ta a opa ra ∈ older) ∧
      (∀ t' op' res, Lin.Ev.lin t' b op' res ∉ n2 ++ Lin.Ev.ret ta a opa ra :: older) :=
  C02.real_time_order (fine2_refines_atomic cond r).2 n1 n2 older ta a tb b opa opb ra hsplit

theorem fine2_shared_eq_abs {meth : Op → Meth σ lam Ret} {step : σ → Op → σ × Ret} (cond : Cond meth step)
    {init : σ} {h s} (r : Fine2.Reach meth init h s) (hq : ∀ i, holds (s.th i) ≠ some .w) :
    s.absObj = s.shared :=
  (fine2_refines_atomic cond r).1.noWriter hq

theorem runPre_eq_step {meth : Op → Meth σ lam Ret} {step : σ → Op → σ × Ret} (cond : Cond meth step)
    (op : Op) (pre : List (RSect σ lam Ret)) (hp : ∀ x ∈ pre, x ∈ (meth op).pre) (s : σ) (loc : lam) :
    runPre (meth op) pre (s, loc) = step s op := by
  induction pre generalizing loc with
  | nil => exact cond.final op s loc
  | cons sec rest ih =>
    have hrun := runSteps_ro_eq (cond.preRO op sec (hp sec List.mem_cons_self)) s loc
    rw [runPre, hrun]
    cases he : sec.early (runSteps sec.steps (s, loc)).2 with
    | some r => exact (cond.early op sec (hp sec List.mem_cons_self) s loc r he).symm
    | none => exact ih (fun x hx => hp x (List.mem_cons_of_mem _ hx)) _

/-- under `Cond`, the sections of a method run back to back in isolation ARE the sequential object -/
theorem atomic_eq_step {meth : Op → Meth σ lam Ret} {step : σ → Op → σ × Ret} (cond : Cond meth step)
    (op : Op) (s : σ) : Fine2.atomic (meth op) s = step s op :=
  runPre_eq_step cond op _ (fun _ hx => hx) s _

end Generic

section TwoStep
open GoguVerif.Theorems.C02Inst (oneStep)
variable {σ Op Ret : Type} [Inhabited Ret]

/-- The method table of a sequential object `step` in which the operations with `check op = some g`
consist of TWO critical sections:

* a read-mode pre-section with one micro-step that evaluates the pre-check `g` on the shared state
  into the local state (`some r`: return `r` now; `none`: go on), and
* a final section in mode `mode op` with one micro-step performing `fin op` (the code of the second
  section — NOT `step`, which is the meaning of the whole method).

All other operations are the one-section methods `oneStep step mode op` of `C02Inst`. -/
def twoStep (step : σ → Op → σ × Ret) (mode : Op → Mode) (check : Op → Option (σ → Option Ret))
    (fin : Op → σ → σ × Ret) (op : Op) : Fine2.Meth σ (Option Ret) Ret :=
  match check op with
  | none => ofFine (oneStep step mode op)
  | some g => ⟨[⟨[fun p => (p.1, g p.1)], id⟩], mode op,
               [fun p => ((fin op p.1).1, some (fin op p.1).2)], none, fun o => o.getD default⟩

variable {step : σ → Op → σ × Ret} {mode : Op → Mode} {check : Op → Option (σ → Option Ret)}
  {fin : Op → σ → σ × Ret}

theorem twoStep_none {op : Op} (hc : check op = none) :
    twoStep step mode check fin op = ofFine (oneStep step mode op) := by
  simp only [twoStep, hc]

theorem twoStep_some {op : Op} {g} (hc : check op = some g) :
    twoStep step mode check fin op = ⟨[⟨[fun p => (p.1, g p.1)], id⟩], mode op,
      [fun p => ((fin op p.1).1, some (fin op p.1).2)], none, fun o => o.getD default⟩ := by
  simp only [twoStep, hc]

/-- `Cond` for a `twoStep` table is: observers observe (as for `oneStep`); the second section alone
has the sequential meaning of the whole operation; the pre-check returns early with `r` only where
the operation is a no-op answering `r`. -/
theorem twoStep_cond (ro : ∀ op, mode op = .r → ∀ s, (step s op).1 = s)
    (hfin : ∀ op g, check op = some g → ∀ s, fin op s = step s op)
    (hearly : ∀ op g, check op = some g → ∀ s r, g s = some r → step s op = (s, r)) :
    Cond (twoStep step mode check fin) step := by
  -- the four conditions for one operation, by cases on whether it has a pre-check
  have key (op : Op) :
      (∀ sec ∈ (twoStep step mode check fin op).pre, RO sec.steps ∧
        ∀ s loc r, sec.early (runSteps sec.steps (s, loc)).2 = some r → step s op = (s, r)) ∧
      ((twoStep step mode check fin op).mode = .r → RO (twoStep step mode check fin op).steps) ∧
      ∀ s loc, finalAtomic (twoStep step mode check fin op) s loc = step s op := by
    cases hc : check op with
    | none =>
      rw [twoStep_none hc]
      exact ⟨nofun, C02Inst.oneStep_readOnly step mode ro op, fun _ _ => rfl⟩
    | some g =>
      rw [twoStep_some hc]
      refine ⟨fun sec hsec => ?_, fun hm f hf p => ?_, fun s _ => hfin op g hc s⟩
      · cases List.mem_singleton.1 hsec
        exact ⟨fun f hf p => by cases List.mem_singleton.1 hf; rfl, fun s _ r he => hearly op g hc s r he⟩
      · cases List.mem_singleton.1 hf
        show (fin op p.1).1 = p.1
        rw [hfin op g hc]; exact ro op hm p.1
  exact ⟨fun op sec h => ((key op).1 sec h).1, fun op => (key op).2.1, fun op => (key op).2.2,
    fun op sec h => ((key op).1 sec h).2⟩

/-- Legal run of `step` in linearization order, and the
history is a history of the atomic system of `⟨init, step⟩` (so Theorem 1's `ret_after_lin`,
`lin_after_inv`, `real_time_order` apply). -/
theorem twoStep_fine_linearizable (ro : ∀ op, mode op = .r → ∀ s, (step s op).1 = s)
    (hfin : ∀ op g, check op = some g → ∀ s, fin op s = step s op)
    (hearly : ∀ op g, check op = some g → ∀ s r, g s = some r → step s op = (s, r))
    {init : σ} {h s} (r : Fine2.Reach (twoStep step mode check fin) init h s) :
    Lin.Legal ⟨init, step⟩ init (Lin.linOps h) s.absObj ∧ Lin.Reach ⟨init, step⟩ h (abs s) :=
  ⟨fine2_linearizable (twoStep_cond ro hfin hearly) r, (fine2_refines_atomic (twoStep_cond ro hfin hearly) r).2⟩

/-- the sections of a `twoStep` method run back to back are `step` -/
theorem twoStep_atomic (ro : ∀ op, mode op = .r → ∀ s, (step s op).1 = s)
    (hfin : ∀ op g, check op = some g → ∀ s, fin op s = step s op)
    (hearly : ∀ op g, check op = some g → ∀ s r, g s = some r → step s op = (s, r)) (op : Op) (s : σ) :
    Fine2.atomic (twoStep step mode check fin op) s = step s op :=
  atomic_eq_step (twoStep_cond ro hfin hearly) op s

end TwoStep

section HeapTwo
open GoguVerif.Theorems.C02Inst
variable {α : Type} [Inhabited α] [DecidableEq α]

/-- `Clear`'s first section: `if h.Size() == 0 { return }` — `Size()` takes the read lock, reads
`len(h.data)`, releases it.  No other operation has a pre-check. -/
def heapCheck : HeapOp α → Option (Heap.Heap α → Option (Heap.Outcome (Spec.C03.Out α)))
  | .clear => some (fun h => if h.data.size = 0 then some (.ok .unit) else none)
  | _ => none

/-- `Clear`'s second section: `h.mu.Lock(); h.data = h.data[:0]; h.mu.Unlock()` — an UNCONDITIONAL
truncation (it does not look at what the first section saw). -/
def heapFin (o : HeapOp α) (h : Heap.Heap α) : Heap.Heap α × Heap.Outcome (Spec.C03.Out α) :=
  match o with
  | .clear => ({ h with data := #[] }, .ok .unit)
  | o => heapStep h o

/-- the heap's method table with `Clear` as in the code: two sections -/
def heapMeth2 : HeapOp α → Fine2.Meth (Heap.Heap α) (Option (Heap.Outcome (Spec.C03.Out α)))
    (Heap.Outcome (Spec.C03.Out α)) :=
  twoStep heapStep heapMode heapCheck heapFin

theorem heapStep_clear (h : Heap.Heap α) :
    heapStep h .clear = (if h.data.size = 0 then h else { h with data := #[] }, .ok .unit) := by
  simp [heapStep, HeapOp.toOp, Heap.step, Heap.clear]

/-- the truncation alone has the meaning of the whole `Clear` (on an empty heap it changes nothing) -/
theorem heapFin_eq (op : HeapOp α) (g) (hc : heapCheck op = some g) (h : Heap.Heap α) :
    heapFin op h = heapStep h op := by
  cases op <;> simp [heapCheck] at hc
  rw [heapStep_clear]
  simp only [heapFin]
  split
  · next e =>
    -- an empty heap is its own truncation
    obtain ⟨comp, data⟩ := h
    cases (Array.eq_empty_of_size_eq_zero e : data = #[])
    rfl
  · rfl

/-- `Clear` returns early only on an empty heap, where `Clear` as a whole is a no-op -/
theorem heapCheck_early (op : HeapOp α) (g) (hc : heapCheck op = some g) (h : Heap.Heap α) (r)
    (e : g h = some r) : heapStep h op = (h, r) := by
  cases op with
  | clear =>
    simp only [heapCheck, Option.some.injEq] at hc
    subst hc
    dsimp only at e
    rw [heapStep_clear]
    split at e
    · next e0 => cases e; simp [e0]
    · cases e
  | _ => simp [heapCheck] at hc

theorem heapMeth2_cond : Cond (heapMeth2 (α := α)) heapStep :=
  twoStep_cond heap_observers heapFin_eq heapCheck_early

/-- Heap with the real two-section `Clear`.  Any number of goroutines calling
`Push`/`Pop`/`Peek`/`Size`/`Clear`, interleaved at micro-step granularity, other calls running between
`Clear`'s emptiness check and its truncation: the calls in linearization order are a legal run of the
(totalised) heap model with the values returned, and the history is one of the atomic system. -/
theorem heap_two_linearizable {init : Heap.Heap α} {h s} (r : Fine2.Reach heapMeth2 init h s) :
    Lin.Legal ⟨init, heapStep⟩ init (Lin.linOps h) s.absObj ∧ Lin.Reach ⟨init, heapStep⟩ h (abs s) :=
  twoStep_fine_linearizable heap_observers heapFin_eq heapCheck_early r

/-- From an invariant state: no call panics or hangs, the invariant holds of the abstract state,
and the run is allowed by the heap specification -/
theorem heap_two_linearizable_spec {init : Heap.Heap α} (hi : Lemmas.C03.Inv init) {h s}
    (r : Fine2.Reach heapMeth2 init h s) :
    Lemmas.C03.Inv s.absObj ∧ ∃ outs, (Lin.linOps h).map (·.2) = outs.map Heap.Outcome.ok ∧
      Spec.C03.SpecRun (C03.abs init) ((Lin.linOps h).map (·.1.toOp)) outs (C03.abs s.absObj) :=
  heap_legal_spec (heap_two_linearizable r).1 hi

/-- C01's "no call panics, the instance stays usable" for the heap with the real `Clear`.  From an
invariant state, in every reachable state of the fine-grained two-section system: the abstract state
satisfies the invariant, every RETURNED value is an `ok` outcome (neither Go's index panic nor the
`moveUp` hang), and whenever no writer is inside, the concrete `data` array itself satisfies the
invariant — so whatever is called next is covered by the same theorems. -/
theorem heap_two_concurrent_never_panics {init : Heap.Heap α} (hi : Lemmas.C03.Inv init) {h s}
    (r : Fine2.Reach heapMeth2 init h s) :
    Lemmas.C03.Inv s.absObj ∧
      (∀ t c op res, Lin.Ev.ret t c op res ∈ h → ∃ out, res = Heap.Outcome.ok out) ∧
      ((∀ i, holds (s.th i) ≠ some .w) → Lemmas.C03.Inv s.shared) := by
  obtain ⟨i, -, g⟩ := C02More.reach_preserves (O := ⟨init, heapStep⟩) Lemmas.C03.Inv
    (fun _ res => ∃ out, res = Heap.Outcome.ok out) heapStep_inv hi (fine2_refines_atomic heapMeth2_cond r).2
  exact ⟨i, g, fun hq => fine2_shared_eq_abs heapMeth2_cond r hq ▸ i⟩

/-- the sections of `Clear` run back to back are the model's `Clear` -/
theorem heapMeth2_atomic (op : HeapOp α) (h : Heap.Heap α) : Fine2.atomic (heapMeth2 op) h = heapStep h op :=
  atomic_eq_step heapMeth2_cond op h

end HeapTwo

section CacheTwo
open GoguVerif.Theorems.C02Inst

/-- `Update`'s first section: `item, err := c.Get(key); if item != nil && err != nil { return err }`.
`Get` (read lock) answers an item XOR an error, so neither branch returns: the function is constantly `none`, and the
`match` is kept for the two outcomes of `Get` in the code (so `cacheCheck_early` has a hypothesis that is never met). -/
def cacheCheck (now : Int) : CacheOp → Option (Cache.Items → Option Spec.C08.Out)
  | .update k _ _ => some (fun m =>
      match Cache.get now m k with
      | some _ => none      -- item != nil, err == nil
      | none => none)       -- item == nil
  | _ => none

/-- `Update`'s second section: `return c.add(key, val, d)` (write lock; `store`) -/
def cacheFin (cfg : Cache.Cfg) (now : Int) (o : CacheOp) (m : Cache.Items) : Cache.Items × Spec.C08.Out :=
  match o with
  | .update k v d => match Cache.add cfg now m k v d with | (m', e) => (m', .err e)
  | o => cacheCall cfg now m o

def cacheMeth2 (cfg : Cache.Cfg) (now : Int) : CacheOp → Fine2.Meth Cache.Items (Option Spec.C08.Out) Spec.C08.Out :=
  twoStep (cacheCall cfg now) cacheMode (cacheCheck now) (cacheFin cfg now)

theorem cacheFin_eq (cfg : Cache.Cfg) (now : Int) (op : CacheOp) (g) (hc : cacheCheck now op = some g)
    (m : Cache.Items) : cacheFin cfg now op m = cacheCall cfg now m op := by
  cases op <;> simp [cacheCheck] at hc
  simp only [cacheFin, cacheCall, CacheOp.toOp, Cache.call, Cache.update]
  cases Cache.get now m _ <;> rfl

theorem cacheCheck_early (cfg : Cache.Cfg) (now : Int) (op : CacheOp) (g) (hc : cacheCheck now op = some g)
    (m : Cache.Items) (r) (e : g m = some r) : cacheCall cfg now m op = (m, r) := by
  cases op <;> simp [cacheCheck] at hc
  subst hc
  dsimp only at e
  cases hg : Cache.get now m _ <;> rw [hg] at e <;> cases e

theorem cacheMeth2_cond (cfg : Cache.Cfg) (now : Int) : Cond (cacheMeth2 cfg now) (cacheCall cfg now) :=
  twoStep_cond (cacheModel_observers cfg now) (cacheFin_eq cfg now) (cacheCheck_early cfg now)

/-- Cache with the real two-section `Update` (code model `Model.Cache.call cfg now`): other calls
— a `Delete`, a `Set`, another `Update` of the same key — may run between `Update`'s `Get` and its
`add`; every history is a legal sequential run in linearization order (the `add`'s acquisition). -/
theorem cache_two_linearizable (cfg : Cache.Cfg) (now : Int) {init : Cache.Items} {h s}
    (r : Fine2.Reach (cacheMeth2 cfg now) init h s) :
    Lin.Legal ⟨init, cacheCall cfg now⟩ init (Lin.linOps h) s.absObj ∧
      Lin.Reach ⟨init, cacheCall cfg now⟩ h (abs s) :=
  twoStep_fine_linearizable (cacheModel_observers cfg now) (cacheFin_eq cfg now) (cacheCheck_early cfg now) r

theorem cacheMeth2_atomic (cfg : Cache.Cfg) (now : Int) (op : CacheOp) (m : Cache.Items) :
    Fine2.atomic (cacheMeth2 cfg now op) m = cacheCall cfg now m op :=
  atomic_eq_step (cacheMeth2_cond cfg now) op m

end CacheTwo

section Table
open GoguVerif.Model.Lock (MethodEntry PathEntry Sect)

def readOnlySect (a : Sect) : Bool := a.mode == some .r && a.accs.all (fun x => !x.write)

/-- a path of a two-section method: the read-only `r` pre-section alone (early return), or followed
by one `w` section — the shape of a `twoStep` method whose final mode is `w` -/
def twoShape (p : PathEntry) : Bool :=
  match p.sects with
  | [a] => readOnlySect a
  | [a, b] => readOnlySect a && b.mode == some .w
  | _ => false

def twoShapeOk (t : List MethodEntry) : Bool :=
  C02.lastSectionOps.all fun o =>
    t.any (fun m => m.type == o.1 && m.method == o.2 && m.inst == 0) &&
    t.all (fun m => if m.type == o.1 && m.method == o.2 && m.inst == 0 then m.paths.all twoShape else true)

/-- In the table regenerated from the Go source every path of `Heap.Clear` and `Cache.Update` is a
read-only `r` section alone or followed by one `w` section, the paths a `twoStep` method can take.
(The `r`-only path of `Cache.Update` is the `return err` after `Get`, which `cacheCheck` never takes.) -/
theorem two_section_shape_ok : twoShapeOk GoguVerif.Gen.lockTable = true := by decide +kernel

theorem two_section_modes : (heapMeth2 (α := Int) .clear).mode = .w ∧
    ∀ cfg now k v d, (cacheMeth2 cfg now (.update k v d)).mode = .w :=
  ⟨rfl, fun _ _ _ _ _ => rfl⟩

/-- not vacuous: a single write-locked section is not of this shape -/
example : twoShape { sects := [⟨some .w, [⟨0, true⟩]⟩], flags := [] } = false := by decide +kernel

end Table

section Examples
open GoguVerif.Theorems.C02Inst

theorem canEnter_of_free {σ lam Op Ret : Type} (s : Fine2.State σ lam Op Ret) (i : Nat) (m : Mode)
    (h : ∀ j, j ≠ i → Fine2.holds (s.th j) = none) : Fine2.canEnter s i m := by
  cases m with
  | r => exact no_writer_of_free h
  | w => exact h

/-- Min-heap `[3]`.  Thread 0 calls `Clear`, thread 1 calls `Push 7`.
Thread 0 runs its first section (`Size() == 0`? no) and releases the read lock; THEN thread 1 runs its
whole `Push` (acquire, micro-step, release, return); then thread 0 takes the write lock and truncates.
The history (newest first) is reachable, the final heap is empty (the pushed 7 is cleared as well),
and the linearization order is `Push 7 ; Clear`. -/
theorem clear_push_between :
    ∃ s, Fine2.Reach (heapMeth2 (α := Int)) ⟨C03.ltI, #[3]⟩
      [.ret 0 0 .clear (.ok .unit), .lin 0 0 .clear (.ok .unit),
       .ret 1 1 (.push 7) (.ok .unit), .lin 1 1 (.push 7) (.ok .unit),
       .tau 0 0, .inv 1 1 (.push 7), .inv 0 0 .clear] s ∧
      s.shared.data = #[] ∧ s.absObj = s.shared ∧
      Lin.linOps ([.ret 0 0 .clear (.ok .unit), .lin 0 0 .clear (.ok .unit),
       .ret 1 1 (.push 7) (.ok .unit), .lin 1 1 (.push 7) (.ok .unit),
       .tau 0 0, .inv 1 1 (.push 7), .inv 0 0 .clear] :
         List (Lin.Ev (HeapOp Int) (Heap.Outcome (Spec.C03.Out Int)))) =
        [(.push 7, .ok .unit), (.clear, .ok .unit)] := by
  have r0 : Fine2.Reach (heapMeth2 (α := Int)) ⟨C03.ltI, #[3]⟩ [] (Fine2.initState _) := Fine2.Reach.init
  have r1 := Fine2.Reach.step r0 (Fine2.Step.inv _ 0 .clear rfl)
  have r2 := Fine2.Reach.step r1 (Fine2.Step.inv _ 1 (.push 7) rfl)
  -- thread 0: first section of Clear (the heap is not empty: go on), lock released
  have r3 := Fine2.Reach.step r2 (Fine2.Step.acquirePre _ 0 0 .clear _ _ _ rfl
    (canEnter_of_free _ _ _ (free_01 Fine2.holds (fun h => absurd rfl h) (fun _ => rfl) fun _ => rfl)))
  have r4 := Fine2.Reach.silent r3 (Fine2.Step.microPre _ 0 0 .clear _ _ _ _ _ rfl)
  have r5 := Fine2.Reach.silent r4 (Fine2.Step.releaseCont _ 0 0 .clear _ _ _ rfl rfl)
  -- thread 1: the whole Push, between Clear's two sections
  have r6 := Fine2.Reach.step r5 (Fine2.Step.acquireFinal _ 1 1 (.push 7) _ rfl
    (canEnter_of_free _ _ _ (free_01 Fine2.holds (fun _ => rfl) (fun h => absurd rfl h) fun _ => rfl)))
  have r7 := Fine2.Reach.silent r6 (Fine2.Step.microFinal _ 1 1 (.push 7) _ _ _ _ _ rfl)
  have r8 := Fine2.Reach.silent r7 (Fine2.Step.releaseFinal _ 1 1 (.push 7) _ _ _ rfl)
  have r9 := Fine2.Reach.step r8 (Fine2.Step.ret _ 1 1 (.push 7) _ rfl)
  -- thread 0: second section of Clear
  have r10 := Fine2.Reach.step r9 (Fine2.Step.acquireFinal _ 0 0 .clear _ rfl
    (canEnter_of_free _ _ _ (free_01 Fine2.holds (fun h => absurd rfl h) (fun _ => rfl) fun _ => rfl)))
  have r11 := Fine2.Reach.silent r10 (Fine2.Step.microFinal _ 0 0 .clear _ _ _ _ _ rfl)
  have r12 := Fine2.Reach.silent r11 (Fine2.Step.releaseFinal _ 0 0 .clear _ _ _ rfl)
  have r13 := Fine2.Reach.step r12 (Fine2.Step.ret _ 0 0 .clear _ rfl)
  exact ⟨_, r13, rfl, rfl, rfl⟩

/-- The early-return path: on the empty heap `Clear` is its read-locked first section alone; it is
linearized at the release of that section and never takes the write lock. -/
theorem clear_early_return :
    ∃ s, Fine2.Reach (heapMeth2 (α := Int)) (Heap.new C03.ltI)
      [.ret 0 0 .clear (.ok .unit), .lin 0 0 .clear (.ok .unit), .tau 0 0, .inv 0 0 .clear] s ∧
      s.shared.data = #[] := by
  have r0 : Fine2.Reach (heapMeth2 (α := Int)) (Heap.new C03.ltI) [] (Fine2.initState _) := Fine2.Reach.init
  have r1 := Fine2.Reach.step r0 (Fine2.Step.inv _ 0 .clear rfl)
  have r2 := Fine2.Reach.step r1 (Fine2.Step.acquirePre _ 0 0 .clear _ _ _ rfl
    (canEnter_of_free _ _ _ (free_01 Fine2.holds (fun h => absurd rfl h) (fun _ => rfl) fun _ => rfl)))
  have r3 := Fine2.Reach.silent r2 (Fine2.Step.microPre _ 0 0 .clear _ _ _ _ _ rfl)
  have r4 := Fine2.Reach.step r3 (Fine2.Step.releaseEarly _ 0 0 .clear _ _ _ (.ok .unit) rfl rfl)
  have r5 := Fine2.Reach.step r4 (Fine2.Step.ret _ 0 0 .clear _ rfl)
  exact ⟨_, r5, rfl⟩

/-- `Update 1 ↦ 11` (thread 0) with `Delete 1` (thread 1) running between its `Get` and its `add`: the
update still stores (its second section does not depend on what `Get` saw) — sequentially `Delete ; Update`. -/
theorem update_delete_between :
    ∃ s, Fine2.Reach (cacheMeth2 ⟨0, 0, false⟩ 0) [(1, ⟨10, 0⟩)]
      [.ret 0 0 (.update 1 11 0) (.err false), .lin 0 0 (.update 1 11 0) (.err false),
       .ret 1 1 (.delete 1) (.err false), .lin 1 1 (.delete 1) (.err false),
       .tau 0 0, .inv 1 1 (.delete 1), .inv 0 0 (.update 1 11 0)] s ∧
      s.shared = [(1, ⟨11, 0⟩)] := by
  have r0 : Fine2.Reach (cacheMeth2 ⟨0, 0, false⟩ 0) [(1, ⟨10, 0⟩)] [] (Fine2.initState _) := Fine2.Reach.init
  have r1 := Fine2.Reach.step r0 (Fine2.Step.inv _ 0 (.update 1 11 0) rfl)
  have r2 := Fine2.Reach.step r1 (Fine2.Step.inv _ 1 (.delete 1) rfl)
  have r3 := Fine2.Reach.step r2 (Fine2.Step.acquirePre _ 0 0 (.update 1 11 0) _ _ _ rfl
    (canEnter_of_free _ _ _ (free_01 Fine2.holds (fun h => absurd rfl h) (fun _ => rfl) fun _ => rfl)))
  have r4 := Fine2.Reach.silent r3 (Fine2.Step.microPre _ 0 0 (.update 1 11 0) _ _ _ _ _ rfl)
  have r5 := Fine2.Reach.silent r4 (Fine2.Step.releaseCont _ 0 0 (.update 1 11 0) _ _ _ rfl rfl)
  have r6 := Fine2.Reach.step r5 (Fine2.Step.acquireFinal _ 1 1 (.delete 1) _ rfl
    (canEnter_of_free _ _ _ (free_01 Fine2.holds (fun _ => rfl) (fun h => absurd rfl h) fun _ => rfl)))
  have r7 := Fine2.Reach.silent r6 (Fine2.Step.microFinal _ 1 1 (.delete 1) _ _ _ _ _ rfl)
  have r8 := Fine2.Reach.silent r7 (Fine2.Step.releaseFinal _ 1 1 (.delete 1) _ _ _ rfl)
  have r9 := Fine2.Reach.step r8 (Fine2.Step.ret _ 1 1 (.delete 1) _ rfl)
  have r10 := Fine2.Reach.step r9 (Fine2.Step.acquireFinal _ 0 0 (.update 1 11 0) _ rfl
    (canEnter_of_free _ _ _ (free_01 Fine2.holds (fun h => absurd rfl h) (fun _ => rfl) fun _ => rfl)))
  have r11 := Fine2.Reach.silent r10 (Fine2.Step.microFinal _ 0 0 (.update 1 11 0) _ _ _ _ _ rfl)
  have r12 := Fine2.Reach.silent r11 (Fine2.Step.releaseFinal _ 0 0 (.update 1 11 0) _ _ _ rfl)
  have r13 := Fine2.Reach.step r12 (Fine2.Step.ret _ 0 0 (.update 1 11 0) _ rfl)
  exact ⟨_, r13, rfl⟩

/-- the hypothesis of `heap_two_linearizable_spec` is met by `NewHeap(<)` -/
example : Lemmas.C03.Inv (Heap.new C03.ltI) := C03.inv_init C03.swo_lt

end Examples

end GoguVerif.Theorems.C02Two
