import GoguVerif.Lemmas.C16Helpers
import GoguVerif.Lemmas.C16Fixtures
/-!
# C16 — views and in-place helpers: the exception to "an earlier result is never altered", stated and proved

The clause "a result a helper has returned is never altered by a later call on the same arguments" has one family of
exceptions that the property's own text creates: `Drop` and `Chunk` return VIEWS of their argument, and `Reverse` /
`Reject` (and the other in-place helpers) are allowed to rewrite their one argument.  A view of `s` taken earlier is
then altered by a later in-place call on `s`.  This file makes the exception precise:

* `inplace_alters_only_overlapping` — an in-place call on `s` can alter an earlier result `t` ONLY if `t` lies in the
  same backing array as `s` and overlaps the window of `s`: so results of non-view helpers (fresh storage, by the
  `…_refines` theorems) and views of OTHER arguments are never altered;
* `reverse_after_drop_alters_view` — a concrete witness that the exception does occur: the literal clause is false
  for the pair (view helper, in-place helper on the same argument), which is the case the monitor's rule
  `Spec.C16.pairOk` excuses.
-/
namespace GoguVerif.Theorems.C16Views
open GoguVerif.Model.Store GoguVerif.Model.StoreHelpers GoguVerif.Theorems.C16Helpers

theorem inplace_alters_only_overlapping {σ σ' : Store} {s t : Slice} (hp : InPlace σ σ' s) (ht : WF σ t)
    (hchg : elems σ' t ≠ elems σ t) :
    t.arr = s.arr ∧ s.off < t.off + t.len ∧ t.off < s.off + s.len :=
  Decidable.byContradiction fun hn => hchg (inplace_keeps hp ht
    ((Decidable.not_and_iff_not_or_not.mp hn).imp_right fun h =>
      (Decidable.not_and_iff_not_or_not.mp h).imp Nat.le_of_not_lt Nat.le_of_not_lt)).1

/-- the store and argument of the examples of `Theorems/C16Helpers.lean`: `arg0 = [1, 2, 3, 4]` inside a larger array -/
example : elems σx arg0 = [1, 2, 3, 4] := by decide +kernel

/-- The exception is real: `v := Drop(s, 2)` shows `[3, 4]`; after `Reverse(s)` the very same result shows `[2, 1]`. -/
theorem reverse_after_drop_alters_view :
    ∃ v σ', dropStore σx arg0 2 = some (σx, v) ∧ elems σx v = [3, 4] ∧
      reverseStore σx arg0 = some (σ', arg0) ∧ elems σ' v = [2, 1] := by
  refine ⟨{ arr := 0, off := 3, len := 2, cap := 4 }, [[-555, 4, 3, 2, 1, -777, -777], [2, 9, -888]], ?_, ?_, ?_, ?_⟩ <;>
    decide +kernel

end GoguVerif.Theorems.C16Views
