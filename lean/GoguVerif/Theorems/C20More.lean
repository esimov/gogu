import GoguVerif.Theorems.C20
/-!
# C20 — the throttle: the POSITIVE directions

`Theorems/C20.lean` says what a throttle never does (two permissions in a period, a permission after
`Cancel`, a permission for a trigger inside the period when not trailing).  This file states what it
DOES, for every reachable state `trun cfg ch evs`, every period `cfg.dur`, every choice function:

* `trailing_trigger_kept`, `trailing_trigger_kept_eventually` — a trailing throttle keeps a trigger that
  arrives inside the period: the timer is armed for the end of the period and yields one permission there;
* `trigger_after_period_granted` — a trigger after the period (or the very first one) is a permission at once;
* `next_takes_waiting_permission` — `Next` takes a waiting permission at once;
* `not_trailing_trigger_in_period_lost_forever` — without trailing a trigger inside the period has no
  effect on any later state (but the ghost log and the event counter).
-/
namespace GoguVerif.Theorems.C20More
open GoguVerif.Spec.C20 GoguVerif.Model.C20 GoguVerif.Lemmas.C20T GoguVerif.Lemmas.C20T2
  GoguVerif.Theorems.C20

theorem wake_step_fields (ch : Choice) (s r : TState) (w : Int × Nat) (k : Nat) (t : Int)
    (hr : r = { wake ch s w with now := t, n := k }) :
    r.now = t ∧ r.stop = s.stop ∧ r.scheduled = s.scheduled ∧ r.falses = s.falses ∧ r.calls = s.calls ∧
    ((s.blocked = [] ∧ r.waiting = true ∧ r.wsrc = w ∧ r.grants = s.grants ∧ r.last = s.last ∧
        r.blocked = [] ∧ r.doneLog = s.doneLog) ∨
     (∃ id, id ∈ s.blocked ∧ r.waiting = false ∧
        r.grants = s.grants ++ [{ t := s.now, id := id, ctime := w.1, cepoch := w.2, prevT := s.last }] ∧
        r.last = some s.now ∧ r.doneLog = s.doneLog ++ [(id, s.now, true)] ∧
        r.blocked.length + 1 = s.blocked.length)) := by
  subst hr
  have h := wake_up ch s w
  generalize wake ch s w = s' at h
  cases h with
  | waits hb => exact ⟨rfl, rfl, rfl, rfl, rfl, Or.inl ⟨hb, rfl, rfl, rfl, rfl, hb, rfl⟩⟩
  | grants id rest hid hlen _ => exact ⟨rfl, rfl, rfl, rfl, rfl, Or.inr ⟨id, hid, rfl, rfl, rfl, rfl, hlen⟩⟩

/-- **Completeness for direct triggers** (both trailing settings).  In a reachable state that is not
stopped and has no permission waiting, a `Call` arriving strictly after the period
(`now - last > duration`), or before any permission was handed out, makes a permission available at
once: with nobody blocked in `Next` the permission waits (`waiting = true`, caused by this very call);
otherwise one blocked caller returns `true` at this very instant — a new last grant stamped `s.now`,
answering this call — and one caller fewer is blocked (which ones: `Lemmas.C20T2.Woke`).  No timer is pending
afterwards, nobody is refused. -/
theorem trigger_after_period_granted (cfg : TCfg) (ch : Choice) (evs : List TEv) (s s' : TState)
    (hs : s = trun cfg ch evs) (hs' : s' = trun cfg ch (evs ++ [.call]))
    (hstop : s.stop = false) (hw : s.waiting = false)
    (hafter : s.last = none ∨ ∃ l, s.last = some l ∧ s.now - l > cfg.dur) :
    s'.now = s.now ∧ s'.stop = false ∧ s'.scheduled = none ∧ s'.falses = s.falses ∧
    s'.calls = s.calls ++ [(s.now, s.grants.length)] ∧
    ((s.blocked = [] ∧ s'.waiting = true ∧ s'.wsrc = (s.now, s.grants.length) ∧ s'.grants = s.grants ∧
        s'.last = s.last ∧ s'.blocked = [] ∧ s'.doneLog = s.doneLog) ∨
     (∃ id, id ∈ s.blocked ∧ s'.waiting = false ∧
        s'.grants = s.grants ++ [{ t := s.now, id := id, ctime := s.now, cepoch := s.grants.length, prevT := s.last }] ∧
        s'.last = some s.now ∧ s'.doneLog = s.doneLog ++ [(id, s.now, true)] ∧
        s'.blocked.length + 1 = s.blocked.length)) := by
  have h : TInv cfg s := by rw [hs]; exact trun_inv cfg ch evs
  rw [trun_snoc, ← hs] at hs'
  have ha : ∀ l, s.last = some l → s.now - l > cfg.dur := fun l hl =>
    hafter.elim (fun h0 => nomatch h0.symm.trans hl) fun ⟨_, h0, h1⟩ => Option.some.inj (h0.symm.trans hl) ▸ h1
  have hsc := h.sched_none_of_after ha
  have hcall : tpre cfg ch s .call = _ := tcall_wake cfg ch hw hstop ha
  have hwsc := (wake_scheduled ch (logCall s) (s.now, s.grants.length)).trans hsc
  -- no timer is pending after the wake-up, so the step is its pre-action
  rw [tstep_instant cfg ch s .call rfl (by rw [hcall]; exact fun sc h' => nomatch hwsc.symm.trans h'), hcall] at hs'
  obtain ⟨h1, h2, h3, h4, h5, h6⟩ := wake_step_fields ch (logCall s) s' _ _ _ hs'
  exact ⟨h1.trans (wake_frame ch (logCall s) _).now, h2.trans hstop, h3.trans hsc, h4, h5, h6⟩

example :
    let s := trun ⟨40, false⟩ (fun _ _ => 0) [.call, .next 0, .advance 41]
    s.stop = false ∧ s.waiting = false ∧ (∃ l, s.last = some l ∧ s.now - l > (40 : Nat)) ∧ s.blocked = [] ∧
    (trun ⟨40, false⟩ (fun _ _ => 0) [.call, .next 0, .advance 41, .call]).waiting = true := by
  refine ⟨by decide +kernel, by decide +kernel, ⟨0, by decide +kernel, by decide +kernel⟩, by decide +kernel,
    by decide +kernel⟩

/-- **`Next` returns `true` immediately when a permission is waiting.**  In a reachable state that is not
stopped and has `waiting = true`, `Next` (caller `id`) does not block: a grant for `id` stamped `s.now`
(answering the trigger that set `waiting`, which is in the trigger log and belongs to the current epoch)
is appended, the completion log records `(id, now, true)`, `waiting` becomes false and `last` is the
current instant.  Nobody is blocked, nobody is refused, no time passes. -/
theorem next_takes_waiting_permission (cfg : TCfg) (ch : Choice) (evs : List TEv) (id : Nat)
    (s s' : TState) (hs : s = trun cfg ch evs) (hs' : s' = trun cfg ch (evs ++ [.next id]))
    (hstop : s.stop = false) (hw : s.waiting = true) :
    s'.grants = s.grants ++ [{ t := s.now, id := id, ctime := s.wsrc.1, cepoch := s.wsrc.2, prevT := s.last }] ∧
    s'.doneLog = s.doneLog ++ [(id, s.now, true)] ∧
    s'.waiting = false ∧ s'.last = some s.now ∧ s'.now = s.now ∧ s'.stop = false ∧
    s'.blocked = [] ∧ s'.falses = s.falses ∧ s'.scheduled = none ∧
    s.wsrc ∈ s.calls ∧ s.wsrc.2 = s.grants.length := by
  have h : TInv cfg s := by rw [hs]; exact trun_inv cfg ch evs
  have hj := h.wait hw
  rw [trun_snoc, ← hs, tstep_next cfg ch s id (hs ▸ (Lemmas.C20Code.trun_reach cfg ch evs).strict), tnext_grant id hw hstop] at hs'
  subst hs'
  exact ⟨rfl, rfl, rfl, rfl, rfl, hstop, h.bw hw, rfl, h.sched_none_of_waiting hw, hj.logged, hj.epoch⟩

example :
    (trun ⟨40, true⟩ (fun _ _ => 0) [.call]).stop = false ∧
    (trun ⟨40, true⟩ (fun _ _ => 0) [.call]).waiting = true ∧
    ((trun ⟨40, true⟩ (fun _ _ => 0) [.call, .next 7]).grants.map fun g => (g.t, g.id)) = [(0, 7)] := by
  decide +kernel

theorem tstep_call_armed {cfg : TCfg} {s : TState} (ch : Choice) (l : Int)
    (htr : cfg.trailing = true) (hstop : s.stop = false) (hw : s.waiting = false)
    (hsc : s.scheduled = none) (hlast : s.last = some l) (hlt : s.now < l + cfg.dur) :
    tstep cfg ch s .call =
      { logCall s with
          scheduled := some { deadline := l + cfg.dur, ctime := s.now, cepoch := s.grants.length },
          n := s.n + 1 } := by
  have hcall : tpre cfg ch s .call = _ := tcall_arm cfg ch hw hstop hlast (in_period.mpr (Int.le_of_lt hlt)) htr hsc
  rw [tstep_instant cfg ch s .call rfl (by rw [hcall]; exact fun sc h' => Option.some.inj h' ▸ hlt), hcall]
  rfl

theorem tstep_call_at_end {cfg : TCfg} {s : TState} (ch : Choice) (l : Int)
    (htr : cfg.trailing = true) (hstop : s.stop = false) (hw : s.waiting = false)
    (hsc : s.scheduled = none) (hlast : s.last = some l) (hnow : s.now = l + cfg.dur) :
    tstep cfg ch s .call =
      { wake ch { logCall s with now := l + cfg.dur, scheduled := none } (s.now, s.grants.length) with
          now := s.now,
          n := (wake ch { logCall s with now := l + cfg.dur, scheduled := none } (s.now, s.grants.length)).n + 1 } := by
  have hcall := tcall_arm cfg ch hw hstop hlast (in_period.mpr (Int.le_of_eq hnow)) htr hsc
  rw [tstep_eq, show tpre cfg ch s .call = _ from hcall, advanceTo_fires ch
    { logCall s with scheduled := some { deadline := l + cfg.dur, ctime := s.now, cepoch := s.grants.length } }
    { deadline := l + cfg.dur, ctime := s.now, cepoch := s.grants.length } _
    rfl hstop (Int.le_of_eq hnow) ((Int.add_zero s.now).symm ▸ Int.le_of_eq hnow.symm)]
  simp [logCall, TEv.dt]

/-- **A trailing throttle keeps the trigger that arrives inside the period, and it yields exactly one
permission at the end of the period.**  Reachable state `s`: not stopped, no permission waiting, no timer
pending, last permission at `l`, and `now - l ≤ duration`.  Then

* `Call` arms the trailing timer with deadline exactly `l + duration` (recording this call as its cause);
  when the period has not yet ended (`now < l + duration`) that — and the ghost log — is ALL the step does;
* once time has moved to or past the deadline (`advance dt`, `now + dt ≥ l + duration`), the timer has run
  AT the deadline: with nobody blocked in `Next` a permission waits (`waiting = true`, caused by that
  call, no new grant yet); otherwise exactly one blocked caller has returned `true` with a grant stamped
  `l + duration` answering that call, and one caller fewer is blocked (which ones: `Lemmas.C20T2.Woke`).  The
  timer is gone, nobody was refused. -/
theorem trailing_trigger_kept (cfg : TCfg) (ch : Choice) (evs : List TEv) (l : Int) (dt : Nat)
    (s s1 s2 : TState) (hs : s = trun cfg ch evs) (hs1 : s1 = trun cfg ch (evs ++ [.call]))
    (hs2 : s2 = trun cfg ch (evs ++ [.call, .advance dt]))
    (htr : cfg.trailing = true) (hstop : s.stop = false) (hw : s.waiting = false)
    (hsc : s.scheduled = none) (hlast : s.last = some l) (hin : s.now - l ≤ cfg.dur)
    (hdt : s.now + dt ≥ l + cfg.dur) :
    (tcall cfg ch s).scheduled = some { deadline := l + cfg.dur, ctime := s.now, cepoch := s.grants.length } ∧
    (s.now < l + cfg.dur →
      s1 = { logCall s with
              scheduled := some { deadline := l + cfg.dur, ctime := s.now, cepoch := s.grants.length },
              n := s.n + 1 }) ∧
    s2.now = s.now + dt ∧ s2.stop = false ∧ s2.scheduled = none ∧ s2.falses = s.falses ∧
    s2.calls = s.calls ++ [(s.now, s.grants.length)] ∧
    ((s.blocked = [] ∧ s2.waiting = true ∧ s2.wsrc = (s.now, s.grants.length) ∧ s2.grants = s.grants ∧
        s2.last = some l ∧ s2.blocked = [] ∧ s2.doneLog = s.doneLog) ∨
     (∃ id, id ∈ s.blocked ∧ s2.waiting = false ∧
        s2.grants = s.grants ++ [{ t := l + cfg.dur, id := id, ctime := s.now, cepoch := s.grants.length, prevT := some l }] ∧
        s2.last = some (l + cfg.dur) ∧ s2.doneLog = s.doneLog ++ [(id, l + cfg.dur, true)] ∧
        s2.blocked.length + 1 = s.blocked.length)) := by
  have hcall := tcall_arm cfg ch hw hstop hlast hin htr hsc
  have h12 : s2 = tstep cfg ch s1 (.advance dt) := by
    rw [hs2, hs1, ← trun_snoc, List.append_assoc]; rfl
  rw [trun_snoc, ← hs] at hs1
  refine ⟨by rw [hcall], fun hlt => by rw [hs1]; exact tstep_call_armed ch l htr hstop hw hsc hlast hlt, ?_⟩
  -- either way the callback runs in `q` (the state at the deadline, timer cleared) and the clock moves on
  let q : TState := { logCall s with now := l + cfg.dur, scheduled := none }
  have he : ∃ k k', s2 = { wake ch { q with n := k' } (s.now, s.grants.length) with now := s.now + dt, n := k } := by
    by_cases hlt : s.now < l + cfg.dur
    · -- the timer is pending after the call and runs during the advance
      refine ⟨s.n + 1 + 1, s.n + 1, ?_⟩
      rw [h12, hs1, tstep_call_armed ch l htr hstop hw hsc hlast hlt,
        tstep_advance_fires cfg ch
          { logCall s with
              scheduled := some { deadline := l + cfg.dur, ctime := s.now, cepoch := s.grants.length },
              n := s.n + 1 }
          { deadline := l + cfg.dur, ctime := s.now, cepoch := s.grants.length } dt rfl hstop (Int.le_of_lt hlt) hdt]
      rfl
    · -- the call arrives exactly at the end of the period: the timer runs at once
      have e1 := tstep_call_at_end ch l htr hstop hw hsc hlast (Int.le_antisymm (in_period.mp hin) (Int.not_lt.mp hlt))
      rw [← hs1] at e1
      have hsc1 : s1.scheduled = none := by
        rw [e1]
        exact wake_scheduled ch { logCall s with now := l + cfg.dur, scheduled := none } (s.now, s.grants.length)
      refine ⟨(wake ch q (s.now, s.grants.length)).n + 1 + 1, s.n, ?_⟩
      rw [h12, tstep_advance_noop cfg ch s1 dt fun sc h' => nomatch hsc1.symm.trans h']
      subst e1
      rfl
  obtain ⟨k, k', he⟩ := he
  obtain ⟨h1, h2, h3, h4, h5, h6⟩ := wake_step_fields ch { q with n := k' } s2 _ _ _ he
  refine ⟨h1, h2.trans hstop, h3, h4, h5, ?_⟩
  rcases h6 with ⟨a, b, c, d, e, f, g⟩ | ⟨id, a, b, c, d, e, f⟩
  · exact Or.inl ⟨a, b, c, d, e.trans hlast, f, g⟩
  · refine Or.inr ⟨id, a, b, ?_, d, e, f⟩
    rw [c]
    show s.grants ++ [{ t := l + cfg.dur, id := id, ctime := s.now, cepoch := s.grants.length, prevT := s.last }] = _
    rw [hlast]

/-! Non-vacuity: the script of the property (period 40; permission at 0, trigger at 3): the timer is armed
for 40 and at 40 a permission waits; with a caller blocked in `Next` it is that caller's grant, stamped 40;
a trigger exactly at the end of the period (40) is a permission at once. -/
example :
    let s := trun ⟨40, true⟩ (fun _ _ => 0) [.call, .next 0, .advance 3]
    s.stop = false ∧ s.waiting = false ∧ s.scheduled = none ∧ s.last = some 0 ∧ s.now - 0 ≤ (40 : Nat) ∧
    s.now + (37 : Nat) ≥ 0 + (40 : Nat) := by decide +kernel
example : (trun ⟨40, true⟩ (fun _ _ => 0) [.call, .next 0, .advance 3, .call]).scheduled =
    some { deadline := 40, ctime := 3, cepoch := 1 } := by decide +kernel
example :
    (trun ⟨40, true⟩ (fun _ _ => 0) [.call, .next 0, .advance 3, .call, .advance 37]).waiting = true ∧
    (trun ⟨40, true⟩ (fun _ _ => 0) [.call, .next 0, .advance 3, .call, .advance 37]).now = 40 ∧
    (trun ⟨40, true⟩ (fun _ _ => 0) [.call, .next 0, .advance 3, .call, .advance 37]).wsrc = (3, 1) := by decide +kernel
example :
    ((trun ⟨40, true⟩ (fun _ _ => 0) [.call, .next 0, .advance 3, .next 1, .call, .advance 50]).grants.map
      fun g => (g.t, g.id, g.ctime)) = [(0, 0, 0), (40, 1, 3)] := by decide +kernel
example :
    (trun ⟨40, true⟩ (fun _ _ => 0) [.call, .next 0, .advance 40]).now - 0 ≤ (40 : Nat) ∧
    (trun ⟨40, true⟩ (fun _ _ => 0) [.call, .next 0, .advance 40, .call]).waiting = true := by decide +kernel

/-! ### The kept trigger under any events but `Cancel`

The trigger `(c, G.length)` (instant, epoch) kept by the timer for the deadline `l + duration` is in one of
three stages; every event but `Cancel` keeps it on this path, and the first stage ends when the clock
reaches the deadline. -/

inductive Kept (cfg : TCfg) (l c : Int) (G : List Grant) (s : TState) : Prop
  /-- the timer armed by the trigger is pending, nothing has been handed out since -/
  | armed (hsc : s.scheduled = some { deadline := l + cfg.dur, ctime := c, cepoch := G.length }) (hg : s.grants = G)
      (hstop : s.stop = false) (hnow : s.now < l + cfg.dur)
  /-- the timer has run: the trigger's permission is waiting (not stopped, the period is over) -/
  | ready (hw : s.waiting = true) (hsrc : s.wsrc = (c, G.length)) (hg : s.grants = G) (hstop : s.stop = false)
      (hnow : l + cfg.dur ≤ s.now) (hlast : s.last = some l)
  /-- the trigger's permission has been handed out: it is the grant that follows `G`, not before the deadline -/
  | taken (hnow : l + cfg.dur ≤ s.now) (g : Grant) (hpre : G ++ [g] <+: s.grants) (hc : g.ctime = c)
      (he : g.cepoch = G.length) (hp : g.prevT = some l) (ht : l + cfg.dur ≤ g.t)

theorem woke_stage {cfg : TCfg} (ch : Choice) (l c : Int) (G : List Grant) (q : TState) (t : Int) (k : Nat)
    (hg : q.grants = G) (hstop : q.stop = false) (hlast : q.last = some l) (hq : l + cfg.dur ≤ q.now)
    (ht : l + cfg.dur ≤ t) :
    Kept cfg l c G { wake ch q (c, G.length) with now := t, n := k } := by
  have h := wake_up ch q (c, G.length)
  generalize wake ch q (c, G.length) = s' at h
  cases h with
  | waits hb => exact .ready rfl rfl hg hstop ht hlast
  | grants id rest _ _ _ =>
    exact .taken ht _ (by show G ++ [_] <+: q.grants ++ [_]; rw [hg]; exact List.prefix_refl _) rfl rfl hlast hq

theorem kept_step {cfg : TCfg} (ch : Choice) (l c : Int) (G : List Grant) (s : TState) (e : TEv)
    (h : TInv cfg s) (he : e ≠ TEv.cancel)
    (hk : Kept cfg l c G s) : Kept cfg l c G (tstep cfg ch s e) := by
  cases hk with
  | armed hsc hg hstop hnow =>
    have hw := (h.sched _ hsc).idle
    obtain ⟨l', hl', hd⟩ := (h.sched _ hsc).period_end
    have hll : l = l' := Int.add_left_cancel ((Int.add_comm _ _).trans (hd.trans (Int.add_comm _ _)))
    have hlast : s.last = some l := hll ▸ hl'
    have hst : Strict s := fun sc h' => by rw [hsc] at h'; cases h'; exact hnow
    cases e with
    | cancel => exact absurd rfl he
    | call =>
      rw [tstep_call_dropped cfg ch s hst
        (tcall_drop cfg ch hw hstop hlast (in_period.mpr (Int.le_of_lt hnow)) fun h' => by rw [hsc] at h'; cases h'.2)]
      exact .armed hsc hg hstop hnow
    | next id =>
      rw [tstep_next cfg ch s id hst, tnext_block id hw hstop]
      exact .armed hsc hg hstop hnow
    | advance dt =>
      by_cases hd : l + cfg.dur ≤ s.now + dt
      · rw [tstep_advance_fires cfg ch s _ dt hsc hstop (Int.le_of_lt hnow) hd]
        exact woke_stage ch l c G _ _ _ hg hstop hlast (Int.le_refl _) hd
      · rw [tstep_advance_noop cfg ch s dt fun sc h' => by rw [hsc] at h'; cases h'; exact Int.not_le.mp hd]
        exact .armed hsc hg hstop (Int.not_le.mp hd)
  | ready hw hsrc hg hstop hnow hlast =>
    have hsc := h.sched_none_of_waiting hw
    have hst : Strict s := fun sc h' => by rw [hsc] at h'; cases h'
    cases e with
    | cancel => exact absurd rfl he
    | call =>
      rw [tstep_call_dropped cfg ch s hst (tcall_skip cfg ch (Or.inl hw))]
      exact .ready hw hsrc hg hstop hnow hlast
    | next id =>
      rw [tstep_next cfg ch s id hst, tnext_grant id hw hstop]
      exact .taken hnow _ (by show G ++ [_] <+: s.grants ++ [_]; rw [hg]; exact List.prefix_refl _)
        (by rw [hsrc]) (by rw [hsrc]) hlast hnow
    | advance dt =>
      rw [tstep_advance_noop cfg ch s dt fun sc h' => by rw [hsc] at h'; cases h']
      exact .ready hw hsrc hg hstop (Int.le_trans hnow (Int.le_add_of_nonneg_right (Int.natCast_nonneg dt))) hlast
  | taken hnow g hpre hc he' hp ht =>
    -- the permission has been handed out: permissions are never taken back
    obtain ⟨ext, hext, _⟩ := tstep_gext ch e h
    have hn := (tstep_keeps cfg ch s e).now
    exact .taken (by rw [hn]; omega) g (List.IsPrefix.trans hpre ⟨ext, hext.symm⟩) hc he' hp ht

/-- **The kept trigger yields its permission whatever happens in between, short of `Cancel`.**  Same
reachable state `s` and `Call` as in `trailing_trigger_kept`, followed by ANY events `post` without
`Cancel` (more triggers, `Next` calls that block, time passing in any number of pieces).  In the state
reached:

* while the clock is before `l + duration`, the timer armed by that call is still pending with deadline
  `l + duration`, and no permission has been handed out or is waiting;
* once the clock has reached `l + duration`, the permission caused by that call (instant `s.now`, epoch
  `s.grants.length`) either waits (`waiting = true`, nothing handed out since), or it is the grant that
  follows `s.grants` — handed out not before the deadline, with `l` as the previous permission. -/
theorem trailing_trigger_kept_eventually (cfg : TCfg) (ch : Choice) (evs post : List TEv) (l : Int)
    (s s' : TState) (hs : s = trun cfg ch evs) (hs' : s' = trun cfg ch (evs ++ TEv.call :: post))
    (hnc : TEv.cancel ∉ post)
    (htr : cfg.trailing = true) (hstop : s.stop = false) (hw : s.waiting = false)
    (hsc : s.scheduled = none) (hlast : s.last = some l) (hin : s.now - l ≤ cfg.dur) :
    s'.now = s.now + tclock post ∧
    (s'.now < l + cfg.dur →
      s'.scheduled = some { deadline := l + cfg.dur, ctime := s.now, cepoch := s.grants.length } ∧
      s'.grants = s.grants ∧ s'.waiting = false ∧ s'.stop = false) ∧
    (l + cfg.dur ≤ s'.now →
      (s'.waiting = true ∧ s'.wsrc = (s.now, s.grants.length) ∧ s'.grants = s.grants ∧ s'.stop = false ∧
        s'.last = some l) ∨
      (∃ g : Grant, s.grants ++ [g] <+: s'.grants ∧ g.ctime = s.now ∧ g.cepoch = s.grants.length ∧
        g.prevT = some l ∧ l + cfg.dur ≤ g.t)) := by
  have h : TInv cfg s := by rw [hs]; exact trun_inv cfg ch evs
  have h1 : TInv cfg (tstep cfg ch s .call) := tstep_inv ch _ h
  have hrun : s' = post.foldl (tstep cfg ch) (tstep cfg ch s .call) := by
    rw [hs', hs, trun_append]; rfl
  have hnow1 : (tstep cfg ch s .call).now = s.now := by
    rw [(tstep_keeps cfg ch s .call).now]; exact Int.add_zero _
  have hnow : s'.now = s.now + tclock post := by
    rw [hrun, tfold_now cfg ch post, hnow1]
  have hk1 : Kept cfg l s.now s.grants (tstep cfg ch s .call) := by
    by_cases hlt : s.now < l + cfg.dur
    · rw [tstep_call_armed ch l htr hstop hw hsc hlast hlt]
      exact .armed rfl rfl hstop hlt
    · have hge := Int.not_lt.mp hlt
      rw [tstep_call_at_end ch l htr hstop hw hsc hlast (Int.le_antisymm (in_period.mp hin) hge)]
      exact woke_stage ch l s.now s.grants _ _ _ rfl hstop hlast (Int.le_refl _) hge
  have hk : Kept cfg l s.now s.grants s' := hrun ▸
    (List.foldlRecOn post (tstep cfg ch) (motive := fun q => TInv cfg q ∧ Kept cfg l s.now s.grants q) ⟨h1, hk1⟩
      fun q ⟨hq, hkq⟩ e he => ⟨tstep_inv ch e hq, kept_step ch l _ _ q e hq (fun h' => hnc (h' ▸ he)) hkq⟩).2
  refine ⟨hnow, ?_, ?_⟩
  · intro hlt
    cases hk with
    | armed hsc hg hstop _ =>
      have hi : TInv cfg s' := by rw [hs']; exact trun_inv cfg ch _
      exact ⟨hsc, hg, (hi.sched _ hsc).idle, hstop⟩
    | ready _ _ _ _ hnow _ => exact absurd hlt (Int.not_lt.mpr hnow)
    | taken hnow => exact absurd hlt (Int.not_lt.mpr hnow)
  · intro hge
    cases hk with
    | armed _ _ _ hnow => exact absurd hnow (Int.not_lt.mpr hge)
    | ready hw hsrc hg hstop _ hlast => exact Or.inl ⟨hw, hsrc, hg, hstop, hlast⟩
    | taken _ g hpre hc he hp ht => exact Or.inr ⟨g, hpre, hc, he, hp, ht⟩

example : TEv.cancel ∉ [TEv.call, .advance 10, .next 1, .call, .advance 20, .next 2, .advance 7, .next 3] ∧
    ((trun ⟨40, true⟩ (fun _ _ => 0) ([.call, .next 0, .advance 3] ++ .call ::
        [.call, .advance 10, .next 1, .call, .advance 20, .next 2, .advance 7, .next 3])).grants.map
      fun g => (g.t, g.id, g.ctime, g.prevT)) = [(0, 0, 0, none), (40, 1, 3, some 0)] := by decide +kernel

/-! ## Without trailing, a trigger inside the period is lost for good

`in_period_trigger_dropped` (Theorems/C20.lean) is the one-step statement: the `Call` step changes nothing
but the ghost log and the event counter.  Here: NO later state tells the two histories apart.  The event
counter is an argument of the choice function, so the history without the call is run under the scheduler
`skipAt` that makes the same choices (`ch` itself when the choices do not depend on the event number). -/

/-! The event counter is read by the scheduler only, the ghost trigger log by nothing: started with any counter `n'`
and any log `c`, under a scheduler `ch` that chooses at `n'` as `ch'` does at `s.n`, a transition does what it does
from `s` under `ch'`. -/

theorem wake_reindex (ch ch' : Choice) (s : TState) (n' : Nat) (c : List (Int × Nat)) (w : Int × Nat)
    (h : ∀ b, ch n' b = ch' s.n b) :
    wake ch { s with n := n', calls := c } w = { wake ch' s w with n := n', calls := c } := by
  by_cases hb : s.blocked = []
  · rw [wake_nil ch' w hb]; exact wake_nil ch w hb
  · obtain ⟨b, bs, hb⟩ := List.exists_cons_of_ne_nil hb
    rw [wake_cons ch' w hb, ← h]; exact wake_cons ch w hb

theorem fire_reindex (ch ch' : Choice) (s : TState) (n' : Nat) (c : List (Int × Nat)) (sc : Sched)
    (h : ∀ b, ch n' b = ch' s.n b) :
    fire ch { s with n := n', calls := c } sc = { fire ch' s sc with n := n', calls := c } := by
  rcases Bool.eq_false_or_eq_true s.stop with hs | hs
  · rw [fire_stop ch' sc hs]; exact fire_stop ch sc hs
  · rw [fire_wake ch' sc hs, ← wake_reindex ch ch' { s with scheduled := none } n' c _ h]; exact fire_wake ch sc hs

theorem advanceTo_reindex (ch ch' : Choice) (s : TState) (n' : Nat) (c : List (Int × Nat)) (t : Int)
    (h : ∀ b, ch n' b = ch' s.n b) :
    advanceTo ch { s with n := n', calls := c } t = { advanceTo ch' s t with n := n', calls := c } := by
  rcases due_cases s t with hd | ⟨sc, hsc, hd⟩
  · rw [advanceTo_noop ch' s t hd]; exact advanceTo_noop ch _ t hd
  · rw [advanceTo_due ch' t hsc hd, advanceTo_due ch t (s := { s with n := n', calls := c }) hsc hd]
    exact congrArg (fun x : TState => { x with now := t })
      (fire_reindex ch ch' { s with now := max s.now sc.deadline } n' c sc h)

theorem tcall_reindex (ch ch' : Choice) (cfg : TCfg) (s : TState) (n' : Nat) (c : List (Int × Nat))
    (h : ∀ b, ch n' b = ch' s.n b) :
    tcall cfg ch { s with n := n', calls := c } =
      { tcall cfg ch' s with n := n', calls := c ++ [(s.now, s.grants.length)] } := by
  rcases tcall_branch cfg s with h' | ⟨hw, hs, ha⟩ | ⟨l, hw, hs, hl, hin⟩
  · rw [tcall_skip cfg ch' h']; exact tcall_skip cfg ch h'
  · rw [tcall_wake cfg ch' hw hs ha, ← wake_reindex ch ch' (logCall s) n' (c ++ [(s.now, s.grants.length)]) _ h]
    exact tcall_wake cfg ch hw hs ha
  · by_cases ht : cfg.trailing = true ∧ s.scheduled = none
    · rw [tcall_arm cfg ch' hw hs hl hin ht.1 ht.2]; exact tcall_arm cfg ch hw hs hl hin ht.1 ht.2
    · rw [tcall_drop cfg ch' hw hs hl hin ht]; exact tcall_drop cfg ch hw hs hl hin ht

theorem tnext_reindex (s : TState) (n' : Nat) (c : List (Int × Nat)) (id : Nat) :
    tnext { s with n := n', calls := c } id = { tnext s id with n := n', calls := c } := by
  rcases Bool.eq_false_or_eq_true s.stop with hs | hs
  · rw [tnext_false id hs]; exact tnext_false id hs
  · rcases Bool.eq_false_or_eq_true s.waiting with hw | hw
    · rw [tnext_grant id hw hs]; exact tnext_grant id hw hs
    · rw [tnext_block id hw hs]; exact tnext_block id hw hs

theorem tstep_reindex (ch ch' : Choice) (cfg : TCfg) (s : TState) (n' : Nat) (c : List (Int × Nat)) (e : TEv)
    (h : ∀ b, ch n' b = ch' s.n b) :
    tstep cfg ch { s with n := n', calls := c } e =
      { tstep cfg ch' s e with n := n' + 1, calls := c ++ logOf s e } := by
  have hp : tpre cfg ch { s with n := n', calls := c } e =
      { tpre cfg ch' s e with n := n', calls := c ++ logOf s e } := by
    cases e with
    | call => exact tcall_reindex ch ch' cfg s n' c h
    | cancel => rw [show logOf s .cancel = [] from rfl, List.append_nil]; rfl
    | next id => rw [show logOf s (.next id) = [] from rfl, List.append_nil]; exact tnext_reindex s n' c id
    | advance dt => rw [show logOf s (.advance dt) = [] from rfl, List.append_nil]; rfl
  rw [tstep_eq, tstep_eq, hp, advanceTo_reindex ch ch' _ n' _ _ (by rw [(tpre_keeps cfg ch' s e).n]; exact h)]

theorem fold_n (cfg : TCfg) (ch : Choice) : ∀ (evs : List TEv) (s : TState),
    (evs.foldl (tstep cfg ch) s).n = s.n + evs.length := by
  intro evs
  induction evs with
  | nil => intro s; rfl
  | cons e r ih =>
    intro s; rw [List.foldl_cons, ih, (tstep_keeps cfg ch s e).n]; exact Nat.add_right_comm s.n 1 r.length

theorem trun_n (cfg : TCfg) (ch : Choice) (evs : List TEv) : (trun cfg ch evs).n = evs.length :=
  (fold_n cfg ch evs {}).trans (Nat.zero_add _)

theorem fold_reindex (cfg : TCfg) (ch ch' : Choice) : ∀ (evs : List TEv) (s : TState) (n' : Nat) (c : List (Int × Nat)),
    (∀ i, i < evs.length → ∀ b, ch (n' + i) b = ch' (s.n + i) b) →
    ∃ l, (evs.foldl (tstep cfg ch') s).calls = s.calls ++ l ∧
      evs.foldl (tstep cfg ch) { s with n := n', calls := c } =
        { evs.foldl (tstep cfg ch') s with n := n' + evs.length, calls := c ++ l } := by
  intro evs
  induction evs with
  | nil => intro s n' c _; exact ⟨[], (List.append_nil _).symm, by rw [List.append_nil]; rfl⟩
  | cons e r ih =>
    intro s n' c h
    rw [List.foldl_cons, List.foldl_cons, tstep_reindex ch ch' cfg s n' c e (h 0 (Nat.succ_pos _))]
    obtain ⟨l, h1, h2⟩ := ih (tstep cfg ch' s e) (n' + 1) (c ++ logOf s e) fun i hi b => by
      rw [(tstep_keeps cfg ch' s e).n, Nat.add_right_comm, Nat.add_right_comm s.n]
      exact h (i + 1) (Nat.succ_lt_succ hi) b
    refine ⟨logOf s e ++ l, ?_, ?_⟩
    · rw [h1, (tstep_keeps cfg ch' s e).calls, List.append_assoc]
    · rw [h2, List.append_assoc, List.length_cons, Nat.add_right_comm n' 1, Nat.add_assoc]

/-- the scheduler that makes, in the history with the event at position `N` removed, the choices `ch`
makes in the full history -/
def skipAt (N : Nat) (ch : Choice) : Choice := fun m b => if m < N then ch m b else ch (m + 1) b

theorem lost_forever_state (cfg : TCfg) (ch : Choice) (evs post : List TEv) (l : Int)
    (htr : cfg.trailing = false) (hlast : (trun cfg ch evs).last = some l)
    (hin : (trun cfg ch evs).now - l ≤ cfg.dur) :
    ∃ c', trun cfg ch (evs ++ TEv.call :: post) =
      { trun cfg (skipAt evs.length ch) (evs ++ post) with
          n := (trun cfg (skipAt evs.length ch) (evs ++ post)).n + 1, calls := c' } := by
  -- up to position `evs.length` the scheduler `skipAt` is `ch`
  obtain ⟨l1, hc1, e1⟩ := fold_reindex cfg (skipAt evs.length ch) ch evs {} 0 [] fun i hi b => by
    rw [Nat.zero_add]; exact if_pos hi
  have e1 : trun cfg (skipAt evs.length ch) evs = trun cfg ch evs := by
    rw [show trun cfg (skipAt evs.length ch) evs = _ from e1, Nat.zero_add, ← trun_n cfg ch evs, ← hc1]
    rfl
  -- from there on it makes the choices `ch` makes one event later
  obtain ⟨l2, _, e2⟩ := fold_reindex cfg ch (skipAt evs.length ch) post (trun cfg ch evs) ((trun cfg ch evs).n + 1)
    (logCall (trun cfg ch evs)).calls fun i _ b => by
      rw [trun_n, Nat.add_right_comm]
      exact (if_neg (Nat.not_lt.mpr (Nat.le_add_right _ _))).symm
  refine ⟨(logCall (trun cfg ch evs)).calls ++ l2, ?_⟩
  rw [trun_append, List.foldl_cons, in_period_trigger_dropped cfg ch evs l htr hlast hin, trun_append, e1]
  refine e2.trans ?_
  rw [fold_n, Nat.add_right_comm]

/-- **Without trailing, a trigger inside the period is lost forever.**  `cfg.trailing = false`, reachable
state after `evs` with the last permission at `l` and `now - l ≤ duration`.  Whatever follows (`post`), the
history WITH a `Call` at that point and the history WITHOUT it (scheduler re-indexed by the one missing
event) end in states that agree on every field — clock, `last`, `waiting`, `stop`, the timer, the blocked
callers, the permissions with their stamps and causes, the refusals, the completion log — except the event
counter (one more) and the ghost trigger log. -/
theorem not_trailing_trigger_in_period_lost_forever (cfg : TCfg) (ch : Choice) (evs post : List TEv) (l : Int)
    (a b : TState) (ha : a = trun cfg ch (evs ++ TEv.call :: post))
    (hb : b = trun cfg (skipAt evs.length ch) (evs ++ post))
    (htr : cfg.trailing = false) (hlast : (trun cfg ch evs).last = some l)
    (hin : (trun cfg ch evs).now - l ≤ cfg.dur) :
    a.now = b.now ∧ a.last = b.last ∧ a.waiting = b.waiting ∧ a.stop = b.stop ∧ a.scheduled = b.scheduled ∧
    a.blocked = b.blocked ∧ a.grants = b.grants ∧ a.falses = b.falses ∧ a.doneLog = b.doneLog ∧
    a.wsrc = b.wsrc ∧ a.n = b.n + 1 := by
  obtain ⟨c', h⟩ := lost_forever_state cfg ch evs post l htr hlast hin
  subst ha hb
  rw [h]
  exact ⟨rfl, rfl, rfl, rfl, rfl, rfl, rfl, rfl, rfl, rfl, rfl⟩

theorem skipAt_const (N : Nat) (ch : Choice) (hch : ∀ m m' b, ch m b = ch m' b) : skipAt N ch = ch := by
  funext m b
  unfold skipAt
  split
  · rfl
  · exact hch _ _ _

/-- the same under a scheduler that ignores the event number: the very same `ch` on both sides -/
theorem not_trailing_trigger_in_period_lost_forever' (cfg : TCfg) (ch : Choice) (evs post : List TEv) (l : Int)
    (a b : TState) (ha : a = trun cfg ch (evs ++ TEv.call :: post)) (hb : b = trun cfg ch (evs ++ post))
    (hch : ∀ m m' b, ch m b = ch m' b)
    (htr : cfg.trailing = false) (hlast : (trun cfg ch evs).last = some l)
    (hin : (trun cfg ch evs).now - l ≤ cfg.dur) :
    a.now = b.now ∧ a.last = b.last ∧ a.waiting = b.waiting ∧ a.stop = b.stop ∧ a.scheduled = b.scheduled ∧
    a.blocked = b.blocked ∧ a.grants = b.grants ∧ a.falses = b.falses ∧ a.doneLog = b.doneLog ∧
    a.wsrc = b.wsrc ∧ a.n = b.n + 1 :=
  not_trailing_trigger_in_period_lost_forever cfg ch evs post l a b ha
    (by rw [skipAt_const _ ch hch]; exact hb) htr hlast hin

/-! Non-vacuity: period 40, not trailing, permission at 0; a trigger at 3 is inside the period.  With it or
without it, two callers block, the period ends, one trigger at 43 serves the caller the scheduler picks
(the second one: choice 1), a later trigger at 90 serves the other. -/
example :
    (trun ⟨40, false⟩ (fun _ _ => 1) [.call, .next 0, .advance 3]).last = some 0 ∧
    (trun ⟨40, false⟩ (fun _ _ => 1) [.call, .next 0, .advance 3]).now - 0 ≤ (40 : Nat) := by decide +kernel
example :
    ((trun ⟨40, false⟩ (fun _ _ => 1) ([.call, .next 0, .advance 3] ++ .call ::
        [.next 1, .next 2, .advance 40, .call, .advance 47, .call])).grants.map fun g => (g.t, g.id)) =
      [(0, 0), (43, 2), (90, 1)] := by decide +kernel
example :
    ((trun ⟨40, false⟩ (fun _ _ => 1) ([.call, .next 0, .advance 3] ++
        [.next 1, .next 2, .advance 40, .call, .advance 47, .call])).grants.map fun g => (g.t, g.id)) =
      [(0, 0), (43, 2), (90, 1)] := by decide +kernel

end GoguVerif.Theorems.C20More
