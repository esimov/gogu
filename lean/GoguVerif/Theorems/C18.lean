import GoguVerif.Spec.C18
import GoguVerif.Model.FuncsMore
import GoguVerif.Lemmas.CacheCell
/-!
# C18 — property theorems (Before / After / Once / Retry invoke the callback as often as promised)

All statements are about the models of `Model/Funcs.lean` and `Model/FuncsMore.lean` (which mirror `func.go`) and hold for every
`n`, every number of calls and every script of callback outcomes; instants are `≥ 0` where a deadline
is computed (the cache reads a deadline `≤ 0` as "never expires").
-/
namespace GoguVerif.Theorems.C18
open Model.Funcs
open GoguVerif.Lemmas.CacheCell (cellGet_cellSet_none)

theorem afterRuns_succ (n : Int) (k : Nat) : Spec.C18.afterRuns n (k + 1) = decide (n < k + 1) :=
  decide_eq_decide.mpr (Int.max_lt.trans (and_iff_left (Int.natCast_succ_pos k)))

/-- On the `(i+1)`-th call `After` runs the callback iff `i+1 > max n 0` — for every `n` and every
number of calls (no wrap-around of the counter: it is an unbounded `Int` here). -/
theorem after_runs_iff (n : Int) (m i : Nat) (h : i < m) :
    (afterTrace n m)[i]? = some (Spec.C18.afterRuns n (i + 1)) := by
  rw [afterRuns_succ]
  induction m generalizing n i with
  | zero => cases h
  | succ m ih =>
    cases i with
    | zero => rfl
    | succ i =>
      refine (ih (n - 1) i (Nat.lt_of_succ_lt_succ h)).trans (congrArg some (decide_eq_decide.mpr ?_))
      exact Int.sub_lt_iff

example : afterTrace 2 5 = [false, false, true, true, true] := by decide

theorem beforeCall_gt (e now : Int) (res : Nat → Int) (s : BSt) (h : s.n - 1 > 0) :
    beforeCall e now res s = ({ s with n := s.n - 1, runs := s.runs + 1 }, true, res (s.runs + 1)) :=
  if_pos h

theorem beforeCall_eq (e now : Int) (res : Nat → Int) (s : BSt) (h : s.n - 1 = 0) :
    beforeCall e now res s =
      ({ n := s.n - 1, cell := cellSet e now s.cell (res (s.runs + 1)), runs := s.runs + 1 }, true,
       (cellGet now (cellSet e now s.cell (res (s.runs + 1)))).getD 0) :=
  (if_neg fun h' => Int.ne_of_gt h' h).trans (if_pos h)

theorem beforeCall_lt (e now : Int) (res : Nat → Int) (s : BSt) (h : s.n - 1 < 0) :
    beforeCall e now res s = ({ s with n := s.n - 1 }, false, (cellGet now s.cell).getD 0) :=
  (if_neg (Int.lt_asymm h)).trans (if_neg (Int.ne_of_lt h))

theorem beforeCall_run (e now : Int) (res : Nat → Int) (s : BSt) (p : Nat)
    (hn : s.n = (p : Int) + 1 + 1) :
    beforeCall e now res s =
      ({ s with n := (p : Int) + 1, runs := s.runs + 1 }, true, res (s.runs + 1)) := by
  have h : s.n - 1 = (p : Int) + 1 := by rw [hn]; exact Int.add_sub_cancel _ 1
  rw [beforeCall_gt e now res s (h ▸ Int.lt_add_one_iff.mpr (Int.natCast_nonneg p)), h]

theorem beforeCall_last (e now : Int) (res : Nat → Int) (s : BSt) (hn : s.n = 1) (hc : s.cell = none) :
    beforeCall e now res s =
      ({ n := 0, cell := some (res (s.runs + 1), defaultExp e now), runs := s.runs + 1 }, true,
       res (s.runs + 1)) := by
  have h : s.n - 1 = 0 := by rw [hn]; rfl
  rw [beforeCall_eq e now res s h, hc, cellGet_cellSet_none, h]; rfl

end GoguVerif.Theorems.C18

/-! What this file and `Theorems/C18More.lean` both rest on: when a stored entry is live (`liveAt`), the general
lemmas about `beforeTimed` and about spacing, under the names of `C18More` that the audit lists give them. -/
namespace GoguVerif.Theorems.C18More
open Model.Funcs Theorems.C18

/-- is the entry stored at `tn` with default lifetime `e` live at `t`?  (`e ≤ 0`: never expires;
`tn + e ≤ 0`: the cache treats a non-positive deadline as "never expires"; otherwise until `tn + e`
inclusive) -/
def liveAt (e tn t : Int) : Prop := e ≤ 0 ∨ tn + e ≤ 0 ∨ t ≤ tn + e

/-- for the `if liveAt …` of `cellGet_stored`, `before_timed_later` and `before_timed_cache` -/
instance (e tn t : Int) : Decidable (liveAt e tn t) := by unfold liveAt; exact inferInstance

theorem liveAt_of_nonpos {e tn t : Int} (he : e ≤ 0) : liveAt e tn t := Or.inl he

theorem liveAt_of_le {e tn t : Int} (h : t ≤ tn + e) : liveAt e tn t := Or.inr (Or.inr h)

/-- a positive lifetime from an instant `≥ 0` gives a positive deadline, which has passed at `t` -/
theorem not_liveAt {e tn t : Int} (he : 0 < e) (htn : 0 ≤ tn) (h : tn + e < t) : ¬ liveAt e tn t :=
  fun hl => hl.elim (Int.not_le.mpr he) fun hl =>
    hl.elim (Int.not_le.mpr (Int.add_pos_of_nonneg_of_pos htn he)) (Int.not_le.mpr h)

theorem cellGet_stored (e tn t v : Int) :
    cellGet t (some (v, defaultExp e tn)) = if liveAt e tn t then some v else none :=
  Lemmas.CacheCell.cellGet_defaultExp e tn t v

theorem beforeTimed_post (e : Int) (res : Nat → Int) (s : BSt) (ts : List Int) (h : s.n ≤ 0) :
    beforeTimed e res s ts = ts.map (fun t => (false, (cellGet t s.cell).getD 0)) ∧
    (beforeTimedSt e res s ts).cell = s.cell ∧ (beforeTimedSt e res s ts).runs = s.runs := by
  induction ts generalizing s with
  | nil => exact ⟨rfl, rfl, rfl⟩
  | cons t ts ih =>
    have h1 := Int.sub_one_lt_of_le h
    have := ih { s with n := s.n - 1 } (Int.le_of_lt h1)
    rw [beforeTimed, beforeTimedSt, beforeCall_lt e t res s h1]
    exact ⟨congrArg _ this.1, this.2⟩

/-- Counter `p + 1`, entry absent: the first `p + 1` calls run the callback, the last of them (at
`ts[p]`) stores its result, and every later call only reads that entry at its own instant; once call
`p + 1` has been made, the entry and the run count stay as it left them. -/
theorem beforeTimed_pre (e : Int) (res : Nat → Int) (p : Nat) (s : BSt) (ts : List Int)
    (hn : s.n = (p : Int) + 1) (hc : s.cell = none) :
    (∀ i, i < ts.length → (beforeTimed e res s ts)[i]? = some (
      if i < p + 1 then (true, res (s.runs + (i + 1)))
      else (false, (cellGet ((ts[i]?).getD 0)
              (some (res (s.runs + (p + 1)), defaultExp e ((ts[p]?).getD 0)))).getD 0))) ∧
    (p < ts.length →
      (beforeTimedSt e res s ts).cell = some (res (s.runs + (p + 1)), defaultExp e ((ts[p]?).getD 0)) ∧
      (beforeTimedSt e res s ts).runs = s.runs + (p + 1)) := by
  induction ts generalizing s p with
  | nil => exact ⟨nofun, nofun⟩
  | cons t ts ih =>
    rw [beforeTimed, beforeTimedSt]
    cases p with
    | zero =>
      rw [beforeCall_last e t res s hn hc]
      have post := beforeTimed_post e res ⟨0, some (res (s.runs + 1), defaultExp e t), s.runs + 1⟩ ts (Int.le_refl 0)
      refine ⟨fun i hi => ?_, fun _ => post.2⟩
      cases i with
      | zero => rfl
      | succ i =>
        refine (congrArg (·[i]?) post.1).trans ?_
        rw [List.getElem?_map, List.getElem?_cons_succ, List.getElem?_eq_getElem (Nat.lt_of_succ_lt_succ hi),
          if_neg (Nat.not_lt_zero i ∘ Nat.lt_of_succ_lt_succ)]
        rfl
    | succ q =>
      rw [beforeCall_run e t res s q hn]
      have := ih q ⟨q + 1, s.cell, s.runs + 1⟩ rfl hc
      simp only [Nat.add_right_comm s.runs 1, Nat.add_assoc s.runs] at this
      refine ⟨fun i hi => ?_, fun hp => this.2 (Nat.lt_of_succ_lt_succ hp)⟩
      cases i with
      | zero => exact congrArg some (if_pos (Nat.succ_pos _)).symm
      | succ i =>
        refine (this.1 i (Nat.lt_of_succ_lt_succ hi)).trans ?_
        simp only [List.getElem?_cons_succ, Nat.add_lt_add_iff_right]

theorem spaced_of_gapped (d : Int) (l : List (Int × Int)) (h : Spec.C18.gapped d l = true)
    (hd : ∀ p ∈ l, p.1 ≤ p.2) : Spec.C18.spaced d (l.map (·.1)) = true := by
  induction l with
  | nil => rfl
  | cons x r ih =>
    cases r with
    | nil => rfl
    | cons y r =>
      have h := Bool.and_eq_true_iff.mp h
      exact Bool.and_eq_true_iff.mpr
        ⟨decide_eq_true (Int.le_trans (Int.add_le_add_right (hd x List.mem_cons_self) d) (of_decide_eq_true h.1)),
         ih h.2 fun p hp => hd p (List.mem_cons_of_mem _ hp)⟩

theorem retryDelayTimes_le (script : List Bool) (waits durs : Nat → Int) (hd : ∀ i, 0 ≤ durs i)
    (fuel a : Nat) (now : Int) : ∀ p ∈ retryDelayTimes script waits durs fuel a now, p.1 ≤ p.2 := by
  induction fuel generalizing a now with
  | zero => exact fun p hp => nomatch hp
  | succ fuel ih =>
    intro p hp
    rw [retryDelayTimes] at hp
    split at hp
    · rcases List.mem_cons.mp hp with rfl | hp
      · exact Int.le_add_of_nonneg_right (hd a)
      · exact ih _ _ p hp
    · cases List.mem_singleton.mp hp
      exact Int.le_add_of_nonneg_right (hd a)

end GoguVerif.Theorems.C18More

namespace GoguVerif.Theorems.C18
open Model.Funcs
open GoguVerif.Lemmas.CacheCell (cellGet_some defaultExp_pos defaultExp_nonpos cellGet_cellSet_none cellSet_of_get_none)

theorem beforeTrace_eq_beforeTimed (e now : Int) (res : Nat → Int) (s : BSt) (m : Nat) :
    beforeTrace e now res s m = beforeTimed e res s (List.replicate m now) := by
  induction m generalizing s with
  | zero => rfl
  | succ m ih => rw [beforeTrace, List.replicate_succ, beforeTimed, ih]

theorem beforeTrace_post (e now : Int) (res : Nat → Int) (s : BSt) (m : Nat) (h : s.n ≤ 0) :
    beforeTrace e now res s m = List.replicate m (false, (cellGet now s.cell).getD 0) := by
  rw [beforeTrace_eq_beforeTimed, (C18More.beforeTimed_post e res s _ h).1, List.map_replicate]

theorem beforeTrace_pre (e now : Int) (res : Nat → Int) (p : Nat) (s : BSt) (m i : Nat)
    (hn : s.n = (p : Int) + 1) (hc : s.cell = none) (hi : i < m) :
    (beforeTrace e now res s m)[i]? =
      some (decide (i < p + 1), res (s.runs + min (i + 1) (p + 1))) := by
  rw [beforeTrace_eq_beforeTimed,
    (C18More.beforeTimed_pre e res p s _ hn hc).1 i (by rwa [List.length_replicate])]
  by_cases h : i < p + 1
  · rw [if_pos h, decide_eq_true h, Nat.min_eq_left (Nat.succ_le_of_lt h)]
  · -- all calls are at `now`, where the entry stored at `now` is live
    rw [if_neg h, decide_eq_false h, Nat.min_eq_right (Nat.le_succ_of_le (Nat.not_lt.mp h)),
      List.getElem?_replicate, if_pos hi, List.getElem?_replicate,
      if_pos (Nat.lt_of_lt_of_le (Nat.lt_succ_self p) (Nat.le_trans (Nat.not_lt.mp h) (Nat.le_of_lt hi)))]
    exact congrArg (fun o => some (false, o.getD 0)) (cellGet_cellSet_none e now _)

/-- `Before n`: with the cache entry `"func"` absent at the start and no expiry in between (all calls
at one instant `now`), the callback runs on exactly the first `max n 0` calls; call `i+1` returns the
result of its own run while `i+1 ≤ n`, afterwards the result of the last run (the `n`-th), and the
zero value when `n ≤ 0`. -/
theorem before_spec (e now n : Int) (res : Nat → Int) (m i : Nat) (h : i < m) :
    (beforeTrace e now res { n := n } m)[i]? =
      some (Spec.C18.beforeRuns n (i + 1), if n ≤ 0 then 0 else res (min (i + 1) n.toNat)) := by
  unfold Spec.C18.beforeRuns
  by_cases hn : n ≤ 0
  · rw [beforeTrace_post _ _ _ _ _ hn, List.getElem?_replicate, if_pos h, if_pos hn, Int.max_eq_right hn,
      decide_eq_false (Int.not_le.mpr (Int.natCast_succ_pos i))]
    rfl
  · obtain ⟨p, rfl⟩ := Int.eq_succ_of_zero_lt (Int.not_le.mp hn)
    rw [beforeTrace_pre e now res p _ m i rfl rfl h, if_neg hn, Int.toNat_natCast_add_one,
      Int.max_eq_left (Int.le_of_lt (Int.not_le.mp hn))]
    have hd : i < p + 1 ↔ ((i + 1 : Nat) : Int) ≤ p + 1 := by omega
    simp only [hd, Nat.zero_add]

example : beforeTrace (-1) 0 (fun k => 100 + k) { n := 2 } 4 =
    [(true, 101), (true, 102), (false, 102), (false, 102)] := by decide

/-- Known finding `before.result-lost-after-entry-expires`: the full clause "later calls return the result of the
last run" is FALSE of the code when the cache's entries expire — n = 2, lifetime 20: the calls at instant 0 give 101, 102,
102; the call at instant 25 gives 0 (and does not run the callback).  The exact behaviour for every history of instants is
`Theorems/C18More.lean: before_timed_live / before_timed_expired`; with entries that do not expire the full clause holds
(`before_spec`). -/
theorem before_full_false :
    let res : Nat → Int := fun j => 100 + (j : Int)
    let s1 := (Model.Funcs.beforeCall 20 0 res { n := 2 }).1
    let s2 := (Model.Funcs.beforeCall 20 0 res s1).1
    let s3 := (Model.Funcs.beforeCall 20 0 res s2).1
    (Model.Funcs.beforeCall 20 0 res s2).2 = (false, 102) ∧ (Model.Funcs.beforeCall 20 25 res s3).2 = (false, 0) := by
  decide

theorem once_runs_when_absent (e now fresh : Int) (c : Cell) (h : cellGet now c = none) :
    onceCall e now c fresh = (cellSet e now c fresh, true, fresh) := by
  rw [onceCall, h]

theorem once_cached_when_live (e now fresh v : Int) (c : Cell) (h : cellGet now c = some v) :
    onceCall e now c fresh = (c, false, v) := by
  rw [onceCall, h]

/-- after a run at `t0`, the entry is live at every instant `now ≤ t0 + e` (`e > 0`), resp. at every
instant at all (`e ≤ 0`: never expires); it is expired at every `now > t0 + e` (`0 ≤ t0`: the
deadline `t0 + e` must be positive to count as one). -/
theorem once_entry_life (e t0 now fresh : Int) (c : Cell) (ht0 : 0 ≤ t0) (h : cellGet t0 c = none) :
    cellGet now (onceCall e t0 c fresh).1 =
      if e ≤ 0 ∨ now ≤ t0 + e then some fresh else none := by
  rw [once_runs_when_absent _ _ _ _ h]
  show cellGet now (cellSet e t0 c fresh) = _
  rw [cellSet_of_get_none e t0 fresh c h, C18More.cellGet_stored]
  refine ite_congr (propext ⟨fun hl => Decidable.byContradiction fun hn => ?_,
    fun h => h.elim C18More.liveAt_of_nonpos C18More.liveAt_of_le⟩) (fun _ => rfl) (fun _ => rfl)
  exact C18More.not_liveAt (Int.not_le.mp fun he => hn (.inl he)) ht0 (Int.not_le.mp fun hle => hn (.inr hle)) hl

/-- consecutive calls of `Once`, each given as (instant, value a run would produce), from a cell -/
def onceTrace (e : Int) : Cell → List (Int × Int) → List (Bool × Int)
  | _, [] => []
  | c, (now, fresh) :: r =>
    let x := onceCall e now c fresh
    (x.2.1, x.2.2) :: onceTrace e x.1 r

theorem onceTrace_live (e v : Int) (c : Cell) (calls : List (Int × Int))
    (h : ∀ x ∈ calls, cellGet x.1 c = some v) :
    onceTrace e c calls = calls.map (fun _ => (false, v)) := by
  induction calls with
  | nil => rfl
  | cons x r ih =>
    obtain ⟨now, fresh⟩ := x
    rw [onceTrace, once_cached_when_live e now fresh v c (h _ List.mem_cons_self)]
    exact congrArg _ (ih fun y hy => h y (List.mem_cons_of_mem _ hy))

theorem once_spec_live (e t0 f0 : Int) (calls : List (Int × Int))
    (h : ∀ c ∈ calls, C18More.liveAt e t0 c.1) :
    onceTrace e none ((t0, f0) :: calls) = (true, f0) :: calls.map (fun _ => (false, f0)) :=
  congrArg _ (onceTrace_live e f0 (some (f0, defaultExp e t0)) calls fun x hx =>
    (C18More.cellGet_stored e t0 x.1 f0).trans (if_pos (h x hx)))

/-- `Once` with a never-expiring entry (`e ≤ 0`, cache entry `"func"` absent at the start): the
callback runs exactly once, on the first call, and every call returns that first result — for any
number of calls at any instants. -/
theorem once_spec_no_expiry (e : Int) (he : e ≤ 0) (t0 f0 : Int) (calls : List (Int × Int)) :
    onceTrace e none ((t0, f0) :: calls) = (true, f0) :: calls.map (fun _ => (false, f0)) :=
  once_spec_live e t0 f0 calls fun _ _ => C18More.liveAt_of_nonpos he

/-- `Once` with expiry `e > 0`, all later instants within the entry's life (`≤ t0 + e`): exactly one
run, every call returns the first result. -/
theorem once_spec_within_life (e : Int) (he : e > 0) (t0 f0 : Int) (ht : 0 ≤ t0)
    (calls : List (Int × Int)) (hin : ∀ c ∈ calls, c.1 ≤ t0 + e) :
    onceTrace e none ((t0, f0) :: calls) = (true, f0) :: calls.map (fun _ => (false, f0)) :=
  -- neither `e > 0` nor `0 ≤ t0` is needed
  once_spec_live e t0 f0 calls fun c hc => C18More.liveAt_of_le (hin c hc)

/-- Once never invents a value (whatever instant the call happens at, also the very instant at which the entry
expires): a call returns the stored first result that its ONE lookup found live, without running the callback, or it
runs the callback and returns that run's result.  (With a second lookup before answering this fails: finding F39, on the
real clock kind `oncelive`.) -/
theorem once_returns_stored_or_fresh (expTime now : Int) (c : Model.Funcs.Cell) (fresh : Int) :
    (Model.Funcs.cellGet now c = some (Model.Funcs.onceCall expTime now c fresh).2.2 ∧
        (Model.Funcs.onceCall expTime now c fresh).2.1 = false) ∨
    (Model.Funcs.cellGet now c = none ∧ (Model.Funcs.onceCall expTime now c fresh).2.2 = fresh ∧
        (Model.Funcs.onceCall expTime now c fresh).2.1 = true) := by
  cases h : cellGet now c with
  | none => rw [once_runs_when_absent _ _ _ _ h]; exact Or.inr ⟨rfl, rfl, rfl⟩
  | some v => rw [once_cached_when_live _ _ _ _ _ h]; exact Or.inl ⟨rfl, rfl⟩

/-- abstraction of the cell to the specification's entry (`deadline ≤ 0` ↦ `-1`: never expires) -/
def absCell : Cell → Option (Int × Int)
  | none => none
  | some (v, exp) => some (v, if exp ≤ 0 then -1 else exp)

theorem absCell_fresh (e now fresh : Int) (hnow : 0 ≤ now) :
    absCell (some (fresh, defaultExp e now)) = some (fresh, if e > 0 then now + e else -1) := by
  show some (fresh, if defaultExp e now ≤ 0 then -1 else defaultExp e now) = _
  by_cases he : e > 0
  · rw [defaultExp_pos he, if_pos he, if_neg (by omega)]
  · rw [if_neg he, if_pos (defaultExp_nonpos he now)]

/-- The specification keeps its entry as the cache keeps a cell and, with the instant of the deadline counted as
live, reads it as the cache does. -/
theorem specOnce_eq (e now fresh : Int) (en : Option (Int × Int)) :
    Spec.C18.onceCall e true ⟨now, en⟩ fresh =
      match cellGet now en with
      | some v => (⟨now, en⟩, 0, v)
      | none => (⟨now, some (fresh, if e > 0 then now + e else -1)⟩, 1, fresh) := by
  obtain _ | ⟨v, dl⟩ := en
  · rfl
  · have hb : (decide (dl ≤ 0) || decide (now < dl) || (true && now == dl)) = decide (dl ≤ 0 ∨ now ≤ dl) := by
      rw [Bool.eq_iff_iff]
      simp only [Bool.or_eq_true, Bool.and_eq_true, decide_eq_true_eq, beq_iff_eq, true_and]
      rw [Int.le_iff_lt_or_eq (a := now), or_assoc]
    rw [cellGet_some, Spec.C18.onceCall]
    dsimp only
    rw [hb]
    by_cases h : dl ≤ 0 ∨ now ≤ dl
    · rw [if_pos h, if_pos (decide_eq_true h)]
    · rw [if_neg h, if_neg (by rw [decide_eq_false h]; exact Bool.false_ne_true)]

/-- the abstraction keeps every read: a deadline `≤ 0` stays one -/
theorem cellGet_absCell (now : Int) (c : Cell) : cellGet now (absCell c) = cellGet now c := by
  obtain _ | ⟨v, x⟩ := c
  · rfl
  · show cellGet now (some (v, if x ≤ 0 then -1 else x)) = _
    rw [cellGet_some, cellGet_some]
    by_cases hx : x ≤ 0
    · rw [if_pos hx, if_pos (Or.inl (by decide)), if_pos (Or.inl hx)]
    · rw [if_neg hx]

/-- The model of `Once` refines the specification's state machine (`Spec.C18.onceCall`, with the
choice at the instant `now = deadline` resolved the way the code resolves it: still live) — every
call, every state, every instant `now ≥ 0` (a fresh deadline `now + e` must be positive). -/
theorem once_refines (e now fresh : Int) (c : Cell) (hnow : 0 ≤ now) :
    Spec.C18.onceCall e true { now := now, entry := absCell c } fresh =
      ({ now := now, entry := absCell (onceCall e now c fresh).1 },
       (if (onceCall e now c fresh).2.1 then 1 else 0), (onceCall e now c fresh).2.2) := by
  -- both sides branch on the same read
  rw [specOnce_eq, cellGet_absCell]
  cases h : cellGet now c with
  | none =>
    rw [once_runs_when_absent e now fresh c h, cellSet_of_get_none e now fresh c h, absCell_fresh e now fresh hnow]
    rfl
  | some v => rw [once_cached_when_live e now fresh v c h]; rfl

example : onceTrace 10 none [(0, 101), (4, 102), (10, 102), (11, 102), (15, 103)] =
    [(true, 101), (false, 101), (false, 101), (true, 102), (false, 102)] := by decide

/-- the number of leading failures of the script: the index of the first success, or `script.length` if there is
none -/
def leadFails (script : List Bool) : Nat := (script.takeWhile (· == true)).length

theorem leadFails_le (script : List Bool) : leadFails script ≤ script.length :=
  (List.takeWhile_sublist _).length_le

theorem fails_lt_leadFails (script : List Bool) (i : Nat) (h : i < leadFails script) :
    fails script i = true := by
  induction script generalizing i with
  | nil => cases h
  | cons b r ih =>
    cases b with
    | false => cases h
    | true =>
      cases i with
      | zero => rfl
      | succ i => exact ih i (Nat.lt_of_succ_lt_succ h)

theorem fails_at_leadFails (script : List Bool) (h : leadFails script < script.length) :
    fails script (leadFails script) = false := by
  induction script with
  | nil => cases h
  | cons b r ih =>
    cases b with
    | false => rfl
    | true => exact ih (Nat.lt_of_succ_lt_succ h)

theorem fails_past (script : List Bool) (i : Nat) (h : script.length ≤ i) : fails script i = true := by
  unfold fails; rw [List.getD_eq_getElem?_getD, List.getElem?_eq_none h]; rfl

/-- no success within the first `n` attempts: all of them fail -/
theorem fails_before_success (script : List Bool) {i n : Nat} (hi : i < n)
    (h : ¬ (leadFails script < script.length ∧ leadFails script < n)) : fails script i = true := by
  by_cases hl : i < leadFails script
  · exact fails_lt_leadFails script i hl
  · have hle := Nat.le_of_not_lt hl
    exact fails_past script i
      (Nat.le_trans (Nat.le_of_not_lt fun hs => h ⟨hs, Nat.lt_of_le_of_lt hle hi⟩) hle)

theorem retryLoop_skip (script : List Bool) (j fuel a : Nat) (le : Bool)
    (h : ∀ i, a ≤ i → i < a + j → fails script i = true) :
    retryLoop script (j + fuel) a le = retryLoop script fuel (a + j) (if j = 0 then le else true) := by
  induction j generalizing a le with
  | zero => rw [Nat.zero_add]; rfl
  | succ j ih =>
    rw [Nat.add_right_comm, retryLoop, if_pos (h a (Nat.le_refl a) (Nat.lt_add_of_pos_right j.succ_pos)),
      ih (a + 1) true fun i h1 h2 => h i (Nat.le_of_succ_le h1) (by rwa [Nat.add_assoc, Nat.add_comm 1] at h2),
      Nat.add_assoc a, Nat.add_comm 1]
    split <;> rfl

/-- `Retry n`: closed form for every `n` and every script of outcomes.  With `k` the index of the
first success (if there is one): the callback is invoked `min n (k+1)` times (never for `n ≤ 0`),
the reported attempt count is the number of failed invocations, and an error is reported iff `n > 0`
and no invocation succeeded, or `n < 0`. -/
theorem retry_spec (n : Int) (script : List Bool) :
    retry n script =
      if n < 0 then (0, true, 0)
      else if leadFails script < script.length ∧ leadFails script < n.toNat then
        (leadFails script, false, leadFails script + 1)
      else (n.toNat, decide (n.toNat ≠ 0), n.toNat) := by
  unfold retry
  split
  · rfl
  · split
    next h =>
      obtain ⟨f, hf⟩ := Nat.exists_eq_add_of_lt h.2
      rw [hf, Nat.add_assoc, retryLoop_skip script _ _ 0 false fun i _ hi =>
          fails_lt_leadFails script i (by rwa [Nat.zero_add] at hi),
        retryLoop, Nat.zero_add, if_neg (by rw [fails_at_leadFails script h.1]; decide)]
    next h =>
      have := retryLoop_skip script n.toNat 0 0 false fun i _ hi =>
        fails_before_success script (by rwa [Nat.zero_add] at hi) h
      rw [Nat.add_zero, Nat.zero_add] at this
      rw [this, retryLoop]
      cases n.toNat <;> rfl

theorem retry_calls (n : Int) (script : List Bool) :
    (retry n script).2.2 =
      if leadFails script < script.length then min n.toNat (leadFails script + 1) else n.toNat := by
  rw [retry_spec]
  split
  next hn =>
    rw [Int.toNat_eq_zero.mpr (Int.le_of_lt hn), Nat.zero_min]; split <;> rfl
  next =>
    split
    next h => rw [if_pos h.1]; exact (Nat.min_eq_right h.2).symm
    next h =>
      split
      next hs => exact (Nat.min_eq_left (Nat.le_succ_of_le (Nat.le_of_not_lt fun hk => h ⟨hs, hk⟩))).symm
      next hs => rfl

example : retry 5 [true, true, false, true] = (2, false, 3) := by decide
example : retry 2 [true, true, false, true] = (2, true, 2) := by decide
example : retry 0 [false] = (0, false, 0) := by decide

/-- the induction carries the previous attempt `p` -/
theorem gapped_cons_times (script : List Bool) (waits durs : Nat → Int) (d : Int)
    (hw : ∀ i, waits i ≥ d) (fuel a : Nat) (p : Int × Int) (now : Int) (h : now ≥ p.2 + d) :
    Spec.C18.gapped d (p :: retryDelayTimes script waits durs fuel a now) = true := by
  induction fuel generalizing a p now with
  | zero => rfl
  | succ fuel ih =>
    rw [retryDelayTimes]
    split
    · exact Bool.and_eq_true_iff.mpr ⟨decide_eq_true h, ih _ (now, _) _ (Int.add_le_add_left (hw a) _)⟩
    · exact Bool.and_eq_true_iff.mpr ⟨decide_eq_true h, rfl⟩

/-- `RetryWithDelay` when the attempts themselves take time: every attempt starts at least `d` after the END
of the previous one, whatever the durations. -/
theorem retryDelay_gapped (script : List Bool) (waits durs : Nat → Int) (d : Int)
    (hw : ∀ i, waits i ≥ d) (fuel a : Nat) (now : Int) :
    Spec.C18.gapped d (retryDelayTimes script waits durs fuel a now) = true := by
  cases fuel with
  | zero => rfl
  | succ fuel =>
    rw [retryDelayTimes]
    split
    · exact gapped_cons_times script waits durs d hw fuel _ (now, _) _ (Int.add_le_add_left (hw a) _)
    · rfl

theorem retryDelayTimes_instant (script : List Bool) (waits : Nat → Int) (fuel a : Nat) (now : Int) :
    (retryDelayTimes script waits (fun _ => 0) fuel a now).map (·.1) = retryDelayStamps script waits fuel a now := by
  induction fuel generalizing a now with
  | zero => rfl
  | succ fuel ih =>
    rw [retryDelayTimes, retryDelayStamps, Int.add_zero]
    split
    · exact congrArg _ (ih _ _)
    · rfl

/-- `RetryWithDelay`: whatever the script, consecutive invocations are at least `d` apart, provided
no wait returns early (`waits i ≥ d`: timers never fire early).  This is `retryDelay_gapped` for attempts that take
no time: an attempt that starts `d` after the end of the previous one starts `d` after its start
(`spaced_of_gapped`, `retryDelayTimes_le`). -/
theorem retryDelay_spaced (script : List Bool) (waits : Nat → Int) (d : Int)
    (hw : ∀ i, waits i ≥ d) (fuel a : Nat) (now : Int) :
    Spec.C18.spaced d (retryDelayStamps script waits fuel a now) = true := by
  rw [← retryDelayTimes_instant]
  exact C18More.spaced_of_gapped d _ (retryDelay_gapped script waits _ d hw fuel a now)
    (C18More.retryDelayTimes_le script waits _ (fun _ => Int.le_refl 0) fuel a now)

end GoguVerif.Theorems.C18
