import GoguVerif.Theorems.GenTieLists
/-!
# Regenerated tie for the pointer-level doubly linked list (`list/dlist.go`) — the read-only methods

`Gen/Lists.lean` (namespace `Gen.Lists.DList`) is regenerated from /repo by `translator/frag_list.go` over the store of
`Model/DList.lean`.  Tied here, for all stores/handles/values: `InitDList`, `Find`, `First`, `Last`, `Val`.
Translated (`Gen/Lists.lean`) and not tied: `relink`, `Unshift`, `Append`, `InsertBefore`, `InsertAfter`, `Replace`,
`Delete`, `Pop`, `Each`, `Clear`; `Shift` is outside the translated fragment (`var` declaration statement).
The theorems stand in the namespace of `Theorems/GenTieLists.lean` (its `bind_assoc` is used); `Heap`, `load`
and the walks are those of `Model.DList` here.
-/
namespace GoguVerif.Theorems.GenTieLists
open GoguVerif.Model GoguVerif.Model.DList

theorem dlist_init_tie (v : Int) : Gen.Lists.DList.InitDList v = DList.init v := rfl

theorem dlist_find_loop_tie (fuel : Nat) (h : Heap) (v : Int) (n : Option Nat) :
    Gen.Lists.DList.Find_loop1 fuel h v n =
      (DList.findLoop fuel h n v >>= fun r =>
        match r with
        | some a => pure (some (some a, true), h, some a)
        | none => pure (none, h, none)) := by
  induction fuel generalizing n with
  | zero => rfl
  | succ k ih =>
    unfold Gen.Lists.DList.Find_loop1 DList.findLoop
    cases n with
    | none => rfl
    | some a =>
      simp only [ListRes.deref, load, reduceCtorEq, if_false, ListRes.ok_bind]
      cases h[a]? with
      | none => rfl
      | some nd =>
        simp only [ListRes.ok_bind]
        split
        · rfl
        · exact ih _

/-- dlist.go `Find` (read-only): the store is unchanged, the handle is the model's, the flag is "not nil" -/
theorem dlist_find_tie (h : Heap) (v : Int) :
    Gen.Lists.DList.Find h v = (DList.find h v >>= fun r => pure (h, r, r.isSome)) := by
  unfold Gen.Lists.DList.Find DList.find
  simp only [dlist_find_loop_tie, bind_assoc]
  refine bind_congr fun r => ?_
  cases r <;> rfl

theorem dlist_first_tie (h : Heap) :
    Gen.Lists.DList.First h = (DList.first h >>= fun v => pure (h, v)) := by
  unfold Gen.Lists.DList.First DList.first
  cases load h 0 <;> rfl

theorem dlist_val_tie (h : Heap) (node : Option Nat) :
    Gen.Lists.DList.Val h node = (DList.val h node >>= fun v => pure (h, v)) := by
  unfold Gen.Lists.DList.Val DList.val
  cases node with
  | none => rfl
  | some a =>
    simp only [ListRes.deref, ListRes.ok_bind]
    cases load h a <;> rfl

theorem dlist_last_loop_tie (fuel : Nat) (h : Heap) (a : Nat) :
    Gen.Lists.DList.Last_loop1 fuel h (some a) = (DList.lastAddr fuel h a >>= fun b => pure (h, some b)) := by
  induction fuel generalizing a with
  | zero => rfl
  | succ k ih =>
    unfold Gen.Lists.DList.Last_loop1 DList.lastAddr
    simp only [ListRes.deref, load, ListRes.ok_bind]
    cases h[a]? with
    | none => rfl
    | some nd =>
      simp only [ListRes.ok_bind]
      cases nd.next with
      | none => rfl
      | some b => exact ih b

theorem dlist_last_tie (h : Heap) :
    Gen.Lists.DList.Last h = (DList.last h >>= fun v => pure (h, v)) := by
  unfold Gen.Lists.DList.Last DList.last
  simp only [dlist_last_loop_tie, bind_assoc]
  refine bind_congr fun a => ?_
  simp only [ListRes.deref, ListRes.ok_bind, ListRes.pure_eq]
end GoguVerif.Theorems.GenTieLists
