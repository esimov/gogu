import GoguVerif.Lemmas.C16Helpers4
-- for `Audit/C16Helpers4.lean`, which finds `Theorems.C16Helpers4.mstore_push` through this module:
import GoguVerif.Lemmas.C16MStore
import GoguVerif.Theorems.C16Helpers
import GoguVerif.Theorems.C13
/-!
# C16 — store-level refinement of concrete helpers, fourth batch

The same as `Theorems/C16Helpers.lean` / `C16Helpers2.lean`, for the helpers written over the slice store in
`Model/StoreHelpers4.lean`.  For each, for ALL stores, all well-formed argument headers (any offset, any
spare capacity, any other slice sharing the array, arguments sharing an array with each other) and all
callbacks:

1. **value refinement** — the elements of the returned header in the new store are the answer of the
   value-level model (`Model/C11.lean` … `Model/C14.lean`), errors and panics included;
2. **frame** — `Frame σ σ'`: every array that existed before the call is unchanged in every cell, spare
   capacity included;
3. **fresh result** — the result is a well-formed header into storage that did not exist before
   (`σ.length ≤ res.arr`); for map results: a map object that did not exist before, every map object that
   existed unchanged;
4. **discipline** — where the helper is `make` + single `append`s / indexed writes, the store function equals
   `run` of an explicit program of `Instr`s, so `Theorems.C16.run_frame` applies; the frame of 2. is proved for
   each helper through `Inv` and does not rest on that.  (`Flatten`/`Union` use the variadic `append(acc, v...)`,
   which is not an `Instr`: they have 1.–3. only, as `Merge` has.)

Covered (10 helpers): `Flatten`, `Union` (recursion through `[]any`, variadic `append`, `Unique` on the
flattening), `Range`, `RangeRight` (`Range` + `Reverse` in place on the slice made; errors / fuel as in
`Model/C13.lean`), `Keys`, `Values`, `MapCollection` (for EVERY visiting order of the map argument), `Pluck`,
`FindAll`, `SliceToMap` (slice arguments only read, result = a new map object; `mstore_push`, in
`Lemmas/C16MStore.lean`, says what one more object does to the map store).  `covered4_agree_with_table`
ties the list to the translator's regenerated table.  Not covered in this file (see
`Theorems/C16Helpers5.lean`): `GroupBy` (a map of slices built by `append`), `DuplicateWithIndex` (a local
map of `make([]int, 2)` slices), the map-to-map helpers.

Assumed, as in `Theorems/C16Helpers.lean`: element type `Int`, callbacks are pure Lean functions, `WF` for
the argument headers, the growth policy of `Store.append`, and that `Model/StoreHelpers4.lean` mirrors the Go
statements (read off the source, not regenerated).
-/
namespace GoguVerif.Theorems.C16Helpers4
open Model.Store Model.StoreHelpers Model.StoreHelpers3 Model.StoreHelpers4
open Lemmas.C16Helpers Lemmas.C16Helpers4 Theorems.C16Helpers
open Theorems.C16Helpers3

/-- Flatten, for every nesting of the `any` argument (a `T`, a `[]T` anywhere in the store, `[]any`s of
such, values of other types): the store-level model returns an error exactly when the value-level model
`Model.C12.flatten` does; otherwise the result shows the value-level answer, every array that existed is
unchanged, and the result is a well-formed header into storage that did not exist. -/
theorem flatten_refines (σ : Store) (n : SNested) (h : SNested.WFAll σ n) :
    (Model.C12.flatten (vals12 σ n) = none ∧ flattenStore σ n = .err) ∨
    ∃ σ' res, flattenStore σ n = .ok (σ', res) ∧
      Model.C12.flatten (vals12 σ n) = some (elems σ' res) ∧
      Frame σ σ' ∧ σ.length ≤ res.arr ∧ WF σ' res := by
  have hs := baseFlattenStore_sim12 n _ _ h (Inv.alloc σ 0 0)
  rw [alloc_elems] at hs
  rcases hs.elim with ⟨h1, h2⟩ | ⟨l, σ', res, h1, h2, hinv, he⟩
  · exact Or.inl ⟨h1, by simp only [flattenStore, h2]⟩
  · exact Or.inr ⟨σ', res, by simp only [flattenStore, h2], he ▸ h1, hinv.frame, hinv.fresh, hinv.wf⟩

/-- `Flatten` never panics -/
theorem flatten_no_panic (σ : Store) (n : SNested) : flattenStore σ n ≠ .panic := by
  unfold flattenStore
  simp only
  split <;> simp

/-- `[]any{arg0, 7, []any{arg1, other0}}` over `σx`: `arg0 = [1,2,3,4]`, `arg1 = [2,9]`, `other0 = [4,-777]`
share / neighbour arrays; the result is a fresh array, `σx` is a prefix of the new store -/
example : flattenStore σx (.list [.slice arg0, .leaf 7, .list [.slice arg1, .slice other0]]) =
      .ok (σx ++ [[], [1, 2, 3, 4], [1, 2, 3, 4, 7, 2, 9, 4, -777]], { arr := 4, off := 0, len := 9, cap := 9 }) ∧
    flattenStore σx (.list [.slice arg0, .bad]) = .err := by decide +kernel

/-- the hypothesis of `flatten_refines` holds of that argument -/
example : SNested.WFAll σx (.list [.slice arg0, .leaf 7, .list [.slice arg1, .slice other0]]) := by
  simp only [SNested.WFAll, SNested.WFList, and_true, true_and]
  exact ⟨wf_arg0, wf_arg1, wf_other0⟩

/-- Union: an error exactly when the value-level model `Model.C11.union` answers `none`; otherwise the
result shows the value-level answer (`Unique` of the flattening); frame (both allocations of `baseFlatten`
and the one of `Unique` are fresh); the result is a well-formed header into storage that did not exist.
`Unique(flatten)` never panics. -/
theorem union_refines (σ : Store) (n : SNested) (h : SNested.WFAll σ n) :
    (Model.C11.union (vals11 σ n) = none ∧ unionStore σ n = .err) ∨
    ∃ σ' res, unionStore σ n = .ok (σ', res) ∧
      Model.C11.union (vals11 σ n) = some (elems σ' res) ∧
      Frame σ σ' ∧ σ.length ≤ res.arr ∧ WF σ' res := by
  have hs := baseFlattenStore_sim11 n _ _ h (Inv.alloc σ 0 0)
  rw [alloc_elems] at hs
  unfold Model.C11.union
  rcases hs.elim with ⟨h1, h2⟩ | ⟨l, σ1, acc1, h1, h2, hinv, he⟩
  · exact Or.inl ⟨by rw [show Model.C11.baseFlatten [] (vals11 σ n) = none from h1], by simp only [unionStore, h2]⟩
  · obtain ⟨σ', res, u1, u2, u3, u4, u5⟩ := unique_refines σ1 acc1 hinv.wf
    exact Or.inr ⟨σ', res, by simp only [unionStore, h2, u1],
      by rw [show Model.C11.baseFlatten [] (vals11 σ n) = some l from h1, u2, he], Frame.trans hinv.frame u3,
      Nat.le_trans hinv.len u4, u5⟩

/-- `[]any{arg0, []any{arg1, other0}}`: the union `[1,2,3,4,9,-777]` in a fresh array (arrays 2–4 are
`baseFlatten`'s, 5–8 `Unique`'s) -/
example : unionStore σx (.list [.slice arg0, .list [.slice arg1, .slice other0]]) =
      .ok (σx ++ [[], [1, 2, 3, 4], [1, 2, 3, 4, 2, 9, 4, -777, 0], [], [1], [1, 2, 3], [1, 2, 3, 4, 9, -777, 0]],
        { arr := 8, off := 0, len := 6, cap := 7 }) ∧
    unionStore σx (.list [.slice arg0, .bad]) = .err := by decide +kernel

/-- Range, for every variadic slice `args` (any length, anywhere in the store): the store-level model
answers an error / a panic / runs out of fuel exactly when the value-level model `Model.C13.Range` does; a
result shows the value-level answer, every array that existed is unchanged (the argument slice is only read),
and the result is a well-formed header into storage that did not exist. -/
theorem range_refines (σ : Store) (args : Slice) (h : WF σ args) :
    match Model.C13.Range (elems σ args) with
    | .ok l => ∃ σ' res, rangeStore σ args = .ok (σ', res) ∧ elems σ' res = l ∧
        Frame σ σ' ∧ σ.length ≤ res.arr ∧ WF σ' res
    | .err => rangeStore σ args = .err
    | .panic => rangeStore σ args = .panic
    | .hang => rangeStore σ args = .hang := by
  rw [rangeStore_eq σ args h]
  cases Model.C13.Range (elems σ args) with
  | ok l =>
    exact ⟨_, _, rfl, builder_post σ 0 l⟩
  | err => rfl
  | panic => rfl
  | hang => rfl

/-- Range obeys the discipline: a run that returns a result is `make` + one `append` per element. -/
theorem range_disciplined (σ : Store) (regs : List Slice) (args : Slice) (h : WF σ args) (l : List Int)
    (hl : Model.C13.Range (elems σ args) = .ok l) :
    ∃ σ' res, rangeStore σ args = .ok (σ', res) ∧
      run σ.length { σ := σ, regs := regs } (Instr.alloc 0 0 :: l.map (Instr.append regs.length)) =
        { σ := σ', regs := regs ++ [res] } := by
  refine ⟨_, _, ?_, run_alloc_appends σ regs 0 0 l⟩
  rw [rangeStore_eq σ args h, hl]; rfl

/-- the value-level model never panics and never hangs (C13's `range_terminates`): neither does the
store-level model -/
theorem range_ok_or_err (σ : Store) (args : Slice) (h : WF σ args) :
    rangeStore σ args ≠ .panic ∧ rangeStore σ args ≠ .hang := by
  rw [rangeStore_eq σ args h]
  rcases Theorems.C13.range_terminates (elems σ args) with ⟨hh, hp⟩
  cases ho : Model.C13.Range (elems σ args) with
  | ok l => exact ⟨by simp [liftOut], by simp [liftOut]⟩
  | err => exact ⟨by simp [liftOut], by simp [liftOut]⟩
  | panic => exact absurd ho hp
  | hang => exact absurd ho hh

/-- `Range(arg1...)` with `arg1 = [2, 9]` (array 1 of `σx`, a sentinel behind): `2 … 8` in a fresh array;
`Range(1, 2, 3, 4)` is an error -/
example : rangeStore σx arg1 =
      .ok (σx ++ [[], [2], [2, 3, 4], [2, 3, 4, 5, 6, 7, 8]], { arr := 5, off := 0, len := 7, cap := 7 }) ∧
    rangeStore σx arg0 = .err := by decide +kernel

/-- RangeRight: `Range`, then `Reverse` IN PLACE on the slice `Range` made — so still every array that
existed before the call is unchanged and the result is fresh; it shows the value-level answer. -/
theorem rangeRight_refines (σ : Store) (params : Slice) (h : WF σ params) :
    match Model.C13.RangeRight (elems σ params) with
    | .ok l => ∃ σ' res, rangeRightStore σ params = .ok (σ', res) ∧ elems σ' res = l ∧
        Frame σ σ' ∧ σ.length ≤ res.arr ∧ WF σ' res
    | .err => rangeRightStore σ params = .err
    | .panic => rangeRightStore σ params = .panic
    | .hang => rangeRightStore σ params = .hang := by
  unfold rangeRightStore Model.C13.RangeRight
  rw [rangeStore_eq σ params h]
  cases Model.C13.Range (elems σ params) with
  | ok l =>
    have hinv := (Inv.alloc σ 0 0).appendEach l
    obtain ⟨g1, _⟩ := builder_post σ 0 l
    obtain ⟨σ', r1, r2, r3, r4⟩ := reverse_refines _ _ hinv.wf
    have hinv' := hinv.inplace r4
    simp only [liftOut, r1]
    exact ⟨_, _, rfl, by rw [r3, g1], hinv'.frame, hinv'.fresh, hinv'.wf⟩
  | err => rfl
  | panic => rfl
  | hang => rfl

/-- the hypothesis holds of `σx`, `arg1 = [2, 9]`, and the value-level answer there is `8 … 2`: by the theorem
the store-level call returns a fresh slice showing it -/
example : WF σx arg1 ∧ Model.C13.RangeRight (elems σx arg1) = .ok [8, 7, 6, 5, 4, 3, 2] ∧
    ∃ σ' res, rangeRightStore σx arg1 = .ok (σ', res) ∧ elems σ' res = [8, 7, 6, 5, 4, 3, 2] ∧ Frame σx σ' := by
  have hv : Model.C13.RangeRight (elems σx arg1) = .ok [8, 7, 6, 5, 4, 3, 2] := by decide +kernel
  have := rangeRight_refines σx arg1 wf_arg1
  rw [hv] at this
  obtain ⟨σ', res, h1, h2, h3, _⟩ := this
  exact ⟨wf_arg1, hv, σ', res, h1, h2, h3⟩

/-- Keys, for every visiting order of `range m` (any function whose result is a permutation of the
entries): never panics (`idx` stays below `len(m)`); the result shows the value-level model's answer for that
order — the keys in the order visited, a permutation of the map's keys —; frame; fresh result; the map store is
only read (it is not even returned). -/
theorem keys_refines (order : List (Int × Int) → List (Int × Int)) (σ : Store) (μ : MStore) (m : Nat)
    (ho : (order (mget μ m)).Perm (mget μ m)) :
    ∃ σ' res, keysStoreIn order σ μ m = some (σ', res) ∧
      Model.C14.Keys (order (mget μ m)) = .ok (elems σ' res) ∧
      (elems σ' res).Perm ((mget μ m).map Prod.fst) ∧
      Frame σ σ' ∧ σ.length ≤ res.arr ∧ WF σ' res := by
  obtain ⟨σ', res, h1, h2, h3, _⟩ := mapFillStoreIn_spec (fun k _ => k) order σ μ m ho.length_eq []
  refine ⟨σ', res, h1, by rw [Lemmas.C14.keys_eq, h2], by rw [h2]; exact ho.map _, h3.frame, h3.fresh, h3.wf⟩

theorem values_refines (order : List (Int × Int) → List (Int × Int)) (σ : Store) (μ : MStore) (m : Nat)
    (ho : (order (mget μ m)).Perm (mget μ m)) :
    ∃ σ' res, valuesStoreIn order σ μ m = some (σ', res) ∧
      Model.C14.Values (order (mget μ m)) = .ok (elems σ' res) ∧
      (elems σ' res).Perm ((mget μ m).map Prod.snd) ∧
      Frame σ σ' ∧ σ.length ≤ res.arr ∧ WF σ' res := by
  obtain ⟨σ', res, h1, h2, h3, _⟩ := mapFillStoreIn_spec (fun _ v => v) order σ μ m ho.length_eq []
  refine ⟨σ', res, h1, by rw [Lemmas.C14.values_eq, h2], by rw [h2]; exact ho.map _, h3.frame, h3.fresh, h3.wf⟩

/-- MapCollection (there is no value-level model of it: the answer is stated directly): the result shows
`fn(v)` for every entry in the order visited — a permutation of `fn` applied to the map's values. -/
theorem mapCollection_refines (order : List (Int × Int) → List (Int × Int)) (σ : Store) (μ : MStore) (m : Nat)
    (fn : Int → Int) (ho : (order (mget μ m)).Perm (mget μ m)) :
    ∃ σ' res, mapCollectionStoreIn order σ μ m fn = some (σ', res) ∧
      elems σ' res = (order (mget μ m)).map (fun e => fn e.2) ∧
      (elems σ' res).Perm ((mget μ m).map (fun e => fn e.2)) ∧
      Frame σ σ' ∧ σ.length ≤ res.arr ∧ WF σ' res := by
  obtain ⟨σ', res, h1, h2, h3, _⟩ := mapFillStoreIn_spec (fun _ v => fn v) order σ μ m ho.length_eq []
  exact ⟨σ', res, h1, h2, by rw [h2]; exact ho.map _, h3.frame, h3.fresh, h3.wf⟩

/-- Keys / Values / MapCollection obey the discipline: each is `run` of `make([]T, len(m))` + one indexed
write per entry through the register of the slice made (`g(k, v)` = `k`, `v`, `fn(v)`). -/
theorem mapFill_disciplined (g : Int → Int → Int) (order : List (Int × Int) → List (Int × Int)) (σ : Store)
    (regs : List Slice) (μ : MStore) (m : Nat) (ho : (order (mget μ m)).Perm (mget μ m)) :
    ∃ σ' res, mapFillStoreIn g order σ μ m = some (σ', res) ∧
      run σ.length { σ := σ, regs := regs }
        (Instr.alloc (mget μ m).length (mget μ m).length ::
          writesFrom regs.length 0 ((order (mget μ m)).map (fun e => g e.1 e.2))) =
        { σ := σ', regs := regs ++ [res] } := by
  obtain ⟨σ', res, h1, _, _, h4⟩ := mapFillStoreIn_spec g order σ μ m ho.length_eq regs
  exact ⟨σ', res, h1, h4⟩

theorem keys_disciplined (order : List (Int × Int) → List (Int × Int)) (σ : Store) (regs : List Slice)
    (μ : MStore) (m : Nat) (ho : (order (mget μ m)).Perm (mget μ m)) :
    ∃ σ' res, keysStoreIn order σ μ m = some (σ', res) ∧
      run σ.length { σ := σ, regs := regs }
        (Instr.alloc (mget μ m).length (mget μ m).length ::
          writesFrom regs.length 0 ((order (mget μ m)).map (fun e => e.1))) =
        { σ := σ', regs := regs ++ [res] } :=
  mapFill_disciplined (fun k _ => k) order σ regs μ m ho

theorem values_disciplined (order : List (Int × Int) → List (Int × Int)) (σ : Store) (regs : List Slice)
    (μ : MStore) (m : Nat) (ho : (order (mget μ m)).Perm (mget μ m)) :
    ∃ σ' res, valuesStoreIn order σ μ m = some (σ', res) ∧
      run σ.length { σ := σ, regs := regs }
        (Instr.alloc (mget μ m).length (mget μ m).length ::
          writesFrom regs.length 0 ((order (mget μ m)).map (fun e => e.2))) =
        { σ := σ', regs := regs ++ [res] } :=
  mapFill_disciplined (fun _ v => v) order σ regs μ m ho

theorem mapCollection_disciplined (order : List (Int × Int) → List (Int × Int)) (σ : Store) (regs : List Slice)
    (μ : MStore) (m : Nat) (fn : Int → Int) (ho : (order (mget μ m)).Perm (mget μ m)) :
    ∃ σ' res, mapCollectionStoreIn order σ μ m fn = some (σ', res) ∧
      run σ.length { σ := σ, regs := regs }
        (Instr.alloc (mget μ m).length (mget μ m).length ::
          writesFrom regs.length 0 ((order (mget μ m)).map (fun e => fn e.2))) =
        { σ := σ', regs := regs ++ [res] } :=
  mapFill_disciplined (fun _ v => fn v) order σ regs μ m ho

/-- map 1 of `μx` is `{1:10, 2:20, 3:30, 4:40}`; in the representation's order and in the opposite one; the
slice store `σh` keeps its sentinels -/
example : keysStoreIn id σh μx 1 = some (σh ++ [[1, 2, 3, 4]], { arr := 2, off := 0, len := 4, cap := 4 }) ∧
    valuesStoreIn List.reverse σh μx 1 = some (σh ++ [[40, 30, 20, 10]], { arr := 2, off := 0, len := 4, cap := 4 }) ∧
    mapCollectionStoreIn id σh μx 1 (fun v => v + 1) =
      some (σh ++ [[11, 21, 31, 41]], { arr := 2, off := 0, len := 4, cap := 4 }) := by decide +kernel

/-- the hypothesis holds of that map and the reversing order -/
example : (List.reverse (mget μx 1)).Perm (mget μx 1) := List.reverse_perm _

theorem pluckStore_eq (σ : Store) (μ : MStore) (mapSlice : List Nat) (key : Int) :
    pluckStore σ μ mapSlice key =
      appendEach (alloc σ 0 0).1 (alloc σ 0 0).2 (Model.C14.Pluck (mapSlice.map (mget μ)) key) := by
  unfold pluckStore Model.C14.Pluck
  exact pluckLoopS_eq μ key mapSlice _ _

/-- Pluck, for every list of map objects: the result shows the value-level model's answer; frame; fresh
result; the map store is only read. -/
theorem pluck_refines (σ : Store) (μ : MStore) (mapSlice : List Nat) (key : Int) :
    elems (pluckStore σ μ mapSlice key).1 (pluckStore σ μ mapSlice key).2 =
        Model.C14.Pluck (mapSlice.map (mget μ)) key ∧
      Frame σ (pluckStore σ μ mapSlice key).1 ∧ σ.length ≤ (pluckStore σ μ mapSlice key).2.arr ∧
      WF (pluckStore σ μ mapSlice key).1 (pluckStore σ μ mapSlice key).2 := by
  rw [pluckStore_eq]
  exact builder_post σ 0 (Model.C14.Pluck (mapSlice.map (mget μ)) key)

/-- Pluck obeys the discipline: `[]V{}` + one `append` per map that has the key. -/
theorem pluck_disciplined (σ : Store) (regs : List Slice) (μ : MStore) (mapSlice : List Nat) (key : Int) :
    run σ.length { σ := σ, regs := regs }
        (Instr.alloc 0 0 :: (Model.C14.Pluck (mapSlice.map (mget μ)) key).map (Instr.append regs.length)) =
      { σ := (pluckStore σ μ mapSlice key).1, regs := regs ++ [(pluckStore σ μ mapSlice key).2] } := by
  rw [pluckStore_eq]
  exact run_alloc_appends σ regs 0 0 _

/-- key `2` in the maps 1, 0, 2, 1 of `μx`: present in map 1 (`20`) and map 2 (`99`) -/
example : pluckStore σh μx [1, 0, 2, 1] 2 =
    (σh ++ [[], [20], [20, 99, 20]], { arr := 4, off := 0, len := 3, cap := 3 }) := by decide +kernel

/-- FindAll: never panics; the slice store is returned AS IT CAME (nothing is written, nothing is
allocated in it); the map store gets exactly one new object — the value-level model's answer — under an id
that did not exist, and every map object that existed is unchanged (what `μ ++ [obj]` means for a reader of the map
store is `mstore_push`, in `Lemmas/C16MStore.lean`; the proof here does not need it). -/
theorem findAll_refines (σ : Store) (μ : MStore) (s : Slice) (fn : Int → Bool) (h : WF σ s) :
    findAllStore σ μ s fn = some (σ, μ ++ [Model.C13.FindAll (elems σ s) fn], μ.length) := by
  simp only [findAllStore, findAllLoopS_eq fn h]

/-- SliceToMap: panics exactly when the value-level model does (different lengths); otherwise the slice
store is returned as it came and the map store gets one new object, the value-level model's answer. -/
theorem sliceToMap_refines (σ : Store) (μ : MStore) (s1 s2 : Slice) (h1 : WF σ s1) (h2 : WF σ s2) :
    match Model.C14.SliceToMap (elems σ s1) (elems σ s2) with
    | .ok m => sliceToMapStore σ μ s1 s2 = some (σ, μ ++ [m], μ.length)
    | .panic => sliceToMapStore σ μ s1 s2 = none := by
  unfold Model.C14.SliceToMap sliceToMapStore
  rw [elems_length h1, elems_length h2, sliceToMapLoopS_eq]
  by_cases hl : s1.len ≠ s2.len
  · simp only [hl, ne_eq, not_false_eq_true, if_true]
  · simp only [hl, if_false]
    cases Model.C14.sliceToMapLoop (elems σ s1) (elems σ s2) s1.len 0 [] with
    | ok m => rfl
    | panic => rfl

/-- `FindAll(arg0, even)` on `σx`: positions 1 and 3; `SliceToMap(arg1, other0)`: `{2:4, 9:-777}`; different
lengths: panic.  The slice store comes back as it was, the new map is object 3 of the map store. -/
example : findAllStore σx μx arg0 (fun x => x % 2 == 0) = some (σx, μx ++ [[(1, 2), (3, 4)]], 3) ∧
    sliceToMapStore σx μx arg1 other0 = some (σx, μx ++ [[(2, 4), (9, -777)]], 3) ∧
    sliceToMapStore σx μx arg0 arg1 = none := ⟨by decide +kernel, by decide +kernel, by decide +kernel⟩

/-- the helpers covered here with what is PROVED about them: (name, parameters written through, parameters
the result may alias) -/
def covered4 : List (String × List Nat × List Nat) :=
  [("Flatten", [], []), ("Union", [], []), ("Range", [], []), ("RangeRight", [], []),
   ("Keys", [], []), ("Values", [], []), ("MapCollection", [], []), ("Pluck", [], []),
   ("FindAll", [], []), ("SliceToMap", [], [])]

/-- for every helper covered here the classification in the translator's table (`Gen.effects`, regenerated from the
source on every run) is the one proved above (no parameter written through, the result aliases no parameter).  The
numbers are hints: the positions in `Gen.effects` where `Lemmas.C16Table.foundAt` looks first. -/
theorem covered4_agree_with_table :
    covered4.all (fun c => Gen.effects.any (fun e => e.name == c.1 && e.writes == c.2.1 && e.aliases == c.2.2 &&
      !e.selfAssignOnly)) = true :=
  Lemmas.C16Table.all_any_of_foundAt [35, 96, 79, 80, 46, 101, 50, 78, 24, 86] (by decide +kernel)

end GoguVerif.Theorems.C16Helpers4
