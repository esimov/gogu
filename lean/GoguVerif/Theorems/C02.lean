import GoguVerif.Gen.LockTable
import GoguVerif.Lemmas.TableBy
import GoguVerif.Spec.C05
import GoguVerif.Spec.C06
import GoguVerif.Theorems.C02Fine
/-!
# C02 — linearizability of single-element container operations

Theorem 1 (generic, any number of threads and calls): in the system where every call takes effect
in ONE atomic step between its invocation and its return, every history is linearizable — the order
of the `lin` events is a legal sequential run producing exactly the returned values and the final
state (`lin_legal`), every returned value is the one produced at the call's `lin` event
(`ret_after_lin`), every `lin` lies after its own invocation (`lin_after_inv`), and hence the
sequential order respects real-time precedence (`real_time_order`).

Table obligation (regenerated from the source on every run): every single-element operation named by
the property is ONE locked section on every path (`lin_table_ok`), except the listed operations whose
last section alone determines effect and result.

Theorem 2 (`Theorems/C02Fine.lean: fine_refines_atomic`, generic): the fine-grained execution of
methods that are ONE locked section each (micro-steps interleaving under the RWMutex admission
rules, read-mode bodies not writing the shared state) is an execution of the atomic system with
the same events; `fine_linearizable` below composes it with Theorem 1, and `queue_fine_linearizable`
instantiates it for a queue whose `Dequeue` body is two separate micro-steps.  What stays assumed:
that the real sections are such bodies (regenerated table + container models), and that race-free
Go programs are sequentially consistent (C01 + Go memory model); the exhaustive interleaving run
of the real code validates it.
-/
namespace GoguVerif.Theorems.C02
open GoguVerif.Model.Lin
open GoguVerif.Lemmas.RWLock (forall_upd)

variable {σ Op Ret : Type}

theorem legal_snoc {O : Obj σ Op Ret} {s ops s'} (h : Legal O s ops s') (op : Op) :
    Legal O s (ops ++ [(op, (O.step s' op).2)]) (O.step s' op).1 := by
  induction h with
  | nil s => exact Legal.cons (Legal.nil _)
  | cons _ ih => exact Legal.cons ih

/-- Legality: the object state always equals the sequential run of the operations in `lin` order,
and every recorded result is the one the sequential object gives. -/
theorem lin_legal {O : Obj σ Op Ret} {h s} (r : Reach O h s) : Legal O O.init (linOps h) s.obj := by
  induction r with
  | init => exact Legal.nil _
  | step _ st ih =>
    cases st with
    | lin t c op hp => exact legal_snoc ih op
    | _ => exact ih

/-- the part of a history older than one of its events is a history too, and that event its next step -/
theorem reach_split {O : Obj σ Op Ret} {h s} (r : Reach O h s) {newer older : List (Ev Op Ret)} {e}
    (eq : h = newer ++ e :: older) : ∃ s0 s1, Reach O older s0 ∧ Step O s0 e s1 := by
  induction r generalizing newer with
  | init => cases newer <;> cases eq
  | step rp st ih =>
    cases newer with
    | nil => cases eq; exact ⟨_, _, rp, st⟩
    | cons x newer' => exact ih (List.cons.inj eq).2

def PcOk (h : List (Ev Op Ret)) (t : Nat) : PC Op Ret → Prop
  | .idle => True
  | .pending c op => Ev.inv t c op ∈ h
  | .done c op r => Ev.lin t c op r ∈ h

theorem PcOk.cons {h : List (Ev Op Ret)} {t : Nat} {pc : PC Op Ret} (ok : PcOk h t pc) (e : Ev Op Ret) :
    PcOk (e :: h) t pc := by
  cases pc with
  | idle => trivial
  | pending c op => exact List.mem_cons_of_mem _ ok
  | done c op r => exact List.mem_cons_of_mem _ ok

/-- The call a thread is in has left its events in the history.  Read through `inv_of_pending` and `lin_of_done`. -/
theorem pcOk_of_reach {O : Obj σ Op Ret} {h s} (r : Reach O h s) (t : Nat) : PcOk h t (s.pcs t) := by
  induction r generalizing t with
  | init => trivial
  | step _ st ih =>
    cases st with
    | inv t0 op hp => exact forall_upd (fun i _ => (ih i).cons _) List.mem_cons_self t
    | tau t0 c op hp => exact (ih t).cons _
    | lin t0 c op hp => exact forall_upd (fun i _ => (ih i).cons _) List.mem_cons_self t
    | ret t0 c op r hp => exact forall_upd (fun i _ => (ih i).cons _) (show PcOk _ t0 .idle from trivial) t

theorem inv_of_pending {O : Obj σ Op Ret} {h s} (r : Reach O h s) {t c op} (hp : s.pcs t = .pending c op) :
    Ev.inv t c op ∈ h := by
  have := pcOk_of_reach r t
  rwa [hp] at this

theorem lin_of_done {O : Obj σ Op Ret} {h s} (r : Reach O h s) {t c op res}
    (hp : s.pcs t = .done c op res) : Ev.lin t c op res ∈ h := by
  have := pcOk_of_reach r t
  rwa [hp] at this

/-- Every return is preceded (in time) by the `lin` event of the same call with the same result:
a call returns exactly what the sequential run gives it. -/
theorem ret_after_lin {O : Obj σ Op Ret} {h s} (r : Reach O h s) :
    ∀ newer older t c op res, h = newer ++ Ev.ret t c op res :: older → Ev.lin t c op res ∈ older := by
  intro newer older t c op res e
  obtain ⟨s0, _, r0, st⟩ := reach_split r e
  cases st with
  | ret _ _ _ _ hp => exact lin_of_done r0 hp

/-- Every `lin` event is preceded (in time) by the invocation of the same call. -/
theorem lin_after_inv {O : Obj σ Op Ret} {h s} (r : Reach O h s) :
    ∀ newer older t c op res, h = newer ++ Ev.lin t c op res :: older → Ev.inv t c op ∈ older := by
  intro newer older t c op res e
  obtain ⟨s0, _, r0, st⟩ := reach_split r e
  cases st with
  | lin _ _ _ hp => exact inv_of_pending r0 hp

theorem mem_older {α : Type} {h n o : List α} {e x : α} (eq : h = n ++ e :: o) (hx : x ∈ o) : x ∈ h :=
  eq ▸ List.mem_append_right _ (List.mem_cons_of_mem _ hx)

theorem lin_of_ret {O : Obj σ Op Ret} {h s} (r : Reach O h s) {t c op res}
    (hm : Ev.ret t c op res ∈ h) : Ev.lin t c op res ∈ h := by
  obtain ⟨n, o, e⟩ := List.append_of_mem hm
  exact mem_older e (ret_after_lin r n o t c op res e)

theorem inv_of_lin {O : Obj σ Op Ret} {h s} (r : Reach O h s) {t c op res}
    (hm : Ev.lin t c op res ∈ h) : Ev.inv t c op ∈ h := by
  obtain ⟨n, o, e⟩ := List.append_of_mem hm
  exact mem_older e (lin_after_inv r n o t c op res e)

theorem inv_id_lt {O : Obj σ Op Ret} {h s} (r : Reach O h s) :
    ∀ t c op, Ev.inv t c op ∈ h → c < s.next := by
  induction r with
  | init => nofun
  | step rp st ih =>
    intro t c op hm
    cases st with
    | inv t' op' hp =>
      rcases List.mem_cons.1 hm with e | hm
      · cases e; exact Nat.lt_succ_self _
      · exact Nat.lt_succ_of_lt (ih t c op hm)
    | tau t' c' op' hp => exact ih t c op ((List.mem_cons.1 hm).resolve_left nofun)
    | lin t' c' op' hp => exact ih t c op ((List.mem_cons.1 hm).resolve_left nofun)
    | ret t' c' op' r' hp => exact ih t c op ((List.mem_cons.1 hm).resolve_left nofun)

/-- An invocation is the first event of its call: nothing of call `c` is older than `inv c`. -/
theorem nothing_before_inv {O : Obj σ Op Ret} {h s} (r : Reach O h s) :
    ∀ newer older t c op, h = newer ++ Ev.inv t c op :: older →
      ∀ t' op' res, Ev.lin t' c op' res ∉ older := by
  intro newer older t c op e t' op' res hm
  obtain ⟨s0, _, r0, st⟩ := reach_split r e
  cases st with
  | inv _ _ hp =>
    -- a lin of call `next` in the old history would need an inv of `next` in it: impossible
    exact Nat.lt_irrefl _ (inv_id_lt r0 t' _ op' (inv_of_lin r0 hm))

/-- Real-time order: if call `a` returned before call `b` was invoked, then `a`'s linearization
point lies before `b`'s (so the sequential witness `linOps` orders `a` before `b`).
History is newest first, `h = n1 ++ inv b :: n2 ++ ret a :: older`; stated as: the `lin` of `a` is in
`older`, and no `lin` of `b` is older than `inv b`. -/
theorem real_time_order {O : Obj σ Op Ret} {h s} (r : Reach O h s)
    (n1 n2 older : List (Ev Op Ret)) (ta a tb b : Nat) (opa opb : Op) (ra : Ret)
    (hsplit : h = n1 ++ Ev.inv tb b opb :: (n2 ++ Ev.ret ta a opa ra :: older)) :
    (Ev.lin ta a opa ra ∈ older) ∧ (∀ t' op' res, Ev.lin t' b op' res ∉ n2 ++ Ev.ret ta a opa ra :: older) :=
  ⟨ret_after_lin r (n1 ++ Ev.inv tb b opb :: n2) older ta a opa ra (by rw [hsplit, List.append_assoc]; rfl),
   nothing_before_inv r n1 _ tb b opb hsplit⟩

open GoguVerif.Model.Lock

/-- the single-element operations the property names -/
def singleOps : List (String × String) := [
  ("heap.Heap", "Push"), ("heap.Heap", "Pop"), ("heap.Heap", "Peek"), ("heap.Heap", "Size"), ("heap.Heap", "Clear"),
  ("queue.Queue", "Enqueue"), ("queue.Queue", "Dequeue"), ("queue.Queue", "Search"),
  ("queue.Queue", "Peek"), ("queue.Queue", "Size"), ("queue.Queue", "Clear"),
  ("queue.LQueue", "Enqueue"), ("queue.LQueue", "Dequeue"), ("queue.LQueue", "Search"),
  ("queue.LQueue", "Peek"), ("queue.LQueue", "Size"), ("queue.LQueue", "Clear"),
  ("stack.Stack", "Push"), ("stack.Stack", "Pop"), ("stack.Stack", "Peek"), ("stack.Stack", "Size"),
  ("stack.LStack", "Push"), ("stack.LStack", "Pop"), ("stack.LStack", "Peek"), ("stack.LStack", "Size"),
  ("bstree.BsTree", "Upsert"), ("bstree.BsTree", "Get"), ("bstree.BsTree", "Delete"), ("bstree.BsTree", "Size"),
  ("trie.Trie", "Put"), ("trie.Trie", "Get"), ("trie.Trie", "Contains"), ("trie.Trie", "Size"),
  ("cache.Cache", "Set"), ("cache.Cache", "Get"), ("cache.Cache", "Update"), ("cache.Cache", "Delete"),
  ("cache.Cache", "Count")]

/-- Operations that may consist of several sections because only the LAST one determines effect and
result (its effect does not depend on what the earlier, read-only sections observed):
`Heap.Clear` (emptiness pre-check, then unconditional truncation), `Cache.Update` (a look-up that cannot make
the call return: `Get` answers an item or an error, never both; then an unconditional store).  These take `τ` steps before their `lin`. -/
def lastSectionOps : List (String × String) := [("heap.Heap", "Clear"), ("cache.Cache", "Update")]

/-- the number of separate steps a path takes on the shared state: its locked sections, plus one when it also touches a
`sync/atomic` field outside them (flag `atomicOutsideLock` of the regenerated table) -/
def lockedSections (p : PathEntry) : Nat :=
  (p.sects.filter (fun s => s.mode.isSome)).length + (if p.flags.contains "atomicOutsideLock" then 1 else 0)

def onlyLastWrites (p : PathEntry) : Bool :=
  p.sects.dropLast.all (fun s => s.accs.all (fun a => !a.write))

/-- A type some method of which touches a `sync/atomic` field WITHOUT the lock (`atomicOutsideLock`: e.g. a lock-free
`Size` from an atomic counter) has no locked section that writes atomic fields twice (`twoAtomicWritesInLock`): the
lock-free reader would see the state between the two writes, so that section would no longer be one atomic step. -/
def atomicsOk (t : List MethodEntry) : Bool :=
  t.all (fun m =>
    if m.paths.any (fun p => p.flags.contains "atomicOutsideLock") then
      t.all (fun m' => m'.type != m.type || m'.paths.all (fun p => !p.flags.contains "twoAtomicWritesInLock"))
    else true)

/-- The library's own goroutines (`go c.cleanup()`: table rows `go:<name>`): what such an actor does to the shared state
per iteration of its loop is ONE critical section on every path (the analysis takes loops 0 or 1 times) — the janitor's
tick is one atomic step for every caller, exactly like the public `DeleteExpired` it stands for. -/
def goroutinesOk (t : List MethodEntry) : Bool :=
  t.all (fun m => m.paths.all (fun p => !p.flags.contains "goroutine" || lockedSections p ≤ 1))

def linTableOk (t : List MethodEntry) : Bool :=
  atomicsOk t && goroutinesOk t &&
  singleOps.all (fun o => t.any (fun m => m.type == o.1 && m.method == o.2 && m.inst == 0)) &&
  t.all (fun m =>
    if singleOps.contains (m.type, m.method) && m.inst == 0 then
      m.paths.all (fun p => lockedSections p ≤ 1 ||
        (lastSectionOps.contains (m.type, m.method) && onlyLastWrites p))
    else true)

/-- `linTableOk` with the operations under their Go types.  The kernel pays for every pair of names it compares;
here the type of a row is compared once per type, not once per operation. -/
def linTableOkBy (t : List MethodEntry) (gs : List (String × List String)) : Bool :=
  atomicsOk t && goroutinesOk t &&
  (gs.all fun g => g.2.all fun me =>
    (t.filter fun m => m.type == g.1).any fun m => m.method == me && m.inst == 0) &&
  gs.all fun g => (t.filter fun m => m.type == g.1).all fun m =>
    if g.2.contains m.method && m.inst == 0 then
      m.paths.all (fun p => lockedSections p ≤ 1 || (lastSectionOps.contains (m.type, m.method) && onlyLastWrites p))
    else true

theorem linTableOk_flat (t : List MethodEntry) {gs : List (String × List String)}
    (h : singleOps = Lemmas.TableBy.flat gs) : linTableOk t = linTableOkBy t gs := by
  rw [linTableOk, h, Lemmas.TableBy.all_flat, Lemmas.TableBy.rows_flat]
  simp only [Lemmas.TableBy.any_key]
  rfl

theorem lin_table_ok_by :
    linTableOkBy GoguVerif.Gen.lockTable (Lemmas.TableBy.groupKey singleOps) = true := by decide +kernel

/-- In the table regenerated from the Go source every single-element operation is one critical section
on every path (`lastSectionOps` apart), and the side conditions on atomics and goroutines hold. -/
theorem lin_table_ok : linTableOk GoguVerif.Gen.lockTable = true :=
  linTableOk_flat _ (Lemmas.TableBy.flat_groupKey singleOps).symm ▸ lin_table_ok_by

def fifoObj : Obj (List Int) (Spec.C05.Op Int) (Spec.C05.Out Int) := ⟨[], Spec.C05.step⟩
def lifoObj : Obj (List Int) (Spec.C06.Op Int) (Spec.C06.Out Int) := ⟨[], Spec.C06.step⟩

/-- Every history of the queue system is a legal FIFO run in linearization order. -/
theorem queue_linearizable {h s} (r : Reach fifoObj h s) : Legal fifoObj [] (linOps h) s.obj := lin_legal r
theorem stack_linearizable {h s} (r : Reach lifoObj h s) : Legal lifoObj [] (linOps h) s.obj := lin_legal r

/-- non-vacuity: a two-thread history with overlapping calls is reachable -/
example : ∃ h s, Reach fifoObj h s ∧ h.length = 4 := by
  have r0 : Reach fifoObj [] _ := Reach.init
  have r1 := r0.step (Step.inv _ 0 (.enqueue 1) rfl)
  have r2 := r1.step (Step.inv _ 1 .dequeue rfl)
  have r3 := r2.step (Step.lin _ 1 1 .dequeue rfl)
  exact ⟨_, _, r3.step (Step.lin _ 0 0 (.enqueue 1) rfl), rfl⟩

open GoguVerif.Model in
/-- Every history of the FINE-GRAINED system (micro-steps of lock-guarded single-section methods
interleaving under the RWMutex rules) is linearizable: the operations in the order of their lock
acquisitions form a legal sequential run of the methods' sequential meaning, producing exactly the
values returned, and ending in the abstract object state. -/
theorem fine_linearizable {lam : Type} {meth : Op → Fine.Meth σ lam Ret} (ro : Fine.ReadOnly meth)
    {init : σ} {h s} (r : Fine.Reach meth init h s) :
    Legal (Fine.obj meth init) init (linOps h) s.absObj :=
  lin_legal (C02Fine.fine_refines_atomic ro r).2

open GoguVerif.Model in
/-- Returned values / real-time order carry over, because the fine-grained history IS a history of
the atomic system. -/
theorem fine_history_is_atomic {lam : Type} {meth : Op → Fine.Meth σ lam Ret} (ro : Fine.ReadOnly meth)
    {init : σ} {h s} (r : Fine.Reach meth init h s) : Reach (Fine.obj meth init) h (Fine.abs s) :=
  (C02Fine.fine_refines_atomic ro r).2

open GoguVerif.Model in
/-- method table of a queue over `List Int`; the local state is the answer being assembled -/
def queueMeth : Spec.C05.Op Int → Fine.Meth (List Int) (Spec.C05.Out Int) (Spec.C05.Out Int)
  | .enqueue x => ⟨.w, [fun p => (p.1 ++ [x], p.2)], .unit, id⟩
  | .dequeue => ⟨.w, [fun p => (p.1, match p.1 with | [] => .deq default true | x :: _ => .deq x false),
                       fun p => (p.1.tail, p.2)], .unit, id⟩
  | .peek => ⟨.r, [fun p => (p.1, .val (p.1.head?.getD default))], .unit, id⟩
  | .search x => ⟨.r, [fun p => (p.1, .bool (decide (x ∈ p.1)))], .unit, id⟩
  | .size => ⟨.r, [fun p => (p.1, .int p.1.length)], .unit, id⟩
  | .clear => ⟨.w, [fun p => ([], p.2)], .unit, id⟩

open GoguVerif.Model in
theorem queueMeth_atomic (s : List Int) (op : Spec.C05.Op Int) :
    Fine.atomic (queueMeth op) s = Spec.C05.step s op := by
  cases op with
  | dequeue => cases s <;> rfl
  | _ => rfl

open GoguVerif.Model in
theorem queueMeth_readOnly : Fine.ReadOnly queueMeth := by
  intro op hm f hf p
  cases op <;> simp [queueMeth] at hm hf <;> subst hf <;> rfl

open GoguVerif.Model in
/-- Any number of goroutines calling this queue, interleaved at micro-step granularity: the history is a
legal FIFO run in lock-acquisition order. -/
theorem queue_fine_linearizable {h s} (r : Fine.Reach queueMeth ([] : List Int) h s) :
    Legal fifoObj [] (linOps h) s.absObj := by
  have := fine_linearizable queueMeth_readOnly r
  have e : Fine.obj queueMeth ([] : List Int) = fifoObj := by
    simp only [Fine.obj, fifoObj]
    congr 1
    funext s op
    exact queueMeth_atomic s op
  rw [e] at this; exact this

end GoguVerif.Theorems.C02

/-! ## More about histories and legal runs

Generic facts about `Reach`, `linOps` and `Legal` that the per-container theorems (`C02More`, `C02Two`,
`C01NoPanic`) build on. -/
namespace GoguVerif.Theorems.C02More
open GoguVerif.Model.Lin
open GoguVerif.Lemmas.RWLock (upd_self forall_upd)

variable {σ Op Ret : Type}

theorem legal_cons_inv {O : Obj σ Op Ret} {s s' : σ} {p : Op × Ret} {rest : List (Op × Ret)}
    (h : Legal O s (p :: rest) s') :
    p.2 = (O.step s p.1).2 ∧ Legal O (O.step s p.1).1 rest s' := by
  cases h with
  | cons h' => exact ⟨rfl, h'⟩

theorem legal_nil_inv {O : Obj σ Op Ret} {s s' : σ} (h : Legal O s [] s') : s' = s := by
  cases h; rfl

/-- Along a legal run from an `I`-state all of whose operations satisfy `R`: `I` holds at the end and
every recorded result is `G`. -/
theorem legal_preserves_on {O : Obj σ Op Ret} (I : σ → Prop) (R : Op → Prop) (G : Op → Ret → Prop)
    (hstep : ∀ s op, I s → R op → I (O.step s op).1 ∧ G op (O.step s op).2)
    {s ops s'} (l : Legal O s ops s') (hr : ∀ p ∈ ops, R p.1) (hi : I s) :
    I s' ∧ ∀ p ∈ ops, G p.1 p.2 := by
  induction l with
  | nil s => exact ⟨hi, nofun⟩
  | @cons s op rest s' _ ih =>
    obtain ⟨i1, g1⟩ := hstep s op hi (hr _ List.mem_cons_self)
    obtain ⟨i2, g2⟩ := ih (fun p hp => hr p (List.mem_cons_of_mem _ hp)) i1
    exact ⟨i2, List.forall_mem_cons.2 ⟨g1, g2⟩⟩

theorem mem_linOps {h : List (Ev Op Ret)} {op : Op} {r : Ret} (hm : (op, r) ∈ linOps h) :
    ∃ t c, Ev.lin t c op r ∈ h := by
  induction h with
  | nil => cases hm
  | cons e es ih =>
    have old : (op, r) ∈ linOps es → ∃ t c, Ev.lin t c op r ∈ e :: es := fun hm =>
      (ih hm).imp fun _ => Exists.imp fun _ => List.mem_cons_of_mem _
    cases e with
    | lin t c op' r' =>
      rcases List.mem_append.1 hm with hm | hm
      · exact old hm
      · cases List.mem_singleton.1 hm; exact ⟨t, c, List.mem_cons_self⟩
    | _ => exact old hm

theorem linOps_invoked {O : Obj σ Op Ret} {h s} (r : Reach O h s) {op : Op} {res : Ret}
    (hm : (op, res) ∈ linOps h) : ∃ t c, Ev.inv t c op ∈ h := by
  obtain ⟨t, c, hl⟩ := mem_linOps hm
  exact ⟨t, c, C02.inv_of_lin r hl⟩

theorem lin_mem_linOps {h : List (Ev Op Ret)} {t c : Nat} {op : Op} {r : Ret}
    (hm : Ev.lin t c op r ∈ h) : (op, r) ∈ linOps h := by
  induction h with
  | nil => cases hm
  | cons e es ih =>
    rcases List.mem_cons.1 hm with rfl | hm1
    · exact List.mem_append_right _ List.mem_cons_self
    · cases e with
      | lin _ _ _ _ => exact List.mem_append_left _ (ih hm1)
      | _ => exact ih hm1

theorem ret_mem_linOps {O : Obj σ Op Ret} {h s} (r : Reach O h s) {t c : Nat} {op : Op} {res : Ret}
    (hm : Ev.ret t c op res ∈ h) : (op, res) ∈ linOps h :=
  lin_mem_linOps (C02.lin_of_ret r hm)

/-- Along a history of the atomic system from an `I`-state, every step keeping `I` and answering `G`: `I` holds of
the object, and every linearized and every returned answer is `G`. -/
theorem reach_preserves {O : Obj σ Op Ret} (I : σ → Prop) (G : Op → Ret → Prop)
    (hstep : ∀ s op, I s → I (O.step s op).1 ∧ G op (O.step s op).2) (hi : I O.init) {h s} (r : Reach O h s) :
    I s.obj ∧ (∀ p ∈ linOps h, G p.1 p.2) ∧ ∀ t c op res, Ev.ret t c op res ∈ h → G op res := by
  obtain ⟨i, g⟩ := legal_preserves_on I (fun _ => True) G (fun s op hi _ => hstep s op hi) (C02.lin_legal r)
    (fun _ _ => trivial) hi
  exact ⟨i, g, fun t c op res hm => g (op, res) (ret_mem_linOps r hm)⟩

theorem ret_id_lt {O : Obj σ Op Ret} {h s} (r : Reach O h s) {t c : Nat} {op : Op} {res : Ret}
    (hm : Ev.ret t c op res ∈ h) : c < s.next :=
  C02.inv_id_lt r t c op (C02.inv_of_lin r (C02.lin_of_ret r hm))

/-- a call that is still open (pending or done, not yet returned) has no `ret` event -/
def OpenOk (h : List (Ev Op Ret)) (t : Nat) : PC Op Ret → Prop
  | .idle => True
  | .pending c _ => ∀ op' r', Ev.ret t c op' r' ∉ h
  | .done c _ _ => ∀ op' r', Ev.ret t c op' r' ∉ h

theorem OpenOk.cons {h : List (Ev Op Ret)} {t : Nat} {pc : PC Op Ret} (ok : OpenOk h t pc) {e : Ev Op Ret}
    (hne : ∀ c op r, Ev.ret t c op r ≠ e) : OpenOk (e :: h) t pc := by
  cases pc with
  | idle => trivial
  | pending c _ => exact fun op' r' hm => (List.mem_cons.1 hm).elim (hne _ _ _) (ok op' r')
  | done c _ _ => exact fun op' r' hm => (List.mem_cons.1 hm).elim (hne _ _ _) (ok op' r')

theorem openInv {O : Obj σ Op Ret} {h s} (r : Reach O h s) : ∀ t, OpenOk h t (s.pcs t) := by
  induction r with
  | init => exact fun _ => trivial
  | step rp st ih =>
    cases st with
    | inv t0 op0 hp =>
      -- the fresh call id `next` has not returned: ids of returns are below `next`
      refine forall_upd (fun i _ => (ih i).cons nofun) fun op' r' hm => ?_
      exact Nat.lt_irrefl _ (ret_id_lt rp ((List.mem_cons.1 hm).resolve_left nofun))
    | tau t0 c0 op0 hp => exact fun i => (ih i).cons nofun
    | lin t0 c0 op0 hp =>
      have := ih t0
      rw [hp] at this
      exact forall_upd (fun i _ => (ih i).cons nofun) ((show OpenOk _ t0 (.pending c0 op0) from this).cons nofun)
    | ret t0 c0 op0 r0 hp =>
      exact forall_upd (fun i hi => (ih i).cons fun _ _ _ e => hi (by cases e; rfl))
        (show OpenOk _ t0 .idle from trivial)

/-- A call returns at most once: nothing older than a `ret` of call `c` of thread `t` is a `ret` of
the same call. -/
theorem ret_unique {O : Obj σ Op Ret} {h s} (r : Reach O h s) :
    ∀ newer older t c op res, h = newer ++ Ev.ret t c op res :: older →
      ∀ op' r', Ev.ret t c op' r' ∉ older := by
  intro newer older t c op res e
  obtain ⟨s0, _, r0, st⟩ := C02.reach_split r e
  cases st with
  | ret _ _ _ _ hp =>
    have := openInv r0 t
    rwa [hp] at this

/-- the event with which thread `t` leaves the program counter `pc` -/
def Leaves (t : Nat) : PC Op Ret → Ev Op Ret → Prop
  | .idle, e => ∃ c op, e = .inv t c op
  | .pending c op, e => ∃ r, e = .lin t c op r
  | .done c op r, e => e = .ret t c op r

theorem step_pcs {O : Obj σ Op Ret} {s e s'} (st : Step O s e s') (t : Nat) :
    s'.pcs t = s.pcs t ∨ Leaves t (s.pcs t) e := by
  have own {t0 : Nat} {x : PC Op Ret} (h : Leaves t0 (s.pcs t0) e) :
      upd s.pcs t0 x t = s.pcs t ∨ Leaves t (s.pcs t) e :=
    forall_upd (P := fun i y => y = s.pcs i ∨ Leaves i (s.pcs i) e) (fun _ _ => .inl rfl) (.inr h) t
  cases st with
  | inv t0 op hp => exact own (by rw [hp]; exact ⟨_, _, rfl⟩)
  | tau t0 c op hp => exact .inl rfl
  | lin t0 c op hp => exact own (by rw [hp]; exact ⟨_, rfl⟩)
  | ret t0 c op r hp => exact own (by rw [hp]; rfl)

/-- every linearized call has returned (with the result of its `lin`) or is about to -/
theorem lin_returned_or_done {O : Obj σ Op Ret} {h s} (r : Reach O h s) :
    ∀ t c op res, Ev.lin t c op res ∈ h → Ev.ret t c op res ∈ h ∨ s.pcs t = .done c op res := by
  induction r with
  | init => nofun
  | step rp st ih =>
    intro t c op res hm
    rcases List.mem_cons.1 hm with rfl | hm1
    · cases st with
      | lin _ _ _ hp => exact Or.inr (upd_self _ _ _)
    · rcases ih t c op res hm1 with h1 | h1
      · exact Or.inl (List.mem_cons_of_mem _ h1)
      · have := step_pcs st t
        rw [h1] at this
        exact this.symm.imp (fun e => by rw [e]; exact List.mem_cons_self) id

/-- every invoked call has been linearized or is still pending -/
theorem inv_linearized_or_pending {O : Obj σ Op Ret} {h s} (r : Reach O h s) :
    ∀ t c op, Ev.inv t c op ∈ h → (∃ res, Ev.lin t c op res ∈ h) ∨ s.pcs t = .pending c op := by
  induction r with
  | init => nofun
  | step rp st ih =>
    intro t c op hm
    rcases List.mem_cons.1 hm with rfl | hm1
    · cases st with
      | inv _ _ hp => exact Or.inr (upd_self _ _ _)
    · rcases ih t c op hm1 with ⟨res, h1⟩ | h1
      · exact Or.inl ⟨res, List.mem_cons_of_mem _ h1⟩
      · have := step_pcs st t
        rw [h1] at this
        exact this.symm.imp (fun ⟨res, e⟩ => ⟨res, by rw [e]; exact List.mem_cons_self⟩) id

theorem linOps_of_inv {O : Obj σ Op Ret} {h s} (r : Reach O h s) {P : Op → Prop}
    (hinv : ∀ t c op, Ev.inv t c op ∈ h → P op) : ∀ p ∈ linOps h, P p.1 := by
  intro p hp
  obtain ⟨t, c, hi⟩ := linOps_invoked r (op := p.1) (res := p.2) hp
  exact hinv t c p.1 hi

/-- whatever the newest event of a history, that event's call was invoked -/
theorem exists_inv {O : Obj σ Op Ret} {h s} (r : Reach O h s) (hne : h ≠ []) : ∃ t c op, Ev.inv t c op ∈ h := by
  cases r with
  | init => exact absurd rfl hne
  | step rp stp =>
    cases stp with
    | inv t op hp => exact ⟨_, _, _, List.mem_cons_self⟩
    | tau t c op hp => exact ⟨t, c, op, List.mem_cons_of_mem _ (C02.inv_of_pending rp hp)⟩
    | lin t c op hp => exact ⟨t, c, op, List.mem_cons_of_mem _ (C02.inv_of_pending rp hp)⟩
    | ret t c op res hp =>
      exact ⟨t, c, op, List.mem_cons_of_mem _ (C02.inv_of_lin rp (C02.lin_of_done rp hp))⟩

end GoguVerif.Theorems.C02More
