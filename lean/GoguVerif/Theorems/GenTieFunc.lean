import GoguVerif.Gen.FuncWrap
import GoguVerif.Theorems.GenTieCacheMap
import GoguVerif.Model.FuncsMore
import GoguVerif.Lemmas.TieRules
import GoguVerif.Lemmas.CacheCell
import GoguVerif.Lemmas.GoMap
/-!
# Regenerated tie for the call-count wrappers of `func.go` (C18)

`Gen/FuncWrap.lean` is produced on every run by `translator/frag_func.go` from `func.go` (and `Item.Val` of
`cache/cache.go`); the cache calls inside `Before` / `Once` are the REGENERATED `Gen/Cache.lean` methods.
This module proves that each regenerated wrapper computes exactly the step of the hand-written models
`Model/Funcs.lean` (`afterCall`, `beforeCall`, `onceCall`, `retry`) and `Model/FuncsMore.lean` (`retryWithDelay`):
callback invoked or not, result, new counter, new cache cell — for all counters, cache contents, instants,
expiration settings and callback behaviours.

The one-cell abstraction of the models is `gcell g key`: what the regenerated association list holds for the key
`"func"` (`lit_S` maps the string constant to `key`); the other keys are shown untouched.  The models' values are
`Int`, which `store` never rejects: `strOf v = none` for all `v` is the hypothesis `hs`.
-/
namespace GoguVerif.Theorems.GenTieFunc
open GoguVerif.Model.Funcs
open GoguVerif.Gen.Cache (mapHas mapGet mapSet)
open GoguVerif.Theorems.GenTieCacheMap (mapHas_eq mapGet_eq mapSet_eq)
open GoguVerif.Model.C14 (get?)
open GoguVerif.Gen.FuncWrap

abbrev GItem := Gen.Cache.Item Int
abbrev GItems := List (Int × GItem)

/-- the cell of `Model.Funcs` that a key of the regenerated cache's map stands for (what `cellOf` of
`Model/FuncsMore.lean` is for the model's map: the tie does not go through the model of the cache) -/
def gcell (g : GItems) (k : Int) : Cell :=
  if mapHas g k then some ((mapGet g k default).object, (mapGet g k default).expiration) else none

theorem gcell_eq (g : GItems) (k : Int) :
    gcell g k = (get? g k).map fun it => (it.object, it.expiration) := by
  rw [gcell, mapHas_eq, mapGet_eq]; cases get? g k <;> rfl

theorem gcell_mapSet (g : GItems) (k k' : Int) (it : GItem) :
    gcell (mapSet g k it) k' = if k = k' then some (it.object, it.expiration) else gcell g k' := by
  rw [gcell_eq, gcell_eq, mapSet_eq, Lemmas.C14.get?_put]; split <;> rfl

theorem get_cell (now : Int) (g : GItems) (eT cI k : Int) :
    (Gen.Cache.Cache_Get now g eT cI k).1.map (fun it => (it.object : Int)) = cellGet now (gcell g k) := by
  unfold Gen.Cache.Cache_Get gcell
  cases mapHas g k
  · rfl
  · -- on a present key `Get` and `cellGet` are one nest of tests
    let R (x : Option GItem × Bool) (y : Option Int) : Prop := x.1.map (fun it => (it.object : Int)) = y
    exact ite_rel (R := R) decide_eq_true_iff
      (fun _ => ite_rel (R := R) decide_eq_true_iff (fun _ => rfl) fun _ => rfl) fun _ => rfl

/-- `memo, _ := c.Get(key); memo.Val()` -/
theorem val_get_cell (now : Int) (g : GItems) (eT cI k : Int) :
    Item_Val (Gen.Cache.Cache_Get now g eT cI k).1 = (cellGet now (gcell g k)).getD 0 := by
  rw [← get_cell now g eT cI k]
  cases (Gen.Cache.Cache_Get now g eT cI k).1 <;> rfl

/-- `memo == nil` -/
theorem isNone_get_cell (now : Int) (g : GItems) (eT cI k : Int) :
    (Gen.Cache.Cache_Get now g eT cI k).1.isNone = (cellGet now (gcell g k)).isNone := by
  rw [← get_cell now g eT cI k]
  cases (Gen.Cache.Cache_Get now g eT cI k).1 <;> rfl

theorem store_items (strOf : Int → Option (List UInt8)) (hs : ∀ v, strOf v = none) (now : Int) (g : GItems)
    (eT cI k v : Int) :
    (Gen.Cache.Cache_store strOf now g eT cI k v Gen.Cache.DefaultExpiration).2 =
      mapSet g k ⟨v, defaultExp eT now⟩ := by
  simp only [Gen.Cache.Cache_store, hs, Gen.Cache.NoExpiration, defaultExp, decide_eq_true_eq, decide_true,
    if_true]

/-- `Set` on the regenerated map is `cellSet` on the key's cell and leaves the cell of every other key alone: both keep
an entry exactly while it is live. -/
theorem set_cell (strOf : Int → Option (List UInt8)) (hs : ∀ v, strOf v = none) (now : Int) (g : GItems)
    (eT cI k v k' : Int) :
    gcell (Gen.Cache.Cache_Set strOf now g eT cI k v Gen.Cache.DefaultExpiration).2 k' =
      if k = k' then cellSet eT now (gcell g k) v else gcell g k' := by
  have stored : gcell (Gen.Cache.Cache_store strOf now g eT cI k v Gen.Cache.DefaultExpiration).2 k' =
      if k = k' then some (v, defaultExp eT now) else gcell g k' := by
    rw [store_items strOf hs, gcell_mapSet]
  unfold Gen.Cache.Cache_Set
  cases h : mapHas g k
  · rw [if_neg Bool.false_ne_true, stored, show gcell g k = none from if_neg (h ▸ Bool.false_ne_true)]; rfl
  · have hc : gcell g k = some ((mapGet g k default).object, (mapGet g k default).expiration) := if_pos h
    have kept : gcell g k' =
        if k = k' then some ((mapGet g k default).object, (mapGet g k default).expiration) else gcell g k' := by
      split
      · next e => exact e ▸ hc
      · rfl
    rw [if_pos rfl, hc, Lemmas.CacheCell.cellSet_some]
    exact ite_rel (R := fun (a : Bool × GItems) (c : Cell) => gcell a.2 k' = if k = k' then c else gcell g k')
      (by rw [Bool.or_eq_true, decide_eq_true_eq, decide_eq_true_eq]) (fun _ => kept) fun _ => stored

theorem set_cell_other (strOf : Int → Option (List UInt8)) (hs : ∀ v, strOf v = none) (now : Int) (g : GItems)
    (eT cI k v k' : Int) (hk : k' ≠ k) :
    gcell (Gen.Cache.Cache_Set strOf now g eT cI k v Gen.Cache.DefaultExpiration).2 k' = gcell g k' :=
  (set_cell strOf hs ..).trans (if_neg (Ne.symm hk))

/-- `After`: for every world and callback, the regenerated `After` returns the model's new counter and runs the
callback (once, on the incoming world) exactly when the model says so. -/
theorem after_tie {W : Type} (n : Int) (fn : W → W) (w : W) :
    After n fn w = ((afterCall n).1, if (afterCall n).2 then fn w else w) := by
  unfold After afterCall
  by_cases h : n < 1 <;> simp [h]

/-- the callback of the models: the `k`-th run returns `res k`; the world is the number of runs so far -/
def resFn (res : Nat → Int) : Nat → Int × Nat := fun runs => (res (runs + 1), runs + 1)

/-- `Before`: one call of the regenerated `Before` on the regenerated cache = `Model.Funcs.beforeCall` on the cell of
`"func"` (the literal `[102, 117, 110, 99]` is its bytes): returned value, new counter, new cell, new run count; the
callback ran iff the run count moved; all other keys of the cache are untouched. -/
theorem before_tie (strOf : Int → Option (List UInt8)) (hs : ∀ v, strOf v = none) (lit : List UInt8 → Int)
    (now n : Int) (g : GItems) (eT cI : Int) (res : Nat → Int) (runs : Nat) :
    let key := lit [102, 117, 110, 99]
    let out := Before strOf lit now n g eT cI (resFn res) runs
    let r := beforeCall eT now res ⟨n, gcell g key, runs⟩
    out.1 = r.2.2 ∧ out.2.1 = r.1.n ∧ gcell out.2.2.1 key = r.1.cell ∧ out.2.2.2 = r.1.runs ∧
      r.2.1 = decide (out.2.2.2 = runs + 1) ∧ ∀ k', k' ≠ key → gcell out.2.2.1 k' = gcell g k' := by
  dsimp only
  unfold Before beforeCall
  simp only [resFn]
  -- in each branch the conjuncts become identities once the cache calls are rewritten to the cell
  -- (`val_get_cell`, `set_cell`); only "other keys untouched" and "the run count did not move" remain
  by_cases h1 : n - 1 > 0
  · simp only [h1, decide_true, if_true]
    exact ⟨trivial, trivial, trivial, trivial, trivial, fun _ _ => trivial⟩
  · by_cases h2 : n - 1 = 0
    · have h0 : ¬ ((0 : Int) > 0) := by omega
      simp only [h2, h0, decide_false, if_false, Bool.false_eq_true, val_get_cell, set_cell strOf hs, eq_self,
        decide_true, if_true]
      exact ⟨trivial, trivial, trivial, trivial, trivial, fun _ hk => if_neg (Ne.symm hk)⟩
    · simp only [h1, h2, decide_false, if_false, Bool.false_eq_true, val_get_cell]
      exact ⟨trivial, trivial, trivial, trivial, (decide_eq_false (Nat.ne_of_lt (Nat.lt_succ_self _))).symm,
        fun _ _ => trivial⟩

example : (∀ v : Int, (fun _ : Int => (none : Option (List UInt8))) v = none) := fun _ => rfl

/-- `Once`: one call of the regenerated `Once` = `Model.Funcs.onceCall` on the cell of `"func"`, for every world and
callback: `fresh` is what the callback would return on the incoming world; the world moves iff the model says the
callback ran. -/
theorem once_tie {W : Type} (strOf : Int → Option (List UInt8)) (hs : ∀ v, strOf v = none) (lit : List UInt8 → Int)
    (now : Int) (g : GItems) (eT cI : Int) (fn : W → Int × W) (w : W) :
    let key := lit [102, 117, 110, 99]
    let out := Once strOf lit now g eT cI fn w
    let r := onceCall eT now (gcell g key) (fn w).1
    out.1 = r.2.2 ∧ gcell out.2.1 key = r.1 ∧ out.2.2 = (if r.2.1 then (fn w).2 else w) ∧
      ∀ k', k' ≠ key → gcell out.2.1 k' = gcell g k' := by
  dsimp only
  unfold Once onceCall
  simp only [isNone_get_cell, val_get_cell]
  cases h : cellGet now (gcell g (lit [102, 117, 110, 99]))
  · simp only [Option.isNone_none, if_true]
    exact ⟨trivial, (set_cell strOf hs ..).trans (if_pos rfl), trivial,
      fun k' hk => set_cell_other strOf hs _ _ _ _ _ _ _ hk⟩
  · simp [Option.getD]

/-- the callback of the models: invocation `i` (0-based) fails iff `fails script i`; the world is the number of
invocations so far -/
def scriptFn (script : List Bool) : Int → Nat → Bool × Nat := fun _ calls => (fails script calls, calls + 1)

/-- The model's loops run on `fuel = n - attempt`, the regenerated ones test `attempt < n`: without fuel the test fails
(`guard_zero`), with some it holds and the next round has one less (`guard_succ`); a loop entered with `n ≥ 0` starts
at `attempt = 0` with `fuel = n.toNat` (`guard_start`). -/
theorem guard_zero {n : Int} {a : Nat} (hn : n = a + (0 : Nat)) : ¬ (a : Int) < n := by
  rw [hn]; exact Int.lt_irrefl _

theorem guard_succ {n : Int} {a fuel : Nat} (hn : n = a + (fuel + 1 : Nat)) :
    (a : Int) < n ∧ n = (a + 1 : Nat) + fuel := by
  omega

theorem guard_start {n : Int} (h : ¬ n < 0) : n = (0 : Nat) + n.toNat := by
  rw [Int.toNat_of_nonneg (Int.not_lt.mp h)]; exact (Int.zero_add n).symm

theorem retry_loop_tie (script : List Bool) (inp n : Int) (fuel : Nat) :
    ∀ (F a : Nat) (le : Bool), fuel < F → n = a + fuel →
      RType_Retry_loop1 F inp n (scriptFn script) a le (a : Int) =
        some (((retryLoop script fuel a le).1 : Int), (retryLoop script fuel a le).2.1, (retryLoop script fuel a le).2.2) := by
  induction fuel with
  | zero =>
    intro F a le hF hn
    cases F with
    | zero => cases hF
    | succ F =>
      rw [RType_Retry_loop1, decide_eq_false (guard_zero hn)]
      rfl
  | succ fuel ih =>
    intro F a le hF hn
    cases F with
    | zero => cases hF
    | succ F =>
      have := ih F (a + 1) true (Nat.lt_of_succ_lt_succ hF) (guard_succ hn).2
      rw [RType_Retry_loop1, decide_eq_true (guard_succ hn).1, retryLoop]
      unfold scriptFn
      cases fails script a
      · rfl
      · exact this

/-- `Retry`: with enough fuel (`n.toNat < F`) the regenerated `RType.Retry` terminates and returns the model's
(attempts, error?) and has invoked the callback the model's number of times — for every `n` (negative too), input and
outcome script. -/
theorem retry_tie (script : List Bool) (inp n : Int) (F : Nat) (hF : n.toNat < F) :
    RType_Retry F inp n (scriptFn script) 0 =
      some (((retry n script).1 : Int), (retry n script).2.1, (retry n script).2.2) := by
  unfold RType_Retry retry
  by_cases h : n < 0
  · rw [decide_eq_true h, if_pos h]; rfl
  · rw [decide_eq_false h, if_neg h]
    exact retry_loop_tie script inp n n.toNat F 0 false hF (guard_start h)

example : (5 : Int).toNat < 6 := by decide

/-- the world of `Model.Funcs.retryWithDelay`: invocations made, waits done, the clock (time since `start`), and the
(argument handed to the callback, end) of every invocation -/
structure RW where
  calls : Nat
  nwaits : Nat
  now : Int
  times : List (Int × Int)

/-- invocation `i` fails iff `fails script i` and takes `durs i`; it records the duration it was handed -/
def rwFn (script : List Bool) (durs : Nat → Int) : Int → Int → RW → Bool × RW := fun t _ w =>
  (fails script w.calls, ⟨w.calls + 1, w.nwaits, w.now + durs w.calls, w.times ++ [(t, w.now + durs w.calls)]⟩)

/-- the `i`-th `<-time.After(delay)` really takes `waits i`, whatever `delay` was asked for -/
def rwAfter (waits : Nat → Int) : Int → RW → RW := fun _ w => ⟨w.calls, w.nwaits + 1, w.now + waits w.nwaits, w.times⟩

theorem retryDelay_loop_tie (script : List Bool) (waits durs : Nat → Int) (inp n d : Int) (fuel : Nat) :
    ∀ (F a : Nat) (le : Bool) (c : Nat) (now : Int) (acc : List (Int × Int)), fuel < F → n = a + fuel →
      RType_RetryWithDelay_loop1 RW.now (rwAfter waits) F inp n d (rwFn script durs) ⟨c, a, now, acc⟩ le (a : Int) 0 =
        (let r := retryDelayLoop script waits durs fuel a le c now
         some (r.elapsed, (r.attempts : Int), r.err, ⟨r.calls, r.attempts, r.elapsed, acc ++ r.times⟩)) := by
  induction fuel with
  | zero =>
    intro F a le c now acc hF hn
    cases F with
    | zero => cases hF
    | succ F =>
      rw [RType_RetryWithDelay_loop1, decide_eq_false (guard_zero hn)]
      simp only [retryDelayLoop, Int.sub_zero, List.append_nil]
      rfl
  | succ fuel ih =>
    intro F a le c now acc hF hn
    cases F with
    | zero => cases hF
    | succ F =>
      rw [RType_RetryWithDelay_loop1, decide_eq_true (guard_succ hn).1, retryDelayLoop]
      unfold rwFn rwAfter
      cases fails script c
      · simp only [Int.sub_zero]; rfl
      · have := ih F (a + 1) true (c + 1) (now + durs c + waits a) (acc ++ [(now, now + durs c)])
          (Nat.lt_of_succ_lt_succ hF) (guard_succ hn).2
        simp only [List.append_assoc] at this
        simp only [Int.sub_zero]
        exact this

/-- `RetryWithDelay`: started at clock 0 with enough fuel, the regenerated `RType.RetryWithDelay` returns the model's
(elapsed, attempts, error?), has made the model's number of invocations, each at the model's (start, end) — the start
being the duration handed to the callback — for every `n`, delay, script, waits and durations. -/
theorem retryWithDelay_tie (script : List Bool) (waits durs : Nat → Int) (inp n d : Int) (F : Nat) (hF : n.toNat < F) :
    RType_RetryWithDelay RW.now (rwAfter waits) F inp n d (rwFn script durs) ⟨0, 0, 0, []⟩ =
      (let r := retryWithDelay n script waits durs
       some (r.elapsed, (r.attempts : Int), r.err, ⟨r.calls, r.attempts, r.elapsed, r.times⟩)) := by
  unfold RType_RetryWithDelay retryWithDelay
  by_cases h : n < 0
  · cases F with
    | zero => cases hF
    | succ F =>
      rw [RType_RetryWithDelay_loop1, decide_eq_false (by omega : ¬ (0 : Int) < n),
        Int.toNat_eq_zero.mpr (Int.le_of_lt h)]
      rfl
  · exact retryDelay_loop_tie script waits durs inp n d n.toNat F 0 false 0 0 [] hF (guard_start h)

end GoguVerif.Theorems.GenTieFunc
