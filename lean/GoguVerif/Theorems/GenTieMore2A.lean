import GoguVerif.Theorems.GenTieMore2Base
import GoguVerif.Theorems.C12
/-!
# The regenerated tie for `Reverse` and `Reject` (C12)

The theorems below state, for ALL slices, callbacks and every SUFFICIENT amount of fuel, that the regenerated
definition computes exactly the outcome of the hand-written model of `Model/C12.lean` (slices as `List`s, counters as
`Nat`s).  Where a statement goes on from the model's loop to its closed form it rests on a property lemma:
`reverse_loop_ok` and what follows from it on `Theorems.C12.reverse_eq`, `reject_eq_filter` on `Lemmas.C12.rejectLoop_eq`.
-/
namespace GoguVerif.Theorems.GenTieMore2
open GoguVerif.Gen.Funcs2

variable {α : Type}

/-- the model's outcome (C12: ok / panic) as an outcome of the regenerated code -/
def toOut12 {β : Type} : Model.C12.Outcome β → Out β
  | .ok b => .ok b
  | .panic => .panic

/-- an `Option` (`none` = Go panics) as an outcome.  Not used in this part, whose models answer in `Model.C12.Outcome`;
it is stated, with its `bind` rules and `bind_assoc`, for a tie whose model answers in `Option`. -/
def optOut {β : Type} : Option β → Out β
  | some b => .ok b
  | none => .panic

@[simp] theorem bind_optOut_some {β γ : Type} (b : β) (f : β → Out γ) : Out.bind (optOut (some b)) f = f b := rfl
@[simp] theorem bind_optOut_none {β γ : Type} (f : β → Out γ) :
    Out.bind (optOut (none : Option β)) f = Out.panic := rfl
@[simp] theorem toOut12_ok {β : Type} (b : β) : toOut12 (Model.C12.Outcome.ok b) = Out.ok b := rfl
@[simp] theorem toOut12_panic {β : Type} : toOut12 (Model.C12.Outcome.panic : Model.C12.Outcome β) = Out.panic := rfl

theorem bind_assoc {β γ δ : Type} (x : Out β) (f : β → Out γ) (g : γ → Out δ) :
    Out.bind (Out.bind x f) g = Out.bind x (fun b => Out.bind (f b) g) := by
  cases x <;> rfl

-- the `example` in front of each theorem with a fuel hypothesis: that hypothesis holds on a concrete slice and fuel
example : (3 : Nat) - 0 + 1 ≤ 4 := by decide

/-- the regenerated loop of `Reverse`, started at `i`, `j = j1 - 1`, leaves in `sl` exactly what the model's loop
(which keeps the second counter as `j + 1`) yields — including the panics of out-of-range counters — whenever
the fuel exceeds `j1 - i` -/
theorem reverse_loop_tie [Inhabited α] [DecidableEq α] (fuel : Nat) (sl : Array α) (i j1 : Nat)
    (hf : j1 - i + 1 ≤ fuel) :
    Out.bind (Reverse_loop1 fuel sl (i : Int) ((j1 : Int) - 1)) (fun r => Out.ok r.1.toList)
      = toOut12 (Model.C12.reverseLoop sl.toList i j1) := by
  induction fuel generalizing sl i j1 with
  | zero => exact absurd hf (Nat.not_succ_le_zero _)
  | succ n ih =>
    -- the Go test `i < j` with `j = j1 - 1` is the model's `i + 1 < j1`
    have hlt : (i : Int) < (j1 : Int) - 1 ↔ i + 1 < j1 :=
      Int.lt_sub_right_iff_add_lt.trans (Int.ofNat_lt (n := i + 1))
    rw [Reverse_loop1, Model.C12.reverseLoop]
    by_cases h : i + 1 < j1
    · have hj : (j1 : Int) - 1 = ((j1 - 1 : Nat) : Int) :=
        (Int.ofNat_sub (Nat.le_trans (Nat.le_add_left 1 i) (Nat.le_of_lt h))).symm
      rw [if_pos h, if_pos (hlt.mpr h), hj, Model.C12.swapAt]
      by_cases hjs : j1 - 1 < sl.size
      · have hi : i < sl.size :=
          Nat.lt_trans (Nat.lt_of_lt_of_le (Nat.lt_succ_self i) (Nat.le_sub_one_of_lt h)) hjs
        rw [hIdx_lt _ _ hjs, hIdx_lt _ _ hi]
        simp only [bind_ok]
        rw [hSet_lt _ _ _ hi]
        simp only [bind_ok]
        rw [hSet_lt _ _ _ (by rw [Array.size_set]; exact hjs)]
        simp only [bind_ok]
        -- `j1 - 1 - (i + 1) ≤ j1 - (i + 1)`, and one iteration uses up one unit
        rw [show (i : Int) + 1 = ((i + 1 : Nat) : Int) from rfl, ih _ (i + 1) (j1 - 1) (Nat.le_trans
          (Nat.add_le_add_right (Nat.sub_le_sub_right (Nat.sub_le j1 1) (i + 1)) 1) (fuel_step (Nat.lt_of_succ_lt h) hf))]
        simp only [Array.toList_set, Array.getElem?_toList, Array.getElem?_eq_getElem hi,
          Array.getElem?_eq_getElem hjs]
      · rw [hIdx_ge _ _ (Nat.le_of_not_lt hjs)]
        simp only [bind_panic, Array.getElem?_toList, Array.getElem?_eq_none (Nat.le_of_not_lt hjs)]
        cases sl[i]? <;> rfl
    · rw [if_neg h, if_neg (mt hlt.mp h)]
      rfl

example : (#[1, 2, 3] : Array Int).size + 1 ≤ 4 := by decide

theorem reverse_loop_ok [Inhabited α] [DecidableEq α] (sl : Array α) (fuel : Nat) (hf : sl.size + 1 ≤ fuel) :
    ∃ r, Reverse_loop1 fuel sl (0 : Int) ((sl.size : Int) - 1) = Out.ok r ∧ r.1 = sl.reverse := by
  have h := reverse_loop_tie fuel sl 0 sl.size (by omega)
  have e : Model.C12.reverseLoop sl.toList 0 sl.size = .ok sl.toList.reverse := by
    simpa [Model.C12.reverse] using Theorems.C12.reverse_eq sl.toList
  rw [e] at h
  simp only [Int.natCast_zero, toOut12_ok] at h
  cases hr : Reverse_loop1 fuel sl (0 : Int) ((sl.size : Int) - 1) with
  | ok r =>
    rw [hr] at h
    simp only [bind_ok, Out.ok.injEq] at h
    refine ⟨r, rfl, ?_⟩
    exact Array.toList_inj.mp (h.trans Array.toList_reverse.symm)
  | panic | hang => rw [hr] at h; cases h

example : (#[1, 2, 3] : Array Int).size + 1 ≤ 4 := by decide

/-- `Reverse` returns the reversed slice, and the argument it wrote to holds the same reversed slice (the Go
function reverses in place and returns its argument) -/
theorem reverse_eq_reverse [Inhabited α] [DecidableEq α] (sl : Array α) (fuel : Nat) (hf : sl.size + 1 ≤ fuel) :
    Reverse fuel sl = Out.ok (sl.reverse, sl.reverse) := by
  obtain ⟨r, hr, h1⟩ := reverse_loop_ok sl fuel hf
  unfold Reverse
  simp only [hr, bind_ok, h1]

example : (#[1, 2, 3] : Array Int).size + 1 ≤ 4 := by decide

/-- model form: the value `Reverse` returns is the outcome of the model's `reverse` -/
theorem reverse_tie [Inhabited α] [DecidableEq α] (sl : Array α) (fuel : Nat) (hf : sl.size + 1 ≤ fuel) :
    Out.bind (Reverse fuel sl) (fun r => Out.ok r.1.toList) = toOut12 (Model.C12.reverse sl.toList) := by
  rw [reverse_eq_reverse sl fuel hf, Theorems.C12.reverse_eq]
  simp

example : (#[1, 2, 3] : Array Int).size + 1 ≤ 4 := by decide

/-- the same for the slice left in the argument (second component: the written `sl`) -/
theorem reverse_tie_arg [Inhabited α] [DecidableEq α] (sl : Array α) (fuel : Nat) (hf : sl.size + 1 ≤ fuel) :
    Out.bind (Reverse fuel sl) (fun r => Out.ok r.2.toList) = toOut12 (Model.C12.reverse sl.toList) := by
  rw [reverse_eq_reverse sl fuel hf, Theorems.C12.reverse_eq]
  simp

/-- with no fuel the loop hangs (the bound of `reverse_eq_reverse` is about sufficiency, not necessity) -/
theorem reverse_zero_fuel [Inhabited α] [DecidableEq α] (sl : Array α) : Reverse 0 sl = Out.hang := rfl

theorem toList_remove (s : Array α) (i : Nat) :
    (s.extract 0 i ++ s.extract (i + 1) s.size).toList = s.toList.take i ++ s.toList.drop (i + 1) := by
  simp only [Array.toList_append, Array.toList_extract, List.extract, Nat.sub_zero, List.drop_zero]
  rw [List.take_of_length_le (l := List.drop (i + 1) s.toList) (by simp)]

theorem size_remove (s : Array α) (i : Nat) (h : i < s.size) :
    (s.extract 0 i ++ s.extract (i + 1) s.size).size = s.size - 1 := by
  rw [Array.size_append, Array.size_extract, Array.size_extract, Nat.min_eq_left (Nat.le_of_lt h), Nat.min_self,
    Nat.sub_zero, Nat.add_comm i 1, ← Nat.sub_sub, Nat.add_sub_of_le (Nat.le_sub_one_of_lt h)]

example : (#[1, 2, 3] : Array Int).size - 0 + 1 ≤ 4 := by decide

/-- the regenerated loop of `Reject`, started at index `i`, ends normally with the slice the model's loop
yields, whenever the fuel exceeds `len(slice) - i` (an iteration either removes an element or advances `i`) -/
theorem reject_loop_tie [Inhabited α] [DecidableEq α] (fn : α → Bool) (fuel : Nat) (slice : Array α) (i : Nat)
    (hf : slice.size - i + 1 ≤ fuel) :
    Out.bind (Reject_loop1 fn fuel slice (i : Int)) (fun r => Out.ok r.1)
      = Out.ok (Model.C12.rejectLoop fn slice.toList i).toArray := by
  induction fuel generalizing slice i with
  | zero => exact absurd hf (Nat.not_succ_le_zero _)
  | succ n ih =>
    rw [Reject_loop1, Model.C12.rejectLoop]
    simp only [Int.ofNat_lt, Array.length_toList]
    by_cases h : i < slice.size
    · rw [if_pos h, dif_pos h, hIdx_lt _ _ h, Array.getElem_toList]
      simp only [bind_ok]
      cases fn slice[i]
      · simp only [Bool.false_eq_true, if_false, bind_ok]
        exact ih _ (i + 1) (fuel_step h hf)
      · simp only [if_true]
        rw [show (0 : Int) = ((0 : Nat) : Int) from rfl, show (i : Int) + 1 = ((i + 1 : Nat) : Int) from rfl,
          hSlice_nat _ _ _ (Nat.zero_le i) (Nat.le_of_lt h), hSlice_nat _ _ _ h (Nat.le_refl _)]
        simp only [bind_ok, Int.sub_add_cancel]
        rw [ih _ i (by rw [size_remove _ _ h, Nat.sub_sub, Nat.add_comm 1 i]; exact fuel_step h hf), toList_remove]
    · rw [if_neg h, dif_neg h]
      rfl

example : (#[1, 2, 3] : Array Int).size + 1 ≤ 4 := by decide

/-- with `len(slice) + 1` units of fuel `Reject` ends normally (no panic, no hang) and returns exactly the slice
of the model's `reject` -/
theorem reject_tie [Inhabited α] [DecidableEq α] (slice : Array α) (fn : α → Bool) (fuel : Nat)
    (hf : slice.size + 1 ≤ fuel) :
    Reject fuel slice fn = Out.ok (Model.C12.reject slice.toList fn).toArray := by
  have h := reject_loop_tie fn fuel slice 0 (by omega)
  unfold Reject Model.C12.reject
  simpa using h

example : (#[1, 2, 3] : Array Int).size + 1 ≤ 4 := by decide

theorem reject_tie_toList [Inhabited α] [DecidableEq α] (slice : Array α) (fn : α → Bool) (fuel : Nat)
    (hf : slice.size + 1 ≤ fuel) :
    Out.bind (Reject fuel slice fn) (fun r => Out.ok r.toList) = Out.ok (Model.C12.reject slice.toList fn) := by
  rw [reject_tie slice fn fuel hf]; rfl

example : (#[1, 2, 3] : Array Int).size + 1 ≤ 4 := by decide

/-- `Reject` is the filter by the negated predicate (`Lemmas.C12.rejectLoop_eq`) -/
theorem reject_eq_filter [Inhabited α] [DecidableEq α] (slice : Array α) (fn : α → Bool) (fuel : Nat)
    (hf : slice.size + 1 ≤ fuel) :
    Reject fuel slice fn = Out.ok (slice.filter (fun x => !fn x)) := by
  rw [reject_tie slice fn fuel hf]
  unfold Model.C12.reject
  rw [Lemmas.C12.rejectLoop_eq, ← Array.toList_filter, Array.toArray_toList]

theorem reject_zero_fuel [Inhabited α] [DecidableEq α] (slice : Array α) (fn : α → Bool) :
    Reject 0 slice fn = Out.hang := rfl

end GoguVerif.Theorems.GenTieMore2
