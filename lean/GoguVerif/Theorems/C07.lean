import GoguVerif.Lemmas.C07Sim
/-!
# C07 — property theorems (LRU cache)

`Model.Lru` (the abstract-list model of `cache/lrucache.go`) against `Spec.C07` (recency-ordered
finite map).  A model state `c` stands for the specification state `c.list` (entries, most recent first)
with capacity `c.size.toNat`.
The pointer-level model `Model.LruPtr` (circular doubly linked list in an address-indexed store,
the layer the driver compares with the code) is tied to `Model.Lru` by a representation relation
and a simulation (last section), so that its answers too are the specification's for every history.
Everything here is for ALL capacities, keys, values and histories (induction, no bound).
-/
namespace GoguVerif.Theorems.C07
open Spec.C07 Model.Lru
open GoguVerif.Lemmas.C07 (Inv)

/-- `NewLRU(n)` succeeds exactly for `n > 0` (a non-positive capacity is rejected). -/
theorem newLRU_rejects_nonpositive (n : Int) : newLRU n = none ↔ n ≤ 0 := by
  unfold newLRU; split <;> simp_all

/-- `NewLRU(n)` succeeds exactly when the specification's `createOk n` says so. -/
theorem newLRU_isSome_eq_createOk (n : Int) : (newLRU n).isSome = createOk n := by
  unfold newLRU createOk; split <;> simp_all <;> omega

/-- The invariant holds in the state `NewLRU` returns (empty, capacity `n ≥ 1`). -/
theorem inv_init {n : Int} {c : St} (h : newLRU n = some c) :
    Inv c ∧ c.list = [] ∧ c.size = n := by
  unfold newLRU at h
  split at h
  · simp at h
  · cases h
    refine ⟨⟨by simp, by simp, ?_, ?_⟩, rfl, rfl⟩ <;> simp only [List.length_nil] <;> omega

example : ∃ c, newLRU 3 = some c := ⟨_, rfl⟩

open GoguVerif.Lemmas.C07 in
/-- One call: the model's result tuple is the one the specification allows, and the new list is the
specification's new recency order. -/
theorem step_refines {c : St} (h : Inv c) (op : Op) :
    ∃ c', step c op = .ok c' (Ret.ofOut (Spec.C07.step c.size.toNat c.list op).2) ∧
      c'.list = (Spec.C07.step c.size.toNat c.list op).1 ∧ c'.size = c.size ∧ Inv c' := by
  -- in each case `simp only` turns the model's `mapHas`, `unlink`, `moveFront` into `find` and `del` (`Wf.mapHas`,
  -- `unlink_eq`, `moveFront_eq`); after that both sides are the same term
  cases op with
  | add k v =>
    cases hf : find k c.list with
    | some v0 =>
      simp only [Model.Lru.step, Spec.C07.step, add, h.wf.mapHas, unlink_eq h.nodup, hf,
        Option.isSome_some, if_true, Option.map_some]
      exact ⟨_, rfl, rfl, rfl, inv_touch h (mem_keys_of_find hf) v⟩
    | none =>
      have hw1 : Wf { c with items := mapSet k c.items, list := addFront k v c.list } :=
        ⟨List.nodup_cons.mpr ⟨find_none_iff.mp hf, h.nodup⟩, fun x => by
          simp only [mapSet, addFront, keys_cons, List.mem_cons, h.items]⟩
      rw [step_add_miss hf, model_add_miss h.wf hf]
      simp only [full_iff]
      split
      · obtain ⟨c', h1, h2, h3, h4⟩ := removeOldest_spec hw1
        refine ⟨c', h1, h2, h3, h.of_wf h4 h3 ?_⟩
        rw [h2]; exact Nat.le_of_eq (List.length_dropLast ..)
      · next hroom =>
        refine ⟨_, rfl, rfl, rfl, hw1.nodup, hw1.items, ?_, h.cap⟩
        simp only [addFront, List.length_cons]; omega
  | get k =>
    cases hf : find k c.list with
    | none =>
      simp only [Model.Lru.step, Spec.C07.step, Model.Lru.get, h.wf.mapHas, hf, Option.isSome_none,
        Bool.false_eq_true, if_false]
      exact ⟨c, rfl, rfl, rfl, h⟩
    | some v =>
      simp only [Model.Lru.step, Spec.C07.step, Model.Lru.get, h.wf.mapHas, moveFront_eq h.nodup, hf,
        Option.isSome_some, if_true, Option.map_some]
      exact ⟨_, rfl, rfl, rfl, inv_touch h (mem_keys_of_find hf) v⟩
  | getOldest =>
    cases hl : c.list.getLast? with
    | none =>
      simp only [Model.Lru.step, Spec.C07.step, getOldest, last, hl]
      exact ⟨c, rfl, rfl, rfl, h⟩
    | some e =>
      obtain ⟨hf, hd⟩ := find_del_last h.nodup hl
      simp only [Model.Lru.step, Spec.C07.step, getOldest, last, hl, moveFront_eq h.nodup, hf,
        Option.map_some, hd]
      exact ⟨_, rfl, rfl, rfl, hd ▸ inv_touch h (mem_keys_of_find hf) e.2⟩
  | getYoungest =>
    simp only [Model.Lru.step, Spec.C07.step, getYoungest, first]
    cases c.list.head? <;> exact ⟨c, rfl, rfl, rfl, h⟩
  | remove k =>
    cases hf : find k c.list with
    | none =>
      simp only [Model.Lru.step, Spec.C07.step, removeKey, h.wf.mapHas, hf, Option.isSome_none,
        Bool.false_eq_true, if_false]
      exact ⟨c, rfl, rfl, rfl, h⟩
    | some v =>
      simp only [Model.Lru.step, Spec.C07.step, removeKey, remove, h.wf.mapHas, unlink_eq h.nodup, hf,
        Option.isSome_some, if_true, Option.map_some]
      exact ⟨_, rfl, rfl, rfl, h.of_wf (wf_del h.wf k) rfl (List.length_filter_le ..)⟩
  | removeOldest =>
    obtain ⟨c', h1, h2, h3, h4⟩ := removeOldest_spec h.wf
    exact ⟨c', h1, h2, h3, h.of_wf h4 h3 (h2 ▸ (List.dropLast_sublist _).length_le)⟩
  | removeYoungest =>
    obtain ⟨c', h1, h2, h3, h4⟩ := removeYoungest_spec h.wf
    exact ⟨c', h1, h2, h3, h.of_wf h4 h3 (h2 ▸ (List.tail_sublist _).length_le)⟩
  | flush =>
    exact ⟨_, rfl, rfl, rfl, h.of_wf ⟨List.nodup_nil, fun _ => Iff.rfl⟩ rfl (Nat.zero_le _)⟩
  | count => exact ⟨c, rfl, rfl, rfl, h⟩

/-- Every method keeps the invariant, and never meets a map entry without a list node. -/
theorem inv_step {c : St} (h : Inv c) (op : Op) :
    ∃ c' r, step c op = .ok c' r ∧ Inv c' := by
  obtain ⟨c', h1, _, _, h4⟩ := step_refines h op
  exact ⟨c', _, h1, h4⟩

theorem step_never_stale {c : St} (h : Inv c) (op : Op) : step c op ≠ .stale := by
  obtain ⟨c', r, h1, _⟩ := inv_step h op
  rw [h1]; exact fun x => Res.noConfusion x

/-- functional form of `step_refines`, without its clause that the capacity stays -/
theorem step_eq {c c' : St} {r : Ret} (h : Inv c) {op : Op} (hs : step c op = .ok c' r) :
    r = Ret.ofOut (Spec.C07.step c.size.toNat c.list op).2 ∧
      c'.list = (Spec.C07.step c.size.toNat c.list op).1 ∧ Inv c' := by
  obtain ⟨c1, h1, h2, -, h4⟩ := step_refines h op
  rw [h1] at hs; cases hs
  exact ⟨rfl, h2, h4⟩

theorem step_eq_of {c c' : St} {r : Ret} (h : Inv c) {op : Op} (hs : step c op = .ok c' r) {es : Entries} {o : Out}
    (he : Spec.C07.step c.size.toNat c.list op = (es, o)) : r = Ret.ofOut o ∧ c'.list = es := by
  obtain ⟨hr, hl, -⟩ := step_eq h hs
  rw [he] at hr hl
  exact ⟨hr, hl⟩

/-- Whole histories from any state that satisfies the invariant. -/
theorem run_refines {c : St} (h : Inv c) (ops : List Op) :
    ∃ c', run c ops = some (c', (Spec.C07.run c.size.toNat c.list ops).2.map Ret.ofOut) ∧
      c'.list = (Spec.C07.run c.size.toNat c.list ops).1 ∧ c'.size = c.size ∧ Inv c' := by
  induction ops generalizing c with
  | nil => exact ⟨c, rfl, rfl, rfl, h⟩
  | cons op ops ih =>
    obtain ⟨c1, h1, h2, h3, h4⟩ := step_refines h op
    obtain ⟨c2, k1, k2, k3, k4⟩ := ih h4
    rw [h3, h2] at k1 k2
    refine ⟨c2, ?_, ?_, k3.trans h3, k4⟩
    · simp only [Model.Lru.run, h1, k1, Spec.C07.run, List.map_cons]
    · simp only [Spec.C07.run, k2]

theorem run_cons_some {c c' : St} {op : Op} {ops : List Op} {rs : List Ret}
    (h : run c (op :: ops) = some (c', rs)) :
    ∃ c1 r rs', step c op = .ok c1 r ∧ run c1 ops = some (c', rs') ∧ rs = r :: rs' := by
  simp only [Model.Lru.run] at h
  split at h
  · cases h
  · split at h
    · cases h
    · cases h; exact ⟨_, _, _, ‹_›, ‹_›, rfl⟩

/-- `Lemmas.C07.find_step` along a run of the model. -/
theorem run_find {k : Int} (ops : List Op) : ∀ {c c' : St} {rs : List Ret}, Inv c →
    run c ops = some (c', rs) → Inv c' ∧ find k c'.list = Lemmas.C07.trackAll k (find k c.list) ops rs := by
  induction ops with
  | nil => intro c c' rs hi hr; cases hr; exact ⟨hi, rfl⟩
  | cons op ops ih =>
    intro c c' rs hi hr
    obtain ⟨c1, r, rs', hs, hr', rfl⟩ := run_cons_some hr
    obtain ⟨rfl, h2, h4⟩ := step_eq hi hs
    obtain ⟨hi', hf⟩ := ih h4 hr'
    refine ⟨hi', hf.trans ?_⟩
    rw [h2, Lemmas.C07.find_step hi.nodup hi.one_le_cap k op]
    rfl

/-- For every capacity `n`, if `NewLRU(n)` succeeds then every history of calls
is answered exactly as the recency-ordered map of capacity `n` answers it, and the list ends up as
the specification's recency order. -/
theorem lru_refines {n : Int} {c : St} (hc : newLRU n = some c) (ops : List Op) :
    ∃ c', run c ops = some (c', (Spec.C07.run n.toNat [] ops).2.map Ret.ofOut) ∧
      c'.list = (Spec.C07.run n.toNat [] ops).1 ∧ Inv c' := by
  obtain ⟨hi, hl, hs⟩ := inv_init hc
  obtain ⟨c', h1, h2, _, h4⟩ := run_refines hi ops
  rw [hl, hs] at h1 h2
  exact ⟨c', h1, h2, h4⟩

/-- non-vacuity: the F13 witness history on the repaired model (cf. corpus/C07/f13-removeyoungest.trace) -/
example :
    (newLRU 3).bind (fun c => (run c [.add 1 10, .add 2 20, .add 3 30, .removeYoungest, .get 1, .get 3,
      .count, .getYoungest, .removeOldest, .removeOldest, .removeOldest, .count]).map (·.2)) =
    some [.kvb 0 0 false, .kvb 0 0 false, .kvb 0 0 false, .kvb 3 30 true, .vb 10 true, .vb 0 false,
      .int 2, .kvb 1 10 true, .kvb 2 20 true, .kvb 1 10 true, .kvb 0 0 false, .int 0] := by decide +kernel

/-! ## The clauses of the property, as corollaries

All of them are about the model (hence, through the correspondence, about the code); each is read
off the refinement plus a fact about the specification. -/

/-- After every history from `NewLRU(n)`, `Count() ≤ n`
(and `n ≥ 1`).  Every prefix of a history is a history, so this covers all intermediate states. -/
theorem count_le_capacity {n : Int} {c c' : St} {rs : List Ret} (hc : newLRU n = some c)
    {ops : List Op} (hr : Model.Lru.run c ops = some (c', rs)) : count c' ≤ n ∧ 1 ≤ n := by
  obtain ⟨hi, _, hs⟩ := inv_init hc
  obtain ⟨c1, h1, _, h3, h4⟩ := run_refines hi ops
  rw [h1] at hr; cases hr
  exact ⟨hs ▸ h3 ▸ h4.len, hs ▸ hi.cap⟩

/-- Every `Count()` call in a state satisfying the invariant answers a number between 0 and the capacity `c.size`. -/
theorem count_answer_le_capacity {c c' : St} {x : Int} (h : Inv c)
    (hs : step c .count = .ok c' (.int x)) : 0 ≤ x ∧ x ≤ c.size := by
  simp only [Model.Lru.step, count, length] at hs
  cases hs
  have := h.len; omega

/-- After any history from `NewLRU(n)`, `Get(k)` succeeds
exactly when the observed history says `k` is live — added and not since removed by `Remove(k)`,
returned by a remover, returned as evicted by an `Add`, or flushed — and it returns the value of the
latest `Add(k, ·)`. -/
theorem lookup_exact {n : Int} {c c' : St} {rs : List Ret} (hc : newLRU n = some c)
    {ops : List Op} (hr : Model.Lru.run c ops = some (c', rs)) (k : Int) :
    ∃ c'', step c' (.get k) = .ok c'' (match Lemmas.C07.trackAll k none ops rs with
        | some v => .vb v true
        | none => .vb 0 false) := by
  obtain ⟨hi, hl, _⟩ := inv_init hc
  obtain ⟨hi', hf⟩ := run_find (k := k) ops hi hr
  obtain ⟨c'', h1, _⟩ := step_refines hi' (.get k)
  rw [hl, Lemmas.C07.find_nil] at hf
  refine ⟨c'', h1.trans ?_⟩
  rw [← hf, Lemmas.C07.step_get]
  cases find k c'.list <;> rfl

/-- Adding a key that is not held to a full cache evicts, and returns, exactly the
least recently touched entry (the last of the recency order); the new entry becomes the most recent
and everything else keeps its place. -/
theorem add_evicts_least_recent {c c' : St} {r : Ret} (h : Inv c) {k v : Int}
    (hk : find k c.list = none) (hfull : (c.list.length : Int) = c.size)
    (hs : step c (.add k v) = .ok c' r) :
    ∃ e, c.list.getLast? = some e ∧ r = .kvb e.1 e.2 true ∧ c'.list = (k, v) :: c.list.dropLast := by
  obtain ⟨hr, hl, _⟩ := step_eq h hs
  obtain ⟨e, he, hst⟩ := Lemmas.C07.step_add_full v hk h.one_le_cap
    (Nat.le_of_eq (hfull ▸ Int.toNat_natCast _))
  rw [hst] at hr hl
  exact ⟨e, he, hr, hl⟩

/-- Adding a key that is not held to a cache that is not full evicts nothing. -/
theorem add_no_eviction_when_room {c c' : St} {r : Ret} (h : Inv c) {k v : Int}
    (hk : find k c.list = none) (hroom : (c.list.length : Int) < c.size)
    (hs : step c (.add k v) = .ok c' r) :
    r = .kvb 0 0 false ∧ c'.list = (k, v) :: c.list :=
  step_eq_of h hs (Lemmas.C07.step_add_room v hk (Int.lt_toNat.mpr hroom))

/-- Adding a key that is held stores the latest value, evicts nothing and makes it the most recent. -/
theorem add_existing_refreshes {c c' : St} {r : Ret} (h : Inv c) {k v v0 : Int}
    (hk : find k c.list = some v0) (hs : step c (.add k v) = .ok c' r) :
    r = .kvb 0 0 false ∧ c'.list = (k, v) :: del k c.list :=
  step_eq_of h hs (Lemmas.C07.step_add_hit v hk)

/-- `Get` of a held key returns its value and makes it the most recent; the others keep their order. -/
theorem get_hit_refreshes {c c' : St} {r : Ret} (h : Inv c) {k v : Int}
    (hk : find k c.list = some v) (hs : step c (.get k) = .ok c' r) :
    r = .vb v true ∧ c'.list = (k, v) :: del k c.list :=
  step_eq_of (o := .v (some v)) h hs (by rw [Lemmas.C07.step_get, hk])

/-- `Get` of a key that is not held reports so and changes nothing. -/
theorem get_miss {c c' : St} {r : Ret} (h : Inv c) {k : Int}
    (hk : find k c.list = none) (hs : step c (.get k) = .ok c' r) :
    r = .vb 0 false ∧ c'.list = c.list :=
  step_eq_of (o := .v none) h hs (by rw [Lemmas.C07.step_get, hk])

/-- `GetOldest` designates the least recently touched entry and refreshes it. -/
theorem getOldest_designates {c c' : St} {r : Ret} (h : Inv c)
    (hs : step c .getOldest = .ok c' r) :
    r = Ret.ofOut (.kv c.list.getLast?) ∧
      c'.list = (match c.list.getLast? with | some e => e :: c.list.dropLast | none => c.list) :=
  step_eq_of h hs (Lemmas.C07.step_getOldest ..)

/-- `GetYoungest` designates the most recently touched entry; no refresh, no change. -/
theorem getYoungest_designates {c c' : St} {r : Ret} (h : Inv c)
    (hs : step c .getYoungest = .ok c' r) :
    r = Ret.ofOut (.kv c.list.head?) ∧ c'.list = c.list := by
  obtain ⟨hr, hl, _⟩ := step_eq h hs
  exact ⟨hr, hl⟩

/-- `RemoveOldest` returns the least recently touched entry and removes exactly that entry —
its key is no longer found, every other key is found as before, the order of the rest is unchanged. -/
theorem removeOldest_removes_what_it_returns {c c' : St} {r : Ret} (h : Inv c)
    (hs : step c .removeOldest = .ok c' r) :
    r = Ret.ofOut (.kv c.list.getLast?) ∧ c'.list = c.list.dropLast ∧
      ∀ e, c.list.getLast? = some e →
        find e.1 c'.list = none ∧ ∀ k, k ≠ e.1 → find k c'.list = find k c.list := by
  obtain ⟨hr, hl, _⟩ := step_eq h hs
  refine ⟨hr, hl, fun e he => Lemmas.C07.find_removed fun k => ?_⟩
  rw [hl]; exact Lemmas.C07.find_dropLast h.nodup he k

/-- `RemoveYoungest` returns the most recently touched entry and removes exactly that entry. -/
theorem removeYoungest_removes_what_it_returns {c c' : St} {r : Ret} (h : Inv c)
    (hs : step c .removeYoungest = .ok c' r) :
    r = Ret.ofOut (.kv c.list.head?) ∧ c'.list = c.list.tail ∧
      ∀ e, c.list.head? = some e →
        find e.1 c'.list = none ∧ ∀ k, k ≠ e.1 → find k c'.list = find k c.list := by
  obtain ⟨hr, hl, _⟩ := step_eq h hs
  refine ⟨hr, hl, fun e he => Lemmas.C07.find_removed fun k => ?_⟩
  rw [hl]; exact Lemmas.C07.find_tail h.nodup he k

/-- `Remove(k)` returns the value held under `k` and removes exactly that entry. -/
theorem remove_removes_what_it_returns {c c' : St} {r : Ret} (h : Inv c) (k : Int)
    (hs : step c (.remove k) = .ok c' r) :
    r = Ret.ofOut (.v (find k c.list)) ∧ c'.list = del k c.list ∧
      find k c'.list = none ∧ ∀ k', k' ≠ k → find k' c'.list = find k' c.list := by
  obtain ⟨hr, hl, _⟩ := step_eq h hs
  rw [Lemmas.C07.step_remove] at hr hl
  exact ⟨hr, hl, Lemmas.C07.find_removed fun k' => hl ▸ Lemmas.C07.find_del k' k c.list⟩

def refreshes : Op → Bool
  | .add _ _ | .get _ | .getOldest => true
  | _ => false

theorem step_sublist {cap : Nat} {es : Entries} {op : Op} (hop : refreshes op = false) :
    (Spec.C07.step cap es op).1.Sublist es := by
  cases op with
  | add k v => cases hop
  | get k => cases hop
  | getOldest => cases hop
  | remove k => rw [Lemmas.C07.step_remove]; exact List.filter_sublist
  | removeOldest => exact List.dropLast_sublist _
  | removeYoungest => exact List.tail_sublist _
  | flush => exact List.nil_sublist _
  | _ => exact List.Sublist.refl _

theorem step_tail_sublist (cap : Nat) (es : Entries) (op : Op) :
    (Spec.C07.step cap es op).1.tail.Sublist es ∨ (Spec.C07.step cap es op).1 = es := by
  cases op with
  | add k v =>
    left
    cases hq : find k es with
    | some v0 => rw [Lemmas.C07.step_add_hit v hq]; exact List.filter_sublist
    | none =>
      rw [Lemmas.C07.step_add_miss hq]
      split
      · cases es with
        | nil => exact List.nil_sublist _
        | cons a b => exact List.dropLast_sublist _
      · exact List.Sublist.refl _
  | get k =>
    rw [Lemmas.C07.step_get]
    cases find k es with
    | some v0 => exact .inl List.filter_sublist
    | none => exact .inr rfl
  | getOldest =>
    rw [Lemmas.C07.step_getOldest]
    cases es.getLast? with
    | some e => exact .inl (List.dropLast_sublist _)
    | none => exact .inr rfl
  | _ => exact .inl ((List.tail_sublist _).trans (step_sublist rfl))

/-- Recency is refreshed by `Add`, `Get` and `GetOldest` only: every other call leaves the
remaining entries in the same relative order (the new recency order is a sublist of the old one —
nobody is promoted). -/
theorem only_add_get_getOldest_refresh {c c' : St} {r : Ret} (h : Inv c) {op : Op}
    (hop : refreshes op = false) (hs : step c op = .ok c' r) : c'.list.Sublist c.list := by
  obtain ⟨-, hl, -⟩ := step_eq h hs
  exact hl ▸ step_sublist hop

/-- Any call, refreshing or not, moves at most one entry to the front and leaves the rest in their
relative order (which entry a refreshing call moves: `add_existing_refreshes`, `get_hit_refreshes`,
`getOldest_designates`). -/
theorem refresh_moves_only_the_touched {c c' : St} {r : Ret} (h : Inv c) {op : Op}
    (hs : step c op = .ok c' r) : c'.list.tail.Sublist c.list ∨ c'.list = c.list := by
  obtain ⟨-, hl, -⟩ := step_eq h hs
  exact hl ▸ step_tail_sublist c.size.toNat c.list op

/-! ## F13 (repaired in /repo 4cc2540): the pre-repair `RemoveYoungest` breaks the invariant

`removeYoungestPreFix` deletes the youngest key from the map but unlinks the *oldest* node.  On the
witness of `corpus/C07/f13-removeyoungest.trace` (`NewLRU(3); Add 1,2,3; RemoveYoungest`) the map
then holds `{1, 2}` while the list holds the keys `[3, 2]`. -/

/-- the state after `NewLRU(3); Add(1,10); Add(2,20); Add(3,30)` -/
def f13State : St := { size := 3, items := [3, 2, 1], list := [(3, 30), (2, 20), (1, 10)] }

example : (newLRU 3).bind (fun c => (Model.Lru.run c [.add 1 10, .add 2 20, .add 3 30]).map (·.1)) =
    some f13State := by decide +kernel

example : Inv f13State :=
  ⟨by decide, fun k => by simp [f13State, Lemmas.C07.keys], by decide, by decide⟩

/-- the pre-repair method returns `(3, 30, true)` and leaves map `{2, 1}` / list `[3, 2]` -/
example : removeYoungestPreFix f13State =
    .ok { size := 3, items := [2, 1], list := [(3, 30), (2, 20)] } (.kvb 3 30 true) := by decide +kernel

/-- The state the pre-repair method leaves violates the invariant: key 1 is in the map and not in the list. -/
example : ∀ c' r, removeYoungestPreFix f13State = .ok c' r → ¬ Inv c' := by
  intro c' r h hinv
  have h' : removeYoungestPreFix f13State =
      .ok { size := 3, items := [2, 1], list := [(3, 30), (2, 20)] } (.kvb 3 30 true) := by decide +kernel
  rw [h'] at h; cases h
  have := (hinv.items 1).mp (by decide)
  simp [Lemmas.C07.keys] at this

/-- the repaired method on the same state keeps it: map `{2, 1}`, list `[2, 1]` -/
example : removeYoungest f13State =
    .ok { size := 3, items := [2, 1], list := [(2, 20), (1, 10)] } (.kvb 3 30 true) := by decide +kernel

/-! ## Layer 2: the pointer-level model answers as the abstract-list model, hence as the specification

`Lemmas.C07Ptr.Rep p c as` relates a pointer-level state `p` to an abstract-list state `c`; `as` are the
addresses of the linked nodes, front first. -/

open GoguVerif.Lemmas.C07Ptr (Rep)

theorem ptr_newLRU_rejects_nonpositive (n : Int) : Model.LruPtr.newLRU n = none ↔ n ≤ 0 := by
  unfold Model.LruPtr.newLRU; split <;> simp_all

/-- `NewLRU` on both layers: rejected together, and otherwise related (empty circular list). -/
theorem ptr_init (n : Int) :
    (Model.LruPtr.newLRU n = none ∧ newLRU n = none ∧ n ≤ 0) ∨
    (∃ p c, Model.LruPtr.newLRU n = some p ∧ newLRU n = some c ∧ Rep p c []) := by
  by_cases h : n ≤ 0
  · left; exact ⟨if_pos h, if_pos h, h⟩
  · right
    exact ⟨_, _, if_neg h, if_neg h, Lemmas.C07Ptr.rep_empty rfl⟩

theorem ptr_start {n : Int} {p : Model.LruPtr.PSt} (hp : Model.LruPtr.newLRU n = some p) :
    ∃ c, newLRU n = some c ∧ Rep p c [] ∧ Inv c := by
  rcases ptr_init n with ⟨h, _, _⟩ | ⟨p0, c, h1, h2, hr⟩
  · rw [h] at hp; cases hp
  · rw [h1] at hp; cases hp
    exact ⟨c, h2, hr, (inv_init h2).1⟩

/-- One call: the pointer-level method never dereferences a missing node, returns the same tuple
as the abstract-list method, and the two states stay related. -/
theorem ptr_step_simulates {p : Model.LruPtr.PSt} {c : St} {as : List Nat} (hr : Rep p c as)
    (hi : Inv c) (op : Op) :
    ∃ p' c' r as', Model.LruPtr.step p op = .ok p' r ∧ step c op = .ok c' r ∧ Rep p' c' as' ∧ Inv c' := by
  obtain ⟨p', c', r, as', h1, h2, h3⟩ := Lemmas.C07Ptr.sim_step hr op
  obtain ⟨-, -, hi'⟩ := step_eq hi h2
  exact ⟨p', c', r, as', h1, h2, h3, hi'⟩

theorem ptr_run_simulates {p : Model.LruPtr.PSt} {c : St} {as : List Nat} (hr : Rep p c as)
    (hi : Inv c) (ops : List Op) :
    ∃ p' c' rs as', Model.LruPtr.run p ops = some (p', rs) ∧ Model.Lru.run c ops = some (c', rs) ∧
      Rep p' c' as' ∧ Inv c' := by
  induction ops generalizing p c as with
  | nil => exact ⟨p, c, [], as, rfl, rfl, hr, hi⟩
  | cons op ops ih =>
    obtain ⟨p1, c1, r, as1, h1, h2, h3, h4⟩ := ptr_step_simulates hr hi op
    obtain ⟨p2, c2, rs, as2, k1, k2, k3, k4⟩ := ih h3 h4
    exact ⟨p2, c2, r :: rs, as2, by simp only [Model.LruPtr.run, h1, k1],
      by simp only [Model.Lru.run, h2, k2], k3, k4⟩

/-- For every capacity `n` for which `NewLRU(n)`
succeeds and every history, the circular-list implementation never faults and answers exactly as
the recency-ordered map of capacity `n`; its `len` counter never exceeds `n`. -/
theorem ptr_refines {n : Int} {p : Model.LruPtr.PSt} (hp : Model.LruPtr.newLRU n = some p)
    (ops : List Op) :
    ∃ p', Model.LruPtr.run p ops = some (p', (Spec.C07.run n.toNat [] ops).2.map Ret.ofOut) ∧
      Model.LruPtr.count p' ≤ n := by
  obtain ⟨c, h2, hr, hi⟩ := ptr_start hp
  obtain ⟨p', c', rs, as', k1, k2, k3, k4⟩ := ptr_run_simulates hr hi ops
  obtain ⟨c'', j1, _, _⟩ := lru_refines h2 ops
  rw [k2] at j1; cases j1
  refine ⟨p', k1, ?_⟩
  rw [Lemmas.C07Ptr.count_eq k3]
  exact (count_le_capacity h2 k2).1

/-- Every state the pointer-level model reaches holds a well-formed circular list (`next`/`prev`
consistent all the way round, distinct addresses) of at most `n` nodes, with an exact `len` counter
and a map that holds exactly the keys of the linked nodes — and it represents an abstract-list state
that satisfies the invariant. -/
theorem ptr_reachable_wellformed {n : Int} {p p' : Model.LruPtr.PSt} {rs : List Ret}
    (hp : Model.LruPtr.newLRU n = some p) {ops : List Op}
    (hrun : Model.LruPtr.run p ops = some (p', rs)) :
    ∃ as c', Rep p' c' as ∧ Inv c' ∧ p'.evictList.len = as.length ∧ (as.length : Int) ≤ n := by
  obtain ⟨c, h2, hr, hi⟩ := ptr_start hp
  obtain ⟨p1, c', rs', as', k1, k2, k3, k4⟩ := ptr_run_simulates hr hi ops
  rw [k1] at hrun; cases hrun
  exact ⟨as', c', k3, k4, k3.len, Lemmas.C07Ptr.cells_length k3.cells ▸ (count_le_capacity h2 k2).1⟩

/-- No history makes the pointer-level model dereference a missing node (from `ptr_refines`). -/
theorem ptr_never_faults {n : Int} {p : Model.LruPtr.PSt} (hp : Model.LruPtr.newLRU n = some p)
    (ops : List Op) : Model.LruPtr.run p ops ≠ none := by
  obtain ⟨p', h, _⟩ := ptr_refines hp ops
  rw [h]; simp

/-- non-vacuity: the F13 witness history on the repaired pointer-level model -/
example :
    (Model.LruPtr.newLRU 3).bind (fun c => (Model.LruPtr.run c [.add 1 10, .add 2 20, .add 3 30,
      .removeYoungest, .get 1, .get 3, .count, .getYoungest, .removeOldest, .removeOldest,
      .removeOldest, .count]).map (fun x => x.2)) =
    some [.kvb 0 0 false, .kvb 0 0 false, .kvb 0 0 false, .kvb 3 30 true, .vb 10 true, .vb 0 false,
      .int 2, .kvb 1 10 true, .kvb 2 20 true, .kvb 1 10 true, .kvb 0 0 false, .int 0] := by decide +kernel

/-- F13 at pointer level: after `NewLRU(3); Add 1,2,3`, the pre-repair `RemoveYoungest` followed by
the rest of the witness trace answers what the unrepaired code answered — `Get(1)` still succeeds,
`Get(3)` fails, `Count()` is 2, key 3 comes out of `RemoveOldest` although it was "removed", and the
final `Count()` is `-1`. -/
example :
    ((Model.LruPtr.newLRU 3).bind (fun c => (Model.LruPtr.run c [.add 1 10, .add 2 20, .add 3 30]).map
      (fun x => x.1))).bind (fun c => match Model.LruPtr.removeYoungestPreFix c with
        | .ok c' r => (Model.LruPtr.run c' [.get 1, .get 3, .count, .getYoungest, .removeOldest,
            .removeOldest, .removeOldest, .count]).map (fun x => r :: x.2)
        | .fault => none) =
    some [.kvb 3 30 true, .vb 10 true, .vb 0 false, .int 2, .kvb 1 10 true, .kvb 2 20 true,
      .kvb 3 30 true, .kvb 1 10 true, .int (-1)] := by decide +kernel

end GoguVerif.Theorems.C07
