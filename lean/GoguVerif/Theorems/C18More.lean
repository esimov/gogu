import GoguVerif.Theorems.C18
import GoguVerif.Lemmas.C08
import GoguVerif.Lemmas.TieRules
/-!
# C18 — more theorems: `RetryWithDelay` (results, count, termination, spacing), `Before` across time

Models: `Model/FuncsMore.lean` (`retryWithDelay`, `beforeTimed`, `beforeTimedC`), on top of
`Model/Funcs.lean` and `Model/Cache.lean`.
-/
namespace GoguVerif.Theorems.C18More
open Model.Funcs Theorems.C18
open GoguVerif.Lemmas.CacheCell (cellSet_of_get_none cellSet_of_live)

/-- what the result `r` of the loop of `RetryWithDelay` shares with the result `q` of the loop of `Retry` and with
the (start, end) pairs `ts` of `retryDelayTimes`, `c` invocations having been made before -/
structure Projects (r : RDOut) (q : Nat × Bool × Nat) (ts : List (Int × Int)) (c : Nat) : Prop where
  results : (r.attempts, r.err, r.calls) = q
  times : r.times = ts
  length : c + r.times.length = r.calls

/-- The loop of `RetryWithDelay` is the master of `retryLoop` and `retryDelayTimes`: it reports the same attempt
count and error flag and makes the same number of callback invocations as the loop of `Retry` from the same state,
and its (start, end) pairs are `retryDelayTimes`, one per invocation — whatever the clock, the waits and the
durations.  The loop keeps two counters, `attempt` (indexes the waits) and `calls` (indexes outcomes and durations);
`retryLoop` and `retryDelayTimes` have one, so this is stated from a state where the two are equal. -/
theorem retryDelayLoop_projects (script : List Bool) (waits durs : Nat → Int)
    (fuel a : Nat) (le : Bool) (now : Int) :
    Projects (retryDelayLoop script waits durs fuel a le a now) (retryLoop script fuel a le)
      (retryDelayTimes script waits durs fuel a now) a := by
  induction fuel generalizing a le now with
  | zero => exact ⟨rfl, rfl, rfl⟩
  | succ fuel ih =>
    rw [retryDelayLoop, retryLoop, retryDelayTimes]
    split
    · have := ih (a + 1) true (now + durs a + waits a)
      exact ⟨this.results, congrArg _ this.times, (Nat.add_right_comm a _ 1).trans this.length⟩
    · exact ⟨rfl, rfl, rfl⟩

/-- `RetryWithDelay(n, d, fn)` returns the same (failed attempts, error?) and invokes the
callback the same number of times as the loop of `Retry(n, fn)` on the same outcome script — for
every `n`, every script, every clock behaviour. -/
theorem retryWithDelay_results (n : Int) (script : List Bool) (waits durs : Nat → Int) :
    ((retryWithDelay n script waits durs).attempts, (retryWithDelay n script waits durs).err,
     (retryWithDelay n script waits durs).calls) = retryLoop script n.toNat 0 false :=
  (retryDelayLoop_projects script waits durs n.toNat 0 false 0).results

theorem retryWithDelay_eq_retry (n : Int) (hn : 0 ≤ n) (script : List Bool) (waits durs : Nat → Int) :
    ((retryWithDelay n script waits durs).attempts, (retryWithDelay n script waits durs).err,
     (retryWithDelay n script waits durs).calls) = retry n script :=
  (retryWithDelay_results n script waits durs).trans (if_neg (Int.not_lt.mpr hn)).symm

theorem retryWithDelay_nonpos (n : Int) (hn : n ≤ 0) (script : List Bool) (waits durs : Nat → Int) :
    retryWithDelay n script waits durs = ⟨0, 0, false, 0, []⟩ := by
  unfold retryWithDelay; rw [Int.toNat_eq_zero.mpr hn]; rfl

/-- For `n < 0` the two functions DIFFER in the error: `Retry` rejects a negative `n` with an error,
`RetryWithDelay` has no such check — it returns `(0s, 0, nil)` without calling the callback. -/
theorem retryWithDelay_neg (n : Int) (hn : n < 0) (script : List Bool) (waits durs : Nat → Int) :
    retryWithDelay n script waits durs = ⟨0, 0, false, 0, []⟩ ∧ retry n script = (0, true, 0) :=
  ⟨retryWithDelay_nonpos n (Int.le_of_lt hn) script waits durs, if_pos hn⟩

/-- Closed form (from `retry_spec`): with `k = leadFails script` the index of the first success, if
there is one — `min n (k+1)` invocations, none for `n ≤ 0`; the reported attempt count is the number
of failed invocations; an error is reported iff `n > 0` and no invocation succeeded. -/
theorem retryWithDelay_spec (n : Int) (script : List Bool) (waits durs : Nat → Int) :
    ((retryWithDelay n script waits durs).attempts, (retryWithDelay n script waits durs).err,
     (retryWithDelay n script waits durs).calls) =
      if leadFails script < script.length ∧ leadFails script < n.toNat then
        (leadFails script, false, leadFails script + 1)
      else (n.toNat, decide (n.toNat ≠ 0), n.toNat) := by
  by_cases hn : 0 ≤ n
  · rw [retryWithDelay_eq_retry n hn, retry_spec, if_neg (Int.not_lt.mpr hn)]
  · have h0 := Int.toNat_eq_zero.mpr (Int.le_of_not_le hn)
    rw [retryWithDelay_nonpos n (Int.le_of_not_le hn), h0, if_neg fun h => Nat.not_lt_zero _ h.2]
    rfl

theorem triple_inj {α β γ : Type} {a a' : α} {b b' : β} {c c' : γ} (h : (a, b, c) = (a', b', c')) :
    a = a' ∧ b = b' ∧ c = c' :=
  ⟨congrArg (·.1) h, congrArg (·.2.1) h, congrArg (·.2.2) h⟩

/-- never more than `n` invocations; no failed attempt is reported that was not made -/
theorem retryWithDelay_calls_le (n : Int) (script : List Bool) (waits durs : Nat → Int) :
    (retryWithDelay n script waits durs).calls ≤ n.toNat ∧
    (retryWithDelay n script waits durs).attempts ≤ (retryWithDelay n script waits durs).calls := by
  have h := retryWithDelay_spec n script waits durs
  split at h
  next hc => obtain ⟨h1, -, h3⟩ := triple_inj h; rw [h1, h3]; exact ⟨hc.2, Nat.le_succ _⟩
  next => obtain ⟨h1, -, h3⟩ := triple_inj h; rw [h1, h3]; exact ⟨Nat.le_refl _, Nat.le_refl _⟩

/-- It stops at the first success: every invocation but the last one failed; when no error is
reported (and `n > 0`) the last invocation succeeded and `attempts` counts the ones before it; when
an error is reported all `n` invocations were made and all failed. -/
theorem retryWithDelay_stops (n : Int) (script : List Bool) (waits durs : Nat → Int) :
    let r := retryWithDelay n script waits durs
    (∀ i, i + 1 < r.calls → fails script i = true) ∧
    (r.err = false → 0 < n → r.calls = r.attempts + 1 ∧ fails script r.attempts = false) ∧
    (r.err = true → r.calls = n.toNat ∧ r.attempts = n.toNat ∧ ∀ i, i < r.calls → fails script i = true) := by
  intro r
  have h : (r.attempts, r.err, r.calls) = _ := retryWithDelay_spec n script waits durs
  split at h <;> obtain ⟨h1, h2, h3⟩ := triple_inj h <;> rw [h1, h2, h3]
  next hc =>
    exact ⟨fun i hi => fails_lt_leadFails script i (Nat.lt_of_succ_lt_succ hi),
      fun _ _ => ⟨rfl, fails_at_leadFails script hc.1⟩, fun he => nomatch he⟩
  next hc =>
    have hall : ∀ i, i < n.toNat → fails script i = true := fun i hi => fails_before_success script hi hc
    exact ⟨fun i hi => hall i (Nat.lt_of_succ_lt hi),
      fun he hn => (of_decide_eq_false he (by omega)).elim, fun _ => ⟨rfl, rfl, hall⟩⟩

theorem retryWithDelay_times_length (n : Int) (script : List Bool) (waits durs : Nat → Int) :
    (retryWithDelay n script waits durs).times.length = (retryWithDelay n script waits durs).calls :=
  (Nat.zero_add _).symm.trans (retryDelayLoop_projects script waits durs n.toNat 0 false 0).length

theorem retryWithDelay_times (n : Int) (script : List Bool) (waits durs : Nat → Int) :
    (retryWithDelay n script waits durs).times = retryDelayTimes script waits durs n.toNat 0 0 :=
  (retryDelayLoop_projects script waits durs n.toNat 0 false 0).times

theorem gapped_index (d : Int) (l : List (Int × Int)) (h : Spec.C18.gapped d l = true)
    (i : Nat) (a b : Int × Int) (ha : l[i]? = some a) (hb : l[i + 1]? = some b) : b.1 ≥ a.2 + d := by
  induction l generalizing i with
  | nil => cases ha
  | cons x r ih =>
    cases r with
    | nil => cases hb
    | cons y r =>
      have h := Bool.and_eq_true_iff.mp h
      cases i with
      | zero => cases ha; cases hb; exact of_decide_eq_true h.1
      | succ i => exact ih h.2 i ha hb

/-- every attempt starts at least `d` after the END of the previous one, provided the timer
never fires early (`waits i ≥ d`) — whatever the attempts' own durations. -/
theorem retryWithDelay_gapped (n : Int) (script : List Bool) (waits durs : Nat → Int) (d : Int)
    (hw : ∀ i, waits i ≥ d) :
    Spec.C18.gapped d (retryWithDelay n script waits durs).times = true := by
  rw [retryWithDelay_times]; exact retryDelay_gapped script waits durs d hw _ _ _

theorem retryWithDelay_gap (n : Int) (script : List Bool) (waits durs : Nat → Int) (d : Int)
    (hw : ∀ i, waits i ≥ d) (i : Nat) (a b : Int × Int)
    (ha : (retryWithDelay n script waits durs).times[i]? = some a)
    (hb : (retryWithDelay n script waits durs).times[i + 1]? = some b) : b.1 ≥ a.2 + d :=
  gapped_index d _ (retryWithDelay_gapped n script waits durs d hw) i a b ha hb

/-- with attempts that take time `≥ 0`, the START times of consecutive attempts — which are also
the durations handed to the callback — are at least `d` apart. -/
theorem retryWithDelay_spaced (n : Int) (script : List Bool) (waits durs : Nat → Int) (d : Int)
    (hw : ∀ i, waits i ≥ d) (hd : ∀ i, 0 ≤ durs i) :
    Spec.C18.spaced d ((retryWithDelay n script waits durs).times.map (·.1)) = true := by
  refine spaced_of_gapped d _ (retryWithDelay_gapped n script waits durs d hw) ?_
  rw [retryWithDelay_times]; exact retryDelayTimes_le script waits durs hd _ _ _

/-- With instantaneous attempts the start times are `retryDelayStamps` with `fuel = n`, so
`retryDelay_spaced` speaks about exactly the invocations `RetryWithDelay n` makes. -/
theorem retryWithDelay_stamps (n : Int) (script : List Bool) (waits : Nat → Int) :
    (retryWithDelay n script waits (fun _ => 0)).times.map (·.1) =
      retryDelayStamps script waits n.toNat 0 0 := by
  rw [retryWithDelay_times, retryDelayTimes_instant]

/-- as many stamps as `Retry n` makes invocations (for `n < 0` both sides are `0`, so `hn` is not needed) -/
theorem retryDelayStamps_length (n : Int) (hn : 0 ≤ n) (script : List Bool) (waits : Nat → Int) :
    (retryDelayStamps script waits n.toNat 0 0).length = (retry n script).2.2 := by
  rw [← retryWithDelay_stamps, List.length_map, retryWithDelay_times_length,
    ← retryWithDelay_eq_retry n hn script waits (fun _ => 0)]

/-- One failed attempt (duration `du`, wait `w ≥ d`) pays for the step from `a + 1` to `a` in the bound of
`retryDelayLoop_elapsed`; `k` is the final attempt count.  The product is multiplied out first, since `omega` does not. -/
theorem elapsed_step {el now du w d k : Int} {a : Nat}
    (h : el ≥ now + du + w + (k - ((a + 1 : Nat) : Int)) * d) (hw : w ≥ d) (hd : 0 ≤ du) :
    el ≥ now + (k - a) * d := by
  rw [Int.natCast_succ, ← Int.sub_sub, Int.sub_mul _ 1, Int.one_mul] at h
  omega

/-- the reported duration: at least `d` for every failed attempt (attempts take time `≥ 0`) -/
theorem retryDelayLoop_elapsed (script : List Bool) (waits durs : Nat → Int) (d : Int)
    (hw : ∀ i, waits i ≥ d) (hd : ∀ i, 0 ≤ durs i) (fuel a c : Nat) (le : Bool) (now : Int) :
    (retryDelayLoop script waits durs fuel a le c now).elapsed ≥
      now + (((retryDelayLoop script waits durs fuel a le c now).attempts : Int) - a) * d := by
  have stop : ∀ (now t : Int) (a : Nat), t ≥ now → t ≥ now + ((a : Int) - a) * d := fun _ _ _ h => by
    rwa [Int.sub_self, Int.zero_mul, Int.add_zero]
  induction fuel generalizing a c le now with
  | zero => exact stop now now a (Int.le_refl _)
  | succ fuel ih =>
    rw [retryDelayLoop]
    split
    · exact elapsed_step (ih (a + 1) (c + 1) true _) (hw a) (hd c)
    · exact stop now _ a (Int.le_add_of_nonneg_right (hd c))

theorem retryWithDelay_elapsed (n : Int) (script : List Bool) (waits durs : Nat → Int) (d : Int)
    (hw : ∀ i, waits i ≥ d) (hd : ∀ i, 0 ≤ durs i) :
    (retryWithDelay n script waits durs).elapsed ≥ (retryWithDelay n script waits durs).attempts * d := by
  have := retryDelayLoop_elapsed script waits durs d hw hd n.toNat 0 0 false 0
  rwa [Int.zero_add, Int.natCast_zero, Int.sub_zero] at this

/-- concrete instance: 2 failures then a success, `d = 10`, waits 10 and 12, attempts take 1, 2, 3 -/
example : retryWithDelay 5 [true, true, false, true] (fun i => 10 + 2 * i) (fun i => 1 + i) =
    ⟨28, 2, false, 3, [(0, 1), (11, 13), (25, 28)]⟩ := by decide
example : retryWithDelay 2 [true, true, false] (fun _ => 10) (fun _ => 0) =
    ⟨20, 2, true, 2, [(0, 0), (10, 10)]⟩ := by decide
example : retryWithDelay (-3) [false] (fun _ => 10) (fun _ => 0) = ⟨0, 0, false, 0, []⟩ ∧
    retry (-3) [false] = (0, true, 0) := by decide
/-- the hypotheses of `retryWithDelay_spaced` / `_gapped` / `_elapsed` hold in the first instance -/
example : (∀ i : Nat, (10 : Int) + 2 * i ≥ 10) ∧ (∀ i : Nat, (0 : Int) ≤ 1 + i) :=
  ⟨fun i => by omega, fun i => by omega⟩
example : Spec.C18.gapped 10 (retryWithDelay 5 [true, true, false, true] (fun i => 10 + 2 * i) (fun i => 1 + i)).times = true ∧
    Spec.C18.spaced 10 ((retryWithDelay 5 [true, true, false, true] (fun i => 10 + 2 * i) (fun i => 1 + i)).times.map (·.1)) = true := by
  decide

/-!
`Before` stores the result of its `n`-th (last) run at the instant `tn` of that call with the cache's
default lifetime `e` (`cellSet e tn none v = some (v, defaultExp e tn)`), and never stores again.
Later calls only `Get`: they return the stored result while the entry is live and the ZERO VALUE once
it has expired — in neither case is the callback run again (unlike `Once`, which re-runs it). -/

/-- `Before`, the first `n` calls (`n ≥ 1`, entry `"func"` absent at the start): each of them runs
the callback and returns the result of its own run — at whatever instants the calls happen. -/
theorem before_timed_runs (e n : Int) (res : Nat → Int) (ts : List Int) (i : Nat)
    (hi : i < ts.length) (hin : (i : Int) < n) :
    (beforeTimed e res { n := n } ts)[i]? = some (true, res (i + 1)) := by
  obtain ⟨p, rfl⟩ := Int.eq_succ_of_zero_lt (Int.lt_of_le_of_lt (Int.natCast_nonneg i) hin)
  rw [(beforeTimed_pre e res p _ ts rfl rfl).1 i hi, if_pos (Int.ofNat_lt.mp hin)]
  exact congrArg (fun k => some (true, res k)) (Nat.zero_add _)

/-- `Before`, after the `n`-th call.  Let `tn` be the instant of the `n`-th call (the last run) and
`t` the instant of a later call `i + 1 > n`.  That call does not run the callback; it returns the
result of the last run if the entry stored at `tn` with the cache's default lifetime is still live at
`t`, and the zero value otherwise. -/
theorem before_timed_later (e n : Int) (res : Nat → Int) (ts : List Int) (i : Nat) (t tn : Int)
    (hn : 1 ≤ n) (hin : n ≤ (i : Int)) (ht : ts[i]? = some t) (htn : ts[n.toNat - 1]? = some tn) :
    (beforeTimed e res { n := n } ts)[i]? =
      some (false, if liveAt e tn t then res n.toNat else 0) := by
  obtain ⟨p, rfl⟩ := Int.eq_succ_of_zero_lt hn
  rw [Int.toNat_natCast_add_one] at htn ⊢
  rw [Nat.add_sub_cancel] at htn
  rw [(beforeTimed_pre e res p _ ts rfl rfl).1 i (List.getElem?_eq_some_iff.mp ht).1,
    if_neg (Nat.not_lt.mpr (Int.ofNat_le.mp hin)),
    ht, htn, Option.getD_some, Option.getD_some, cellGet_stored]
  -- the run count of the start state `{ n := _ }` is `0`
  split
  · exact congrArg (fun k => some (false, res k)) (Nat.zero_add _)
  · rfl

/-- while the entry is live (`e ≤ 0` = it never expires, else up to `tn + e` inclusive):
the result of the last run, no run -/
theorem before_timed_live (e n : Int) (res : Nat → Int) (ts : List Int) (i : Nat) (t tn : Int)
    (hn : 1 ≤ n) (hin : n ≤ (i : Int)) (ht : ts[i]? = some t) (htn : ts[n.toNat - 1]? = some tn)
    (hlive : e ≤ 0 ∨ t ≤ tn + e) :
    (beforeTimed e res { n := n } ts)[i]? = some (false, res n.toNat) := by
  rw [before_timed_later e n res ts i t tn hn hin ht htn,
    if_pos (hlive.elim liveAt_of_nonpos liveAt_of_le)]

/-- after the entry has expired (`e > 0`, `tn ≥ 0`, `t > tn + e`): the zero value, no run -/
theorem before_timed_expired (e n : Int) (res : Nat → Int) (ts : List Int) (i : Nat) (t tn : Int)
    (hn : 1 ≤ n) (hin : n ≤ (i : Int)) (ht : ts[i]? = some t) (htn : ts[n.toNat - 1]? = some tn)
    (he : 0 < e) (htn0 : 0 ≤ tn) (hexp : tn + e < t) :
    (beforeTimed e res { n := n } ts)[i]? = some (false, 0) := by
  rw [before_timed_later e n res ts i t tn hn hin ht htn, if_neg (not_liveAt he htn0 hexp)]

/-- with non-decreasing instants, once a call has found the entry expired every later call does too:
the zero value from then on, and the callback is never run again -/
theorem before_timed_expired_forever (e n : Int) (res : Nat → Int) (ts : List Int) (i j : Nat)
    (t tn : Int) (hmono : ts.Pairwise (· ≤ ·))
    (hn : 1 ≤ n) (hin : n ≤ (i : Int)) (ht : ts[i]? = some t) (htn : ts[n.toNat - 1]? = some tn)
    (he : 0 < e) (htn0 : 0 ≤ tn) (hexp : tn + e < t) (hij : i ≤ j) (hj : j < ts.length) :
    (beforeTimed e res { n := n } ts)[j]? = some (false, 0) := by
  obtain ⟨hi, rfl⟩ := List.getElem?_eq_some_iff.mp ht
  have hle : ts[i] ≤ ts[j] := by
    rcases Nat.lt_or_eq_of_le hij with h | rfl
    · exact List.pairwise_iff_getElem.mp hmono i j hi hj h
    · exact Int.le_refl _
  exact before_timed_expired e n res ts j ts[j] tn hn (Int.le_trans hin (Int.ofNat_le.mpr hij))
    (List.getElem?_eq_getElem hj) htn he htn0 (Int.lt_of_lt_of_le hexp hle)

/-- the state once at least `n` calls have been made (`htn`): exactly `n` runs were made, and the cell holds the
result of the `n`-th run with the deadline computed at the `n`-th call's instant — it is stored once and never
replaced (`Before` calls `Set` only when the counter hits 0) -/
theorem before_timed_state (e n : Int) (res : Nat → Int) (ts : List Int) (tn : Int)
    (hn : 1 ≤ n) (htn : ts[n.toNat - 1]? = some tn) :
    (beforeTimedSt e res { n := n } ts).cell = some (res n.toNat, defaultExp e tn) ∧
    (beforeTimedSt e res { n := n } ts).runs = n.toNat := by
  obtain ⟨p, rfl⟩ := Int.eq_succ_of_zero_lt hn
  rw [Int.toNat_natCast_add_one] at htn ⊢
  have := (beforeTimed_pre e res p { n := p + 1 } ts rfl rfl).2 (List.getElem?_eq_some_iff.mp htn).1
  rwa [show ts[p]? = some tn from htn, Option.getD_some,
    show ({ n := (p : Int) + 1 } : BSt).runs = 0 from rfl, Nat.zero_add] at this

/-- `n ≤ 0`: the callback never runs, nothing is ever stored, every call returns the zero value -/
theorem before_timed_nonpos (e n : Int) (res : Nat → Int) (ts : List Int) (hn : n ≤ 0) :
    beforeTimed e res { n := n } ts = ts.map (fun _ => (false, 0)) :=
  (beforeTimed_post e res { n := n } ts hn).1

/-- concrete instance: `n = 2`, lifetime 10; calls at 0, 3 (last run, entry lives until 13), 7, 13
(still live), 14 and 20 (expired: zero value, no run) -/
example : beforeTimed 10 (fun k => 100 + k) { n := 2 } [0, 3, 7, 13, 14, 20] =
    [(true, 101), (true, 102), (false, 102), (false, 102), (false, 0), (false, 0)] := by decide
example : beforeTimedSt 10 (fun k => 100 + k) { n := 2 } [0, 3, 7, 13, 14, 20] =
    { n := -4, cell := some (102, 13), runs := 2 } := by decide
/-- the hypotheses of `before_timed_live` (call 4 at 13) and `before_timed_expired(_forever)` (call 5
at 14) in that instance -/
example : let ts : List Int := [0, 3, 7, 13, 14, 20]
    ts.Pairwise (· ≤ ·) ∧ ts[(2 : Int).toNat - 1]? = some 3 ∧
    (ts[3]? = some 13 ∧ ((10 : Int) ≤ 0 ∨ (13 : Int) ≤ 3 + 10)) ∧
    (ts[4]? = some 14 ∧ (0 : Int) < 10 ∧ (0 : Int) ≤ 3 ∧ (3 : Int) + 10 < 14) := by decide
/-- a never-expiring default (`e = -1`): the last result for ever -/
example : beforeTimed (-1) (fun k => 100 + k) { n := 1 } [5, 1000000] = [(true, 101), (false, 101)] := by
  decide

open Model.Cache in
theorem cellGet_cellOf (now key : Int) (m : Items) :
    cellGet now (cellOf key m) = (Model.Cache.get now m key).map (·.object) := by
  unfold cellOf Model.Cache.get
  cases lookup key m with
  | none => rfl
  | some it =>
    show _ = Option.map (·.object)
      (if it.expiration > 0 then if now > it.expiration then none else some it else some it)
    rw [apply_ite (Option.map _), apply_ite (Option.map _)]
    rfl

open Model.Cache Lemmas.C08 in
/-- `Set` on the map is `cellSet` on the key's cell: both refuse exactly while a read of the key succeeds -/
theorem cellOf_set (cfg : Cfg) (now key v : Int) (m : Items) (hacc : rejected cfg v = false) :
    cellOf key (Model.Cache.set cfg now m key v Gen.defaultExpiration).1 =
      cellSet cfg.expTime now (cellOf key m) v := by
  rw [set_eq]
  cases h : cellGet now (cellOf key m) with
  | none =>
    rw [cellSet_of_get_none _ _ _ _ h, if_neg, store_of_accepted hacc]
    · exact congrArg (Option.map _) ((lookup_assign ..).trans (if_pos rfl))
    · rw [cellGet_cellOf] at h; rw [Option.map_eq_none_iff.mp h]; exact Bool.false_ne_true
  | some w =>
    rw [cellSet_of_live h (Int.le_refl now), if_pos]
    rw [cellGet_cellOf] at h
    exact Option.isSome_map.symm.trans (Option.isSome_of_eq_some h)

/-- one call of `Before` on the cache model is one call of the cell model on the abstraction
(callback results that the cache accepts: any value for a non-string cache) -/
theorem beforeCallC_sim (cfg : Model.Cache.Cfg) (key now : Int) (res : Nat → Int) (s : BStC)
    (hacc : ∀ k, Model.Cache.rejected cfg (res k) = false) :
    beforeCall cfg.expTime now res (absB key s) =
      (absB key (beforeCallC cfg key now res s).1, (beforeCallC cfg key now res s).2.1,
       (beforeCallC cfg key now res s).2.2) := by
  -- `beforeCallC` is the text of `beforeCall` with the cache's map in place of the cell: same tests, branch by branch
  refine ite_rel (R := fun x (y : BStC × Bool × Int) => x = (absB key y.1, y.2.1, y.2.2)) Iff.rfl (fun _ => rfl)
    fun _ => ite_rel (R := fun x (y : BStC × Bool × Int) => x = (absB key y.1, y.2.1, y.2.2)) Iff.rfl
      (fun _ => ?_) fun _ => ?_
  · simp only [absB, getVal, cellOf_set cfg now key _ _ (hacc _), ← cellGet_cellOf]
  · simp only [absB, getVal, ← cellGet_cellOf]

theorem beforeTimedC_eq (cfg : Model.Cache.Cfg) (key : Int) (res : Nat → Int) (s : BStC) (ts : List Int)
    (hacc : ∀ k, Model.Cache.rejected cfg (res k) = false) :
    beforeTimedC cfg key res s ts = beforeTimed cfg.expTime res (absB key s) ts := by
  induction ts generalizing s with
  | nil => rfl
  | cons t ts ih =>
    rw [beforeTimedC, beforeTimed, beforeCallC_sim cfg key t res s hacc, ih]

/-- `Before` across time, on the cache model.  Cache with default lifetime `cfg.expTime`, no entry
under the key at the start (whatever else the map holds), `n ≥ 1`, calls at the instants `ts`:
the first `n` calls run the callback and return its result; a later call at `t` never runs it and
returns the `n`-th result iff the entry stored at `tn` (the instant of the `n`-th call) is live at
`t`, else the zero value. -/
theorem before_timed_cache (cfg : Model.Cache.Cfg) (key n : Int) (res : Nat → Int) (m : Model.Cache.Items)
    (ts : List Int) (i : Nat) (t tn : Int)
    (hacc : ∀ k, Model.Cache.rejected cfg (res k) = false)
    (hfree : Model.Cache.lookup key m = none)
    (hn : 1 ≤ n) (ht : ts[i]? = some t) (htn : ts[n.toNat - 1]? = some tn) :
    (beforeTimedC cfg key res { n := n, items := m } ts)[i]? =
      some (if (i : Int) < n then (true, res (i + 1))
            else (false, if liveAt cfg.expTime tn t then res n.toNat else 0)) := by
  have habs : absB key { n := n, items := m } = { n := n } := by
    unfold absB cellOf; rw [hfree]; rfl
  rw [beforeTimedC_eq _ _ _ _ _ hacc, habs]
  split
  next h => exact before_timed_runs cfg.expTime n res ts i (List.getElem?_eq_some_iff.mp ht).1 h
  next h => exact before_timed_later cfg.expTime n res ts i t tn hn (Int.not_lt.mp h) ht htn

example : beforeTimedC ⟨10, 0, false⟩ 7 (fun k => 100 + k) { n := 2, items := [(1, ⟨5, -1⟩)] }
      [0, 3, 7, 13, 14, 20] =
    [(true, 101), (true, 102), (false, 102), (false, 102), (false, 0), (false, 0)] := by decide
example : (∀ k : Nat, Model.Cache.rejected ⟨10, 0, false⟩ ((fun k : Nat => (100 : Int) + k) k) = false) ∧
    Model.Cache.lookup 7 [(1, (⟨5, -1⟩ : Model.Cache.Item))] = none := ⟨fun _ => rfl, by decide⟩

end GoguVerif.Theorems.C18More
