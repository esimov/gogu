import GoguVerif.Lemmas.C19Handles2
/-!
# C19 — kept node handles on the POINTER-LEVEL models

A handle is an address.  `Find` in a represented store (`Repr h as xs`) returns the cell `as[i]` where `i` is the first
position of the value (`slist_find_handle`).  The theorems below say what the pointer-level `Delete(handle)`,
`InsertAfter(handle, v)` (and `InsertBefore` for `DList`) do when the handle is **the `i`-th cell of the chain**
(`as[i]? = some a` — whatever values the list holds, duplicates included): they realise exactly the sequence operation
at position `i` (`Spec.C19.AllowedH`), preserve `Repr`, and do not fault.  `slist_deleteH_refines`,
`slist_insertAfterH_refines` and `slist_step_tracks` also give the address list after the operation in the form "every
other kept handle that the specification's bookkeeping `moveIdx` still follows is again the cell at the position
`moveIdx` says", which is what makes the statement composable over a history (`slist_kept_handle`); the `DList`
theorems of this file do not (`…_partial`: the full ones are in `Theorems/C19Handles2.lean`).

Excluded situations (the specification's `moveIdx` answers `none`; the theorems over histories ask `1 ≤ i` and
`as[i]? = some a`):
* a handle to the embedded head cell (address 0) after a head-replacing copy (`Unshift`, `Shift`, `Delete` of the first
  element, `DList.InsertBefore` the first element): address 0 is still the FIRST cell (`as[0]? = some 0` holds), but of
  another element — the handle does not follow its element, hence `1 ≤ i` (`excluded_head_handle_slist` here,
  `excluded_head_handle_dlist` in `Theorems/C19Handles2.lean`);
* a handle to the second cell after `Shift`/`Delete(first)` (its contents were copied into the head; the cell is off the
  chain: `as[i]? = some a` fails), and for `SList` a handle to the successor of a deleted middle node
  (`*prev.next = *head.next` copies it over the deleted cell): the cell is off the chain, the methods still accept it
  because they look the VALUE up (`excluded_stale_handle_slist`: `InsertAfter` answers `ok` and the list does not
  change; `excluded_stale_handle_dlist`: `Delete` answers `ok` and removes nothing).
-/
namespace GoguVerif.Theorems.C19H
open GoguVerif.Model GoguVerif.Spec.C19

/-- a followed position `≥ 1` stays `≥ 1` (a followed handle never becomes a handle to the embedded head) -/
theorem moveIdx_pos {dbl : Bool} {e : Edit} {k j : Nat} (hk : 1 ≤ k) (hm : moveIdx dbl e k = some j) : 1 ≤ j := by
  cases e with
  | none => cases hm; exact hk
  | ins p => cases hm; split <;> omega
  | del p =>
    rcases Lemmas.C19H.moveIdx_del hm with ⟨_, rfl⟩ | ⟨_, _, h0, _⟩
    · exact hk
    · by_cases hp : p = 0
      · have := h0 hp; omega
      · omega

namespace SList
open GoguVerif.Model.SList GoguVerif.Lemmas.C19.SList GoguVerif.Lemmas.C19H
  GoguVerif.Lemmas.C19H.SList

/-- Where a handle comes from: `Find(x)` on a represented store leaves the store as it is and returns the cell at
the first position of `x`. -/
theorem slist_find_handle {h h' : Heap} {as xs} (r : Repr h as xs) {x : Int} {a : Nat}
    (hf : find h x = .ok (h', some a)) : h' = h ∧ ∃ i, xs.idxOf? x = some i ∧ as[i]? = some a := by
  cases e : xs.idxOf? x with
  | none => rw [find_none r e] at hf; cases hf
  | some i =>
    obtain ⟨b, hb, hf'⟩ := find_some r e
    rw [hf'] at hf
    cases hf
    exact ⟨rfl, i, rfl, hb⟩

/-- `Delete(handle)` where the handle is the `i`-th cell removes exactly the `i`-th element (refuses, changing
nothing, on a one-element list), keeps the representation, does not fault; every other cell that `moveIdx` follows is
where `moveIdx` says. -/
theorem slist_deleteH_refines {h : Heap} {as xs} {i a : Nat} (r : Repr h as xs) (hi : as[i]? = some a) :
    ∃ h' ans as' xs', delete h (some a) = .ok (h', ans) ∧ Repr h' as' xs' ∧
      AllowedH xs (.deleteH i) ans xs' ∧
      ∀ k b j, as[k]? = some b → moveIdx false (editOfH xs (.deleteH i)) k = some j → as'[j]? = some b := by
  obtain ⟨h', as', he, hr, ht⟩ := handle_sim r hi .delete rfl
  exact ⟨h', _, as', _, he, hr, allowedH_iff_nextH.mpr rfl, ht.all editOfH_delete_ne⟩

/-- `InsertAfter(handle, v)` where the handle is the `i`-th cell places `v` right after the `i`-th element. -/
theorem slist_insertAfterH_refines {h : Heap} {as xs} {i a : Nat} (r : Repr h as xs) (hi : as[i]? = some a)
    (v : Int) :
    ∃ h' ans as' xs', insertAfter h (some a) v = .ok (h', ans) ∧ Repr h' as' xs' ∧
      AllowedH xs (.insertAfterH i v) ans xs' ∧
      ∀ k b j, as[k]? = some b → moveIdx false (editOfH xs (.insertAfterH i v)) k = some j → as'[j]? = some b := by
  obtain ⟨h', as', he, hr, ht⟩ := handle_sim r hi (.insertAfter v) rfl
  exact ⟨h', _, as', _, he, hr, allowedH_iff_nextH.mpr rfl, ht.all nofun⟩

/-- a nil handle is refused with an error and nothing changes, on any store (finding F40: `Delete` used to dereference
the nil node that `Find` returns for an absent value; repaired in /repo 52da07a) -/
theorem slist_nil_handle_refused (h : Heap) (v : Int) :
    delete h none = .ok (h, .err) ∧ insertAfter h none v = .ok (h, .err) := ⟨rfl, rfl⟩

/-- Every plain operation moves the kept cells as `moveIdx` says: `slist_step_refines` with the address list made
explicit enough to follow handles — a cell that was the `k`-th (`k ≥ 1`: not the embedded head) and that `moveIdx`
sends to `j` is the `j`-th cell afterwards. -/
theorem slist_step_tracks {h : Heap} {as xs} (r : Repr h as xs) (op : Op) (hs : supported op = true) :
    ∃ h' ans as' xs', step h op = .ok (h', ans) ∧ Repr h' as' xs' ∧ Allowed false xs op ans xs' ∧
      ∀ k b j, 1 ≤ k → as[k]? = some b → moveIdx false (editOf xs op) k = some j → as'[j]? = some b := by
  obtain ⟨h', as', he, hr, ht⟩ := plain_sim r op hs
  exact ⟨h', _, as', _, he, hr, allowed_iff.mpr (.inl rfl), ht.pos⟩

/-- plain operations one after the other (answers dropped) -/
def runOps (h : Heap) : List Op → ListRes Heap
  | [] => .ok h
  | op :: ops =>
    match step h op with
    | .ok (h', _) => runOps h' ops
    | .panic => .panic
    | .hang => .hang
    | .stuck => .stuck

/-- the specification's bookkeeping over a history: the sequence evolves by `Spec.C19.next`, the position by `moveIdx` -/
def follow : List Int → List Op → Nat → Option Nat
  | _, [], i => some i
  | xs, op :: ops, i => (moveIdx false (editOf xs op) i).bind (follow (next false xs op).2 ops)

def seqAfter : List Int → List Op → List Int
  | xs, [] => xs
  | xs, op :: ops => seqAfter (next false xs op).2 ops

/-- A kept handle, all histories.  The handle `a` is the `i`-th cell (`i ≥ 1`; e.g. it came from `Find`,
`slist_find_handle`) of a represented store; any history `ops` of plain operations follows; the specification's
bookkeeping still follows the element, to position `j` (`follow … = some j`: the cell was never copied from nor
overwritten).  Then the pointer model runs the history without fault, the store represents the specification's
sequence, the handle is the `j`-th cell, and `Delete(handle)` / `InsertAfter(handle, v)` realise exactly the sequence
operations at position `j`, keeping the representation. -/
theorem slist_kept_handle {h : Heap} {as xs} (r : Repr h as xs) (ops : List Op)
    (hs : ∀ op ∈ ops, supported op = true) {i a j : Nat} (hi1 : 1 ≤ i) (hi : as[i]? = some a)
    (hfol : follow xs ops i = some j) :
    ∃ h' as', runOps h ops = .ok h' ∧ Repr h' as' (seqAfter xs ops) ∧ as'[j]? = some a ∧ 1 ≤ j ∧
      (∃ h'' ans as'' xs'', delete h' (some a) = .ok (h'', ans) ∧ Repr h'' as'' xs'' ∧
        AllowedH (seqAfter xs ops) (.deleteH j) ans xs'') ∧
      (∀ v, ∃ h'' ans as'' xs'', insertAfter h' (some a) v = .ok (h'', ans) ∧ Repr h'' as'' xs'' ∧
        AllowedH (seqAfter xs ops) (.insertAfterH j v) ans xs'') := by
  induction ops generalizing h as xs i with
  | nil =>
    have hj : i = j := Option.some.inj hfol
    subst hj
    have hH : ∀ s : HShape, supportedItem (.handle a s) = true → ∃ h'' ans as'' xs'',
        stepItem h (.handle a s) = .ok (h'', ans) ∧ Repr h'' as'' xs'' ∧ AllowedH xs (s.at i) ans xs'' :=
      fun s hs => by
        obtain ⟨h2, as2, he, hr, -⟩ := handle_sim r hi s hs
        exact ⟨h2, _, as2, _, he, hr, allowedH_iff_nextH.mpr rfl⟩
    exact ⟨h, as, rfl, r, hi, hi1, hH .delete rfl, fun v => hH (.insertAfter v) rfl⟩
  | cons op ops ih =>
    rw [follow, Option.bind_eq_some_iff] at hfol
    obtain ⟨i', hm, hfol⟩ := hfol
    obtain ⟨h1, as1, he, hr, htr⟩ := plain_sim r op (hs op List.mem_cons_self)
    obtain ⟨h', as', hrun, hrest⟩ := ih hr (fun o ho => hs o (List.mem_cons_of_mem _ ho)) (moveIdx_pos hi1 hm)
      (htr.pos i a i' hi1 hi hm) hfol
    exact ⟨h', as', by simp only [runOps, he, hrun], hrest⟩

-- non-vacuity: `[1,2,3,4]`, handle to `3` (cell 2, position 2); Unshift 0, Delete(1), Append 7, Pop, Shift leave it
-- followed (to position 1)
example : follow [1, 2, 3, 4] [.unshift 0, .delete 1, .append 7, .pop, .shift] 2 = some 1 := by decide
example : ∀ op ∈ [Op.unshift 0, .delete 1, .append 7, .pop, .shift], supported op = true := by decide

-- non-vacuity: a represented store with duplicates, a handle to the SECOND `2` (cell 2, position 2)
example : Repr [⟨1, some 1⟩, ⟨2, some 2⟩, ⟨2, some 3⟩, ⟨3, none⟩] [0, 1, 2, 3] [1, 2, 2, 3] :=
  ⟨rfl, by decide, rfl, rfl, rfl, rfl, trivial⟩
example : ([0, 1, 2, 3] : List Nat)[2]? = some 2 := rfl
-- … on which the pointer model deletes the second `2`'s position (cell 2 takes over cell 3) and inserts after it
example : (do let (h, a) ← delete [⟨1, some 1⟩, ⟨2, some 2⟩, ⟨2, some 3⟩, ⟨3, none⟩] (some 2)
              let (_, vs) ← each h
              pure (a, vs)) = ListRes.ok (.ok, [1, 2, 3]) := by decide
example : (do let (h, a) ← insertAfter [⟨1, some 1⟩, ⟨2, some 2⟩, ⟨2, some 3⟩, ⟨3, none⟩] (some 2) 9
              let (_, vs) ← each h
              pure (a, vs)) = ListRes.ok (.ok, [1, 2, 2, 9, 3]) := by decide

/-! ### the excluded situations really behave differently -/

/-- `[1,2,3]`, handles to `2` (cell 1) and `3` (cell 2).  `Delete(handle 2)` copies cell 2 over cell 1: cell 2 is off
the chain (`moveIdx false (.del 1) 2 = none`).  `InsertAfter(handle 3, 9)` is still ACCEPTED (it looks the value 3 up)
and answers `ok`, but the list does not change — position-wise `[1,3,9]` would be due. -/
theorem excluded_stale_handle_slist :
    (do let h ← append (init 1) 2
        let h ← append h 3
        let (h, _) ← delete h (some 1)
        let (h, ans) ← insertAfter h (some 2) 9
        let (_, vs) ← each h
        pure (ans, vs)) = ListRes.ok (.ok, [1, 3]) ∧ moveIdx false (.del 1) 2 = none := by decide

/-- `[1,2]`, handle to `1` (the embedded head, cell 0).  After `Unshift 0` cell 0 holds the new element `0` and the old
`1` lives in a fresh cell: `Delete(handle)` removes `0`, not `1` (the monitor never follows position 0). -/
theorem excluded_head_handle_slist :
    (do let h ← append (init 1) 2
        let (h, r) ← find h 1
        let h ← unshift h 0
        let (h, ans) ← delete h r
        let (_, vs) ← each h
        pure (r, ans, vs)) = ListRes.ok (some 0, .ok, [1, 2]) := by decide

end SList

namespace DList
open GoguVerif.Model.DList GoguVerif.Lemmas.C19.DList GoguVerif.Lemmas.C19H.DList

/-- `Find(x)` on a represented store returns the cell at the first position of `x`. -/
theorem dlist_find_handle {h : Heap} {as xs} (r : Repr h as xs) {x : Int} {a : Nat}
    (hf : find h x = .ok (some a)) : ∃ i, xs.idxOf? x = some i ∧ as[i]? = some a := by
  cases e : xs.idxOf? x with
  | none => rw [find_none r e] at hf; cases hf
  | some i =>
    obtain ⟨b, hb, hf'⟩ := find_some r e
    rw [hf'] at hf
    cases hf
    exact ⟨i, rfl, hb⟩

/-- a nil handle is refused with an error and nothing changes (finding F40, as `slist_nil_handle_refused`) -/
theorem dlist_nil_handle_refused {h : Heap} {as xs} (r : Repr h as xs) (v : Int) :
    delete h none = .ok (h, .err) ∧ insertAfter h none v = .ok (h, .err) ∧
      insertBefore h none v = .ok (h, .err) := by
  obtain ⟨as', x, xs', rfl, rfl, h0, -⟩ := r.cons
  exact ⟨rfl, rfl, by simp [insertBefore, load, h0]⟩

/-- `Delete(handle)` at the `i`-th cell, **partial**: stated for the case that the `i`-th element is the FIRST occurrence
of its value (`hfirst`; always so when the values are pairwise distinct), and without the address list for following a
second handle.  The pointer surgery does not read values: `hfirst` is not needed, and `dlist_deleteH_refines`
(`Theorems/C19Handles2.lean`) is the full statement. -/
theorem dlist_deleteH_refines_partial {h : Heap} {as xs} {i a : Nat} {x : Int} (r : Repr h as xs)
    (hi : as[i]? = some a) (hfirst : xs.idxOf? x = some i) :
    ∃ h' ans as' xs', delete h (some a) = .ok (h', ans) ∧ Repr h' as' xs' ∧ AllowedH xs (.deleteH i) ans xs' := by
  have _ := hfirst
  obtain ⟨h', as', he, hr, -⟩ := handle_sim r hi .delete
  exact ⟨h', _, as', _, he, hr, allowedH_iff_nextH.mpr rfl⟩

/-- `InsertAfter(handle, v)` at the `i`-th cell, **partial** (as `dlist_deleteH_refines_partial`). -/
theorem dlist_insertAfterH_refines_partial {h : Heap} {as xs} {i a : Nat} {x : Int} (r : Repr h as xs)
    (hi : as[i]? = some a) (hfirst : xs.idxOf? x = some i) (v : Int) :
    ∃ h' ans as' xs', insertAfter h (some a) v = .ok (h', ans) ∧ Repr h' as' xs' ∧
      AllowedH xs (.insertAfterH i v) ans xs' := by
  have _ := hfirst
  obtain ⟨h', as', he, hr, -⟩ := handle_sim r hi (.insertAfter v)
  exact ⟨h', _, as', _, he, hr, allowedH_iff_nextH.mpr rfl⟩

/-- `InsertBefore(handle, v)` at the `i`-th cell, **partial** (as `dlist_deleteH_refines_partial`). -/
theorem dlist_insertBeforeH_refines_partial {h : Heap} {as xs} {i a : Nat} {x : Int} (r : Repr h as xs)
    (hi : as[i]? = some a) (hfirst : xs.idxOf? x = some i) (v : Int) :
    ∃ h' ans as' xs', insertBefore h (some a) v = .ok (h', ans) ∧ Repr h' as' xs' ∧
      AllowedH xs (.insertBeforeH i v) ans xs' := by
  have _ := hfirst
  obtain ⟨h', as', he, hr, -⟩ := handle_sim r hi (.insertBefore v)
  exact ⟨h', _, as', _, he, hr, allowedH_iff_nextH.mpr rfl⟩

/-- `[1,2,3]`, handle to `2` (cell 1).  `Shift` copies cell 1 into the embedded head: cell 1 is off the chain
(`moveIdx true (.del 0) 1 = none`).  `Delete(handle)` is still accepted (the value 2 is found) and answers `ok`, but
re-links the neighbours to what they already were: nothing is removed — position-wise `[3]` would be due. -/
theorem excluded_stale_handle_dlist :
    (do let h ← append (init 1) 2
        let h ← append h 3
        let (h, _) ← shift h
        let (h, ans) ← delete h (some 1)
        let (_, vs) ← each h
        pure (ans, vs)) = ListRes.ok (.ok, [2, 3]) ∧ moveIdx true (.del 0) 1 = none := by decide

-- non-vacuity
example : Repr [⟨1, some 1, none⟩, ⟨2, some 2, some 0⟩, ⟨3, none, some 1⟩] [0, 1, 2] [1, 2, 3] :=
  ⟨rfl, by decide, rfl, rfl, rfl, trivial⟩
example : ([1, 2, 3] : List Int).idxOf? 2 = some 1 := by decide

end DList

end GoguVerif.Theorems.C19H
