import GoguVerif.Lemmas.C16Helpers2
import GoguVerif.Lemmas.C16Fixtures
import GoguVerif.Lemmas.C16Table
import GoguVerif.Theorems.C12
import GoguVerif.Gen.Effects
/-!
# C16 — store-level refinement of concrete helpers

`Theorems/C16.lean` proves the frame theorems for EVERY program obeying the builder discipline and
leaves open that a given helper IS such a program (the effect table's claim).  Here that gap is closed
for concrete helpers: `Model/StoreHelpers.lean` writes each of them over the slice store statement by
statement (`make`, `append`, `s[i] = v`, `s[lo:hi]`, reading `slice[i]` from the current store), and for
each the following is proved for ALL stores, all well-formed argument headers (any offset, any spare
capacity, any other slices sharing the array), all callbacks:

1. **value refinement** — the elements of the returned header in the new store are the answer of the
   value-level model (`Model/C12.lean`, `Model/C11.lean`), whose correctness is C11/C12's theorem;
2. **frame** — `Frame σ σ'`: every array that existed before the call is unchanged in every cell, the
   spare capacity behind the argument included (non-in-place helpers);
3. **aliasing** — builders return a header into storage that did not exist before (`σ.length ≤ res.arr`);
   view-returners (`Drop`, `Chunk`) return headers inside the argument's window and leave the store as it
   is; the in-place helpers (`Reverse`, `Reject`) write only cells `[off, off+len)` of their argument's array;
4. **discipline** — where the helper is `make` followed by single `append`s (`Filter` … `Intersection`) or by
   indexed writes (`Map`), the store function equals `run` of an explicit program of `Instr`s (`…_disciplined`), so
   `Theorems.C16.run_frame` applies to it.  The frame of 2. does not rest on that: it is proved for each helper
   through the builder invariant `Inv`, and the two statements stand side by side.  `Merge`, `ToSlice`, `Partition`
   and `Shuffle` have no `…_disciplined` theorem: the variadic `append(a, b...)`, `copy` and two results are not
   `Instr`s.

Covered (17 helpers): builders `Filter`, `DropWhile`, `DropRightWhile`, `Unique`, `UniqueBy`, `Without`,
`Difference`, `Intersection` (reads its own result), `Map` (indexed writes), `Merge` (variadic `append`;
plus its predecessor, which is shown to VIOLATE the frame), `ToSlice`, `Partition` (two results),
`Shuffle` (copy + swaps inside the copy); view-returners `Drop`, `Chunk`; in-place `Reverse`, `Reject`.
`covered_agree_with_table` ties the list to the translator's regenerated table.

Assumed: element type `Int`, callbacks are pure Lean functions, `WF` (what every Go slice value
satisfies) for the argument headers; the growth policy of `append` is `Store.append`'s; and that
`Model/StoreHelpers.lean` mirrors the Go statements (read off the source, not regenerated).
Not covered in this file (taken up in `Theorems/C16Helpers2.lean` … `C16Helpers5.lean`): 2-D results (`Zip`,
`Unzip`), `Flatten`/`Union` (`any`-typed recursion), `Duplicate` (result order = map iteration order),
`IntersectionBy`/`DifferenceBy` (the keyed forms; their loops, at the identity, are those of `Intersection` and
`Without`/`Difference` here), map-valued helpers (`Omit`, `OmitBy`,
`FilterMap…`, `GroupBy`: maps are not slice storage), `heap.*`.
-/
namespace GoguVerif.Theorems.C16Helpers
open Model.Store Model.StoreHelpers Lemmas.C16Helpers

/-- the hypothesis of `frame_keeps` (`Lemmas/C16Helpers.lean`) holds of `other0`, and the full-capacity window of `arg0`
shows its spare cells -/
example : WF σx other0 ∧ elems σx { arg0 with len := arg0.cap } = [1, 2, 3, 4, -777, -777] :=
  ⟨wf_other0, by decide⟩

theorem filter_refines (σ : Store) (arg : Slice) (fn : Int → Bool) (h : WF σ arg) :
    ∃ σ' res, filterStore σ arg fn = some (σ', res) ∧
      elems σ' res = Model.C12.filter (elems σ arg) fn ∧
      Frame σ σ' ∧ σ.length ≤ res.arr ∧ WF σ' res := by
  rw [Model.C12.filter, Lemmas.C12.filterLoop_eq]
  exact builder_refines (Lemmas.C16Helpers.filterLoop_eq fn h _ _ (Inv.alloc σ 0 0))

theorem filter_disciplined (σ : Store) (regs : List Slice) (arg : Slice) (fn : Int → Bool) (h : WF σ arg) :
    ∃ σ' res, filterStore σ arg fn = some (σ', res) ∧
      run σ.length { σ := σ, regs := regs }
        (Instr.alloc 0 0 :: ((elems σ arg).filter fn).map (Instr.append regs.length)) =
        { σ := σ', regs := regs ++ [res] } :=
  builder_disciplined (filterLoop_eq fn h _ _ (Inv.alloc σ 0 0)) regs

example : filterStore σx arg0 (fun x => x % 2 == 0) =
    some (σx ++ [[], [2], [2, 4, 0]], { arr := 4, off := 0, len := 2, cap := 3 }) := by decide +kernel

theorem dropWhile_refines (σ : Store) (arg : Slice) (fn : Int → Bool) (h : WF σ arg) :
    ∃ σ' res, dropWhileStore σ arg fn = some (σ', res) ∧
      elems σ' res = Model.C12.dropWhile (elems σ arg) fn ∧
      Frame σ σ' ∧ σ.length ≤ res.arr ∧ WF σ' res := by
  rw [Model.C12.dropWhile, Lemmas.C12.dropWhileLoop_eq]
  exact builder_refines (Lemmas.C16Helpers.dropWhileLoop_eq fn h _ _ (Inv.alloc σ 0 arg.len))

theorem dropWhile_disciplined (σ : Store) (regs : List Slice) (arg : Slice) (fn : Int → Bool) (h : WF σ arg) :
    ∃ σ' res, dropWhileStore σ arg fn = some (σ', res) ∧
      run σ.length { σ := σ, regs := regs }
        (Instr.alloc 0 arg.len :: ((elems σ arg).filter (fun x => !fn x)).map (Instr.append regs.length)) =
        { σ := σ', regs := regs ++ [res] } :=
  builder_disciplined (dropWhileLoop_eq fn h _ _ (Inv.alloc σ 0 arg.len)) regs

example : dropWhileStore σx arg0 (fun x => x % 2 == 0) =
    some (σx ++ [[1, 3, 0, 0]], { arr := 2, off := 0, len := 2, cap := 4 }) := by decide +kernel

theorem dropRightWhile_refines (σ : Store) (arg : Slice) (fn : Int → Bool) (h : WF σ arg) :
    ∃ σ' res, dropRightWhileStore σ arg fn = some (σ', res) ∧
      Model.C12.dropRightWhile (elems σ arg) fn = .ok (elems σ' res) ∧
      Frame σ σ' ∧ σ.length ≤ res.arr ∧ WF σ' res := by
  rw [Model.C12.dropRightWhile, Lemmas.C12.dropRightWhileLoop_eq _ _ _ _ (Nat.le_refl _), List.take_length]
  obtain ⟨σ', res, e, g1, g⟩ :=
    builder_refines (Lemmas.C16Helpers.dropRightWhileLoop_eq fn h _ _ (Inv.alloc σ 0 arg.len))
  exact ⟨σ', res, e, by rw [g1]; rfl, g⟩

theorem dropRightWhile_disciplined (σ : Store) (regs : List Slice) (arg : Slice) (fn : Int → Bool) (h : WF σ arg) :
    ∃ σ' res, dropRightWhileStore σ arg fn = some (σ', res) ∧
      run σ.length { σ := σ, regs := regs }
        (Instr.alloc 0 arg.len :: ((elems σ arg).reverse.filter (fun x => !fn x)).map (Instr.append regs.length)) =
        { σ := σ', regs := regs ++ [res] } :=
  builder_disciplined (dropRightWhileLoop_eq fn h _ _ (Inv.alloc σ 0 arg.len)) regs

example : dropRightWhileStore σx arg0 (fun x => x % 2 == 0) =
    some (σx ++ [[3, 1, 0, 0]], { arr := 2, off := 0, len := 2, cap := 4 }) := by decide +kernel

theorem unique_refines (σ : Store) (arg : Slice) (h : WF σ arg) :
    ∃ σ' res, uniqueStore σ arg = some (σ', res) ∧
      elems σ' res = Model.C11.unique (elems σ arg) ∧
      Frame σ σ' ∧ σ.length ≤ res.arr ∧ WF σ' res :=
  builder_refines (uniqueLoop_eq h _ _ (Inv.alloc σ 0 0))

theorem unique_disciplined (σ : Store) (regs : List Slice) (arg : Slice) (h : WF σ arg) :
    ∃ σ' res, uniqueStore σ arg = some (σ', res) ∧
      run σ.length { σ := σ, regs := regs }
        (Instr.alloc 0 0 :: (Model.C11.unique (elems σ arg)).map (Instr.append regs.length)) =
        { σ := σ', regs := regs ++ [res] } :=
  builder_disciplined (uniqueLoop_eq h _ _ (Inv.alloc σ 0 0)) regs

theorem uniqueBy_refines (σ : Store) (arg : Slice) (fn : Int → Int) (h : WF σ arg) :
    ∃ σ' res, uniqueByStore σ arg fn = some (σ', res) ∧
      elems σ' res = Model.C11.uniqueBy (elems σ arg) fn ∧
      Frame σ σ' ∧ σ.length ≤ res.arr ∧ WF σ' res :=
  builder_refines (uniqueByLoop_eq fn h _ _ (Inv.alloc σ 0 0))

theorem uniqueBy_disciplined (σ : Store) (regs : List Slice) (arg : Slice) (fn : Int → Int) (h : WF σ arg) :
    ∃ σ' res, uniqueByStore σ arg fn = some (σ', res) ∧
      run σ.length { σ := σ, regs := regs }
        (Instr.alloc 0 0 :: (Model.C11.uniqueBy (elems σ arg) fn).map (Instr.append regs.length)) =
        { σ := σ', regs := regs ++ [res] } :=
  builder_disciplined (uniqueByLoop_eq fn h _ _ (Inv.alloc σ 0 0)) regs

example : uniqueByStore σx arg0 (fun x => x.tmod 2) =
    some (σx ++ [[], [1], [1, 2, 0]], { arr := 4, off := 0, len := 2, cap := 3 }) := by decide +kernel

/-- the excluded values are a slice in the store too: the frame covers BOTH arguments -/
theorem without_refines (σ : Store) (arg values : Slice) (h : WF σ arg) (hv : WF σ values) :
    ∃ σ' res, withoutStore σ arg values = some (σ', res) ∧
      elems σ' res = Model.C11.without (elems σ arg) (elems σ values) ∧
      Frame σ σ' ∧ σ.length ≤ res.arr ∧ WF σ' res :=
  builder_refines (Lemmas.C16Helpers2.withoutLoop_eq h hv _ _ (Inv.alloc σ 0 arg.len))

theorem without_disciplined (σ : Store) (regs : List Slice) (arg values : Slice) (h : WF σ arg) (hv : WF σ values) :
    ∃ σ' res, withoutStore σ arg values = some (σ', res) ∧
      run σ.length { σ := σ, regs := regs }
        (Instr.alloc 0 arg.len ::
          (Model.C11.without (elems σ arg) (elems σ values)).map (Instr.append regs.length)) =
        { σ := σ', regs := regs ++ [res] } :=
  builder_disciplined (Lemmas.C16Helpers2.withoutLoop_eq h hv _ _ (Inv.alloc σ 0 arg.len)) regs

example : withoutStore σx arg0 arg1 = some (σx ++ [[1, 3, 4, 0]], { arr := 2, off := 0, len := 3, cap := 4 }) := by
  decide +kernel

theorem difference_refines (σ : Store) (s1 s2 : Slice) (h : WF σ s1) (h2 : WF σ s2) :
    ∃ σ' res, differenceStore σ s1 s2 = some (σ', res) ∧
      elems σ' res = Model.C11.difference (elems σ s1) (elems σ s2) ∧
      Frame σ σ' ∧ σ.length ≤ res.arr ∧ WF σ' res :=
  builder_refines (Lemmas.C16Helpers2.withoutLoop_eq h h2 _ _ (Inv.alloc σ 0 0))

theorem difference_disciplined (σ : Store) (regs : List Slice) (s1 s2 : Slice) (h : WF σ s1) (h2 : WF σ s2) :
    ∃ σ' res, differenceStore σ s1 s2 = some (σ', res) ∧
      run σ.length { σ := σ, regs := regs }
        (Instr.alloc 0 0 :: (Model.C11.difference (elems σ s1) (elems σ s2)).map (Instr.append regs.length)) =
        { σ := σ', regs := regs ++ [res] } :=
  builder_disciplined (Lemmas.C16Helpers2.withoutLoop_eq h h2 _ _ (Inv.alloc σ 0 0)) regs

example : differenceStore σx arg0 arg1 =
    some (σx ++ [[], [1], [1, 3, 4]], { arr := 4, off := 0, len := 3, cap := 3 }) := by decide +kernel

/-- at least one argument; the frame covers ALL of them -/
theorem intersection_refines (σ : Store) (p0 : Slice) (others : List Slice) (h0 : WF σ p0)
    (ho : ∀ p ∈ others, WF σ p) :
    ∃ σ' res, intersectionStore σ (p0 :: others) = some (σ', res) ∧
      Model.C11.intersection ((p0 :: others).map (elems σ)) = .ok (elems σ' res) ∧
      Frame σ σ' ∧ σ.length ≤ res.arr ∧ WF σ' res := by
  obtain ⟨σ', res, e, g1, g⟩ := builder_refines (Lemmas.C16Helpers2.interLoop_eq (others.length + 1) h0 ho _ _ (Inv.alloc σ 0 0) (alloc_elems σ 0 0))
  exact ⟨σ', res, e, by simp [g1, Model.C11.intersection], g⟩

/-- `Intersection()` panics at `params[0]`, in the store model as in the value-level model -/
theorem intersection_no_argument (σ : Store) :
    intersectionStore σ [] = none ∧ Model.C11.intersection ([] : List (List Int)) = .panic := ⟨rfl, rfl⟩

theorem intersection_disciplined (σ : Store) (regs : List Slice) (p0 : Slice) (others : List Slice) (h0 : WF σ p0)
    (ho : ∀ p ∈ others, WF σ p) :
    ∃ σ' res, intersectionStore σ (p0 :: others) = some (σ', res) ∧
      run σ.length { σ := σ, regs := regs }
        (Instr.alloc 0 0 ::
          (Model.C11.interLoop (others.length + 1) (others.map (elems σ)) [] (elems σ p0)).map
            (Instr.append regs.length)) =
        { σ := σ', regs := regs ++ [res] } :=
  builder_disciplined (Lemmas.C16Helpers2.interLoop_eq (others.length + 1) h0 ho _ _ (Inv.alloc σ 0 0) (alloc_elems σ 0 0)) regs

example : intersectionStore σx [arg0, other0, { arr := 0, off := 3, len := 2, cap := 4 }] =
    some (σx ++ [[], [4]], { arr := 3, off := 0, len := 1, cap := 1 }) := by decide +kernel

theorem map_refines (σ : Store) (arg : Slice) (fn : Int → Int) (h : WF σ arg) :
    ∃ σ' res, mapStore σ arg fn = some (σ', res) ∧
      Model.C12.mapPure (elems σ arg) fn = .ok (elems σ' res) ∧
      Frame σ σ' ∧ σ.length ≤ res.arr ∧ WF σ' res := by
  obtain ⟨σ', w, e, hinv, _, _⟩ := filler_spec σ (vs := (elems σ arg).map fn) (by rw [List.length_map, elems_length h])
  exact ⟨σ', _, by simp only [mapStore, mapLoop_eq_writeAll fn h _ _ (Inv.alloc σ _ _), w], by rw [Lemmas.C12.mapPure_eq, e], hinv.frame, hinv.fresh, hinv.wf⟩

/-- Map obeys the discipline: it is `run` of `make([]T2, len)` + one indexed write per element into the
made slice. -/
theorem map_disciplined (σ : Store) (regs : List Slice) (arg : Slice) (fn : Int → Int) (h : WF σ arg) :
    ∃ σ' res, mapStore σ arg fn = some (σ', res) ∧
      run σ.length { σ := σ, regs := regs }
        (Instr.alloc arg.len arg.len :: writesFrom regs.length 0 ((elems σ arg).map fn)) =
        { σ := σ', regs := regs ++ [res] } := by
  obtain ⟨σ', w, _, _, _, hrun⟩ := filler_spec σ (vs := (elems σ arg).map fn) (by rw [List.length_map, elems_length h])
  exact ⟨σ', _, by simp only [mapStore, mapLoop_eq_writeAll fn h _ _ (Inv.alloc σ _ _), w], hrun regs⟩

example : mapStore σx arg0 (fun x => x * x) =
    some (σx ++ [[1, 4, 9, 16]], { arr := 2, off := 0, len := 4, cap := 4 }) := by decide +kernel

/-- Merge (after the repair): value refinement, frame — the spare capacity behind the first argument
included —, fresh result. -/
theorem merge_refines (σ : Store) (s : Slice) (params : List Slice) (h : WF σ s) (hp : ∀ p ∈ params, WF σ p) :
    elems (mergeStore σ s params).1 (mergeStore σ s params).2 =
        Model.C12.merge (elems σ s) (params.map (elems σ)) ∧
      Frame σ (mergeStore σ s params).1 ∧ σ.length ≤ (mergeStore σ s params).2.arr ∧
      WF (mergeStore σ s params).1 (mergeStore σ s params).2 := by
  obtain ⟨i1, e1⟩ := (Inv.alloc σ 0 s.len).appendMany h
  obtain ⟨h1, h2⟩ := mergeLoop_spec params hp _ _ i1
  refine ⟨?_, h1.frame, h1.fresh, h1.wf⟩
  simp only [mergeStore]
  rw [h2, e1, alloc_elems σ 0 s.len]
  rfl

example : mergeStore σx arg0 [arg1, other0] =
    (σx ++ [[1, 2, 3, 4], [1, 2, 3, 4, 2, 9, 4, -777, 0]], { arr := 3, off := 0, len := 8, cap := 9 }) := by decide +kernel

/-- the predecessor of `Merge` (`append(s, merged...)`) VIOLATES the frame: with spare capacity behind the
first argument it writes there — and a second slice sharing the array sees its element change. -/
theorem mergeOld_breaks_frame :
    ¬ Frame σx (mergeOldStore σx arg0 [arg1]).1 ∧
    cell (mergeOldStore σx arg0 [arg1]).1 0 5 = some 2 ∧ cell σx 0 5 = some (-777) ∧
    elems σx other0 = [4, -777] ∧ elems (mergeOldStore σx arg0 [arg1]).1 other0 = [4, 2] ∧
    (mergeOldStore σx arg0 [arg1]).2.arr = arg0.arr := by
  refine ⟨fun hf => ?_, by decide, by decide, by decide, by decide, by decide⟩
  have := hf 0 (by decide)
  revert this
  decide +kernel

/-- the same for EVERY store: whenever what the old `Merge` appends is non-empty and fits into the spare
capacity behind its first argument, the first spare cell is overwritten and the result shares the
argument's array (two such results on the same argument share storage). -/
theorem mergeOld_writes_spare (σ : Store) (s : Slice) (params : List Slice) (h : WF σ s)
    (hp : ∀ p ∈ params, WF σ p) (v : Int) (rest : List Int)
    (hall : (params.map (elems σ)).flatten = v :: rest) (hfit : s.len + (rest.length + 1) ≤ s.cap) :
    cell (mergeOldStore σ s params).1 s.arr (s.off + s.len) = some v ∧
      (mergeOldStore σ s params).2.arr = s.arr := by
  obtain ⟨i1, e1⟩ := mergeLoop_spec params hp _ _ (Inv.alloc σ 0 s.len)
  rw [alloc_elems σ 0 s.len, Lemmas.C12.mergeLoop_eq, hall] at e1
  simp only [List.replicate_zero, List.nil_append] at e1
  have hw := Frame.wf i1.frame h
  simp only [mergeOldStore, e1]
  generalize (mergeLoop params (alloc σ 0 s.len).1 (alloc σ 0 s.len).2).1 = σ1 at hw ⊢
  -- the values fit, so the result is `s` made longer; it shows `v` at position `len(s)`, the first spare cell
  obtain ⟨hq, _⟩ : (appendMany σ1 s (v :: rest)).2 = { s with len := s.len + (rest.length + 1) } ∧ _ :=
    appendMany_fit _ hfit
  have hc := elems_getElem? (appendMany σ1 s (v :: rest)).1 (appendMany σ1 s (v :: rest)).2 s.len
  rw [(appendMany_post hw (v :: rest)).elems, hq, if_pos (Nat.lt_add_of_pos_right (Nat.succ_pos _)),
    List.getElem?_append_right (Nat.le_of_eq (elems_length hw)), elems_length hw, Nat.sub_self] at hc
  exact ⟨hc.symm, by rw [hq]⟩

/-- the hypotheses of `mergeOld_writes_spare` hold of `σx`, `arg0`, `[arg1]` -/
example : (([arg1].map (elems σx)).flatten = 2 :: [9]) ∧ arg0.len + ([9].length + 1) ≤ arg0.cap := by decide +kernel

/-- ToSlice (`ToSlice(xs...)` hands `xs` itself over as `args`): the result is a fresh copy. -/
theorem toSlice_refines (σ : Store) (args : Slice) (h : WF σ args) :
    elems (toSliceStore σ args).1 (toSliceStore σ args).2 = elems σ args ∧
      Frame σ (toSliceStore σ args).1 ∧ σ.length ≤ (toSliceStore σ args).2.arr ∧
      WF (toSliceStore σ args).1 (toSliceStore σ args).2 := by
  obtain ⟨hinv, e⟩ := (Inv.alloc σ 0 args.len).appendMany h
  refine ⟨?_, hinv.frame, hinv.fresh, hinv.wf⟩
  simp only [toSliceStore]
  rw [e, alloc_elems σ 0 args.len]; rfl

example : toSliceStore σx arg0 = (σx ++ [[1, 2, 3, 4]], { arr := 2, off := 0, len := 4, cap := 4 }) := by decide +kernel

/-- Partition: value refinement for both halves, frame, both results fresh AND on different arrays
(appending to one never writes the other). -/
theorem partition_refines (σ : Store) (arg : Slice) (fn : Int → Bool) (h : WF σ arg) :
    ∃ σ' q0 q1, partitionStore σ arg fn = some (σ', q0, q1) ∧
      Model.C12.partition (elems σ arg) fn = (elems σ' q0, elems σ' q1) ∧
      Frame σ σ' ∧ σ.length ≤ q0.arr ∧ σ.length ≤ q1.arr ∧ q0.arr ≠ q1.arr ∧ WF σ' q0 ∧ WF σ' q1 := by
  obtain ⟨hinv, he⟩ := (Inv.alloc σ 0 0).later (Inv.alloc _ 0 0)
  obtain ⟨σ', q0, q1, g1, g2, g3⟩ := partitionLoop_spec fn h _ _ _ hinv
  refine ⟨σ', q0, q1, by simp only [partitionStore, g1], ?_, g2.i0.frame, g2.i0.fresh, g2.i1.fresh, g2.ne,
    g2.i0.wf, g2.i1.wf⟩
  rw [← g3, he, alloc_elems σ 0 0, alloc_elems _ 0 0]
  rfl

example : partitionStore σx arg0 (fun x => x % 2 == 0) =
    some (σx ++ [[], [], [1], [2], [1, 3, 0], [2, 4, 0]],
      { arr := 7, off := 0, len := 2, cap := 3 }, { arr := 6, off := 0, len := 2, cap := 3 }) := by decide +kernel

/-- Shuffle (for every stream `rnd` of `rand.Int()` results): neither `copy` nor any `swap` panics,
the result shows the value-level model's answer, frame, fresh result — the swaps stay inside the copy. -/
theorem shuffle_refines (σ : Store) (src : Slice) (rnd : Nat → Nat) (h : WF σ src) :
    ∃ σ' res, shuffleStore σ src rnd = some (σ', res) ∧
      Model.C12.shuffle rnd (elems σ src) = .ok (elems σ' res) ∧
      Frame σ σ' ∧ σ.length ≤ res.arr ∧ WF σ' res := by
  obtain ⟨σ1, hcopy, e1, i1, _⟩ := copy_fresh h
  -- the copy shows what `src` shows, and on that list the value-level loop does not panic
  obtain ⟨r, hr, _⟩ := Theorems.C12.shuffle_spec rnd (elems σ src)
  have hl : Model.C12.shuffleLoop rnd src.len 0 (elems σ1 (alloc σ src.len src.len).2) = .ok r := by
    rw [e1, ← elems_length h]; exact hr
  obtain ⟨σ2, g1, g2, g3⟩ := (hl ▸ shuffleLoop_sim rnd _ src.len 0 σ1).of_ok
  have i2 := i1.inplace g3
  exact ⟨σ2, _, by simp only [shuffleStore, hcopy, g1], by rw [g2]; exact hr, i2.frame, i2.fresh, i2.wf⟩

example : shuffleStore σx arg0 (fun c => c + 2) =
    some (σx ++ [[2, 4, 1, 3]], { arr := 2, off := 0, len := 4, cap := 4 }) := by decide +kernel

/-- Drop returns a VIEW: value refinement; the store is literally unchanged when `-len < n < len` and
the result lies inside the argument's window; otherwise the result is a fresh empty slice. -/
theorem drop_refines (σ : Store) (s : Slice) (n : Int) (h : WF σ s) :
    ∃ σ' res, dropStore σ s n = some (σ', res) ∧
      Model.C12.drop (elems σ s) n = .ok (elems σ' res) ∧ Frame σ σ' ∧ WF σ' res ∧
      ((n > -(s.len : Int) ∧ n < s.len) → σ' = σ ∧ View s res) ∧
      (¬ (n > -(s.len : Int) ∧ n < s.len) → σ.length ≤ res.arr ∧ res.len = 0) := by
  unfold dropStore Model.C12.drop
  rw [elems_length h]
  by_cases hr : n > -(s.len : Int) ∧ n < s.len
  · rw [if_pos hr, if_pos hr]
    -- both models take `slice[lo:hi]` for the same `0 ≤ lo ≤ hi ≤ len`: name the two bounds as naturals
    have view : ∀ lo hi : Nat, lo ≤ hi → hi ≤ s.len →
        ∃ σ' res, (match resliceI s lo hi with | some v => some (σ, v) | none => none) = some (σ', res) ∧
          Model.C12.sliceOf (elems σ s) lo hi = .ok (elems σ' res) ∧ Frame σ σ' ∧ WF σ' res ∧
          ((n > -(s.len : Int) ∧ n < s.len) → σ' = σ ∧ View s res) ∧
          (¬ (n > -(s.len : Int) ∧ n < s.len) → σ.length ≤ res.arr ∧ res.len = 0) := by
      intro lo hi h1 h2
      obtain ⟨c, e1, e2, e3, e4⟩ := reslice_sliceOf h h1 h2
      exact ⟨σ, c, by simp only [resliceI, Int.toNat_natCast, Int.natCast_nonneg, and_self, if_true, e1], e2, Frame.refl σ, e3, fun _ => ⟨rfl, e4⟩, fun hc => absurd hr hc⟩
    by_cases hpos : n > 0
    · rw [if_pos hpos, if_pos hpos]
      obtain ⟨k, rfl⟩ := Int.eq_ofNat_of_zero_le (Int.le_of_lt hpos)
      exact view k s.len (by omega) (Nat.le_refl _)
    · rw [if_neg hpos, if_neg hpos]
      obtain ⟨k, rfl⟩ := Int.exists_eq_neg_ofNat (Int.not_lt.mp hpos)
      -- `Model.C12.abs` (value side) and `Model.StoreHelpers.abs` (store side) are the same text: one fact serves both
      have ha := Lemmas.C12.abs_neg_natCast k
      rw [ha, show abs (-(k : Int)) = k from ha, ← Int.ofNat_sub (by omega)]
      exact view 0 (s.len - k) (Nat.zero_le _) (Nat.sub_le ..)
  · rw [if_neg hr, if_neg hr]
    exact ⟨(alloc σ 0 0).1, (alloc σ 0 0).2, rfl, by rw [alloc_elems σ 0 0]; rfl, alloc_frame σ 0 0,
      alloc_wf σ 0 0, fun hc => absurd hc hr, fun _ => ⟨Nat.le_refl _, rfl⟩⟩

example : dropStore σx arg0 1 = some (σx, { arr := 0, off := 2, len := 3, cap := 5 }) ∧
    dropStore σx arg0 (-1) = some (σx, { arr := 0, off := 1, len := 3, cap := 6 }) ∧
    dropStore σx arg0 4 = some (σx ++ [[]], { arr := 2, off := 0, len := 0, cap := 0 }) := by decide +kernel

/-- Chunk returns VIEWS: the store is returned as it came, every chunk lies inside the argument's
window, and the chunks show what the value-level model answers; the deliberate panic is the model's. -/
theorem chunk_refines (σ : Store) (s : Slice) (size : Int) (h : WF σ s) (hsz : 0 < size) :
    ∃ r, chunkStore σ s size = some (σ, r) ∧
      Model.C12.chunk (elems σ s) size = .ok (r.map (elems σ)) ∧ ∀ c ∈ r, View s c ∧ WF σ c := by
  obtain ⟨r, h1, h2, h3⟩ := chunkLoop_refines h size.toNat s.len 0 [] (by omega) (fun _ hc => by cases hc)
  refine ⟨r, ?_, ?_, h3⟩
  · simp only [chunkStore, h1]; rw [if_neg (by omega)]
  · unfold Model.C12.chunk; rw [if_neg (by omega), elems_length h]; exact h2

theorem chunk_panics (σ : Store) (s : Slice) (size : Int) (hsz : size ≤ 0) :
    chunkStore σ s size = none ∧ Model.C12.chunk (elems σ s) size = .panic := by
  simp [chunkStore, Model.C12.chunk, hsz]

example : chunkStore σx arg0 3 = some (σx, [{ arr := 0, off := 1, len := 3, cap := 6 }, { arr := 0, off := 4, len := 1, cap := 3 }]) := by
  decide +kernel

/-- the hypotheses of `inplace_keeps` (`Lemmas/C16Helpers.lean`) hold of the spare-capacity window behind `arg0` -/
example : WF σx { arr := 0, off := 5, len := 2, cap := 2 } ∧ (5 : Nat) + 2 ≤ 7 ∧ arg0.off + arg0.len ≤ 5 :=
  ⟨⟨by decide, _, rfl, by decide⟩, by decide, by decide⟩

/-- Reverse (in place): the swap loop never panics, the argument afterwards shows the value-level
model's answer (= the reversed list), the returned header IS the argument, and only cells
`[off, off+len)` of the argument's array may have changed. -/
theorem reverse_refines (σ : Store) (s : Slice) (h : WF σ s) :
    ∃ σ', reverseStore σ s = some (σ', s) ∧
      Model.C12.reverse (elems σ s) = .ok (elems σ' s) ∧ elems σ' s = (elems σ s).reverse ∧
      InPlace σ σ' s := by
  have hv := Theorems.C12.reverse_eq (elems σ s)
  have hl : Model.C12.reverseLoop (elems σ s) 0 s.len = .ok (elems σ s).reverse := by
    rw [← elems_length h]; exact hv
  obtain ⟨σ', h1, h2, h3⟩ := (hl ▸ reverseLoop_sim s 0 s.len σ).of_ok
  exact ⟨σ', by simp only [reverseStore, h1], h2 ▸ hv, h2, h3⟩

/-- Reverse is an instance of the generic in-place class (`Model.Store.runInPlace`): the store it
produces is reached by a sequence of indexed writes through the ONE register holding its argument, so
`Theorems.C16.runInPlace_frame` applies to it (`reverse_refines` proves its `InPlace` directly, from the swaps). -/
theorem reverse_is_runInPlace (σ : Store) (regs : List Slice) (r : Nat) (s : Slice) (hr : regs[r]? = some s)
    (i j1 : Nat) (σ' : Store) (h : reverseLoop s i j1 σ = some σ') :
    ∃ ws, (runInPlace { σ := σ, regs := regs } r ws).σ = σ' := by
  fun_induction reverseLoop s i j1 σ with
  | case1 i j1 σ hlt hsw => cases h
  | case2 i j1 σ hlt σ1 hsw ih =>
    obtain ⟨ws, hws⟩ := ih h
    obtain ⟨a, b, σa, _, _, w1, w2⟩ := swapStore_some hsw
    exact ⟨(i, b) :: (j1 - 1, a) :: ws, by simp only [runInPlace, hr, w1, w2]; exact hws⟩
  | case3 i j1 σ hge => cases h; exact ⟨[], rfl⟩

example : reverseStore σx arg0 = some ([[-555, 4, 3, 2, 1, -777, -777], [2, 9, -888]], arg0) := by
  decide +kernel

/-- Reject (in place, through `append(slice[:i], slice[i+1:]...)`): never panics, never allocates; the
returned header is a prefix window of the argument (same array, same offset, same capacity, shorter) and
shows the value-level model's answer; only cells `[off, off+len)` of the argument's array may have
changed — the `append` on the argument's own prefix never reaches the spare capacity. -/
theorem reject_refines (σ : Store) (s : Slice) (fn : Int → Bool) (h : WF σ s) :
    ∃ σ' res, rejectStore σ s fn = some (σ', res) ∧
      elems σ' res = Model.C12.reject (elems σ s) fn ∧
      res.arr = s.arr ∧ res.off = s.off ∧ res.cap = s.cap ∧ res.len ≤ s.len ∧ WF σ' res ∧
      InPlace σ σ' s := by
  obtain ⟨σ', k, g1, g2, g3, g4, g5⟩ := rejectLoop_refines fn s.len 0 σ s h (Nat.zero_add _)
  exact ⟨σ', _, g1, g3, rfl, rfl, rfl, g2, g4, g5⟩

example : rejectStore σx arg0 (fun x => x % 2 == 0) =
    some ([[-555, 1, 3, 4, 4, -777, -777], [2, 9, -888]], { arr := 0, off := 1, len := 2, cap := 6 }) := by decide +kernel

/-- an earlier result survives a later builder call on the same argument (instance: `Filter`, then
`Merge` of the same argument with itself and other slices): by `Frame.elems_eq`, for ANY later call whose
store function satisfies `Frame`. -/
theorem filter_result_survives_merge (σ : Store) (arg : Slice) (fn : Int → Bool) (ps : List Slice) (h : WF σ arg)
    (hp : ∀ p ∈ ps, WF σ p) :
    ∃ σ1 r1, filterStore σ arg fn = some (σ1, r1) ∧
      elems (mergeStore σ1 arg ps).1 r1 = elems σ1 r1 ∧
      elems (mergeStore σ1 arg ps).1 arg = elems σ arg := by
  obtain ⟨σ1, r1, e, _, hf, _, hw⟩ := filter_refines σ arg fn h
  have warg := Frame.wf hf h
  obtain ⟨_, hf2, _, _⟩ := merge_refines σ1 arg ps warg (fun p hp' => Frame.wf hf (hp p hp'))
  exact ⟨σ1, r1, e, Frame.elems_eq hf2 hw, by rw [Frame.elems_eq hf2 warg, Frame.elems_eq hf h]⟩

/-- the helpers covered here with what is PROVED about them: (name, parameters written through,
parameters the result may alias) -/
def covered : List (String × List Nat × List Nat) :=
  [("Filter", [], []), ("DropWhile", [], []), ("DropRightWhile", [], []), ("Unique", [], []), ("UniqueBy", [], []),
   ("Without", [], []), ("Difference", [], []), ("Intersection", [], []), ("Map", [], []), ("Merge", [], []),
   ("ToSlice", [], []), ("Partition", [], []), ("Shuffle", [], []),
   ("Drop", [], [0]), ("Chunk", [], []),            -- `Chunk`: the outer `[][]T` is fresh; its ELEMENTS are views
   ("Reverse", [0], [0]), ("Reject", [0], [0])]

/-- for every helper covered here the classification in the translator's table (`Gen.effects`, regenerated from the
source on every run) is the one proved above: for these helpers the table's claim is proved, not trusted (as long as
`Model/StoreHelpers.lean` mirrors the source, which is read off, not regenerated).  The numbers are hints: the positions
in `Gen.effects` where `Lemmas.C16Table.foundAt` looks first. -/
theorem covered_agree_with_table :
    covered.all (fun c => Gen.effects.any (fun e => e.name == c.1 && e.writes == c.2.1 && e.aliases == c.2.2 &&
      !e.selfAssignOnly)) = true :=
  Lemmas.C16Table.all_any_of_foundAt [19, 14, 13, 97, 98, 102, 10, 42, 49, 59, 94, 74, 85, 12, 5, 83, 82] (by decide +kernel)

end GoguVerif.Theorems.C16Helpers
