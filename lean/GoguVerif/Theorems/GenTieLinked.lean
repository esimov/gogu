import GoguVerif.Gen.Linked
import GoguVerif.Model.LQueue
import GoguVerif.Model.LStack
import GoguVerif.Lemmas.TieRules
/-!
# The regenerated tie for the linked containers (C05 `queue.LQueue`, C06 `stack.LStack`)

`Gen/Linked.lean` is produced on every run by the translator (translator/frag_linked.go) from `queue/lqueue.go` and
`stack/lstack.go`: every method with the fields of its pointer receiver as variables (`list`, `n`), a method that
changes a field returning `(results, (list, n))`; the `*list.DList` field is the sequence the list holds and every call
`l.list.M(args)` is the function of `Model/DSeq.lean` for `M`.  That contract of package `list` is ASSUMED at this layer
(by the translator and by the hand-written models alike) and is discharged by C19 (`Theorems/C19.lean:
dlist_realises_dseq`: the pointer-level model of dlist.go realises exactly these sequence operations).

The theorems below state, for ALL states (any sequence, any counter — also states no history reaches), all arguments
and every element type with decidable equality and a zero value, that the regenerated method computes exactly the state
and the answer of the hand-written model's `step` (`Model.LQueue.step`, `Model.LStack.step`), which is what the
theorems of C05 / C06 about the linked containers are about.  This includes the behaviour of `LStack.Pop` behind the
known findings F12a/F12b (the answer is the value of the NEW last node, the zero value on a single node; the counter is
decremented only when positive), which the model mirrors.  None of the regenerated definitions can panic: they are
total functions into plain values (the `DSeq` contract is total).
-/
namespace GoguVerif.Theorems.GenTieLinked
open GoguVerif.Gen.Linked

variable {α : Type} [Inhabited α] [DecidableEq α]

section Queue
open GoguVerif.Spec.C05

theorem lqueue_new_tie (t : α) :
    Model.LQueue.new t = { list := (queue.NewLinked t).1, n := (queue.NewLinked t).2 } := rfl

theorem lqueue_enqueue_tie (s : Model.LQueue.St α) (x : α) :
    Model.LQueue.step s (.enqueue x) =
      ({ list := (queue.LQueue_Enqueue s.list s.n x).2.1, n := (queue.LQueue_Enqueue s.list s.n x).2.2 }, Out.unit) :=
  ite_rel (R := fun m (g : Unit × List α × Int) => m = (({ list := g.2.1, n := g.2.2 } : Model.LQueue.St α), Out.unit))
    decide_eq_true_iff.symm (fun _ => rfl) fun _ => rfl

theorem lqueue_dequeue_tie (s : Model.LQueue.St α) :
    Model.LQueue.step s .dequeue =
      ({ list := (queue.LQueue_Dequeue s.list s.n).2.1, n := (queue.LQueue_Dequeue s.list s.n).2.2 },
        Out.val (queue.LQueue_Dequeue s.list s.n).1) :=
  ite_rel (R := fun m (g : α × List α × Int) => m = (({ list := g.2.1, n := g.2.2 } : Model.LQueue.St α), Out.val g.1))
    decide_eq_true_iff.symm (fun _ => rfl) fun _ => rfl

theorem lqueue_peek_tie (s : Model.LQueue.St α) :
    Model.LQueue.step s .peek = (s, Out.val (queue.LQueue_Peek s.list s.n)) :=
  ite_rel (R := fun m g => m = (s, Out.val g)) decide_eq_true_iff.symm (fun _ => rfl) fun _ => rfl

theorem lqueue_search_tie (s : Model.LQueue.St α) (x : α) :
    Model.LQueue.step s (.search x) = (s, Out.bool (queue.LQueue_Search s.list s.n x)) :=
  ite_rel (R := fun m g => m = (s, Out.bool g)) decide_eq_true_iff.symm (fun _ => rfl)
    fun _ => by cases Model.DSeq.find s.list x <;> rfl

theorem lqueue_size_tie (s : Model.LQueue.St α) :
    Model.LQueue.step s .size = (s, Out.int (queue.LQueue_Size s.list s.n)) := rfl

theorem lqueue_clear_tie (s : Model.LQueue.St α) :
    Model.LQueue.step s .clear =
      ({ list := (queue.LQueue_Clear s.list s.n).2.1, n := (queue.LQueue_Clear s.list s.n).2.2 }, Out.unit) := rfl

/-- one step of the linked queue computed by the REGENERATED methods only -/
def lqueueGenStep (s : Model.LQueue.St α) : Op α → Model.LQueue.St α × Out α
  | .enqueue x => let r := queue.LQueue_Enqueue s.list s.n x; ({ list := r.2.1, n := r.2.2 }, .unit)
  | .dequeue => let r := queue.LQueue_Dequeue s.list s.n; ({ list := r.2.1, n := r.2.2 }, .val r.1)
  | .peek => (s, .val (queue.LQueue_Peek s.list s.n))
  | .search x => (s, .bool (queue.LQueue_Search s.list s.n x))
  | .size => (s, .int (queue.LQueue_Size s.list s.n))
  | .clear => let r := queue.LQueue_Clear s.list s.n; ({ list := r.2.1, n := r.2.2 }, .unit)

def lqueueGenRun (s : Model.LQueue.St α) : List (Op α) → Model.LQueue.St α × List (Out α)
  | [] => (s, [])
  | op :: ops =>
    let (s', o) := lqueueGenStep s op
    let (s'', os) := lqueueGenRun s' ops
    (s'', o :: os)

theorem lqueue_step_tie (s : Model.LQueue.St α) (op : Op α) : lqueueGenStep s op = Model.LQueue.step s op := by
  cases op with
  | enqueue x => exact (lqueue_enqueue_tie s x).symm
  | dequeue => exact (lqueue_dequeue_tie s).symm
  | peek => exact (lqueue_peek_tie s).symm
  | search x => exact (lqueue_search_tie s x).symm
  | size => exact (lqueue_size_tie s).symm
  | clear => exact (lqueue_clear_tie s).symm

theorem lqueue_run_tie (s : Model.LQueue.St α) (ops : List (Op α)) : lqueueGenRun s ops = Model.LQueue.run s ops := by
  induction ops generalizing s with
  | nil => rfl
  | cons op ops ih => simp only [lqueueGenRun, Model.LQueue.run, lqueue_step_tie, ih]

end Queue

section Stack
open GoguVerif.Spec.C06

theorem lstack_new_tie (t : α) :
    Model.LStack.new t = { list := (stack.NewLinked t).1, n := (stack.NewLinked t).2 } := rfl

theorem lstack_push_tie (s : Model.LStack.St α) (x : α) :
    Model.LStack.step s (.push x) =
      ({ list := (stack.LStack_Push s.list s.n x).2.1, n := (stack.LStack_Push s.list s.n x).2.2 }, Out.unit) := rfl

/-- incl. the known-finding behaviour: the answer is `DSeq.pop`'s node (the new last value / zero value), the counter
goes down only when positive -/
theorem lstack_pop_tie (s : Model.LStack.St α) :
    Model.LStack.step s .pop =
      ({ list := (stack.LStack_Pop s.list s.n).2.1, n := (stack.LStack_Pop s.list s.n).2.2 },
        Out.val (stack.LStack_Pop s.list s.n).1) := by
  -- the model tests the counter inside the field `n`, the printed text around the whole result: not the two `if`s of
  -- `ite_rel`; on either side of the test both compute
  by_cases h : s.n > 0 <;> simp [Model.LStack.step, stack.LStack_Pop, h]

theorem lstack_peek_tie (s : Model.LStack.St α) :
    Model.LStack.step s .peek = (s, Out.val (stack.LStack_Peek s.list s.n)) := rfl

theorem lstack_search_tie (s : Model.LStack.St α) (x : α) :
    Model.LStack.step s (.search x) = (s, Out.bool (stack.LStack_Search s.list s.n x)) := by
  -- the printed text is `if ok then true else false`
  show (s, Out.bool (Model.DSeq.find s.list x)) = (s, Out.bool (if Model.DSeq.find s.list x then true else false))
  cases Model.DSeq.find s.list x <;> rfl

theorem lstack_size_tie (s : Model.LStack.St α) :
    Model.LStack.step s .size = (s, Out.int (stack.LStack_Size s.list s.n)) := rfl

/-- one step of the linked stack computed by the REGENERATED methods only -/
def lstackGenStep (s : Model.LStack.St α) : Op α → Model.LStack.St α × Out α
  | .push x => let r := stack.LStack_Push s.list s.n x; ({ list := r.2.1, n := r.2.2 }, .unit)
  | .pop => let r := stack.LStack_Pop s.list s.n; ({ list := r.2.1, n := r.2.2 }, .val r.1)
  | .peek => (s, .val (stack.LStack_Peek s.list s.n))
  | .search x => (s, .bool (stack.LStack_Search s.list s.n x))
  | .size => (s, .int (stack.LStack_Size s.list s.n))

def lstackGenRun (s : Model.LStack.St α) : List (Op α) → Model.LStack.St α × List (Out α)
  | [] => (s, [])
  | op :: ops =>
    let (s', o) := lstackGenStep s op
    let (s'', os) := lstackGenRun s' ops
    (s'', o :: os)

theorem lstack_step_tie (s : Model.LStack.St α) (op : Op α) : lstackGenStep s op = Model.LStack.step s op := by
  cases op with
  | push x => exact (lstack_push_tie s x).symm
  | pop => exact (lstack_pop_tie s).symm
  | peek => exact (lstack_peek_tie s).symm
  | search x => exact (lstack_search_tie s x).symm
  | size => exact (lstack_size_tie s).symm

theorem lstack_run_tie (s : Model.LStack.St α) (ops : List (Op α)) : lstackGenRun s ops = Model.LStack.run s ops := by
  induction ops generalizing s with
  | nil => rfl
  | cons op ops ih => simp only [lstackGenRun, Model.LStack.run, lstack_step_tie, ih]

end Stack

example : queue.NewLinked (7 : Int) = ([7], 1) := by rfl
example : queue.LQueue_Enqueue [0] 0 (5 : Int) = ((), ([5], 1)) := rfl
example : queue.LQueue_Enqueue [4] 1 (5 : Int) = ((), ([4, 5], 2)) := rfl
example : queue.LQueue_Dequeue [4, 5, 6] 3 = ((4 : Int), ([5, 6], 2)) := rfl
example : queue.LQueue_Dequeue [4] 1 = ((4 : Int), ([0], 0)) := rfl
example : queue.LQueue_Dequeue [0] 0 = ((0 : Int), ([0], 0)) := rfl
example : queue.LQueue_Peek [4, 5] 2 = (4 : Int) := rfl
example : queue.LQueue_Search [4, 5] 2 (5 : Int) = true := rfl
example : queue.LQueue_Search [5] 0 (5 : Int) = false := rfl          -- the stale head value is not found
example : queue.LQueue_Clear [4, 5] 2 = ((), ([(4 : Int)], 0)) := rfl
-- the known findings of LStack.Pop, as the regenerated code computes them:
example : stack.LStack_Pop [4, 5, 6] 3 = ((5 : Int), ([4, 5], 2)) := rfl   -- answers the NEW last value (F12a)
example : stack.LStack_Pop [4] 1 = ((0 : Int), ([4], 0)) := rfl            -- single node: zero value, node stays (F12b)
example : stack.LStack_Pop [4] 0 = ((0 : Int), ([4], 0)) := rfl
example : stack.LStack_Push [4] 1 (9 : Int) = ((), ([4, 9], 2)) := rfl
example : stack.LStack_Peek [4, 9] 2 = (9 : Int) := rfl
example : stack.LStack_Search [4, 9] 2 (4 : Int) = true := rfl

end GoguVerif.Theorems.GenTieLinked
