import GoguVerif.Gen.Trie
import GoguVerif.Model.Trie
import GoguVerif.Lemmas.TieRules
/-!
# The regenerated tie for `trie/trie.go` (C09)

`Gen/Trie.lean` is produced on every run by the translator (`translator/frag_trie.go`) from `trie/trie.go`: a
`*node[K,V]` as a value of the generated inductive type `Gen.Trie.node` (fields in declaration order: the embedded
`Item{key,val}`, `left`, `mid`, `right`, `c`, `isValid`), `K ~string` as `List UInt8`, `key[d]` as `byteAt`
(`none` ↦ `Out.panic`), Go `int` as `Int`, `error` as `Option String`, the `*Trie` handle's fields as variables.

The theorems state, for ALL tries, keys, values (and depths `d : Nat`, the only depths the code ever passes), that
each regenerated definition computes exactly what the hand-written definition of `Model/Trie.lean` computes.
`toM` forgets `Item.key` (written once by `newNode`, never read: not part of the model) and reorders fields.
The model's `Option` (`none` = the call panics) corresponds to `Out.panic`; `Out.hang` never occurs.
`LongestPrefix` has no regenerated counterpart (its `for` loop is outside the translated fragment), so
`Model.Trie.lpLoop` and `LongestPrefix` are not tied here.
-/
namespace GoguVerif.Theorems.GenTieTrie
open GoguVerif.Gen.Trie
open GoguVerif.Model.Trie (T)

/-- the regenerated node as a node of the model -/
def toM : node Int → T
  | .nil => .nil
  | .cons it l m r c iv => .node c (toM l) (toM m) (toM r) it.val iv

/-- every model trie is the image of a regenerated one (keys chosen arbitrarily): "for all `node`" covers all `T` -/
def ofM : T → node Int
  | .nil => .nil
  | .node c l m r v iv => .cons ⟨[], v⟩ (ofM l) (ofM m) (ofM r) c iv

theorem toM_ofM (t : T) : toM (ofM t) = t := by
  induction t with
  | nil => rfl
  | node c l m r v iv ihl ihm ihr => simp only [ofM, toM, ihl, ihm, ihr]

def optOut {β : Type} : Option β → Out β
  | some b => .ok b
  | none => .panic

def Out.map {β γ : Type} (f : β → γ) : Out β → Out γ
  | .ok b => .ok (f b)
  | .panic => .panic
  | .hang => .hang

/-- the equation every tie states (the regenerated outcome, read through `f`, is the model's option), as the
relation handed to `ite_rel` where a regenerated `if` meets the model's -/
abbrev Tied {β γ : Type} (f : β → γ) (x : Out β) (mo : Option γ) : Prop := Out.map f x = optOut mo

theorem byteAt_nat (key : Str) (d : Nat) : byteAt key (d : Int) = key[d]? := by
  have h : ¬ ((d : Int) < 0) := by omega
  unfold byteAt
  rw [if_neg h, Int.toNat_natCast]

/-- `d < len(key)-1` on Go's `int` and on `Nat` -/
theorem lt_pred_cast (d n : Nat) : (d : Int) < (n : Int) - 1 ↔ d < n - 1 := by omega

theorem isNil_toM (x : node Int) : (node.isNil x = true) ↔ toM x = .nil := by
  cases x <;> simp [node.isNil, toM]

/-- in a tie both sides return or both panic -/
theorem tie_cases {β γ : Type} {f : β → γ} {x : Out β} {mo : Option γ} (h : Out.map f x = optOut mo) :
    (∃ p, x = .ok p ∧ mo = some (f p)) ∨ (x = .panic ∧ mo = none) := by
  cases x with
  | ok p => cases mo with
    | none => cases h
    | some t => cases h; exact Or.inl ⟨p, rfl, rfl⟩
  | panic => cases mo with
    | none => exact Or.inr ⟨rfl, rfl⟩
    | some t => cases h
  | hang => cases mo <;> cases h

/-- the same for `put`, which returns the new pointer twice (as result and as updated receiver) -/
theorem dup_cases {x : Out (node Int × node Int)} {mo : Option T}
    (h : Out.map (fun p => (toM p.1, toM p.2)) x = optOut (mo.map fun t => (t, t))) :
    (∃ p, x = .ok p ∧ mo = some (toM p.1)) ∨ (x = .panic ∧ mo = none) := by
  rcases tie_cases h with ⟨p, hx, hm⟩ | ⟨hx, hm⟩
  · cases mo with
    | none => cases hm
    | some t => exact Or.inl ⟨p, hx, congrArg some (Prod.mk.inj (Option.some.inj hm)).1⟩
  · cases mo with
    | none => exact Or.inr ⟨hx, rfl⟩
    | some t => cases hm

/-- `(*node).get`: the returned pointer (through `toM`) and `err != nil` -/
theorem get_tie (n : node Int) (key : Str) (d : Nat) :
    Out.map (fun p => (toM p.1, p.2.isSome)) (node_get n key (d : Int))
      = optOut (Model.Trie.get (toM n) key d) := by
  induction n generalizing d with
  | nil => rfl
  | cons it l m r c iv ihl ihm ihr =>
    unfold node_get
    rw [toM, Model.Trie.get, byteAt_nat]
    refine ite_rel (R := Tied _) Int.natCast_eq_zero (fun _ => rfl) fun _ => ?_
    cases key[d]? with
    | none => rfl
    | some b =>
      exact ite_rel (R := Tied _) Iff.rfl (fun _ => ihl d) fun _ => ite_rel (R := Tied _) Iff.rfl (fun _ => ihr d) fun _ =>
        ite_rel (R := Tied _) (lt_pred_cast d key.length) (fun _ => ihm (d + 1)) fun _ => rfl

theorem get_tie_root {t : Model.Trie.Trie} {root : node Int} (hr : toM root = t.root) (key : Str) :
    Out.map (fun p => (toM p.1, p.2.isSome)) (node_get root key 0)
      = optOut (Model.Trie.get t.root key 0) := hr ▸ get_tie root key 0

/-- the assignments `n.left = n.left.put(…)` etc.: a tied `put` outcome stays tied under constructors that
correspond under `toM` -/
theorem bind_tie {x : Out (node Int × node Int)} {mo : Option T}
    (h : Out.map (fun p => (toM p.1, toM p.2)) x = optOut (mo.map fun t => (t, t)))
    (g : node Int → node Int) (G : T → T) (hg : ∀ p, toM (g p) = G (toM p)) :
    Out.map (fun p => (toM p.1, toM p.2)) (Out.bind x fun r => Out.ok (g r.1, g r.1))
      = optOut ((mo.map G).map fun t => (t, t)) := by
  rcases dup_cases h with ⟨p, rfl, rfl⟩ | ⟨rfl, rfl⟩
  · exact congrArg (fun a => Out.ok (a, a)) (hg p.1)
  · rfl

/-- `put` on a nil receiver (the translator's specialisation `node_put_nil`) is the model's `putNil` over `key[d:]`.
By induction on the number `k` of bytes left: `node_put_nil` recurses on `d + 1` up to `len(key) - 1`. -/
theorem put_nil_tie (key : Str) (val : Int) (iv : Bool) (k : Nat) :
    ∀ d : Nat, key.length - d = k →
    Out.map (fun p => (toM p.1, toM p.2)) (node_put_nil key val (d : Int) iv)
      = optOut ((Model.Trie.putNil val iv (key.drop d)).map fun t => (t, t)) := by
  induction k with
  | zero =>
    intro d hk
    have hd : key.length ≤ d := Nat.le_of_sub_eq_zero hk
    rw [node_put_nil, byteAt_nat, List.getElem?_eq_none hd, List.drop_eq_nil_of_le hd]
    rfl
  | succ k ih =>
    intro d hk
    have hd : d < key.length := Nat.lt_of_sub_eq_succ hk
    rw [node_put_nil, byteAt_nat, List.getElem?_eq_getElem hd, List.drop_eq_getElem_cons hd]
    simp only [lt_pred_cast]
    by_cases h3 : d < key.length - 1
    · have hd1 : d + 1 < key.length := Nat.add_lt_of_lt_sub h3
      have ih' := ih (d + 1) (by rw [Nat.sub_add_eq, hk]; rfl)
      rw [List.drop_eq_getElem_cons hd1] at ih' ⊢
      rw [dif_pos h3]
      refine (bind_tie ih' (fun p => node.cons ⟨key, val⟩ .nil p .nil key[d] false)
        (fun t => T.node key[d] .nil t .nil val false) (fun _ => rfl)).trans ?_
      rw [Model.Trie.putNil]
      cases Model.Trie.putNil val iv (key[d + 1] :: List.drop (d + 1 + 1) key) <;> rfl
    · rw [dif_neg h3, List.drop_eq_nil_of_le (Nat.le_of_pred_lt (Nat.lt_succ_of_le (Nat.le_of_not_lt h3)))]
      rfl

theorem put_nil_eq (key : Str) (val : Int) (d : Int) (iv : Bool) :
    node_put .nil key val d iv = node_put_nil key val d iv := by
  rw [node_put_nil]
  unfold node_put
  cases byteAt key d with
  | none => rfl
  | some c => simp only []; split <;> rfl

/-- `(*node).put`: the returned pointer and the updated receiver (the same node) -/
theorem put_tie (n : node Int) (key : Str) (val : Int) (d : Nat) (iv : Bool) :
    Out.map (fun p => (toM p.1, toM p.2)) (node_put n key val (d : Int) iv)
      = optOut ((Model.Trie.put (toM n) key val d iv).map fun t => (t, t)) := by
  induction n generalizing d with
  | nil => rw [put_nil_eq]; exact put_nil_tie key val iv (key.length - d) d rfl
  | cons it l m r c vv ihl ihm ihr =>
    unfold node_put
    rw [toM, Model.Trie.put, byteAt_nat]
    cases key[d]? with
    | none => rfl
    | some b =>
      simp only [apply_ite (Option.map fun t : T => (t, t))]
      refine ite_rel (R := Tied _) Iff.rfl (fun _ => ?_) fun _ => ite_rel (R := Tied _) Iff.rfl (fun _ => ?_) fun _ =>
        ite_rel (R := Tied _) (lt_pred_cast d key.length) (fun _ => ?_) fun _ => rfl
      · refine (bind_tie (ihl d) (fun p => node.cons it p m r c vv)
          (fun t => T.node c t (toM m) (toM r) it.val vv) (fun _ => rfl)).trans ?_
        cases Model.Trie.put (toM l) key val d iv <;> rfl
      · refine (bind_tie (ihr d) (fun p => node.cons it l m p c vv)
          (fun t => T.node c (toM l) (toM m) t it.val vv) (fun _ => rfl)).trans ?_
        cases Model.Trie.put (toM r) key val d iv <;> rfl
      · refine (bind_tie (ihm (d + 1)) (fun p => node.cons it l p r c vv)
          (fun t => T.node c (toM l) t (toM r) it.val vv) (fun _ => rfl)).trans ?_
        cases Model.Trie.put (toM m) key val (d + 1) iv <;> rfl

/-- `x == nil || err != nil || !x.isValid` in the regenerated code and in the model -/
theorem notFound_toM (x : node Int) (e : Err) :
    ((node.isNil x = true ∨ ¬ e = none) ∨ ¬ node.isValid_ x = true) ↔
      Model.Trie.notFound (toM x) e.isSome = true := by
  cases x with
  | nil => exact ⟨fun _ => rfl, fun _ => Or.inl (Or.inl rfl)⟩
  | cons it l m r c iv =>
    cases e <;> cases iv <;> simp [node.isNil, node.isValid_, toM, Model.Trie.notFound]

/-- `Trie.Put`: the new root and the new counter (`t.q` is not touched) -/
theorem Put_tie (t : Model.Trie.Trie) (root : node Int) (hr : toM root = t.root) (key : Str) (val : Int) :
    Out.map (fun p => (toM p.1, p.2)) (Trie_Put root t.n key val)
      = optOut ((Model.Trie.Put t key val).map fun t' => (t'.root, t'.n)) := by
  have hp : Out.map (fun p => (toM p.1, toM p.2)) (node_put root key val 0 true)
      = optOut ((Model.Trie.put t.root key val 0 true).map fun t => (t, t)) := hr ▸ put_tie root key val 0 true
  unfold Trie_Put Model.Trie.Put
  rcases tie_cases (get_tie_root hr key) with ⟨⟨x, e⟩, hx, hm⟩ | ⟨hx, hm⟩
  · rw [hx, hm]
    simp only [Out.bind, notFound_toM]
    rcases dup_cases hp with ⟨p, hpx, hpm⟩ | ⟨hpx, hpm⟩
    · rw [hpx, hpm]; split <;> rfl
    · rw [hpx, hpm]; split <;> rfl
  · rw [hx, hm]; rfl

/-- `Trie.Get`: value and `ok`; the model's `none` is `(zero value, false)` -/
theorem Get_tie (t : Model.Trie.Trie) (root : node Int) (hr : toM root = t.root) (key : Str) :
    Trie_Get root key = optOut ((Model.Trie.Get t key).map fun r => (r.getD default, r.isSome)) := by
  unfold Trie_Get Model.Trie.Get
  refine ite_rel (R := fun x mo => x = optOut (Option.map _ mo)) Int.natCast_eq_zero (fun _ => rfl) fun _ => ?_
  rcases tie_cases (get_tie_root hr key) with ⟨⟨x, e⟩, hx, hm⟩ | ⟨hx, hm⟩
  · rw [hx, hm]
    cases x with
    | nil => rfl
    | cons it l m r c iv => cases e <;> cases iv <;> rfl
  · rw [hx, hm]; rfl

theorem Contains_tie (t : Model.Trie.Trie) (root : node Int) (hr : toM root = t.root) (key : Str) :
    Trie_Contains root key = optOut (Model.Trie.Contains t key) := by
  unfold Trie_Contains Model.Trie.Contains
  refine ite_rel (R := fun x mo => x = optOut mo) Int.natCast_eq_zero (fun _ => rfl) fun _ => ?_
  rw [Get_tie t root hr key]
  cases Model.Trie.Get t key <;> rfl

theorem Size_tie (t : Model.Trie.Trie) : Trie_Size (ν := Int) t.n = Out.ok t.n := rfl

/-- `(*node).collect` (over the assumed list contract of `t.q`): never panics, always ends in the nil case's
`ErrorNotFound`, and leaves the model's `collect` in the queue -/
theorem collect_tie (n : node Int) (q : List Str) (pfx : Str) :
    node_collect n q pfx
      = Out.ok (Model.Trie.collect (toM n) pfx q, some "ErrorNotFound", Model.Trie.collect (toM n) pfx q) := by
  induction n generalizing q pfx with
  | nil => rfl
  | cons it l m r c iv ihl ihm ihr =>
    unfold node_collect
    cases iv <;> simp [ihl, ihm, ihr, Out.bind, toM, Model.Trie.collect]

/-- `Trie.Keys` (whatever the queue held before): the returned queue content, `err`, and `t.q` afterwards -/
theorem Keys_tie (t : Model.Trie.Trie) (root : node Int) (hr : toM root = t.root) (q0 : List Str) :
    Trie_Keys q0 root
      = Out.ok ((Model.Trie.Keys t).1.q, (none : Err), (Model.Trie.Keys t).1.q) := by
  simp [Trie_Keys, collect_tie, Out.bind, Model.Trie.Keys, hr]

/-- `Trie.StartsWith`: the returned queue content, `err != nil`, and `t.q` afterwards -/
theorem StartsWith_tie (t : Model.Trie.Trie) (root : node Int) (hr : toM root = t.root) (q0 : List Str) (pfx : Str) :
    Out.map (fun p => (p.1, p.2.1.isSome, p.2.2)) (Trie_StartsWith q0 root pfx)
      = optOut ((Model.Trie.StartsWith t pfx).map fun r => (r.1.q, r.2, r.1.q)) := by
  unfold Trie_StartsWith Model.Trie.StartsWith
  refine ite_rel (R := fun x mo => Out.map _ x = optOut (Option.map _ mo)) Int.natCast_eq_zero (fun _ => rfl) fun _ => ?_
  rcases tie_cases (get_tie_root hr pfx) with ⟨⟨x, e⟩, hx, hm⟩ | ⟨hx, hm⟩
  · rw [hx, hm]
    cases x with
    | nil => rfl
    | cons it l m r c iv =>
      cases e with
      | some _ => rfl
      | none => cases iv <;> simp only [Out.bind, collect_tie] <;> rfl
  · rw [hx, hm]; rfl

end GoguVerif.Theorems.GenTieTrie
