import GoguVerif.Lemmas.Sections
/-!
# C02 — "Theorem 2": the fine-grained execution of lock-guarded single-section methods refines the
atomic system

For ANY table of methods (each one critical section: lock mode + micro-steps over shared and local
state), any number of threads, any interleaving at micro-step granularity admitted by the RWMutex
rules: if read-mode bodies do not write the shared state, every fine-grained execution is an
execution of the atomic system of `Model/Lin.lean` with the SAME events (invocation, linearization
point = lock acquisition, return with the same value) — `fine_refines_atomic`.  Together with
Theorem 1 (`Theorems/C02.lean`) every fine-grained history is linearizable (`fine_linearizable`; what stays
assumed is said there).
-/
namespace GoguVerif.Theorems.C02Fine
open GoguVerif.Model GoguVerif.Model.Fine
open GoguVerif.Lemmas.RWLock

variable {σ lam Op Ret : Type}

structure Inv (meth : Op → Meth σ lam Ret) (s : State σ lam Op Ret) : Prop where
  /-- a writer inside excludes everybody else -/
  excl : ∀ i j, i ≠ j → holds (s.th i) = some .w → holds (s.th j) = none
  /-- a thread inside runs the rest of its own method's body; the ghost result is the value it will
  return; a reader's remaining steps are read-only; a writer's completed effect is `absObj` -/
  inside : ∀ i c op m rest loc r, s.th i = .inside c op m rest loc r →
    m = (meth op).mode ∧
    (meth op).result (runSteps rest (s.shared, loc)).2 = r ∧
    (m = .r → ∀ f ∈ rest, ∀ p, (f p).1 = p.1) ∧
    (m = .w → s.absObj = (runSteps rest (s.shared, loc)).1)
  /-- without a writer inside the abstract object is the shared state -/
  noWriter : (∀ i, holds (s.th i) ≠ some .w) → s.absObj = s.shared

theorem holds_upd_ne (th : Nat → TState σ lam Op Ret) (t j : Nat) (x) (h : j ≠ t) :
    holds (Lin.upd th t x j) = holds (th j) := by rw [upd_ne _ _ _ _ h]

theorem inv_init (meth : Op → Meth σ lam Ret) (init : σ) : Inv meth (initState init : State σ lam Op Ret) :=
  ⟨nofun, nofun, fun _ => rfl⟩

open GoguVerif.Lemmas.Sections in
/-- `Inv` is the invariant of the several-section system (`Lemmas/Sections`) read through `emb`: a call that waits
for its one section has the initial local state -/
theorem inv_iff_emb {meth : Op → Meth σ lam Ret} {s : State σ lam Op Ret} :
    Inv meth s ↔ InvOn (fun op => Fine2.ofFine (meth op)) (fun s op => atomic (meth op) s)
      (fun op loc => loc = (meth op).init) (embState meth s) := by
  constructor
  · intro h
    refine ⟨fun i j hij hw => (holds_emb _).trans (h.excl i j hij ((holds_emb _).symm.trans hw)), fun i => ?_,
      fun hn => h.noWriter fun i => holds_emb (fmeth := meth) (s.th i) ▸ hn i⟩
    show GoodOn _ _ _ _ _ (emb meth (s.th i))
    cases hts : s.th i with
    | idle => trivial
    | invoked c op => exact ⟨nofun, rfl⟩
    | finished c op r => trivial
    | inside c op m rest loc r =>
      obtain ⟨h1, h2, h3, h4⟩ := h.inside i c op m rest loc r hts
      exact ⟨h1, h2, fun hm => ⟨h3 hm, h.noWriter (no_writer_of_reader h.excl (t := i) (by rw [hts, hm]; rfl))⟩, h4⟩
  · intro h
    refine ⟨fun i j hij hw => (holds_emb _).symm.trans (h.excl i j hij ((holds_emb _).trans hw)), ?_,
      fun hn => h.noWriter fun i => (holds_emb (fmeth := meth) (s.th i)).symm ▸ hn i⟩
    intro i c op m rest loc r e
    obtain ⟨hmode, hres, hreader, hwriter⟩ := h.good_at (congrArg (emb meth) e)
    exact ⟨hmode, hres, fun hm => (hreader hm).1, hwriter⟩

theorem inv_step {meth : Op → Meth σ lam Ret} (ro : ReadOnly meth) {s s' : State σ lam Op Ret} {e}
    (hi : Inv meth s) (st : Step meth s e s') : Inv meth s' :=
  inv_iff_emb.2 (Lemmas.Sections.invOn_step (Lemmas.Sections.condOn_ofFine ro) (inv_iff_emb.1 hi)
    (Lemmas.Sections.step_emb st))

/-- Theorem 2.  Every fine-grained execution is an execution of the atomic system with the same
events, and the invariant (mutual exclusion, ghost consistency) holds in every reachable state. -/
theorem fine_refines_atomic {meth : Op → Meth σ lam Ret} (ro : ReadOnly meth) {init : σ} {h s}
    (r : Fine.Reach meth init h s) :
    Inv meth s ∧ Lin.Reach (obj meth init) h (abs s) :=
  have := Lemmas.Sections.refines_on (Lemmas.Sections.condOn_ofFine ro) (Lemmas.Sections.reach_emb r)
  ⟨inv_iff_emb.2 this.1, Lemmas.Sections.abs_embState (fmeth := meth) s ▸ this.2⟩

end GoguVerif.Theorems.C02Fine
