import GoguVerif.Theorems.GenTieMore2Base
import GoguVerif.Model.C13
import GoguVerif.Lemmas.TieRules
/-!
# The regenerated tie for `Abs` (math.go), `Range`, `RangeRight` (range.go)

The Go `switch len(args)` of `Range` is translated into an if-chain with the two loops duplicated per case
(`Range_loop1 … Range_loop8`).  The theorems below state that the regenerated definitions compute the outcome of the
hand-written model of `Model/C13.lean` (`rangeUp`, `rangeDown`, `Range`, `RangeRight`).
-/
namespace GoguVerif.Theorems.GenTieMore2
open GoguVerif.Gen.Funcs2

/-- the model's outcome of `Range` as an outcome of the regenerated code: the Go `error` is the `Bool` -/
def rangeOut : Spec.C13.Out (List Int) → Out (Array Int × Bool)
  | .ok l => .ok (l.toArray, false)
  | .err => .ok (#[], true)
  | .panic => .panic
  | .hang => .hang

/-- the form of the ties of `Range` and `RangeRight`, as a relation (for `ite_rel`) -/
abbrev TiedRange (g : Out (Array Int × Bool)) (m : Spec.C13.Out (List Int)) : Prop := g = rangeOut m

/-- the model's outcome of one loop (`rangeUp` / `rangeDown`) as an outcome of the regenerated loop,
projected on the slice (`.err` does not occur: `rangeLoopsF_spec`) -/
def loopOut : Spec.C13.Out (List Int) → Out (Array Int)
  | .ok l => .ok l.toArray
  | .err => .panic
  | .panic => .panic
  | .hang => .hang

-- The evaluation rules of `Out.bind`, `rangeOut`, `loopOut` on each constructor, stated for whoever reads or extends this
-- part (`bindB_…` are those of `GenTieMore2Base` under names of this part).  The proofs below use `bind_ok` of the Base
-- module, `rangeOut_ok`, and `rfl` for the rest.
namespace B

@[simp] theorem bindB_ok {β γ : Type} (b : β) (f : β → Out γ) : Out.bind (Out.ok b) f = f b := bind_ok b f
@[simp] theorem bindB_panic {β γ : Type} (f : β → Out γ) : Out.bind (Out.panic : Out β) f = Out.panic := bind_panic f
@[simp] theorem bindB_hang {β γ : Type} (f : β → Out γ) : Out.bind (Out.hang : Out β) f = Out.hang := bind_hang f

@[simp] theorem rangeOut_ok (l : List Int) : rangeOut (.ok l) = .ok (l.toArray, false) := rfl
@[simp] theorem rangeOut_err : rangeOut .err = .ok (#[], true) := rfl
@[simp] theorem rangeOut_panic : rangeOut .panic = .panic := rfl
@[simp] theorem rangeOut_hang : rangeOut .hang = .hang := rfl
@[simp] theorem loopOut_ok (l : List Int) : loopOut (.ok l) = .ok l.toArray := rfl
@[simp] theorem loopOut_hang : loopOut .hang = .hang := rfl

end B
open B

theorem abs_tie (x : Int) : Abs x = Model.C13.Abs x := rfl

/-! Loops 3, 5, 7 are the text of loop 1 and loops 4, 6, 8 that of loop 2: they unfold to the same term (one text, one
proof: see the header of `Theorems/GenTie.lean`). -/

theorem range_loop1_tie (args : Array Int) (start step e : Int) :
    ∀ (fuel : Nat) (result : Array Int) (i : Int),
      Out.bind (Range_loop1 args start step e fuel result i) (fun r => Out.ok r.1)
        = loopOut (Model.C13.rangeUp fuel i step e result.toList) := by
  intro fuel
  induction fuel with
  | zero => intro result i; rfl
  | succ n ih =>
    intro result i
    unfold Range_loop1 Model.C13.rangeUp
    split
    · rw [ih, Array.toList_push]
    · rfl

theorem range_loop2_tie (args : Array Int) (start step e : Int) :
    ∀ (fuel : Nat) (result : Array Int) (i : Int),
      Out.bind (Range_loop2 args start step e fuel result i) (fun r => Out.ok r.1)
        = loopOut (Model.C13.rangeDown fuel i step e result.toList) := by
  intro fuel
  induction fuel with
  | zero => intro result i; rfl
  | succ n ih =>
    intro result i
    unfold Range_loop2 Model.C13.rangeDown
    split
    · rw [ih, Array.toList_push, abs_tie]
    · rfl

theorem range_loop3_gen_loop1 : Range_loop3 = Range_loop1 := by
  set_option smartUnfolding false in rfl

theorem range_loop5_gen_loop1 : Range_loop5 = Range_loop1 := by
  set_option smartUnfolding false in rfl

theorem range_loop7_gen_loop1 : Range_loop7 = Range_loop1 := by
  set_option smartUnfolding false in rfl

theorem range_loop4_gen_loop2 : Range_loop4 = Range_loop2 := by
  set_option smartUnfolding false in rfl

theorem range_loop6_gen_loop2 : Range_loop6 = Range_loop2 := by
  set_option smartUnfolding false in rfl

theorem range_loop8_gen_loop2 : Range_loop8 = Range_loop2 := by
  set_option smartUnfolding false in rfl

theorem range_loop3_tie (args : Array Int) (start step e : Int) :
    ∀ (fuel : Nat) (result : Array Int) (i : Int),
      Out.bind (Range_loop3 args start step e fuel result i) (fun r => Out.ok r.1)
        = loopOut (Model.C13.rangeUp fuel i step e result.toList) :=
  range_loop3_gen_loop1 ▸ range_loop1_tie args start step e

theorem range_loop4_tie (args : Array Int) (start step e : Int) :
    ∀ (fuel : Nat) (result : Array Int) (i : Int),
      Out.bind (Range_loop4 args start step e fuel result i) (fun r => Out.ok r.1)
        = loopOut (Model.C13.rangeDown fuel i step e result.toList) :=
  range_loop4_gen_loop2 ▸ range_loop2_tie args start step e

theorem range_loop5_tie (args : Array Int) (start step e : Int) :
    ∀ (fuel : Nat) (result : Array Int) (i : Int),
      Out.bind (Range_loop5 args start step e fuel result i) (fun r => Out.ok r.1)
        = loopOut (Model.C13.rangeUp fuel i step e result.toList) :=
  range_loop5_gen_loop1 ▸ range_loop1_tie args start step e

theorem range_loop6_tie (args : Array Int) (start step e : Int) :
    ∀ (fuel : Nat) (result : Array Int) (i : Int),
      Out.bind (Range_loop6 args start step e fuel result i) (fun r => Out.ok r.1)
        = loopOut (Model.C13.rangeDown fuel i step e result.toList) :=
  range_loop6_gen_loop2 ▸ range_loop2_tie args start step e

theorem range_loop7_tie (args : Array Int) (start step e : Int) :
    ∀ (fuel : Nat) (result : Array Int) (i : Int),
      Out.bind (Range_loop7 args start step e fuel result i) (fun r => Out.ok r.1)
        = loopOut (Model.C13.rangeUp fuel i step e result.toList) :=
  range_loop7_gen_loop1 ▸ range_loop1_tie args start step e

theorem range_loop8_tie (args : Array Int) (start step e : Int) :
    ∀ (fuel : Nat) (result : Array Int) (i : Int),
      Out.bind (Range_loop8 args start step e fuel result i) (fun r => Out.ok r.1)
        = loopOut (Model.C13.rangeDown fuel i step e result.toList) :=
  range_loop8_gen_loop2 ▸ range_loop2_tie args start step e

/-- the model's two loops run on a given amount of fuel (the model's `rangeLoops` picks
`rangeFuel start end_`) -/
def rangeLoopsF (fuel : Nat) (start step end_ : Int) : Spec.C13.Out (List Int) :=
  if end_ > 0 then Model.C13.rangeUp fuel start step end_ []
  else Model.C13.rangeDown fuel start step end_ []

/-- the model's `Range` with `rangeLoops` replaced by the same loops run on the given `fuel` -/
def RangeF (fuel : Nat) (args : List Int) : Spec.C13.Out (List Int) :=
  if args.length > 3 then .err
  else match args with
    | [] => rangeLoopsF fuel 0 0 0
    | [e] => rangeLoopsF fuel 0 1 e
    | [s, e] => rangeLoopsF fuel s 1 e
    | [s, st, e] =>
      if s > e ∧ e > 0 then .err
      else if st = 0 then .err
      else if st < 0 ∧ e > s then .err
      else rangeLoopsF fuel s st e
    | _ => .err

theorem rangeLoopsF_rangeFuel (start step e : Int) :
    rangeLoopsF (Model.C13.rangeFuel start e) start step e = Model.C13.rangeLoops start step e := rfl

/-- a loop on fuel that appends its counter while a test holds: every element appended costs one unit of fuel, and so
does the final test -/
theorem appendLoop_spec (loop : Nat → Int → List Int → Spec.C13.Out (List Int)) (c : Int → Prop) [DecidablePred c]
    (next : Int → Int) (h0 : ∀ i acc, loop 0 i acc = .hang)
    (hs : ∀ n i acc, loop (n + 1) i acc = if c i then loop n (next i) (acc ++ [i]) else .ok acc) :
    ∀ (fuel : Nat) (i : Int) (acc : List Int),
      loop fuel i acc = .hang ∨ ∃ l, l.length + 1 ≤ acc.length + fuel ∧ ∀ k, loop (fuel + k) i acc = .ok l := by
  intro fuel
  induction fuel with
  | zero => intro i acc; exact .inl (h0 i acc)
  | succ n ih =>
    intro i acc
    simp only [Nat.add_right_comm n 1, hs]
    split
    · rcases ih (next i) (acc ++ [i]) with hh | ⟨l, hl, hm⟩
      · exact .inl hh
      · exact .inr ⟨l, by rw [List.length_append, List.length_singleton, Nat.add_assoc, Nat.add_comm 1 n] at hl; exact hl, hm⟩
    · exact .inr ⟨acc, Nat.add_le_add_left (Nat.le_add_left 1 n) _, fun _ => rfl⟩

theorem rangeUp_spec (step e : Int) : ∀ (fuel : Nat) (i : Int) (acc : List Int),
    Model.C13.rangeUp fuel i step e acc = .hang ∨ ∃ l, l.length + 1 ≤ acc.length + fuel ∧
      ∀ k, Model.C13.rangeUp (fuel + k) i step e acc = .ok l :=
  appendLoop_spec (Model.C13.rangeUp · · step e) (· < e) (· + step) (fun _ _ => rfl) fun _ _ _ => rfl

theorem rangeDown_spec (step e : Int) : ∀ (fuel : Nat) (i : Int) (acc : List Int),
    Model.C13.rangeDown fuel i step e acc = .hang ∨ ∃ l, l.length + 1 ≤ acc.length + fuel ∧
      ∀ k, Model.C13.rangeDown (fuel + k) i step e acc = .ok l :=
  appendLoop_spec (Model.C13.rangeDown · · step e) (e < ·) (· - Model.C13.Abs step) (fun _ _ => rfl) fun _ _ _ => rfl

theorem rangeLoopsF_spec (fuel : Nat) (start step e : Int) :
    rangeLoopsF fuel start step e = .hang ∨ ∃ l, l.length + 1 ≤ fuel ∧
      ∀ k, rangeLoopsF (fuel + k) start step e = .ok l := by
  unfold rangeLoopsF
  by_cases h : e > 0
  · simp only [if_pos h]
    simpa only [List.length_nil, Nat.zero_add] using rangeUp_spec step e fuel start []
  · simp only [if_neg h]
    simpa only [List.length_nil, Nat.zero_add] using rangeDown_spec step e fuel start []

/-- the loop pair of one `switch` case, as the model's `rangeLoopsF` (generic in the two loops) -/
theorem loops_tie_gen (up down : Nat → Array Int → Int → Out (Array Int × Int)) (s st e : Int)
    (hup : ∀ (fuel : Nat) (result : Array Int) (i : Int),
      Out.bind (up fuel result i) (fun r => Out.ok r.1) = loopOut (Model.C13.rangeUp fuel i st e result.toList))
    (hdown : ∀ (fuel : Nat) (result : Array Int) (i : Int),
      Out.bind (down fuel result i) (fun r => Out.ok r.1) = loopOut (Model.C13.rangeDown fuel i st e result.toList))
    (fuel : Nat) :
    Out.bind (if e > 0 then Out.bind (up fuel #[] s) (fun r => Out.ok r.1)
      else Out.bind (down fuel #[] s) (fun r => Out.ok r.1))
      (fun result => Out.ok (result, false)) = rangeOut (rangeLoopsF fuel s st e) := by
  have key : (if e > 0 then Out.bind (up fuel #[] s) (fun r => Out.ok r.1)
      else Out.bind (down fuel #[] s) (fun r => Out.ok r.1)) = loopOut (rangeLoopsF fuel s st e) := by
    unfold rangeLoopsF
    split
    · exact hup fuel #[] s
    · exact hdown fuel #[] s
  rw [key]
  -- `loopOut` and `rangeOut` differ on `err` / `panic` only, which `rangeLoopsF` never answers
  rcases rangeLoopsF_spec fuel s st e with hh | ⟨l, _, hm⟩
  · rw [hh]; rfl
  · rw [show rangeLoopsF fuel s st e = .ok l from hm 0]; rfl

theorem rangeF_many (args : List Int) (h : args.length > 3) (fuel : Nat) :
    RangeF fuel args = Model.C13.Range args := by
  unfold RangeF Model.C13.Range
  rw [if_pos h, if_pos h]

/-- `Range`, for ALL argument lists and ALL fuel: the regenerated `Range` run on `fuel` is the model's
`Range` whose loops run on that same `fuel`.  The printed loop pairs by `switch` case: one argument loops 1 and 2, two
arguments 3 and 4, three arguments 5 and 6; no argument falls through to the text after the `switch`, loops 7 and 8. -/
theorem range_tie (fuel : Nat) (args : List Int) :
    Range fuel args.toArray = rangeOut (RangeF fuel args) := by
  match args with
  | [] =>
    exact loops_tie_gen _ _ 0 0 0 (range_loop7_tie #[] 0 0 0) (range_loop8_tie #[] 0 0 0) fuel
  | [e] =>
    exact loops_tie_gen _ _ 0 1 e (range_loop1_tie #[e] 0 1 e) (range_loop2_tie #[e] 0 1 e) fuel
  | [s, e] =>
    exact loops_tie_gen _ _ s 1 e (range_loop3_tie #[s, e] s 1 e) (range_loop4_tie #[s, e] s 1 e) fuel
  | [s, st, e] =>
    have h := loops_tie_gen _ _ s st e (range_loop5_tie #[s, st, e] s st e) (range_loop6_tie #[s, st, e] s st e) fuel
    show (if (decide (s > e) && decide (e > 0)) = true then _
      else if st = 0 then _
      else if (decide (st < 0) && decide (e > s)) = true then _ else _)
      = rangeOut (if s > e ∧ e > 0 then .err else if st = 0 then .err
          else if st < 0 ∧ e > s then .err else rangeLoopsF fuel s st e)
    have hand : ∀ {p q : Prop} [Decidable p] [Decidable q], (decide p && decide q) = true ↔ p ∧ q := by
      simp only [Bool.and_eq_true, decide_eq_true_eq, implies_true]
    exact ite_rel (R := TiedRange) hand (fun _ => rfl) fun _ =>
      ite_rel (R := TiedRange) Iff.rfl (fun _ => rfl) fun _ =>
        ite_rel (R := TiedRange) hand (fun _ => rfl) fun _ => h
  | a :: b :: c :: d :: rest =>
    have hlen : (a :: b :: c :: d :: rest).length > 3 := Nat.le_add_left 4 rest.length
    have hsz : ((a :: b :: c :: d :: rest).toArray.size : Int) > 3 := Int.ofNat_lt.mpr hlen
    unfold Range RangeF
    rw [if_pos hsz, if_pos hlen]
    rfl

/-- more than three arguments: the error, whatever the fuel -/
theorem range_tie_many (args : List Int) (h : args.length > 3) (fuel : Nat) :
    Range fuel args.toArray = rangeOut (Model.C13.Range args) := by
  rw [← rangeF_many args h fuel]; exact range_tie fuel args

example : Range 0 #[1, 2, 3, 4] = rangeOut (Model.C13.Range [1, 2, 3, 4]) :=
  range_tie_many [1, 2, 3, 4] (by decide) 0

/-! A result other than `hang` is stable under more fuel. -/

theorem rangeF_cases (args : List Int) :
    (∀ fuel, RangeF fuel args = .err) ∨ ∃ s st e, ∀ fuel, RangeF fuel args = rangeLoopsF fuel s st e := by
  match args with
  | [] => exact .inr ⟨0, 0, 0, fun _ => rfl⟩
  | [e] => exact .inr ⟨0, 1, e, fun _ => rfl⟩
  | [s, e] => exact .inr ⟨s, 1, e, fun _ => rfl⟩
  | [s, st, e] =>
    show (∀ fuel, (if s > e ∧ e > 0 then .err else if st = 0 then .err
        else if st < 0 ∧ e > s then .err else rangeLoopsF fuel s st e) = Spec.C13.Out.err) ∨
      ∃ s' st' e', ∀ fuel, (if s > e ∧ e > 0 then .err else if st = 0 then .err
        else if st < 0 ∧ e > s then .err else rangeLoopsF fuel s st e) = rangeLoopsF fuel s' st' e'
    by_cases h1 : s > e ∧ e > 0
    · exact .inl fun _ => if_pos h1
    by_cases h2 : st = 0
    · exact .inl fun _ => by rw [if_neg h1, if_pos h2]
    by_cases h3 : st < 0 ∧ e > s
    · exact .inl fun _ => by rw [if_neg h1, if_neg h2, if_pos h3]
    · exact .inr ⟨s, st, e, fun _ => by rw [if_neg h1, if_neg h2, if_neg h3]⟩
  | a :: b :: c :: d :: rest =>
    exact .inl fun _ => if_pos (Nat.le_add_left 4 rest.length)

theorem rangeF_mono (args : List Int) (fuel fuel' : Nat)
    (h : RangeF fuel args ≠ .hang) (hle : fuel ≤ fuel') :
    RangeF fuel' args = RangeF fuel args := by
  rcases rangeF_cases args with he | ⟨s, st, e, hl⟩
  · rw [he, he]
  · rw [hl] at h ⊢
    rw [hl]
    rcases rangeLoopsF_spec fuel s st e with hh | ⟨l, _, hm⟩
    · exact absurd hh h
    · obtain ⟨k, rfl⟩ := Nat.exists_eq_add_of_le hle
      exact (hm k).trans (hm 0).symm

/-- the fuel the model's `Range` gives its loops, by argument shape (irrelevant for more than three
arguments, where no loop runs) -/
def modelFuel : List Int → Nat
  | [] => Model.C13.rangeFuel 0 0
  | [e] => Model.C13.rangeFuel 0 e
  | [s, e] => Model.C13.rangeFuel s e
  | [s, _, e] => Model.C13.rangeFuel s e
  | _ => 0

theorem rangeF_modelFuel (args : List Int) : RangeF (modelFuel args) args = Model.C13.Range args := by
  match args with
  | [] => rfl
  | [e] => rfl
  | [s, e] => rfl
  | [s, st, e] => rfl
  | a :: b :: c :: d :: rest => exact rangeF_many (a :: b :: c :: d :: rest) (Nat.le_add_left 4 rest.length) _

theorem range_tie_model (args : List Int) :
    Range (modelFuel args) args.toArray = rangeOut (Model.C13.Range args) := by
  rw [← rangeF_modelFuel]; exact range_tie _ args

theorem range_tie_0 : Range (Model.C13.rangeFuel 0 0) #[] = rangeOut (Model.C13.Range []) :=
  range_tie_model []

theorem range_tie_1 (e : Int) :
    Range (Model.C13.rangeFuel 0 e) #[e] = rangeOut (Model.C13.Range [e]) :=
  range_tie_model [e]

theorem range_tie_2 (s e : Int) :
    Range (Model.C13.rangeFuel s e) #[s, e] = rangeOut (Model.C13.Range [s, e]) :=
  range_tie_model [s, e]

theorem range_tie_3 (s st e : Int) :
    Range (Model.C13.rangeFuel s e) #[s, st, e] = rangeOut (Model.C13.Range [s, st, e]) :=
  range_tie_model [s, st, e]

/-- fuel independence: the regenerated `Range` run on ANY fuel at least the model's computes the model's outcome.
The hypothesis `h` holds for every argument list (`Theorems.C13.range_terminates`); it stays a hypothesis because this
module does not import `Theorems/C13`. -/
theorem range_tie_enough (args : List Int) (fuel : Nat) (hle : modelFuel args ≤ fuel)
    (h : Model.C13.Range args ≠ .hang) :
    Range fuel args.toArray = rangeOut (Model.C13.Range args) := by
  rw [range_tie, ← rangeF_modelFuel]
  rw [← rangeF_modelFuel] at h
  rw [rangeF_mono args _ _ h hle]

example : Range 100 #[2, 1, 5] = rangeOut (Model.C13.Range [2, 1, 5]) :=
  range_tie_enough [2, 1, 5] 100 (by decide) (by decide)

theorem rangeF_length (args : List Int) (fuel : Nat) (l : List Int)
    (h : RangeF fuel args = .ok l) : l.length + 1 ≤ fuel := by
  rcases rangeF_cases args with he | ⟨s, st, e, hl⟩
  · rw [he] at h; cases h
  · rw [hl] at h
    rcases rangeLoopsF_spec fuel s st e with hh | ⟨l', hlen, hm⟩
    · rw [hh] at h; cases h
    · rw [show rangeLoopsF fuel s st e = .ok l' from hm 0] at h
      cases h
      exact hlen

/-- the model's `RangeRight` over `RangeF fuel` -/
def RangeRightF (fuel : Nat) (params : List Int) : Spec.C13.Out (List Int) :=
  match RangeF fuel params with
  | .ok ran => .ok ran.reverse
  | o => o

theorem rangeRightF_modelFuel (params : List Int) :
    RangeRightF (modelFuel params) params = Model.C13.RangeRight params := by
  unfold RangeRightF Model.C13.RangeRight
  rw [rangeF_modelFuel]
  cases Model.C13.Range params <;> rfl

/-- what this part needs of the regenerated `Reverse` (`reverse_eq_reverse` of part A, at `Int`).  Part B does not
import part A: the `…_of` theorems below take the fact as a hypothesis (spelt out, so that each statement shows what it
assumes) and the umbrella `GenTieMore2` discharges it; the name serves the `example`s -/
def ReverseFact : Prop :=
  ∀ (sl : Array Int) (fuel : Nat), sl.size + 1 ≤ fuel → Reverse fuel sl = Out.ok (sl.reverse, sl.reverse)

/-- `RangeRight`, for ALL argument lists and ALL fuel, given the fact about `Reverse`: the regenerated
`RangeRight` run on `fuel` is the model's `RangeRight` whose `Range` loops run on that same `fuel`.  No
extra hypothesis on the fuel is needed for `Reverse`: a progression produced on `fuel` has fewer than
`fuel` elements (`rangeF_length`). -/
theorem rangeRight_tie_of
    (hrev : ∀ (sl : Array Int) (fuel : Nat), sl.size + 1 ≤ fuel →
      Reverse fuel sl = Out.ok (sl.reverse, sl.reverse))
    (fuel : Nat) (params : List Int) :
    RangeRight fuel params.toArray = rangeOut (RangeRightF fuel params) := by
  unfold RangeRight RangeRightF
  rw [range_tie]
  have hl := rangeF_length params fuel
  cases hr : RangeF fuel params with
  | ok l =>
    simp only [rangeOut_ok, bind_ok, Bool.false_eq_true, if_false, hrev l.toArray fuel (hl l hr), List.reverse_toArray]
  | err => rfl
  | panic => rfl
  | hang => rfl

example (hrev : ReverseFact) :
    RangeRight 10 #[1, 4] = rangeOut (RangeRightF 10 [1, 4]) := rangeRight_tie_of hrev 10 [1, 4]

theorem rangeRight_tie_model_of
    (hrev : ∀ (sl : Array Int) (fuel : Nat), sl.size + 1 ≤ fuel →
      Reverse fuel sl = Out.ok (sl.reverse, sl.reverse))
    (params : List Int) :
    RangeRight (modelFuel params) params.toArray = rangeOut (Model.C13.RangeRight params) := by
  rw [← rangeRightF_modelFuel]; exact rangeRight_tie_of hrev _ params

/-- fuel independence for `RangeRight`: any fuel at least the model's (`h` as in `range_tie_enough`: always true) -/
theorem rangeRight_tie_enough_of
    (hrev : ∀ (sl : Array Int) (fuel : Nat), sl.size + 1 ≤ fuel →
      Reverse fuel sl = Out.ok (sl.reverse, sl.reverse))
    (params : List Int) (fuel : Nat) (hle : modelFuel params ≤ fuel)
    (h : Model.C13.Range params ≠ .hang) :
    RangeRight fuel params.toArray = rangeOut (Model.C13.RangeRight params) := by
  rw [rangeRight_tie_of hrev, ← rangeRightF_modelFuel]
  unfold RangeRightF
  rw [← rangeF_modelFuel] at h
  rw [rangeF_mono params _ _ h hle]

example (hrev : ReverseFact) :
    RangeRight 100 #[2, 1, 5] = rangeOut (Model.C13.RangeRight [2, 1, 5]) :=
  rangeRight_tie_enough_of hrev [2, 1, 5] 100 (by decide) (by decide)

example : Range 10 #[1, 4] = .ok (#[1, 2, 3], false) := by rfl
example : rangeOut (Model.C13.Range [1, 4]) = .ok (#[1, 2, 3], false) := by rfl
example : Range 10 #[5, 0, 9] = .ok (#[], true) := by rfl
example : Range 3 #[1, 4] = .hang := by rfl

end GoguVerif.Theorems.GenTieMore2
