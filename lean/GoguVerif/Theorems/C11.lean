import GoguVerif.Lemmas.C11
import GoguVerif.Lemmas.C11Dup
/-!
# C11 — property theorems (set-algebra slice helpers)

For ALL inputs (any element type with decidable equality, any key function, slices and nestings of
any size) the model of each function returns what the specification `Spec/C11.lean` prescribes.
-/
namespace GoguVerif.Theorems.C11
open GoguVerif.Spec.C11 GoguVerif.Model.C11 GoguVerif.Lemmas.C11

variable {α : Type} [DecidableEq α]

/-! ## the specification's reference function is what the statement says -/

/-- `firstOccs s` is a subsequence of `s` without repetition that holds exactly the values of `s`. -/
theorem firstOccs_characterised (s : List α) :
    (firstOccs s).Sublist s ∧ (firstOccs s).Nodup ∧ ∀ x, x ∈ firstOccs s ↔ x ∈ s :=
  ⟨firstOccs_sublist s, firstOccs_nodup s, mem_firstOccs s⟩

/-- … and the occurrence it keeps is the first one: reading left to right, a value is kept exactly
when it has not occurred before. -/
theorem firstOccs_append (a b : List α) :
    firstOccs (a ++ b) = firstOccs a ++ (firstOccs b).filter (fun y => decide (y ∉ a)) := by
  induction a with
  | nil =>
    simp [firstOccs, Lemmas.Dedup.filter_const_true]
  | cons x r ih =>
    simp only [List.cons_append, firstOccs, ih, List.filter_append, List.filter_filter]
    congr 2
    apply List.filter_congr
    intro y _
    by_cases hy : y = x <;> simp [hy]

/-- `firstBy f s`: a subsequence of `s`, pairwise distinct images, every image of `s` represented. -/
theorem firstBy_characterised (f : α → α) (s : List α) :
    (firstBy f s).Sublist s ∧ (firstBy f s).Pairwise (fun a b => f a ≠ f b)
      ∧ ∀ y, y ∈ (firstBy f s).map f ↔ y ∈ s.map f :=
  firstBy_eq f s ▸
    ⟨Lemmas.Dedup.firstByG_sublist f s, Lemmas.Dedup.firstByG_pairwise f s, Lemmas.Dedup.mem_firstByG_image f s⟩

/-- `Unique` keeps the first occurrence of each distinct value, in order. -/
theorem unique_spec (s : List α) : unique s = uniqueRef s :=
  (Lemmas.Dedup.dedupLoop_all id uniqueLoop s (fun _ _ => rfl) (fun _ _ _ _ _ _ => rfl)).trans (firstOccs_eq s).symm

/-- `UniqueBy` keeps the first element of each distinct image under the key function. -/
theorem uniqueBy_spec (f : α → α) (s : List α) : uniqueBy s f = uniqueByRef f s :=
  (Lemmas.Dedup.dedupLoop_all f (uniqueByLoop f) s (fun _ _ => rfl) (fun _ _ _ _ _ _ => rfl)).trans (firstBy_eq f s).symm

/-- `Union` of an arbitrarily nested input is `Unique` of its left-to-right flattening, and an
error exactly when a malformed leaf occurs anywhere. -/
theorem union_spec (n : Nested α) : union n = unionRef n := by
  rw [union, unionRef, baseFlatten_eq]
  cases n.wellFormed
  · rfl
  · exact congrArg some (unique_spec _)

/-- malformed nesting yields an error, never a silent (empty) result -/
theorem union_error_iff (n : Nested α) : union n = none ↔ n.wellFormed = false := by
  rw [union_spec, unionRef]
  cases n.wellFormed <;> simp

theorem eq_of_union_eq_some {n : Nested α} {r : List α} (h : union n = some r) : r = firstOccs n.leaves := by
  rw [union_spec, unionRef] at h
  cases hw : n.wellFormed <;> rw [hw] at h
  · cases h
  · exact (Option.some.inj h).symm

/-- `Intersection`: the distinct values of the first argument, in its order, that occur in every
other argument (any number of other arguments, including none). -/
theorem intersection_spec (s : List α) (others : List (List α)) :
    intersection (s :: others) = .ok (interRef s others) := by
  rw [interRef, firstOccs_eq]
  -- the loop has no `keys`: `result` is the record of what was seen, and the scan reaches `n` exactly
  -- when every other argument contains the item
  exact congrArg Res.ok <|
    Lemmas.Dedup.dedupLoop_eq id (fun x => others.all fun p => decide (x ∈ p))
      (fun _ r => interLoop (others.length + 1) others r) s (fun _ _ => rfl)
      (fun k r v s hk _ => ite_ite_reorder (contains_iff_mem_keys hk v) (interScan_iff v others) _ _)

/-- with no argument at all the code indexes `params[0]`: a run-time panic (outside the property's
domain; the model predicts it and the correspondence run checks the prediction) -/
theorem intersection_no_argument : intersection ([] : List (List α)) = .panic := rfl

theorem difference_spec (s t : List α) : difference s t = diffRef s t :=
  diffLoop_eq t s

theorem without_spec (s values : List α) : without s values = diffRef s values :=
  diffLoop_eq values s

/-- what `DifferenceBy` returns exactly (it collapses equal elements) -/
theorem differenceBy_eq (f : α → α) (s t : List α) :
    differenceBy s t f = firstOccs (s.filter (diffByCond f t)) := by
  have hq : (fun v => !skipByEq f v t) = diffByCond f t :=
    funext fun v => by rw [skipByEq_eq, diffByCond, decide_not]
  rw [firstOccs_eq, ← hq]
  exact Lemmas.Dedup.dedupLoop_eq id _ (diffByLoop f t) s (fun _ _ => rfl)
    (fun k r v s _ _ => ite_bnot (skipByEq f v t) _ _)

/-- `DifferenceBy` keeps, in order, the elements of the first argument whose image does not occur
among the images of the second. -/
theorem differenceBy_spec (f : α → α) (s t : List α) :
    ByHolds (diffByCond f t) s (differenceBy s t f) := by
  rw [differenceBy_eq]; exact byHolds_firstOccs_filter _ _

/-- what `IntersectionBy` returns exactly -/
theorem intersectionBy_eq (f : α → α) (s : List α) (others : List (List α)) :
    intersectionBy f (s :: others) = .ok (firstOccs (s.filter (interByCond f others))) := by
  rw [firstOccs_eq]
  exact congrArg Res.ok <|
    Lemmas.Dedup.dedupLoop_eq id (interByCond f others)
      (fun _ r => interByLoop f (others.length + 1) others r) s (fun _ _ => rfl)
      (fun k r v s hk _ => ite_ite_reorder (contains_iff_mem_keys hk v) (interByScan_iff f v others) _ _)

/-- `IntersectionBy` keeps, in order, the elements of the first argument whose image occurs among
the images of every other argument. -/
theorem intersectionBy_spec (f : α → α) (s : List α) (others : List (List α)) :
    ∃ r, intersectionBy f (s :: others) = .ok r ∧ ByHolds (interByCond f others) s r :=
  ⟨_, intersectionBy_eq f s others, byHolds_firstOccs_filter _ _⟩

theorem intersectionBy_no_argument (f : α → α) :
    intersectionBy f ([] : List (List α)) = .panic := rfl

/-- `Duplicate` returns exactly the values occurring more than once, each once — whatever order Go
iterates the counting map in (`m'` is any permutation of the map built by the first loop). -/
theorem duplicate_spec (s : List α) (m' : List (α × Nat)) (hp : m'.Perm (dupCountLoop [] s)) :
    DupHolds s (dupCollect m') :=
  dupCollect_holds s m' ((dupCountLoop_inv [] [] s .nil).perm hp)

/-- the hypothesis of `duplicate_spec` is satisfiable by a non-trivial input and a non-identity order -/
example : DupHolds [1, 2, 1, 3, 2] (dupCollect [(2, 2), (3, 1), (1, 2)]) :=
  duplicate_spec [1, 2, 1, 3, 2] [(2, 2), (3, 1), (1, 2)] (by decide +kernel)

/-- in particular for the insertion order used by the executable model -/
theorem duplicate_spec_insertion_order (s : List α) : DupHolds s (duplicate s) :=
  duplicate_spec s _ (List.Perm.refl _)

/-- `DuplicateWithIndex` maps exactly the values occurring more than once to the index of their
first occurrence, whatever the iteration order of its map (and although the code shares one `count`
variable between all values). -/
theorem duplicateWithIndex_spec (s : List α) (m' : List (α × Nat × Nat))
    (hp : m'.Perm (dupIdxLoop 0 [] 0 s)) : DupIdxHolds s (dupIdxCollect m') :=
  dupIdxCollect_holds s m'
    ((dupIdxLoop_inv 0 [] [] s .nil fun h => absurd rfl h).perm hp)

example : DupIdxHolds [7, 8, 7, 9, 8, 7] (dupIdxCollect [(9, 3, 1), (8, 1, 2), (7, 0, 3)]) :=
  duplicateWithIndex_spec [7, 8, 7, 9, 8, 7] [(9, 3, 1), (8, 1, 2), (7, 0, 3)] (by decide +kernel)

theorem duplicateWithIndex_spec_insertion_order (s : List α) :
    DupIdxHolds s (duplicateWithIndex s) :=
  duplicateWithIndex_spec s _ (List.Perm.refl _)

/-! ## the general clauses of the statement -/

/-- the plain functions never repeat a value -/
theorem plain_results_nodup (s t : List α) (others : List (List α)) (n : Nested α) :
    (unique s).Nodup ∧ (difference s t).Nodup ∧ (without s t).Nodup
      ∧ (∀ r, intersection (s :: others) = .ok r → r.Nodup)
      ∧ (∀ r, union n = some r → r.Nodup) := by
  refine ⟨unique_spec s ▸ firstOccs_nodup s, difference_spec s t ▸ firstOccs_nodup _,
    without_spec s t ▸ firstOccs_nodup _, fun r h => ?_, fun r h => eq_of_union_eq_some h ▸ firstOccs_nodup _⟩
  cases (intersection_spec s others).symm.trans h
  exact firstOccs_nodup _

/-- no result contains a value absent from the first input -/
theorem results_within_first_input (f : α → α) (s t : List α) (others : List (List α)) (n : Nested α) (x : α) :
    (x ∈ unique s → x ∈ s) ∧ (x ∈ uniqueBy s f → x ∈ s)
      ∧ (x ∈ difference s t → x ∈ s) ∧ (x ∈ without s t → x ∈ s) ∧ (x ∈ differenceBy s t f → x ∈ s)
      ∧ (∀ r, intersection (s :: others) = .ok r → x ∈ r → x ∈ s)
      ∧ (∀ r, intersectionBy f (s :: others) = .ok r → x ∈ r → x ∈ s)
      ∧ (∀ r, union n = some r → x ∈ r → x ∈ n.leaves)
      ∧ (∀ m', m'.Perm (dupCountLoop [] s) → x ∈ dupCollect m' → x ∈ s)
      ∧ (∀ m' i, m'.Perm (dupIdxLoop 0 [] 0 s) → (x, i) ∈ dupIdxCollect m' → x ∈ s) := by
  refine ⟨fun h => (mem_firstOccs s x).mp (unique_spec s ▸ h : x ∈ uniqueRef s),
    fun h => (firstBy_characterised f s).1.subset (uniqueBy_spec f s ▸ h : x ∈ uniqueByRef f s),
    fun h => mem_of_mem_firstOccs_filter (difference_spec s t ▸ h : x ∈ diffRef s t),
    fun h => mem_of_mem_firstOccs_filter (without_spec s t ▸ h : x ∈ diffRef s t),
    fun h => mem_of_mem_firstOccs_filter (differenceBy_eq f s t ▸ h),
    fun r h hx => ?_, fun r h hx => ?_,
    fun r h hx => (mem_firstOccs _ x).mp (eq_of_union_eq_some h ▸ hx),
    fun m' hp hx => List.count_pos_iff.mp (Nat.lt_trans Nat.zero_lt_one (((duplicate_spec s m' hp).2 x).mp hx)),
    fun m' i hp hx => List.count_pos_iff.mp
      (Nat.lt_trans Nat.zero_lt_one (((duplicateWithIndex_spec s m' hp).2 x i).mp hx).1)⟩
  · cases (intersection_spec s others).symm.trans h
    exact mem_of_mem_firstOccs_filter hx
  · cases (intersectionBy_eq f s others).symm.trans h
    exact mem_of_mem_firstOccs_filter hx

/-! ## the monitors decide the specification -/

theorem dupCheck_iff (s r : List α) : dupCheck s r = true ↔ DupHolds s r := by
  simp only [dupCheck, DupHolds, Bool.and_eq_true, decide_eq_true_eq, List.all_eq_true]
  constructor
  · rintro ⟨⟨hn, h1⟩, h2⟩
    refine ⟨hn, fun x => ⟨h1 x, fun hx => h2 x (List.count_pos_iff.mp (by omega)) hx⟩⟩
  · rintro ⟨hn, h⟩
    exact ⟨⟨hn, fun x hx => (h x).mp hx⟩, fun x _ hc => (h x).mpr hc⟩

theorem dupIdxCheck_iff (s : List α) (r : List (α × Nat)) : dupIdxCheck s r = true ↔ DupIdxHolds s r := by
  simp only [dupIdxCheck, DupIdxHolds, Bool.and_eq_true, decide_eq_true_eq, List.all_eq_true]
  constructor
  · rintro ⟨⟨hn, h1⟩, h2⟩
    refine ⟨hn, fun k i => ⟨fun h => h1 (k, i) h, fun ⟨hc, hi⟩ => ?_⟩⟩
    have := h2 k (List.count_pos_iff.mp (by omega)) hc
    rwa [hi] at this
  · rintro ⟨hn, h⟩
    exact ⟨⟨hn, fun p hp => (h p.1 p.2).mp hp⟩, fun x _ hc => (h x _).mpr ⟨hc, rfl⟩⟩

theorem byCheck_iff (cond : α → Bool) (s r : List α) : byCheck cond s r = true ↔ ByHolds cond s r := by
  simp only [byCheck, ByHolds, Bool.and_eq_true, List.isSublist_iff_sublist, List.all_eq_true,
    Bool.or_eq_true, Bool.not_eq_true', decide_eq_true_eq]
  constructor
  · rintro ⟨⟨h1, h2⟩, h3⟩
    exact ⟨h1, h2, fun x hx hc => (h3 x hx).resolve_left fun h => Bool.false_ne_true (h.symm.trans hc)⟩
  · rintro ⟨h1, h2, h3⟩
    exact ⟨⟨h1, h2⟩, fun x hx => (Bool.eq_false_or_eq_true (cond x)).symm.imp_right (h3 x hx)⟩

/-- the `Union` monitor accepts exactly: an error on malformed nesting, and otherwise no error
together with `Unique` of the flattening -/
theorem unionCheck_iff (n : Nested α) (isErr : Bool) (r : List α) :
    unionCheck n isErr r = true ↔
      (n.wellFormed = false ∧ isErr = true) ∨
      (n.wellFormed = true ∧ isErr = false ∧ r = firstOccs n.leaves) := by
  simp only [unionCheck, unionRef]
  by_cases h : n.wellFormed = true <;> simp [h]

/-! ## concrete evaluations (the models compute; inputs with duplicates, empty and partial overlaps) -/

example : unique [2, 1, 2, 1, 3] = [2, 1, 3] := by decide +kernel
example : uniqueBy [1, 3, 2, 4, -1, -3] (fun x : Int => Int.tmod x 2) = [1, 2, -1] := by decide +kernel
example : intersection [[1, 2, 2, 3, 1], [2, 1], [1, 2, 3]] = .ok [1, 2] := by decide +kernel
example : intersectionBy (fun x : Int => Int.tdiv x 2) [[1, 2], [1, 2]] = .ok [1, 2] := by decide +kernel
example : difference [1, 2, 1, 3, 2] [2] = [1, 3] := by decide +kernel
example : differenceBy [2, 3, 2, 3, 4] [5] (fun x : Int => Int.tdiv x 2) = [2, 3] := by decide +kernel
example : union (.list [.slice [1, 2], .list [.leaf 2, .list [.leaf 3, .list [.leaf 1, .leaf 4]]], .slice []])
    = some [1, 2, 3, 4] := by decide +kernel
example : union (.list [.leaf 1, .list [.leaf (2 : Int), .bad]]) = none := by decide +kernel
example : duplicateWithIndex [1, 2, 2, 1] = [(1, 0), (2, 1)] := by decide +kernel

/-! ## negation witness: the code before commit 2634aef

`IntersectionBy` used to test `Contains(result, fn(item))`, comparing an element's *image* with the
already kept *values*.  That loop (transcribed below) leaves the specification: with `fn = x/2` it
drops `2` from `[1, 2]` although the image of `2` occurs among the images of `[1, 2]`. -/

def interByLoopBefore2634aef (fn : α → α) (n : Nat) (others : List (List α)) (result : List α) :
    List α → List α
  | [] => result
  | item :: rest =>
    if contains (fn item) result then interByLoopBefore2634aef fn n others result rest
    else if interByScan fn item others 1 = n then
      interByLoopBefore2634aef fn n others (result ++ [item]) rest
    else interByLoopBefore2634aef fn n others result rest

example : ¬ ByHolds (interByCond (fun x : Int => Int.tdiv x 2) [[1, 2]]) [1, 2]
    (interByLoopBefore2634aef (fun x : Int => Int.tdiv x 2) 2 [[1, 2]] [] [1, 2]) := by
  rw [← byCheck_iff]; decide +kernel

end GoguVerif.Theorems.C11
