import GoguVerif.Lemmas.C15Snake
/-!
# C15 — property theorems: the string helpers cut, pad, wrap and re-case without losing or inventing text

Every theorem is about the MODEL functions of `Model/C15.lean`, for all byte strings, integers and case
tables; the Pad theorems need a non-empty token, the case styles the stated domain and tables that are the
ASCII mapping on ASCII letters and digits.  The specification is `Spec/C15.lean`.
-/
namespace GoguVerif.Theorems.C15
open GoguVerif.Go.Utf8 GoguVerif.Model.C15 GoguVerif.Spec.C15 GoguVerif.Lemmas.C15

/-- `Substr`: for every string, offset and length the code's answer is the byte range selected by the
PHP-style rules of the specification (negative values count from the end, selections outside the
string are empty) — in particular `Substr` never panics: the final slice expression is always in
range. -/
theorem substr_eq_spec (s : Str) (offset length : Int) :
    substr s offset length = .ok (substrSpec s offset length) := by
  -- `take`/`drop` absorb the three clamps the specification spells out
  rw [substr_eq_window, substrSpec]
  congr 1
  dsimp only
  generalize (if offset < 0 then (s.length : Int) + offset else offset) = o
  by_cases ho : o < 0
  · rw [if_pos ho, if_pos (Or.inl ho)]
  · rw [if_neg ho]
    by_cases hn : o > s.length
    · rw [if_pos (Or.inr hn), drop_take_eq_nil s (by omega)]
    · rw [if_neg (show ¬(o < 0 ∨ o > s.length) by omega)]
      by_cases hl : length < 0
      · simp only [if_pos hl]
        split
        · rw [drop_take_eq_nil s (by omega)]
        · rfl
      · simp only [if_neg hl, take_clamp]
        rw [if_neg (by split <;> omega)]

theorem substr_never_panics (s : Str) (offset length : Int) : substr s offset length ≠ .panic := by
  rw [substr_eq_spec]; exact fun h => nomatch h

example : substr [0x61, 0x62, 0x63, 0x64] (-3) (-1) = .ok [0x62, 0x63] := by decide +kernel
example : substr [0x61, 0x62, 0x63, 0x64] 1 100 = .ok [0x62, 0x63, 0x64] := by decide +kernel
example : substr [0x61, 0x62] (-5) 1 = .ok [] := by decide +kernel

/-- `SplitAtIndex` returns, for every string and every index (negative, past the end, inside a
multi-byte rune), exactly two parts whose concatenation is the input; it never panics. -/
theorem splitAtIndex_spec (s : Str) (index : Int) :
    ∃ a b, splitAtIndex s index = .ok [a, b] ∧ a ++ b = s := by
  unfold splitAtIndex
  dsimp only
  split
  · exact ⟨[], s, rfl, rfl⟩
  · split
    · exact ⟨s, [], rfl, List.append_nil s⟩
    · rw [goSlice_zero (by omega) (by omega), goSlice_ok (by omega) (by omega) (Int.le_refl _),
        Int.toNat_natCast, List.take_length]
      exact ⟨_, _, rfl, List.take_append_drop _ _⟩

theorem splitAtIndex_monitor (s : Str) (index : Int) :
    ∃ parts, splitAtIndex s index = .ok parts ∧ splitOk s parts = true := by
  obtain ⟨a, b, h, hab⟩ := splitAtIndex_spec s index
  exact ⟨[a, b], h, by simp [splitOk, hab]⟩

-- index 1 falls inside the two-byte rune of "aö"
example : splitAtIndex [0x61, 0xC3, 0xB6] 1 = .ok [[0x61, 0xC3], [0xB6]] := by decide +kernel

/-! Pad, PadLeft, PadRight: with an empty token the requested length is unreachable and the property does not
apply; the code panics there (the `…_empty_token` facts). -/

/-- `PadLeft`, non-empty token: never panics; unchanged when `size ≤ len`; otherwise exactly `size`
bytes = (a prefix of token token …) ++ input. -/
theorem padLeft_spec (s : Str) (size : Int) (tok : Str) (htok : tok ≠ []) :
    ∃ r, padLeft s size tok = .ok r ∧ padLeftOk s size tok r = true := by
  unfold padLeft padLeftOk
  dsimp only
  by_cases hsz : size ≤ (s.length : Int)
  · simp only [if_pos hsz]; exact ⟨s, rfl, beq_self_eq_true s⟩
  · obtain ⟨d, hd⟩ := exists_natCast_eq_sub hsz
    simp only [if_neg hsz, List.isEmpty_eq_false_iff.mpr htok, hd, Int.toNat_natCast,
      padToken_fill tok htok d (k := d) (by omega)]
    refine ⟨_, rfl, ?_⟩
    simp only [List.length_append, fill_length tok htok, List.drop_left', List.take_left', isCyc_fill, beq_self_eq_true,
      Bool.and_self, Bool.false_eq_true, if_false]

/-- `PadRight`, non-empty token: input ++ (a prefix of token token …), exactly `size` bytes. -/
theorem padRight_spec (s : Str) (size : Int) (tok : Str) (htok : tok ≠ []) :
    ∃ r, padRight s size tok = .ok r ∧ padRightOk s size tok r = true := by
  unfold padRight padRightOk
  dsimp only
  by_cases hsz : size ≤ (s.length : Int)
  · simp only [if_pos hsz]; exact ⟨s, rfl, beq_self_eq_true s⟩
  · obtain ⟨d, hd⟩ := exists_natCast_eq_sub hsz
    simp only [if_neg hsz, List.isEmpty_eq_false_iff.mpr htok, hd, Int.toNat_natCast,
      padToken_fill tok htok d (k := d) (by omega)]
    refine ⟨_, rfl, ?_⟩
    simp only [List.length_append, fill_length tok htok, List.drop_left, List.take_left, isCyc_fill, beq_self_eq_true,
      Bool.and_self, Bool.false_eq_true, if_false, Nat.add_comm]

/-- `Pad`, non-empty token: exactly `size` bytes; the input sits after ⌊d/2⌋ filler bytes
(d = size − len), both fillers are prefixes of token token …. -/
theorem pad_spec (s : Str) (size : Int) (tok : Str) (htok : tok ≠ []) :
    ∃ r, pad s size tok = .ok r ∧ padOk s size tok r = true := by
  unfold pad padOk
  dsimp only
  by_cases hsz : size ≤ (s.length : Int)
  · simp only [if_pos hsz]; exact ⟨s, rfl, beq_self_eq_true s⟩
  · obtain ⟨d, hd⟩ := exists_natCast_eq_sub hsz
    have e1 : (d : Int) / 2 = (d / 2 : Nat) := (Int.natCast_ediv d 2).symm
    have e2 : ((d : Int) + 1) / 2 = ((d + 1) / 2 : Nat) := (Int.natCast_ediv (d + 1) 2).symm
    simp only [if_neg hsz, List.isEmpty_eq_false_iff.mpr htok, hd, Int.toNat_natCast, e1, e2,
      padToken_fill tok htok (d / 2) (Int.le_add_one (Int.le_refl _)),
      padToken_fill tok htok ((d + 1) / 2) (k := (d / 2 : Nat)) (by omega)]
    refine ⟨_, rfl, ?_⟩
    rw [padAt_mk s tok _ _ (isCyc_fill ..) (isCyc_fill ..) (fill_length tok htok _)
      (by rw [fill_length tok htok]; omega)]
    rfl

-- hypotheses satisfiable, token repeated and truncated: PadLeft("a", 6, "xy") = "xyxyxa"
example : padLeft [0x61] 6 [0x78, 0x79] = .ok [0x78, 0x79, 0x78, 0x79, 0x78, 0x61] := by decide +kernel
example : padRight [0x61] 3 [0x78, 0x79, 0x7A] = .ok [0x61, 0x78, 0x79] := by decide +kernel
example : pad [0x61] 6 [0x78, 0x79] = .ok [0x78, 0x79, 0x61, 0x78, 0x79, 0x78] := by decide +kernel
example : padOk [0x61] 6 [0x78, 0x79] [0x78, 0x79, 0x61, 0x78, 0x79, 0x78] = true := by decide +kernel
-- the checker is not vacuous: a wrong filler, a wrong length and a displaced input are rejected
example : padLeftOk [0x61] 4 [0x78, 0x79] [0x78, 0x78, 0x79, 0x61] = false := by decide +kernel
example : padLeftOk [0x61] 4 [0x78, 0x79] [0x78, 0x79, 0x61] = false := by decide +kernel
example : padOk [0x61] 5 [0x78] [0x78, 0x78, 0x78, 0x78, 0x61] = false := by decide +kernel

/-- what the code does with an empty token when padding is needed (modelled, outside the property) -/
theorem padLeft_empty_token (s : Str) (size : Int) (h : (s.length : Int) < size) :
    padLeft s size [] = .panic := by
  unfold padLeft
  dsimp only
  rw [if_neg (by omega), padToken_nil _ _ _ (by omega)]

theorem padRight_empty_token (s : Str) (size : Int) (h : (s.length : Int) < size) :
    padRight s size [] = .panic := by
  unfold padRight
  dsimp only
  rw [if_neg (by omega), padToken_nil _ _ _ (by omega)]

theorem pad_empty_token (s : Str) (size : Int) (h : (s.length : Int) < size) :
    pad s size [] = .panic := by
  unfold pad
  dsimp only
  rw [if_neg (by omega), padToken_nil _ _ ((size - s.length + 1) / 2) (by omega)]
  cases padToken [] _ _ _ <;> rfl

theorem wrap_eq_spec (s t : Str) : wrap s t = wrapSpec s t := rfl

/-- `Unwrap` computes the specification's function; it never panics. -/
theorem unwrap_eq_spec (s t : Str) : unwrap s t = .ok (unwrapSpec s t) := by
  unfold unwrap unwrapSpec
  simp only [isPrefixOf_iff_take, isSuffixOf_iff_drop]
  by_cases hc : 2 * t.length ≤ s.length ∧ s.take t.length = t ∧ s.drop (s.length - t.length) = t
  · rw [if_pos hc]
    by_cases ht : t.length > 0
    · have hle : t.length ≤ s.length - t.length := by have := hc.1; omega
      rw [if_pos ⟨ht, hc⟩, ← Int.ofNat_sub (Nat.le_trans hle (Nat.sub_le _ _)),
        goSlice_ok (Int.natCast_nonneg _) (Int.ofNat_le.mpr hle) (Int.ofNat_le.mpr (Nat.sub_le _ _)),
        Int.toNat_natCast, Int.toNat_natCast, List.drop_take, Nat.sub_sub, ← Nat.two_mul]
    · rw [if_neg (fun h => ht h.1)]
      obtain rfl := List.length_eq_zero_iff.mp (Nat.eq_zero_of_not_pos ht)
      rw [List.length_nil, Nat.mul_zero, Nat.sub_zero, List.drop_zero, List.take_length]
  · rw [if_neg (fun h => hc h.2), if_neg hc]

/-- The specification's function satisfies the two stated clauses (`Unwrap` undoes `Wrap`; a string
not wrapped by the token is left unchanged) … -/
theorem unwrapSpec_holds (s t : Str) : UnwrapHolds s t (unwrapSpec s t) := by
  unfold unwrapSpec
  constructor
  · intro x (hx : s = t ++ x ++ t)
    subst hx
    have hn : (t ++ x ++ t).length = t.length + x.length + t.length := by
      rw [List.length_append, List.length_append]
    rw [hn, if_pos ⟨by omega, by rw [List.append_assoc, List.take_left],
      List.drop_left' (by rw [List.length_append]; omega)⟩,
      show t.length + x.length + t.length - 2 * t.length = x.length by omega,
      List.append_assoc, List.drop_left, List.take_left]
  · intro hno
    rw [if_neg]
    rintro ⟨hlen, hp, hs⟩
    refine hno ⟨(s.drop t.length).take (s.length - 2 * t.length), ?_⟩
    have e : (s.drop t.length).drop (s.length - 2 * t.length) = t := by
      rw [List.drop_drop, show t.length + (s.length - 2 * t.length) = s.length - t.length by omega, hs]
    have := List.take_append_drop t.length s
    rw [← List.take_append_drop (s.length - 2 * t.length) (s.drop t.length), hp, e, ← List.append_assoc] at this
    exact this.symm

/-- … and it is the only answer that does (so the monitor `r == unwrapSpec s t` is exactly
`UnwrapHolds s t r`). -/
theorem unwrapHolds_unique (s t r : Str) (h : UnwrapHolds s t r) : r = unwrapSpec s t := by
  have hs := unwrapSpec_holds s t
  by_cases hw : ∃ x, Wrapped s t x
  · obtain ⟨x, hx⟩ := hw
    rw [h.1 x hx, hs.1 x hx]
  · rw [h.2 hw, hs.2 hw]

/-- `Unwrap(Wrap(s,t),t) = s` for every `s` and every `t` (including the empty token, tokens that
occur inside `s`, and `s` that itself starts or ends with `t`). -/
theorem unwrap_wrap (s t : Str) : unwrap (wrap s t) t = .ok s := by
  rw [unwrap_eq_spec]
  congr 1
  exact (unwrapSpec_holds (wrap s t) t).1 s rfl

/-- `Unwrap` leaves strings that are not wrapped by the token unchanged. -/
theorem unwrap_not_wrapped (s t : Str) (h : ¬ ∃ x, s = t ++ x ++ t) : unwrap s t = .ok s := by
  rw [unwrap_eq_spec]
  congr 1
  exact (unwrapSpec_holds s t).2 h

theorem unwrap_holds (s t : Str) : ∃ r, unwrap s t = .ok r ∧ UnwrapHolds s t r :=
  ⟨_, unwrap_eq_spec s t, unwrapSpec_holds s t⟩

-- "'a'b" is not wrapped by "'" (hypothesis of `unwrap_not_wrapped` satisfiable), "'" is not wrapped by "'"
example : ¬ ∃ x : Str, [0x27, 0x61, 0x27, 0x62] = [0x27] ++ x ++ [0x27] := by
  rintro ⟨x, hx⟩
  have := congrArg List.getLast? hx
  rw [List.getLast?_append] at this
  simp at this
example : unwrap [0x27, 0x61, 0x27, 0x62] [0x27] = .ok [0x27, 0x61, 0x27, 0x62] := by decide +kernel
example : unwrap [0x27] [0x27] = .ok [0x27] := by decide +kernel
example : unwrap [0x27, 0x61, 0x27] [0x27] = .ok [0x61] := by decide +kernel

/-- `WrapAllRune` wraps every rune (Go's notion: an invalid byte is the rune U+FFFD). -/
theorem wrapAllRune_eq_spec (s t : Str) : wrapAllRune s t = wrapAllSpec s t := by
  unfold wrapAllRune wrapAllSpec runes
  rw [List.flatMap_map, List.flatMap_eq_foldl]
  simp only [List.append_assoc]

example : wrapAllRune [0x61, 0xC3, 0xB6, 0xFF] [0x2D] =
    [0x2D, 0x61, 0x2D, 0x2D, 0xC3, 0xB6, 0x2D, 0x2D, 0xEF, 0xBF, 0xBD, 0x2D] := by decide +kernel

/-- `ReverseStr`: the two-index swap loop reverses the rune sequence and never indexes out of range. -/
theorem reverseStr_eq_spec (s : Str) : reverseStr s = .ok (reverseSpec s) := by
  unfold reverseStr reverseSpec
  dsimp only
  rw [revLoop_spec _ _ (by omega), map_ok]

example : reverseStr [0x61, 0xC3, 0xB6, 0xE2, 0x82, 0xAC] = .ok [0xE2, 0x82, 0xAC, 0xC3, 0xB6, 0x61] := by decide +kernel

theorem toLower_eq_spec (lo : Rune → Rune) (s : Str) : toLower lo s = lowerSpec lo s :=
  toLower_eq_map lo s

theorem toUpper_eq_spec (up : Rune → Rune) (s : Str) : toUpper up s = upperSpec up s :=
  (toUpper_eq_toLower up s).trans (toLower_eq_map up s)

/-- `Capitalize`: first rune through the upper-case table, every later rune through the lower-case
table (the byte index `i == 0` of the `range` loop identifies exactly the first rune). -/
theorem capitalize_eq_spec (lo up : Rune → Rune) (s : Str) : capitalize lo up s = capSpec lo up s :=
  capitalize_eq_capSpec lo up s

-- with the table entries a↦(a,A), ö↦(ö,Ö): Capitalize("öa") = "Öa", ToUpper("aö") = "AÖ"
example : capitalize (fun r => if r = 0xD6 then 0xF6 else r) (fun r => if r = 0xF6 then 0xD6 else if r = 0x61 then 0x41 else r)
    [0xC3, 0xB6, 0x61] = [0xC3, 0x96, 0x61] := by decide +kernel
example : toUpper (fun r => if r = 0xF6 then 0xD6 else if r = 0x61 then 0x41 else r) [0x61, 0xC3, 0xB6] =
    [0x41, 0xC3, 0x96] := by decide +kernel

/-! The domain is `Spec.C15.inDomain` (described there).  The case tables are arbitrary functions that agree with the
ASCII case mapping on ASCII letters and digits (`AsciiTable`). -/

/-- `CamelCase` on the domain, full clause: no separator, every letter and digit kept in order, and an
upper-case byte occurs only where a word of the input begins (`Spec.initials`). -/
theorem camelCase_domain (lo up : Rune → Rune) (ht : AsciiTable lo up) (s : Str) (h : inDomain s = true) :
    camelOk s (camelCase lo up s) = true := by
  obtain ⟨hw, hflat, hinit⟩ := domain_words s h
  obtain ⟨hword, hlet, hup⟩ := camelWords_spec _ hw true
  rw [camelCase_words ht s h, camelOk, List.all_eq_true.mpr hword, hlet, hflat, ← letters, ← hinit, hup,
    beq_self_eq_true]
  rfl

/-- `CamelCase` on the domain: the result contains no separator (only letters and digits) and keeps
every letter and digit of the input in order (up to case). -/
theorem camelCase_domain_partial (lo up : Rune → Rune) (ht : AsciiTable lo up) (s : Str)
    (h : inDomain s = true) :
    (camelCase lo up s).all isAlnum = true ∧ letters (camelCase lo up s) = letters s := by
  have := camelCase_domain lo up ht s h
  simp only [camelOk, Bool.and_eq_true, beq_iff_eq] at this
  exact this.1

/-- `SnakeCase` / `KebabCase` on the domain, full clause: neither panics; each result consists of
lower-case letters, digits and its own delimiter only, keeps every letter and digit of the input in
order (lower-cased), is a fixed point of its function (idempotence), and the Kebab result is the Snake
result with '_' replaced by '-'. -/
theorem snakeKebab_domain (lo up : Rune → Rune) (ht : AsciiTable lo up) (s : Str) (h : inDomain s = true) :
    ∃ r k, snakeCase lo s = .ok r ∧ kebabCase lo s = .ok k ∧
      delimOk 0x5F s r r = true ∧ snakeCase lo r = .ok r ∧
      delimOk 0x2D s k k = true ∧ kebabCase lo k = .ok k ∧ sameUpToDelim r k = true := by
  obtain ⟨ps, hps, hflat, hev⟩ := domain_pieces ht s h
  have ok : ∀ d, isSep d = true → delimOk d s (join [d] ps) (join [d] ps) = true := fun d hd => by
    obtain ⟨o1, o2⟩ := join_pieces_ok d hd ps hps
    rw [delimOk, o1, o2, hflat, beq_self_eq_true, beq_self_eq_true]
    rfl
  refine ⟨_, _, hev 0x5F, hev 0x2D, ok _ (by decide), join_pieces_fixed ht _ (by decide) ps hps,
    ok _ (by decide), join_pieces_fixed ht _ (by decide) ps hps, ?_⟩
  rw [sameUpToDelim, join_pieces_swap ps hps]
  exact beq_self_eq_true _

/-- Snake/Kebab without the idempotence clause. -/
theorem snakeCase_domain_partial (lo up : Rune → Rune) (ht : AsciiTable lo up) (s : Str)
    (h : inDomain s = true) :
    ∃ r k, snakeCase lo s = .ok r ∧ kebabCase lo s = .ok k ∧
      r.all (fun b => isDigit b || isLower b || b == 0x5F) = true ∧ r.filter isAlnum = letters s ∧
      k.all (fun b => isDigit b || isLower b || b == 0x2D) = true ∧ k.filter isAlnum = letters s ∧
      sameUpToDelim r k = true := by
  obtain ⟨r, k, hr, hk, h1, _, h2, _, h3⟩ := snakeKebab_domain lo up ht s h
  have cl : ∀ d r, delimOk d s r r = true →
      r.all (fun b => isDigit b || isLower b || b == d) = true ∧ r.filter isAlnum = letters s := fun d r h => by
    simp only [delimOk, Bool.and_eq_true, beq_iff_eq] at h
    exact h.1
  exact ⟨r, k, hr, hk, (cl _ _ h1).1, (cl _ _ h1).2, (cl _ _ h2).1, (cl _ _ h2).2, h3⟩

/-- The case-style clause of C15 on the stated domain, for every pair of case tables that are the
ASCII mapping on ASCII letters and digits. -/
theorem caseStyles_domain (lo up : Rune → Rune) (ht : AsciiTable lo up) (s : Str) (h : inDomain s = true) :
    camelOk s (camelCase lo up s) = true ∧
    ∃ r k, snakeCase lo s = .ok r ∧ kebabCase lo s = .ok k ∧
      delimOk 0x5F s r r = true ∧ snakeCase lo r = .ok r ∧
      delimOk 0x2D s k k = true ∧ kebabCase lo k = .ok k ∧ sameUpToDelim r k = true :=
  ⟨camelCase_domain lo up ht s h, snakeKebab_domain lo up ht s h⟩

/-- the ASCII case mapping as a table: the hypotheses above are satisfiable -/
def asciiLo (r : Nat) : Nat := if 0x41 ≤ r ∧ r ≤ 0x5A then r + 32 else r
def asciiUp (r : Nat) : Nat := if 0x61 ≤ r ∧ r ≤ 0x7A then r - 32 else r

theorem asciiTable_ascii : AsciiTable asciiLo asciiUp := by
  intro b _
  exact ⟨(lowerB_toNat b).symm, (upperB_toNat b).symm⟩

-- "fooBar-baz_2X &q": in the domain; the three styles on it
example : inDomain [0x66,0x6F,0x6F,0x42,0x61,0x72,0x2D,0x62,0x61,0x7A,0x5F,0x32,0x58,0x20,0x26,0x71] = true := by decide +kernel
example : camelCase asciiLo asciiUp [0x66,0x6F,0x6F,0x42,0x61,0x72,0x2D,0x62,0x61,0x7A] =
    [0x66,0x6F,0x6F,0x62,0x61,0x72,0x42,0x61,0x7A] := by decide +kernel
example : snakeCase asciiLo [0x66,0x6F,0x6F,0x42,0x61,0x72,0x2D,0x62,0x61,0x7A] =
    .ok [0x66,0x6F,0x6F,0x5F,0x62,0x61,0x72,0x5F,0x62,0x61,0x7A] := by decide +kernel
example : kebabCase asciiLo [0x66,0x6F,0x6F,0x42,0x61,0x72,0x2D,0x62,0x61,0x7A] =
    .ok [0x66,0x6F,0x6F,0x2D,0x62,0x61,0x72,0x2D,0x62,0x61,0x7A] := by decide +kernel
-- the checkers reject a lost letter, a foreign separator and a non-initial capital
example : delimOk 0x5F [0x61,0x2D,0x62] [0x61,0x5F] [0x61,0x5F] = false := by decide +kernel
example : delimOk 0x5F [0x61,0x2D,0x62] [0x61,0x2D,0x62] [0x61,0x2D,0x62] = false := by decide +kernel
example : camelOk [0x61,0x62,0x2D,0x63] [0x61,0x42,0x43] = false := by decide +kernel
example : camelOk [0x61,0x62,0x2D,0x63] [0x61,0x62,0x43] = true := by decide +kernel

-- idempotence and the initials clause on the example: Snake("fooBar-baz") = "foo_bar_baz" is a fixed point;
-- Camel("fooBar-baz") = "foobarBaz" has its only capital where the second word begins
example : snakeCase asciiLo [0x66,0x6F,0x6F,0x5F,0x62,0x61,0x72,0x5F,0x62,0x61,0x7A] =
    .ok [0x66,0x6F,0x6F,0x5F,0x62,0x61,0x72,0x5F,0x62,0x61,0x7A] := by decide +kernel
example : camelOk [0x66,0x6F,0x6F,0x42,0x61,0x72,0x2D,0x62,0x61,0x7A]
    (camelCase asciiLo asciiUp [0x66,0x6F,0x6F,0x42,0x61,0x72,0x2D,0x62,0x61,0x7A]) = true := by decide +kernel
-- the idempotence check is not vacuous: a text with a trailing delimiter would be rejected
example : delimOk 0x5F [0x61] [0x61] [0x61, 0x5F] = false := by decide +kernel

end GoguVerif.Theorems.C15
