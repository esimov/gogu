import GoguVerif.Theorems.GenTie
/-!
# The regenerated tie, continued: Duplicate, Zip, Unzip, FindByKey, FindMinByKey, FindMaxByKey, ToSlice

Same statement forms as `Theorems/GenTie.lean`: the definition the translator regenerates from the Go
source equals the hand-written model, for all arguments, with no hypothesis.

* `Duplicate`: the Go `map[T]int` `keyCount` is an association list in both the regenerated definition
  (`mapHas`/`mapGet`/`mapSet`, counts in `Int`) and the model (`hasKey`/`incrKey`, counts in `Nat`).  The
  proofs carry the representation invariant "the regenerated association list is the model's list with
  the counts cast to `Int`" (`castKC`).  Go ranges over `keyCount` in an unspecified order; the translator ranges in
  insertion order, which is the one order `Model.C11.duplicate` takes: `duplicate_tie` is the tie for that order.
* `Zip` / `Unzip`: the regenerated definition panics (`Except.error Exc.panic`) exactly where the model
  yields `Outcome.panic` (the explicit `panic(...)` calls on non-square input and every index
  expression).  They are tied loop by loop, iteration by iteration, for an arbitrary current `result` — so no
  invariant on the shape of `result` is needed.  The Go loops run over indices; the translator prints the inner ones as
  recursions over the list `slices`, which shows in `Unzip` only (see there).
* `FindByKey`, `FindMinByKey` / `FindMaxByKey` (C13): the Go maps are read through `Model.C13.mapGet` (`mapHas_c13`,
  `mapGet_c13`: a second bridge for the prelude's map primitives, beside the one to `Model.C14.get?` in
  `Theorems/GenTiePrim.lean`); the Go `error` result is `Exc.err` (`ofErrPair`).  `GenTieC14` ties the same printed
  `FindByKey` to `Model.C14.FindByKey`.
* `ToSlice` has no model: `toSlice_tie` says what the regenerated definition returns.
-/
namespace GoguVerif.Theorems.GenTieMore
open GoguVerif.Theorems.GenTie
open GoguVerif.Gen.Funcs (Res Exc mapHas mapSet mapGet)

/-- the model's `keyCount` (counts in `Nat`) as the regenerated code's `keyCount` (counts in `Int`) -/
def castKC (m : List (Int × Nat)) : List (Int × Int) := m.map (fun e => (e.1, (e.2 : Int)))

theorem castKC_cons (e : Int × Nat) (m : List (Int × Nat)) :
    castKC (e :: m) = (e.1, (e.2 : Int)) :: castKC m := rfl

/-- `if _, ok := keyCount[v]; !ok { keyCount[v] = 1 } else { keyCount[v]++ }` on the cast map is the model's round:
both walk the list to the entry of `v` or to its end -/
theorem count_round (m : List (Int × Nat)) (v : Int) :
    (if (!mapHas (castKC m) v) = true then mapSet (castKC m) v (1 : Int)
      else mapSet (castKC m) v (mapGet (castKC m) v (0 : Int) + (1 : Int)))
      = castKC (if Model.C11.hasKey v m then Model.C11.incrKey v m else m ++ [(v, 1)]) := by
  induction m with
  | nil => rfl
  | cons e r ih =>
    obtain ⟨k', c⟩ := e
    simp only [castKC_cons, mapHas, mapSet, mapGet, Model.C11.hasKey, Model.C11.incrKey]
    by_cases he : k' = v
    · simp only [he, if_true, Bool.not_true, Bool.false_eq_true, if_false, castKC_cons, Int.natCast_add, Int.natCast_one]
    · simp only [he, if_false, List.cons_append]
      rw [← apply_ite (List.cons (k', (c : Int))), ih, ← apply_ite (List.cons (k', c)), castKC_cons]

theorem duplicate_loop1 (s0 s : List Int) (i : Int) (m : List (Int × Nat)) :
    Gen.Funcs.Duplicate.loop1 s0 s i (castKC m) = castKC (Model.C11.dupCountLoop m s) := by
  induction s generalizing i m with
  | nil => rfl
  | cons v r ih =>
    rw [Gen.Funcs.Duplicate.loop1, Model.C11.dupCountLoop, ← apply_ite (Model.C11.dupCountLoop · r)]
    exact (congrArg (Gen.Funcs.Duplicate.loop1 s0 r (i + 1)) (count_round m v)).trans (ih _ _)

theorem duplicate_loop2 (s0 : List Int) (m : List (Int × Nat)) (res : List Int) :
    Gen.Funcs.Duplicate.loop2 s0 (castKC m) res = res ++ Model.C11.dupCollect m := by
  induction m generalizing res with
  | nil => exact (List.append_nil res).symm
  | cons e r ih =>
    obtain ⟨k, c⟩ := e
    have hc : ((c : Int) > 1) ↔ (c > 1) := by omega
    simp only [castKC_cons, Gen.Funcs.Duplicate.loop2, Model.C11.dupCollect, hc]
    by_cases h : c > 1
    · simp only [h, decide_true, if_true, ih, List.append_assoc, List.singleton_append]
    · simp only [h, decide_false, Bool.false_eq_true, if_false, ih]

theorem duplicate_tie (s : List Int) : Gen.Funcs.Duplicate s = Model.C11.duplicate s := by
  have h1 : Gen.Funcs.Duplicate.loop1 s s 0 [] = _ := duplicate_loop1 s s 0 []
  simp only [Gen.Funcs.Duplicate, Model.C11.duplicate, h1, duplicate_loop2, List.nil_append]

theorem int_default : (default : Int) = 0 := rfl

theorem zip_loop1 (slices : List (List Int)) (sl : Nat) (rest : List (List Int)) (idx : Nat) (result : List (List Int)) :
    Gen.Funcs.Zip.loop1 slices (sl : Int) rest (idx : Int) result
      = ofC12 (Model.C12.rowsLoop sl rest idx result) := by
  induction rest generalizing idx result with
  | nil => rfl
  | cons x r ih =>
    simp only [Gen.Funcs.Zip.loop1, Model.C12.rowsLoop, goSet_nat, int_default, ne_eq, Int.natCast_inj,
      decide_not, Bool.not_eq_true', decide_eq_false_iff_not, ite_not]
    by_cases h1 : sl = x.length
    · rw [if_pos h1, if_pos h1]
      by_cases h2 : idx < result.length
      · rw [if_pos h2, if_pos h2]; exact ih (idx + 1) _
      · rw [if_neg h2, if_neg h2]; rfl
    · rw [if_neg h1, if_neg h1]; rfl

theorem zip_loop3 (slices : List (List Int)) (x : Nat) (rest : List (List Int)) (i : Nat) (result : List (List Int)) :
    Gen.Funcs.Zip.loop3 slices (x : Int) rest (i : Int) result
      = ofC12 (Model.C12.cellLoop false slices x rest.length i result) := by
  induction rest generalizing i result with
  | nil => rfl
  | cons y r ih =>
    simp only [Gen.Funcs.Zip.loop3, Model.C12.cellLoop, Model.C12.get2, Model.C12.set2, goIdx_nat, goSet_nat,
      List.length_cons, Bool.false_eq_true, if_false]
    cases slices[x]? with
    | none => rfl
    | some row =>
      simp only []
      cases row[i]? with
      | none => rfl
      | some v =>
        simp only []
        cases h3 : result[i]? with
        | none => rfl
        | some rrow =>
          simp only []
          by_cases h4 : x < rrow.length
          · have h5 : i < result.length := (List.getElem?_eq_some_iff.mp h3).1
            simp only [h4, h5, if_true]
            exact ih (i + 1) _
          · simp only [h4, if_false]; rfl

theorem zip_loop2 (slices : List (List Int)) (n x : Nat) (result : List (List Int)) :
    Gen.Funcs.Zip.loop2 slices n (x : Int) result = ofC12 (Model.C12.colLoop false slices n x result) := by
  induction n generalizing x result with
  | zero => rfl
  | succ n ih =>
    rw [Gen.Funcs.Zip.loop2, Model.C12.colLoop, show Gen.Funcs.Zip.loop3 slices x slices 0 result = _ from
      zip_loop3 slices x slices 0 result]
    cases Model.C12.cellLoop false slices x slices.length 0 result with
    | panic => rfl
    | ok result' => exact ih (x + 1) result'

/-- what follows `var sliceLen int; if len(slices) > 0 { sliceLen = len(slices[0]) }` (`n` = `sliceLen`) -/
theorem zipWith_body (tr : Bool) (slices : List (List Int))
    (l1 : Int → List (List Int) → Int → List (List Int) → Res (List (List Int)))
    (l2 : Nat → Int → List (List Int) → Res (List (List Int)))
    (h1 : ∀ (sl : Nat) rest (idx : Nat) result,
      l1 (sl : Int) rest (idx : Int) result = ofC12 (Model.C12.rowsLoop sl rest idx result))
    (h2 : ∀ n (x : Nat) result, l2 n (x : Int) result = ofC12 (Model.C12.colLoop tr slices n x result))
    (n : Nat) (hn : Model.C12.firstLen slices = n) :
    (if decide ((n : Int) ≠ (slices.length : Int)) then (Except.error Exc.panic : Res (List (List Int)))
      else (match l1 (n : Int) slices 0 (List.replicate slices.length []) with
        | Except.error e_ => Except.error e_
        | Except.ok result =>
          (match l2 ((n : Int) - (0 : Int)).toNat (0 : Int) result with
          | Except.error e_ => Except.error e_
          | Except.ok result => Except.ok result)))
      = ofC12 (Model.C12.zipWith tr slices) := by
  subst hn
  unfold Model.C12.zipWith
  refine ite_tie TiedC12 (by simp only [decide_eq_true_eq, ne_eq, Int.natCast_inj]) (fun _ => rfl) fun _ => ?_
  rw [show l1 (Model.C12.firstLen slices : Int) slices 0 _ = _ from h1 _ slices 0 _, Int.sub_zero, Int.toNat_natCast]
  cases Model.C12.rowsLoop (Model.C12.firstLen slices) slices 0 (List.replicate slices.length []) with
  | panic => rfl
  | ok result =>
    simp only [ofC12]
    rw [show l2 _ (0 : Int) result = _ from h2 _ 0 result]
    cases Model.C12.colLoop tr slices (Model.C12.firstLen slices) 0 result <;> rfl

theorem zip_tie (slices : List (List Int)) : Gen.Funcs.Zip slices = ofC12 (Model.C12.zip slices) := by
  cases slices with
  | nil => exact zipWith_body false [] _ _ (zip_loop1 []) (zip_loop2 []) 0 rfl
  | cons s0 r => exact zipWith_body false (s0 :: r) _ _ (zip_loop1 _) (zip_loop2 _) s0.length rfl

/-! `Unzip`: the translator turns `for i := 0; i < len(slices); i++` into a recursion over the list `slices` and the
expression `slices[i]` into the current element of that list (`slices_i`); the model indexes `slices` with
`i` (`get2 slices i x`).  The loop lemma therefore carries "the rest of the range is `slices.drop i`", which
gives `slices[i]? = some slices_i` at every iteration. -/

theorem drop_cons_step {α : Type} (l : List α) (i : Nat) (y : α) (r : List α) (h : l.drop i = y :: r) :
    l[i]? = some y ∧ l.drop (i + 1) = r :=
  ⟨List.head?_drop.symm.trans (congrArg List.head? h), List.tail_drop.symm.trans (congrArg List.tail h)⟩

theorem unzip_loop1_gen_zip : Gen.Funcs.Unzip.loop1 = Gen.Funcs.Zip.loop1 := by
  set_option smartUnfolding false in rfl

theorem unzip_loop3 (slices : List (List Int)) (x : Nat) (rest : List (List Int)) (i : Nat) (result : List (List Int))
    (hrest : slices.drop i = rest) :
    Gen.Funcs.Unzip.loop3 slices (x : Int) rest (i : Int) result
      = ofC12 (Model.C12.cellLoop true slices x rest.length i result) := by
  induction rest generalizing i result with
  | nil => rfl
  | cons y r ih =>
    obtain ⟨h1, hr⟩ := drop_cons_step slices i y r hrest
    simp only [Gen.Funcs.Unzip.loop3, Model.C12.cellLoop, Model.C12.get2, Model.C12.set2, goIdx_nat, goSet_nat,
      List.length_cons, if_true, h1]
    cases y[x]? with
    | none => rfl
    | some v =>
      simp only []
      cases h3 : result[x]? with
      | none => rfl
      | some rrow =>
        simp only []
        by_cases h4 : i < rrow.length
        · have h5 : x < result.length := (List.getElem?_eq_some_iff.mp h3).1
          simp only [h4, h5, if_true]
          exact ih (i + 1) _ hr
        · simp only [h4, if_false]; rfl

theorem unzip_loop2 (slices : List (List Int)) (n x : Nat) (result : List (List Int)) :
    Gen.Funcs.Unzip.loop2 slices n (x : Int) result = ofC12 (Model.C12.colLoop true slices n x result) := by
  induction n generalizing x result with
  | zero => rfl
  | succ n ih =>
    rw [Gen.Funcs.Unzip.loop2, Model.C12.colLoop, show Gen.Funcs.Unzip.loop3 slices x slices 0 result = _ from
      unzip_loop3 slices x slices 0 result rfl]
    cases Model.C12.cellLoop true slices x slices.length 0 result with
    | panic => rfl
    | ok result' => exact ih (x + 1) result'

theorem unzip_tie (slices : List (List Int)) : Gen.Funcs.Unzip slices = ofC12 (Model.C12.unzip slices) := by
  have h1 := unzip_loop1_gen_zip ▸ zip_loop1 slices
  cases slices with
  | nil => exact zipWith_body true [] _ _ h1 (unzip_loop2 []) 0 rfl
  | cons s0 r => exact zipWith_body true (s0 :: r) _ _ h1 (unzip_loop2 _) s0.length rfl

/-! find.go: the by-key extrema over slices of maps (C13) -/

theorem mapHas_c13 (m : List (Int × Int)) (k : Int) :
    Gen.Funcs.mapHas m k = (Model.C13.mapGet k m).isSome := by
  induction m with
  | nil => rfl
  | cons e r ih =>
    obtain ⟨a, b⟩ := e
    simp only [Gen.Funcs.mapHas, Model.C13.mapGet]
    by_cases h : a = k <;> simp [h, ih]

theorem mapGet_c13 (m : List (Int × Int)) (k : Int) :
    Gen.Funcs.mapGet m k 0 = (Model.C13.mapGet k m).getD 0 := by
  induction m with
  | nil => rfl
  | cons e r ih =>
    obtain ⟨a, b⟩ := e
    simp only [Gen.Funcs.mapGet, Model.C13.mapGet]
    by_cases h : a = k <;> simp [h, ih]

theorem findByKey_loop (m0 : List (Int × Int)) (fn : Int → Bool) (m : List (Int × Int)) :
    (match Gen.Funcs.FindByKey.loop1 m0 fn m [] with | Sum.inl s => s | Sum.inr s => s) = Model.C13.FindByKey fn m := by
  induction m with
  | nil => rfl
  | cons e r ih =>
    obtain ⟨k, v⟩ := e
    simp only [Gen.Funcs.FindByKey.loop1, Model.C13.FindByKey]
    by_cases h : fn k = true
    · simp [h, Gen.Funcs.mapSet]
    · simp only [h, Bool.false_eq_true, if_false]; exact ih

theorem findByKey_c13 (m : List (Int × Int)) (fn : Int → Bool) :
    Gen.Funcs.FindByKey m fn = Model.C13.FindByKey fn m := by
  simp only [Gen.Funcs.FindByKey]
  exact findByKey_loop m fn m

theorem decide_eq_beq (key : Int) : (fun k : Int => decide (k = key)) = (fun k => k == key) := rfl

/-- `mapped := FindByKey(m, k == key); if _, ok := mapped[key]; ok { if !found || better(mapped[key], b) { b = mapped[key] };
found = true }`: the state after it, read off the model's lookup -/
theorem byKey_state (better : Int → Int → Bool) (key : Int) (m : List (Int × Int)) (found : Bool) (b : Int) :
    (if mapHas (Gen.Funcs.FindByKey m (fun k => decide (k = key))) key = true then
        (true, if (!found || better (mapGet (Gen.Funcs.FindByKey m (fun k => decide (k = key))) key 0) b) = true
          then mapGet (Gen.Funcs.FindByKey m (fun k => decide (k = key))) key 0 else b)
      else (found, b))
      = match Model.C13.mapGet key (Model.C13.FindByKey (fun k => k == key) m) with
        | some v => (true, if (!found || better v b) = true then v else b)
        | none => (found, b) := by
  rw [findByKey_c13, mapHas_c13, mapGet_c13, decide_eq_beq]
  cases Model.C13.mapGet key (Model.C13.FindByKey (fun k => k == key) m) <;> rfl

theorem findMinByKey_loop (s0 : List (List (Int × Int))) (key : Int) (s : List (List (Int × Int))) (i : Int)
    (found : Bool) (mn : Int) :
    Gen.Funcs.FindMinByKey.loop1 s0 key s i (found, mn) = Model.C13.minByKeyLoop key s found mn := by
  induction s generalizing i found mn with
  | nil => rfl
  | cons m r ih =>
    simp only [Gen.Funcs.FindMinByKey.loop1, Model.C13.minByKeyLoop, byKey_state (fun a b => decide (a < b))]
    cases Model.C13.mapGet key (Model.C13.FindByKey (fun k => k == key) m) with
    | none => exact ih _ _ _
    | some v => exact (ih _ _ _).trans (apply_ite _ _ _ _)

theorem findMaxByKey_loop (s0 : List (List (Int × Int))) (key : Int) (s : List (List (Int × Int))) (i : Int)
    (found : Bool) (mx : Int) :
    Gen.Funcs.FindMaxByKey.loop1 s0 key s i (found, mx) = Model.C13.maxByKeyLoop key s found mx := by
  induction s generalizing i found mx with
  | nil => rfl
  | cons m r ih =>
    simp only [Gen.Funcs.FindMaxByKey.loop1, Model.C13.maxByKeyLoop, byKey_state (fun a b => decide (a > b))]
    cases Model.C13.mapGet key (Model.C13.FindByKey (fun k => k == key) m) with
    | none => exact ih _ _ _
    | some v => exact (ih _ _ _).trans (apply_ite _ _ _ _)

/-- the model answers `(isErr, value)`; the regenerated function answers `Exc.err` or the value -/
def ofErrPair : Bool × Int → Res Int
  | (true, _) => Except.error Exc.err
  | (false, v) => Except.ok v

theorem findMinByKey_tie (s : List (List (Int × Int))) (key : Int) :
    Gen.Funcs.FindMinByKey s key = ofErrPair (Model.C13.FindMinByKey s key) := by
  cases s with
  | nil => rfl
  | cons m0 r =>
    simp only [Gen.Funcs.FindMinByKey, Model.C13.FindMinByKey, findMinByKey_loop]
    cases Model.C13.minByKeyLoop key (m0 :: r) false 0 with
    | mk f v => cases f <;> rfl

theorem findMaxByKey_tie (s : List (List (Int × Int))) (key : Int) :
    Gen.Funcs.FindMaxByKey s key = ofErrPair (Model.C13.FindMaxByKey s key) := by
  cases s with
  | nil => rfl
  | cons m0 r =>
    simp only [Gen.Funcs.FindMaxByKey, Model.C13.FindMaxByKey, findMaxByKey_loop]
    cases Model.C13.maxByKeyLoop key (m0 :: r) false 0 with
    | mk f v => cases f <;> rfl

/-- slice.go, `ToSlice(args...)`: `make([]T, 0, len(args))` then `append(slice, args...)` = the arguments -/
theorem toSlice_tie (args : List Int) : Gen.Funcs.ToSlice args = args := by
  simp [Gen.Funcs.ToSlice]

example : Gen.Funcs.Duplicate [3, 1, 3, 2, 1, 3] = [3, 1] := by rfl
example : Gen.Funcs.Zip [[1, 2], [3, 4]] = .ok [[1, 3], [2, 4]] := by rfl
example : Gen.Funcs.Unzip [[1, 2], [3, 4]] = .ok [[1, 3], [2, 4]] := by rfl
example : Gen.Funcs.Zip [[1, 2, 3], [4, 5, 6]] = .error .panic := by rfl
example : Gen.Funcs.Unzip [[1, 2], [3]] = .error .panic := by rfl
example : Gen.Funcs.Zip [] = .ok [] := by rfl
example : Gen.Funcs.FindMinByKey [[(1, 5), (2, 9)], [(2, 3)], [(1, 4)]] 2 = Except.ok 3 := by rfl
example : Gen.Funcs.FindMinByKey [[(1, 5)], [(2, 3)]] 2 = Except.ok 3 := by rfl   -- the first map lacks the key
example : Gen.Funcs.FindMinByKey [[(1, 5)], [(3, 3)]] 2 = Except.error Exc.err := by rfl

end GoguVerif.Theorems.GenTieMore
