import GoguVerif.Lemmas.C10
/-!
# C10 — property theorems: the B-tree is an ordered map and stays balanced

All statements are about the model `Model.BTree` (tied to `btree/btree.go` by the correspondence run)
and hold for every history of calls with `Int` keys and values (the model fixes the generic
`constraints.Ordered` key type to `Int`) — no bound on sizes or lengths.

* `Inv` (`Lemmas/C10.lean`): every node has fewer than `maxChildren` entries; internal nodes
  (the root included) have at least 2 children; every non-root node has at least `maxChildren/2`
  entries; from the second child on each separator is the smallest key below it; keys ascend
  strictly left to right; all leaves are at depth `height` (by the type index); `n` is the number of
  live entries.
* The only facts used about the constant regenerated from the source are "`maxChildren` is even" and
  "`maxChildren/2 ≥ 2`" (`Lemmas.C10.maxChildren_even`, `half_ge_two`, by `decide`): the theorems are
  re-checked for whatever even value ≥ 4 the source has; for an odd value they fail, rightly — `split`
  would drop the last entry.
* abstraction: `tflat t` — the sorted association list with tombstones; `Abs t s` relates it to the
  specification state (`s.m` = live entries, `s.ever` = a permutation of all keys held).
-/
namespace GoguVerif.Theorems.C10
open GoguVerif.Model.BTree GoguVerif.Spec GoguVerif.Lemmas.C10
open GoguVerif.Spec.C10 (Op Out St Admits RunAdmits HeightOk)

theorem new_inv : Inv Tree.new :=
  ⟨Nat.lt_trans (Nat.lt_of_lt_of_le Nat.zero_lt_two half_ge_two) half_lt, List.Pairwise.nil, rfl⟩

theorem put_preserves_inv (t : Tree) (hi : Inv t) (k v : Int) : ∃ t', t.put k v = .ok t' ∧ Inv t' := by
  obtain ⟨t', h1, h2, _⟩ := put_spec t hi k v
  exact ⟨t', h1, h2⟩

theorem remove_preserves_inv (t : Tree) (hi : Inv t) (k : Int) : ∃ t', t.remove k = .ok t' ∧ Inv t' := by
  obtain ⟨t', h1, h2, _⟩ := remove_spec t hi k
  exact ⟨t', h1, h2⟩

structure Abs (t : Tree) (s : St) : Prop where
  m : s.m = live (tflat t)
  ever : s.ever.Perm (keys (tflat t))

theorem new_abs : Abs Tree.new {} := ⟨rfl, List.Perm.refl _⟩

theorem Abs.ever_length {t : Tree} {s : St} (ha : Abs t s) : s.ever.length = (tflat t).length :=
  ha.ever.length_eq.trans (List.length_map ..)

theorem height_ok (t : Tree) (s : St) (hi : Inv t) (ha : Abs t s) : HeightOk s (t.height : Int) := by
  refine ⟨by omega, ?_⟩
  have := height_le t hi
  simpa [ha.ever_length] using this

/-- One step: the model does not panic, its answer is one the specification admits, and invariant
and abstraction relation carry over to the successor states. -/
theorem step_refines (t : Tree) (s : St) (hi : Inv t) (ha : Abs t s) (op : Op) :
    ∃ t' o, Model.BTree.step t op = .ok (t', o) ∧ Admits s op o ∧ Inv t' ∧ Abs t' (C10.step s op).1 := by
  cases op with
  | put k v =>
    obtain ⟨t', h1, h2, h3⟩ := put_spec t hi k v
    refine ⟨t', .unit, by simp only [Model.BTree.step, h1], rfl, h2, ⟨?_, ?_⟩⟩
    · show OrdMap.insert C10.ltb k v s.m = live (tflat t')
      rw [h3, ha.m, live_insFlat_put k v _ hi.sorted]
    · show (if s.ever.contains k then s.ever else k :: s.ever).Perm (keys (tflat t'))
      rw [h3]
      by_cases hk : k ∈ keys (tflat t)
      · rw [if_pos (List.contains_iff_mem.2 (ha.ever.mem_iff.mpr hk)), keys_insFlat_old k v false _ hi.sorted hk]
        exact ha.ever
      · rw [if_neg fun h => hk (ha.ever.mem_iff.mp (List.contains_iff_mem.1 h))]
        exact (ha.ever.cons k).trans (keys_insFlat_new k v false _ hk).symm
  | remove k =>
    obtain ⟨t', h1, h2, h3, h4⟩ := remove_spec t hi k
    exact ⟨t', .unit, by simp only [Model.BTree.step, h1], rfl, h2,
      ⟨(congrArg (OrdMap.erase C10.ltb k) ha.m).trans h3.symm, h4.symm ▸ ha.ever⟩⟩
  | get k =>
    refine ⟨t, .got (t.get k), rfl, ?_, hi, ha⟩
    show Out.got (t.get k) = Out.got (OrdMap.lookup C10.ltb k s.m)
    rw [get_eq_lookup t hi, ha.m]
  | size =>
    refine ⟨t, .int t.n, rfl, ?_, hi, ha⟩
    show Out.int t.n = Out.int s.m.length
    rw [hi.count, ha.m]
  | isEmpty =>
    refine ⟨t, .bool (decide (t.n = 0)), rfl, ?_, hi, ha⟩
    show Out.bool (decide (t.n = 0)) = Out.bool s.m.isEmpty
    rw [hi.count, ha.m]
    cases live (tflat t) with
    | nil => rfl
    | cons x r => exact congrArg Out.bool (decide_eq_false (by rw [List.length_cons]; omega))
  | traverse =>
    refine ⟨t, .items (traverse t.height t.root), rfl, ?_, hi, ha⟩
    show Out.items (traverse t.height t.root) = Out.items s.m
    rw [traverse_spec, ha.m]
  | height =>
    exact ⟨t, .int t.height, rfl, ⟨(t.height : Int), rfl, height_ok t s hi ha⟩, hi, ha⟩

/-- Whole histories from any related pair of states. -/
theorem run_refines_from (ops : List Op) :
    ∀ (t : Tree) (s : St), Inv t → Abs t s →
      ∃ t' outs, Model.BTree.run t ops = .ok (t', outs) ∧ RunAdmits s ops outs ∧ Inv t' ∧ Abs t' (C10.exec s ops) := by
  induction ops with
  | nil => intro t s hi ha; exact ⟨t, [], rfl, trivial, hi, ha⟩
  | cons op ops ih =>
    intro t s hi ha
    obtain ⟨t1, o, h1, h2, h3, h4⟩ := step_refines t s hi ha op
    obtain ⟨t2, os, g1, g2, g3, g4⟩ := ih t1 _ h3 h4
    exact ⟨t2, o :: os, by simp [Model.BTree.run, h1, g1], ⟨h2, g2⟩, g3, g4⟩

/-- Main theorem.  For every history of `Put/Remove/Get/Size/IsEmpty/Traverse/Height` calls on a
new B-tree: the model never panics, and every answer is the one the ordered-map specification gives
(`Height`: a value within `2^height ≤ max 1 N`, N the number of distinct keys ever inserted). -/
theorem btree_refines (ops : List Op) :
    ∃ t outs, Model.BTree.run Tree.new ops = .ok (t, outs) ∧ RunAdmits {} ops outs ∧ Inv t ∧ Abs t (C10.exec {} ops) :=
  run_refines_from ops Tree.new {} new_inv new_abs

/-- No history panics (no out-of-range `children[i]`, no nil `next`). -/
theorem btree_never_panics (ops : List Op) : Model.BTree.run Tree.new ops ≠ .panic := by
  obtain ⟨t, outs, h, _⟩ := btree_refines ops
  rw [h]; intro hc; cases hc

/-- `Get` after `Put`: the value just put for that key, every other key unaffected. -/
theorem get_put (t : Tree) (hi : Inv t) (k' v k : Int) :
    ∃ t', t.put k' v = .ok t' ∧ t'.get k = if k = k' then some v else t.get k := by
  obtain ⟨t', h1, h2, h3⟩ := put_spec t hi k' v
  refine ⟨t', h1, ?_⟩
  rw [get_eq_lookup t' h2, get_eq_lookup t hi, h3, live_insFlat_put k' v _ hi.sorted]
  exact Lemmas.C04.lookup_insert sto_ltb k' k v _

/-- `Get` after `Remove`: the removed key is absent, every other key unaffected. -/
theorem get_remove (t : Tree) (hi : Inv t) (k' k : Int) :
    ∃ t', t.remove k' = .ok t' ∧ t'.get k = if k = k' then none else t.get k := by
  obtain ⟨t', h1, h2, h3, -⟩ := remove_spec t hi k'
  refine ⟨t', h1, ?_⟩
  rw [get_eq_lookup t' h2, get_eq_lookup t hi, h3]
  exact Lemmas.C04.lookup_erase sto_ltb k' k (sorted_live hi.sorted)

/-- The value a history leaves under key `k`: the last `Put k v` not followed by a `Remove k`. -/
def lastPut (k : Int) : Option Int → List Op → Option Int
  | acc, [] => acc
  | acc, .put k' v :: ops => lastPut k (if k = k' then some v else acc) ops
  | acc, .remove k' :: ops => lastPut k (if k = k' then none else acc) ops
  | acc, _ :: ops => lastPut k acc ops

theorem step_sorted (s : St) (op : Op) (hs : OrdMap.Sorted C10.ltb s.m) :
    OrdMap.Sorted C10.ltb (C10.step s op).1.m := by
  cases op with
  | put k v => exact Lemmas.C04.sorted_insert sto_ltb k v hs
  | remove k => exact Lemmas.C04.sorted_erase k hs
  | _ => exact hs

theorem exec_lookup (k : Int) (ops : List Op) : ∀ s : St, OrdMap.Sorted C10.ltb s.m →
    OrdMap.lookup C10.ltb k (C10.exec s ops).m = lastPut k (OrdMap.lookup C10.ltb k s.m) ops := by
  induction ops with
  | nil => intro s _; rfl
  | cons op ops ih =>
    intro s hs
    show OrdMap.lookup C10.ltb k (C10.exec (C10.step s op).1 ops).m = _
    rw [ih _ (step_sorted s op hs)]
    cases op with
    | put k' v => exact congrArg (lastPut k · ops) (Lemmas.C04.lookup_insert sto_ltb k' k v s.m)
    | remove k' => exact congrArg (lastPut k · ops) (Lemmas.C04.lookup_erase sto_ltb k' k hs)
    | _ => rfl

/-- Get clause.  After any history on a new tree, `Get k` returns the last value put for `k` and
not since removed, and reports absence for every other key. -/
theorem get_after_history (k : Int) (ops : List Op) :
    ∃ t outs, Model.BTree.run Tree.new ops = .ok (t, outs) ∧ t.get k = lastPut k none ops := by
  obtain ⟨t, outs, h1, _, h3, h4⟩ := btree_refines ops
  exact ⟨t, outs, h1, by rw [get_eq_lookup t h3, ← h4.m]; exact exec_lookup k ops {} trivial⟩

/-- Traverse clause, order.  `Traverse` visits keys in strictly ascending order (so each once). -/
theorem traverse_ascending (t : Tree) (hi : Inv t) :
    (traverse t.height t.root).Pairwise (fun a b => a.1 < b.1) :=
  traverse_spec t.height t.root ▸ pairwise_live hi.sorted

/-- Traverse clause, content.  `Traverse` visits exactly the present keys with their current values. -/
theorem mem_traverse_iff (t : Tree) (hi : Inv t) (k v : Int) :
    (k, v) ∈ traverse t.height t.root ↔ t.get k = some v := by
  rw [traverse_spec, get_spec t hi]
  exact mem_live_iff k v _ hi.sorted

/-- Size clause.  `Size` is the number of keys `Traverse` visits (`IsEmpty` compares it with 0: `step_refines`). -/
theorem size_eq_traverse_length (t : Tree) (hi : Inv t) : t.n = (traverse t.height t.root).length := by
  rw [traverse_spec]; exact hi.count

theorem step_ever (s : St) (op : Op) (k : Int) :
    k ∈ (C10.step s op).1.ever ↔ k ∈ s.ever ∨ ∃ v, op = .put k v := by
  cases op with
  | put k' v =>
    show k ∈ (if s.ever.contains k' then s.ever else k' :: s.ever) ↔ _
    have e : (∃ v', Op.put k' v = Op.put k v') ↔ k = k' :=
      ⟨fun ⟨_, h⟩ => by cases h; rfl, fun h => ⟨v, by rw [h]⟩⟩
    rw [e, or_comm]
    exact List.mem_insert_iff
  | _ => exact ⟨.inl, fun h => h.elim id fun ⟨_, h⟩ => nomatch h⟩

theorem step_ever_nodup (s : St) (op : Op) (h : s.ever.Nodup) : (C10.step s op).1.ever.Nodup := by
  cases op with
  | put k' v =>
    show (if s.ever.contains k' then s.ever else k' :: s.ever).Nodup
    split
    · exact h
    · rename_i hc
      exact List.nodup_cons.mpr ⟨fun hm => hc (List.contains_iff_mem.2 hm), h⟩
  | _ => exact h

theorem exec_ever (ops : List Op) : ∀ (s : St) (k : Int),
    k ∈ (C10.exec s ops).ever ↔ k ∈ s.ever ∨ ∃ v, Op.put k v ∈ ops := by
  induction ops with
  | nil => intro s k; exact ⟨.inl, fun h => h.elim id fun ⟨_, h⟩ => nomatch h⟩
  | cons op ops ih =>
    intro s k
    show k ∈ (C10.exec (C10.step s op).1 ops).ever ↔ _
    rw [ih, step_ever, or_assoc]
    simp only [List.mem_cons, exists_or, eq_comm (a := op)]

theorem exec_ever_nodup (ops : List Op) : ∀ (s : St), s.ever.Nodup → (C10.exec s ops).ever.Nodup := by
  induction ops with
  | nil => intro s h; exact h
  | cons op ops ih => intro s h; exact ih _ (step_ever_nodup s op h)

/-- `N`: after a history on a new tree, `ever` lists exactly the keys that were put, each once. -/
theorem ever_is_distinct_keys_put (ops : List Op) :
    (C10.exec {} ops).ever.Nodup ∧ ∀ k, k ∈ (C10.exec {} ops).ever ↔ ∃ v, Op.put k v ∈ ops := by
  refine ⟨exec_ever_nodup ops {} List.nodup_nil, fun k => ?_⟩
  rw [exec_ever]; simp

/-- Height clause.  `2^height ≤ max 1 N` — i.e. `height ≤ log₂ (max 1 N)` — where `N` is the number
of distinct keys ever inserted, after every history, whatever the insertion order.  (`(C10.exec {} ops).ever`
is the specification's duplicate-free list of the keys put so far.) -/
theorem height_bound (ops : List Op) :
    ∃ t outs, Model.BTree.run Tree.new ops = .ok (t, outs) ∧
      2 ^ t.height ≤ max 1 (C10.exec {} ops).ever.length := by
  obtain ⟨t, outs, h1, _, h3, h4⟩ := btree_refines ops
  exact ⟨t, outs, h1, (height_ok t _ h3 h4).2⟩

/-- Sharper form (DESIGN §7): a tree that has grown a level holds at least `2^(height+1)` distinct keys. -/
theorem height_bound_strong (ops : List Op) :
    ∃ t outs, Model.BTree.run Tree.new ops = .ok (t, outs) ∧
      (0 < t.height → 2 ^ (t.height + 1) ≤ (C10.exec {} ops).ever.length) := by
  obtain ⟨t, outs, h1, _, h3, h4⟩ := btree_refines ops
  refine ⟨t, outs, h1, fun hpos => ?_⟩
  rw [h4.ever_length]; exact height_strong t h3 hpos

/-- a concrete non-trivial history: 9 ascending puts (two levels of splits for `maxChildren = 4`), a tombstone, an overwrite -/
def sampleOps : List Op :=
  (List.range 9).map (fun i => Op.put (Int.ofNat i) (10 + Int.ofNat i)) ++ [.remove 3, .put 4 0]

/-- what can be observed of the tree a history leaves: size, `Get 3`, `Get 4`, `Traverse`
(the height is left out so that the examples do not depend on the value of `maxChildren`) -/
structure Obs where
  size : Int
  get3 : Option Int
  get4 : Option Int
  items : List (Int × Int)
deriving DecidableEq

def observe (ops : List Op) : Option Obs :=
  match Model.BTree.run Tree.new ops with
  | .ok (t, _) => some ⟨t.n, t.get 3, t.get 4, traverse t.height t.root⟩
  | .panic => none

example : observe sampleOps =
    some ⟨8, none, some 0, [(0, 10), (1, 11), (2, 12), (4, 0), (5, 15), (6, 16), (7, 17), (8, 18)]⟩ := by decide +kernel

/-- the hypotheses `Inv t`, `Abs t s` of `step_refines` hold for that tree (and every reachable one) -/
example : ∃ t outs, Model.BTree.run Tree.new sampleOps = .ok (t, outs) ∧ Inv t ∧ Abs t (C10.exec {} sampleOps) := by
  obtain ⟨t, outs, h1, _, h3, h4⟩ := btree_refines sampleOps
  exact ⟨t, outs, h1, h3, h4⟩

/-- the witness of F20 (corpus/C10/f20-tombstones.trace), evaluated on the model:
re-`Put` does not count twice, `Get` of a removed key reports absence, a second `Remove` does not decrement. -/
example :
    (match Model.BTree.run Tree.new
        [.put 2 10, .put 2 11, .size, .remove 2, .get 2, .size, .remove 2, .size, .isEmpty, .traverse,
         .put 2 12, .size, .get 2] with
      | .ok (_, outs) => some outs
      | .panic => none)
    = some [.unit, .unit, .int 1, .unit, .got none, .int 0, .unit, .int 0, .bool true, .items [],
            .unit, .int 1, .got (some 12)] := by decide +kernel

/-- the hypothesis `0 < t.height` of `height_bound_strong` is met: 33 ascending puts grow at least one
level (for every `maxChildren ≤ 32`), and for the current constant the height is within the bound. -/
example :
    (match Model.BTree.run Tree.new ((List.range 33).map (fun i => Op.put (Int.ofNat i) 0)) with
      | .ok (t, _) => decide (0 < t.height ∧ 2 ^ (t.height + 1) ≤ 33)
      | .panic => false) = true := by decide +kernel

/-- The proofs use two facts about the regenerated constant only (`Lemmas.C10.maxChildren_even`,
`Lemmas.C10.half_ge_two`); they hold for the current source: -/
example : GoguVerif.Gen.maxChildren = 2 * (GoguVerif.Gen.maxChildren / 2) ∧ 2 ≤ GoguVerif.Gen.maxChildren / 2 :=
  ⟨maxChildren_even, half_ge_two⟩

example : lastPut 3 none sampleOps = none ∧ lastPut 4 none sampleOps = some 0 ∧ lastPut 8 none sampleOps = some 18 := by decide

/-! ## bulk operations of long runs: the closed forms are the single steps

`fillasc a n` / `removeasc a n` stand for `n` `Put`s / `Remove`s of ascending keys; the monitor applies
`Spec.C10.fillAsc` / `dropAsc` in one go when `fillPre` / `dropPre` hold. -/
section Bulk
open GoguVerif.Spec.C10 (ltb exec fillOps dropOps fillPre dropPre fillAsc dropAsc ascKeys)

theorem insert_above (k v : Int) (m : List (Int × Int)) (h : ∀ e ∈ m, e.1 < k) :
    OrdMap.insert ltb k v m = m ++ [(k, v)] := by
  have := Lemmas.C04.insert_append_right sto_ltb (fun e he => decide_eq_true (h e he)) v []
  rwa [List.append_nil] at this

theorem fillAsc_exec : ∀ (n : Nat) (s : St) (a : Int), fillPre s a = true →
    exec s (fillOps a n) = fillAsc s a n
  | 0, s, a, _ => by simp [fillOps, ascKeys, exec, fillAsc]
  | n + 1, s, a, h => by
    simp only [fillPre, Bool.and_eq_true, List.all_eq_true, decide_eq_true_eq] at h
    obtain ⟨h1, h2⟩ := h
    have ha := Int.lt_succ a
    have hstep : (C10.step s (.put a a)).1 = { m := s.m ++ [(a, a)], ever := a :: s.ever } := by
      show St.mk _ (if s.ever.contains a then _ else _) = _
      rw [insert_above a a s.m h2,
        if_neg fun hc => Int.lt_irrefl a (h1 a (List.contains_iff_mem.1 hc))]
    have hpre : fillPre { m := s.m ++ [(a, a)], ever := a :: s.ever } (a + 1) = true := by
      simp only [fillPre, Bool.and_eq_true, List.all_eq_true, decide_eq_true_eq, List.mem_cons,
        List.mem_append, List.not_mem_nil, or_false]
      exact ⟨fun k hk => hk.elim (· ▸ ha) fun hk => Int.lt_trans (h1 k hk) ha,
        fun e he => he.elim (fun he => Int.lt_trans (h2 e he) ha) (· ▸ ha)⟩
    show exec (C10.step s (.put a a)).1 (fillOps (a + 1) n) = _
    rw [hstep, fillAsc_exec n _ (a + 1) hpre]
    simp [fillAsc, ascKeys, List.append_assoc]

theorem dropAsc_exec : ∀ (n : Nat) (s : St) (a : Int), dropPre s a n = true →
    exec s (dropOps a n) = dropAsc s n
  | 0, s, a, _ => by simp [dropOps, ascKeys, exec, dropAsc]
  | n + 1, s, a, h => by
    simp only [dropPre, beq_iff_eq] at h
    cases hm : s.m with
    | nil => simp [hm, ascKeys] at h
    | cons e r =>
      simp only [hm, List.take_succ_cons, List.map_cons, ascKeys, List.cons.injEq] at h
      obtain ⟨he, hr⟩ := h
      have hstep : (C10.step s (.remove a)).1 = { s with m := r } := by
        obtain ⟨k, v⟩ := e
        simp only at he; subst he
        simp only [C10.step, hm, OrdMap.erase, Lemmas.C04.ite_refl sto_ltb]
      simp only [dropOps, ascKeys, List.map_cons, exec]
      rw [hstep]
      have ih := dropAsc_exec n { s with m := r } (a + 1) (by simp [dropPre, hr])
      simp only [dropOps] at ih
      rw [ih]
      simp [dropAsc, hm]

end Bulk

end GoguVerif.Theorems.C10
