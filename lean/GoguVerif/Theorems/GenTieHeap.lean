import GoguVerif.Gen.Heap
import GoguVerif.Lemmas.C03.Build
import GoguVerif.Lemmas.TieRules
/-!
# The regenerated tie for `heap/heap.go` (C03)

`Gen/Heap.lean` is produced on every run by the translator (`translator/frag_heap.go`) from `heap/heap.go`:
Go `int` as `Int`, the slice field `data` as an `Array` threaded through (a function hands back the fields and
slices it writes), every index / slice operation failing exactly when Go panics, loops and recursion whose
termination is not structural running on FUEL (`Out.hang` when it runs out).

The theorems below state that the regenerated definition computes exactly the outcome (value, `panic` or
`hang`) of the hand-written definition of `Model/Heap.lean`, for all comparators, slices and indices:
for ALL fuel where the model runs on fuel too (`moveUp_tie`, `moveDown_tie`, `fromSlice_inner_tie`); for EVERY
sufficient fuel otherwise, the model's outcome not depending on it (`Lemmas/C03`: `moveUpF_enough`,
`moveDownF_enough`, `fsInner_mono`): `pushAll_tie`, `pop_tie_fuel`, `delete_tie`, `convert_tie`, `getIndex_tie` (a
`return` inside a loop, regenerated as `Option ρ × S`); `FromSlice` whenever the model does not hang, in
particular for every strict weak order (`fromSlice_tie_partial`, `fromSlice_tie_swo`).  `Merge`, `Meld` are
outside the fragment, and `heapsort.go` is not translated.  The model's indices are `Nat`; the regenerated ones are
`Int`: the ties are stated at `((i : Nat) : Int)` and, separately, what a negative index does, which the model cannot
even express: `swap` panics (`swap_neg`), the loop of `Convert` makes no iteration (`convert_loop_neg`).

An `example` directly after a theorem instantiates the theorem's hypotheses on a literal (they can be met) or evaluates
the model on that literal.
-/
namespace GoguVerif.Theorems.GenTieHeap
open GoguVerif.Gen.Heap
open GoguVerif.Model.Heap (Outcome Comp)

variable {α : Type}

/-- the model's outcome as an outcome of the regenerated code -/
def toOut {β : Type} : Outcome β → Out β
  | .ok b => .ok b
  | .panic => .panic
  | .hang => .hang

/-- an `Option` of the model (`none` = Go panics) as an outcome -/
def optOut {β : Type} : Option β → Out β
  | some b => .ok b
  | none => .panic

def Outcome.map {β γ : Type} (f : β → γ) : Outcome β → Outcome γ
  | .ok b => .ok (f b)
  | .panic => .panic
  | .hang => .hang

/-- The two forms most ties have, as relations between the two sides (for `ite_rel`).  A helper whose tie has
another form (an `Option` of the model for `pick`, the data alone out of a loop's state or of a heap) gives its
relation at the call. -/
abbrev Tied {β : Type} (x : Out β) (y : Outcome β) : Prop := x = toOut y
abbrev TiedBy {β γ : Type} (f : β → γ) (x : Out γ) (y : Outcome β) : Prop := x = toOut (Outcome.map f y)

@[simp] theorem bind_ok {β γ : Type} (b : β) (f : β → Out γ) : Out.bind (Out.ok b) f = f b := rfl
@[simp] theorem bind_panic {β γ : Type} (f : β → Out γ) : Out.bind (Out.panic : Out β) f = Out.panic := rfl
@[simp] theorem bind_hang {β γ : Type} (f : β → Out γ) : Out.bind (Out.hang : Out β) f = Out.hang := rfl
@[simp] theorem bind_optOut_some {β γ : Type} (b : β) (f : β → Out γ) : Out.bind (optOut (some b)) f = f b := rfl
@[simp] theorem bind_optOut_none {β γ : Type} (f : β → Out γ) : Out.bind (optOut (none : Option β)) f = Out.panic := rfl
@[simp] theorem toOut_ok {β : Type} (b : β) : toOut (Outcome.ok b) = Out.ok b := rfl
@[simp] theorem toOut_panic {β : Type} : toOut (Outcome.panic : Outcome β) = Out.panic := rfl
@[simp] theorem toOut_hang {β : Type} : toOut (Outcome.hang : Outcome β) = Out.hang := rfl

theorem bind_toOut_ok {β : Type} (x : Outcome β) : Out.bind (toOut x) (fun b => Out.ok b) = toOut x := by
  cases x <;> rfl

theorem hIdx_nat (s : Array α) (i : Nat) : hIdx s (i : Int) = optOut s[i]? := by
  unfold hIdx
  rw [if_neg (Int.not_lt.mpr (Int.natCast_nonneg i)), Int.toNat_natCast]
  cases s[i]? <;> rfl

theorem hIdx_neg (s : Array α) (i : Int) (h : i < 0) : hIdx s i = .panic := by
  unfold hIdx; rw [if_pos h]

theorem hIdx_ne_hang (s : Array α) (i : Int) : hIdx s i ≠ .hang := by
  unfold hIdx
  split
  · nofun
  · cases s[i.toNat]? <;> nofun

theorem hSet_nat (s : Array α) (i : Nat) (v : α) : hSet s (i : Int) v = optOut (Model.Heap.set? s i v) := by
  unfold hSet Model.Heap.set?
  rw [if_neg (Int.not_lt.mpr (Int.natCast_nonneg i)), Int.toNat_natCast]
  split <;> rfl

theorem hSlice_nat (s : Array α) (lo hi : Nat) :
    hSlice s (lo : Int) (hi : Int) = if lo ≤ hi ∧ hi ≤ s.size then .ok (s.extract lo hi) else .panic := by
  unfold hSlice
  simp only [Int.natCast_nonneg, true_and, Int.ofNat_le, Int.toNat_natCast]

theorem natCast_pred {n : Nat} (h : n ≠ 0) : (n : Int) - 1 = ((n - 1 : Nat) : Int) :=
  (Int.natCast_sub (Nat.pos_of_ne_zero h)).symm

/-- the literal `(0 : Int)` of the generated text is not syntactically a cast: `rw [hIdx_nat]` does not see it -/
theorem hIdx_zero (s : Array α) : hIdx s 0 = optOut s[0]? := hIdx_nat s 0
theorem hSet_zero (s : Array α) (v : α) : hSet s 0 v = optOut (Model.Heap.set? s 0 v) := hSet_nat s 0 v

theorem swap_tie [Inhabited α] [DecidableEq α] (d : Array α) (i j : Nat) :
    swap d (i : Int) (j : Int) = optOut (Model.Heap.swap d i j) := by
  unfold Gen.Heap.swap Model.Heap.swap
  rw [hIdx_nat, hIdx_nat]
  by_cases hj : j < d.size
  · by_cases hi : i < d.size
    · rw [Array.getElem?_eq_getElem hj, Array.getElem?_eq_getElem hi, dif_pos ⟨hi, hj⟩]
      simp only [bind_optOut_some, hSet_nat, Model.Heap.set?, hi, hj, dite_true, Array.size_set]
      rfl
    · rw [Array.getElem?_eq_getElem hj, Array.getElem?_eq_none (Nat.le_of_not_lt hi),
        dif_neg fun h => hi h.1]
      rfl
  · rw [Array.getElem?_eq_none (Nat.le_of_not_lt hj), dif_neg fun h => hj h.2]
    rfl

theorem swap_neg [Inhabited α] [DecidableEq α] (d : Array α) (i j : Int) (h : i < 0 ∨ j < 0) :
    swap d i j = .panic := by
  unfold Gen.Heap.swap
  rcases h with h | h
  · rw [hIdx_neg _ _ h]
    cases hx : hIdx d j with
    | ok => rfl
    | panic => rfl
    | hang => exact absurd hx (hIdx_ne_hang d j)
  · rw [hIdx_neg _ _ h]; rfl

theorem parent_tie [Inhabited α] [DecidableEq α] (c : Comp α) (d : Array α) (i : Nat) :
    Heap_parent c d (i : Int) = ((Model.Heap.parent i : Nat) : Int) :=
  Lemmas.C03.parent_int i

theorem left_int (i : Nat) : (2 : Int) * (i : Int) + 1 = ((2 * i + 1 : Nat) : Int) := by omega
theorem right_int (i : Nat) : (2 : Int) * (i : Int) + 2 = ((2 * i + 2 : Nat) : Int) := by omega

theorem leftChild_tie [Inhabited α] [DecidableEq α] (c : Comp α) (d : Array α) (i : Nat) :
    Heap_leftChild c d (i : Int) = ((2 * i + 1 : Nat) : Int) := left_int i

theorem rightChild_tie [Inhabited α] [DecidableEq α] (c : Comp α) (d : Array α) (i : Nat) :
    Heap_rightChild c d (i : Int) = ((2 * i + 2 : Nat) : Int) := right_int i

theorem moveUp_tie [Inhabited α] [DecidableEq α] (c : Comp α) (fuel : Nat) (d : Array α) (i : Nat) :
    Heap_moveUp fuel c d (i : Int) = toOut (Model.Heap.moveUpF c fuel d i) := by
  induction fuel generalizing d i with
  | zero => rfl
  | succ fuel ih =>
    unfold Heap_moveUp Heap_moveUp_loop1 Model.Heap.moveUpF
    rw [parent_tie, hIdx_nat, hIdx_nat, swap_tie]
    cases d[i]? with
    | none => cases d[Model.Heap.parent i]? <;> rfl
    | some x =>
      cases d[Model.Heap.parent i]? with
      | none => rfl
      | some p =>
        simp only [bind_optOut_some]
        refine ite_rel_not (R := fun (x : Out (Array α × Int)) y => Out.bind x (fun r => Out.ok r.1) = toOut y)
          (eq_true_iff_not_not _) (fun _ => ?_) fun _ => rfl
        cases Model.Heap.swap d i (Model.Heap.parent i) with
        | none => rfl
        | some d' => simp only [bind_optOut_some, parent_tie]; exact ih d' (Model.Heap.parent i)

/-- one `if c < n && comp(data[c], data[cur]) { cur = c }` of `moveDown`, as regenerated, is the model's `pick` -/
theorem pick_bridge (c : Comp α) (n : Nat) (d : Array α) (cur ch : Nat) :
    ((if ((ch : Nat) : Int) < (n : Int) then
        Out.bind (hIdx d ((ch : Nat) : Int)) fun t1_ =>
          Out.bind (hIdx d ((cur : Nat) : Int)) fun t2_ =>
            if c t1_ t2_ = true then Out.ok ((ch : Nat) : Int) else Out.ok ((cur : Nat) : Int)
      else Out.ok ((cur : Nat) : Int)) : Out Int)
    = optOut ((Model.Heap.pick c n d cur ch).map (fun k : Nat => (k : Int))) := by
  unfold Model.Heap.pick
  refine ite_rel (R := fun x y => x = optOut (Option.map _ y)) Int.ofNat_lt (fun _ => ?_) fun _ => rfl
  rw [hIdx_nat, hIdx_nat]
  cases d[ch]? with
  | none => rfl
  | some x =>
    cases d[cur]? with
    | none => rfl
    | some y =>
      exact ite_rel (R := fun x y => x = optOut (Option.map _ (some y))) Iff.rfl (fun _ => rfl) fun _ => rfl

theorem moveDown_tie [Inhabited α] [DecidableEq α] (c : Comp α) (fuel : Nat) (d : Array α) (n i : Nat) :
    Heap_moveDown fuel c d (n : Int) (i : Int) = toOut (Model.Heap.moveDownF c n fuel d i) := by
  induction fuel generalizing d i with
  | zero => rfl
  | succ fuel ih =>
    unfold Heap_moveDown Model.Heap.moveDownF
    simp only [leftChild_tie, rightChild_tie]
    rw [pick_bridge]
    cases Model.Heap.pick c n d i (2 * i + 1) with
    | none => rfl
    | some cur =>
      simp only [Option.map, bind_optOut_some]
      rw [pick_bridge]
      cases Model.Heap.pick c n d cur (2 * i + 2) with
      | none => rfl
      | some cur' =>
        simp only [Option.map, bind_optOut_some]
        refine ite_rel (R := Tied) (not_congr Int.ofNat_inj) (fun _ => ?_) fun _ => rfl
        rw [swap_tie]
        cases Model.Heap.swap d i cur' with
        | none => rfl
        | some d' => simp only [bind_optOut_some, ih]; exact bind_toOut_ok _

theorem moveUp_model_tie [Inhabited α] [DecidableEq α] (c : Comp α) (d : Array α) (i : Nat) :
    Heap_moveUp (i + 1) c d (i : Int) = toOut (Model.Heap.moveUp c d i) := moveUp_tie c (i + 1) d i

theorem moveDown_model_tie [Inhabited α] [DecidableEq α] (c : Comp α) (d : Array α) (n i : Nat) :
    Heap_moveDown (n - i + 1) c d (n : Int) (i : Int) = toOut (Model.Heap.moveDown c n d i) :=
  moveDown_tie c (n - i + 1) d n i

theorem size_tie [Inhabited α] [DecidableEq α] (h : Model.Heap.Heap α) :
    Heap_size h.comp h.data = (h.data.size : Int) ∧ Heap_Size h.comp h.data = (h.data.size : Int) := by
  simp [Heap_size, Heap_Size]

theorem isEmpty_tie [Inhabited α] [DecidableEq α] (h : Model.Heap.Heap α) :
    Heap_IsEmpty h.comp h.data = (h.data.size == 0) := by
  unfold Heap_IsEmpty Heap_size
  by_cases h0 : h.data.size = 0
  · rw [h0]; rfl
  · rw [decide_eq_false (mt Int.natCast_eq_zero.mp h0)]; exact (beq_false_of_ne h0).symm

theorem clear_tie [Inhabited α] [DecidableEq α] (h : Model.Heap.Heap α) :
    Heap_Clear h.comp h.data = Out.ok (Model.Heap.clear h).data := by
  unfold Heap_Clear Model.Heap.clear Heap_Size Heap_size
  refine ite_rel (R := fun x y => x = Out.ok (Model.Heap.Heap.data y)) Int.natCast_eq_zero (fun _ => rfl) fun _ => ?_
  rw [show hSlice h.data 0 0 = _ from hSlice_nat h.data 0 0, if_pos ⟨Nat.le_refl 0, Nat.zero_le _⟩,
    Array.extract_zero]
  rfl

theorem peek_tie [Inhabited α] [DecidableEq α] (h : Model.Heap.Heap α) :
    Heap_peek h.comp h.data = toOut (Model.Heap.peek h) ∧ Heap_Peek h.comp h.data = toOut (Model.Heap.peek h) := by
  have key : Heap_peek h.comp h.data = toOut (Model.Heap.peek h) := by
    unfold Heap_peek Model.Heap.peek Heap_size
    refine ite_rel (R := Tied) Int.natCast_eq_zero (fun _ => rfl) fun _ => ?_
    rw [hIdx_zero]
    cases h.data[0]? <;> rfl
  refine ⟨key, ?_⟩
  unfold Heap_Peek
  rw [key]
  exact bind_toOut_ok _

theorem getValues_tie [Inhabited α] [DecidableEq α] (h : Model.Heap.Heap α) :
    Heap_GetValues h.comp h.data = Out.ok h.data := by
  unfold Heap_GetValues hMake hCopy
  have : ¬ ((h.data.size : Int) < 0) := by omega
  simp [this]

theorem hSlice_dropLast (s : Array α) :
    hSlice s 0 ((s.size : Int) - 1) = optOut (Model.Heap.dropLast? s) := by
  unfold Model.Heap.dropLast?
  by_cases h0 : s.size = 0
  · rw [if_pos h0, h0]; rfl
  · rw [if_neg h0, natCast_pred h0]
    refine (hSlice_nat s 0 (s.size - 1)).trans ?_
    rw [if_pos ⟨Nat.zero_le _, Nat.sub_le _ _⟩]
    exact congrArg Out.ok (Array.extract_eq_pop rfl)

/-- one iteration of `Push`'s loop, for every amount of fuel: the model's `push` with that fuel for `moveUp` -/
theorem push_step_tie [Inhabited α] [DecidableEq α] (c : Comp α) (val : Array α) (fuel : Nat) (d : Array α) (v : α)
    (vs : List α) :
    Heap_Push_loop1 c val fuel d (v :: vs)
      = Out.bind (toOut (Model.Heap.moveUpF c fuel (d.push v) ((d.push v).size - 1)))
          (fun d' => Heap_Push_loop1 c val fuel d' vs) := by
  rw [Heap_Push_loop1]
  have : Heap_size c (d.push v) - 1 = (((d.push v).size - 1 : Nat) : Int) :=
    natCast_pred (Array.size_push v ▸ Nat.succ_ne_zero _)
  simp only [this, moveUp_tie]

/-! What the ties with sufficient fuel rest on, as this module states it (`DESIGN.md` cites these names); the proofs
are in `Lemmas/C03`. -/

theorem moveUpF_mono (c : Comp α) (fuel k : Nat) (d : Array α) (i : Nat)
    (h : Model.Heap.moveUpF c fuel d i ≠ .hang) :
    Model.Heap.moveUpF c (fuel + k) d i = Model.Heap.moveUpF c fuel d i :=
  Lemmas.C03.moveUpF_mono c fuel k d i h

theorem moveUpF_hang (c : Comp α) (i : Nat) : ∀ (d : Array α),
    Model.Heap.moveUpF c (i + 1) d i = .hang → ∀ fuel, Model.Heap.moveUpF c fuel d i = .hang :=
  fun d h => Lemmas.C03.moveUpF_hang_every_fuel c (i + 1) d i (Nat.lt_succ_self i) h

theorem moveUpF_enough (c : Comp α) (d : Array α) (i fuel : Nat) (hf : i + 1 ≤ fuel) :
    Model.Heap.moveUpF c fuel d i = Model.Heap.moveUp c d i :=
  Lemmas.C03.moveUpF_enough c d i fuel hf

theorem moveDownF_enough (c : Comp α) (n : Nat) (d : Array α) (i fuel : Nat) (hf : n - i + 1 ≤ fuel) :
    Model.Heap.moveDownF c n fuel d i = Model.Heap.moveDown c n d i :=
  Lemmas.C03.moveDownF_enough c n d i fuel hf

example : (2 : Nat) - 0 + 1 ≤ 5 := by decide

/-- the loop of `Push(val...)`: with any fuel ≥ the final length it is the model's `pushAll`, every outcome included -/
theorem pushAll_loop_tie [Inhabited α] [DecidableEq α] (c : Comp α) (val : Array α) (fuel : Nat) (vs : List α) :
    ∀ (d : Array α), d.size + vs.length ≤ fuel →
    Heap_Push_loop1 c val fuel d vs
      = toOut (Outcome.map (fun h' => h'.data) (Model.Heap.pushAll { comp := c, data := d } vs)) := by
  induction vs with
  | nil => intro d _; simp [Heap_Push_loop1, Model.Heap.pushAll, Outcome.map]
  | cons v vs ih =>
    intro d hf
    rw [push_step_tie]
    unfold Model.Heap.pushAll Model.Heap.push
    have hsz : (d.push v).size - 1 + 1 ≤ fuel := by simp at hf ⊢; omega
    simp only [moveUpF_enough c (d.push v) _ fuel hsz]
    cases hm : Model.Heap.moveUp c (d.push v) ((d.push v).size - 1) with
    | ok d' =>
      have hfr := (Lemmas.C03.moveUpF_frame _ _ _ _ hm).1
      simp only [toOut_ok, bind_ok]
      apply ih
      rw [hfr]; simp at hf ⊢; omega
    | panic => rfl
    | hang => rfl

/-- `Push(val...)` for every fuel ≥ `len(data) + len(val)` -/
theorem pushAll_tie [Inhabited α] [DecidableEq α] (h : Model.Heap.Heap α) (val : Array α) (fuel : Nat)
    (hf : h.data.size + val.size ≤ fuel) :
    Heap_Push fuel h.comp h.data val
      = toOut (Outcome.map (fun h' => h'.data) (Model.Heap.pushAll h val.toList)) := by
  unfold Heap_Push
  rw [pushAll_loop_tie h.comp val fuel val.toList h.data (by simpa using hf)]
  exact bind_toOut_ok _

example : (#[3, 1] : Array Int).size + (#[2, 0] : Array Int).size ≤ 4 := by decide

/-- `Push(v)` with the fuel the model gives `moveUp` (`len(data)+1` = index of the new element + 1). -/
theorem push_tie [Inhabited α] [DecidableEq α] (h : Model.Heap.Heap α) (v : α) :
    Heap_Push (h.data.size + 1) h.comp h.data #[v]
      = toOut (Outcome.map (fun h' => h'.data) (Model.Heap.push h v)) := by
  refine (pushAll_tie h #[v] _ (Nat.le_refl _)).trans (congrArg (fun o => toOut (Outcome.map _ o)) ?_)
  show Model.Heap.pushAll h [v] = Model.Heap.push h v
  rw [Model.Heap.pushAll]
  cases Model.Heap.push h v <;> rfl

theorem moveDown_root_tie [Inhabited α] [DecidableEq α] (c : Comp α) (fuel : Nat) (d : Array α) (n : Nat)
    (hf : n + 1 ≤ fuel) : Heap_moveDown fuel c d (n : Int) 0 = toOut (Model.Heap.moveDown c n d 0) :=
  (moveDown_tie c fuel d n 0).trans (congrArg toOut (moveDownF_enough c n d 0 fuel hf))

/-- `Pop` with ANY fuel ≥ `len(data)`: the popped value and the new `data`, every outcome included. -/
theorem pop_tie_fuel [Inhabited α] [DecidableEq α] (h : Model.Heap.Heap α) (fuel : Nat)
    (hf : h.data.size ≤ fuel) :
    Heap_Pop fuel h.comp h.data
      = toOut (Outcome.map (fun r => (r.2, r.1.data)) (Model.Heap.pop h)) := by
  unfold Heap_Pop Heap_peek Heap_size
  by_cases h0 : h.data.size = 0
  · rw [if_pos (Int.natCast_eq_zero.mpr h0), Model.Heap.pop, if_pos h0]; rfl
  · -- on a non-empty slice no read or write fails
    have hne := mt Int.natCast_eq_zero.mp h0
    have hlt := Nat.pos_of_ne_zero h0
    have e0 := Array.getElem?_eq_getElem hlt
    obtain ⟨_, d2, _, r⟩ := Lemmas.C03.removeAt_ok h.comp e0
    obtain ⟨_, d1, el, hd1, hd2, e⟩ := Lemmas.C03.pop_of_removed e0 r
    simp only [if_neg hne, natCast_pred h0, hIdx_zero, hIdx_nat, e0, el, bind_optOut_some, bind_ok, hSet_zero,
      hd1, hSlice_dropLast, hd2, r.size, r.sift, e,
      moveDown_root_tie h.comp fuel d2 (h.data.size - 1) ((Nat.sub_add_cancel hlt).symm ▸ hf)]
    rfl

/-- `Pop` with the fuel the model gives its `moveDown` (`len(data)`): the popped value and the new `data`. -/
theorem pop_tie [Inhabited α] [DecidableEq α] (h : Model.Heap.Heap α) :
    Heap_Pop h.data.size h.comp h.data
      = toOut (Outcome.map (fun r => (r.2, r.1.data)) (Model.Heap.pop h)) :=
  pop_tie_fuel h _ (Nat.le_refl _)

example : (#[3, 1] : Array Int).size ≤ 2 := by decide

/-- The regenerated loop of `Convert`, started at `i = k - 1`, against the model's structural `convertLoop c k`:
every outcome, the final value of the loop variable (`-1`) included, for every fuel ≥ `len(data) + k + 1`
(one unit per iteration, the `moveDown` inside runs on what remains). -/
theorem convert_loop_tie_full [Inhabited α] [DecidableEq α] (c comp : Comp α) (k : Nat) :
    ∀ (d : Array α) (fuel : Nat), d.size + k + 1 ≤ fuel →
    Heap_Convert_loop1 c comp fuel d ((k : Int) - 1)
      = Out.bind (toOut (Model.Heap.convertLoop c k d)) (fun d' => Out.ok (d', (-1 : Int))) := by
  induction k with
  | zero =>
    intro d fuel hf
    cases fuel with
    | zero => exact absurd hf (Nat.not_succ_le_zero _)
    | succ f => rw [Heap_Convert_loop1, if_neg (by decide)]; rfl
  | succ k ih =>
    intro d fuel hf
    cases fuel with
    | zero => exact absurd hf (Nat.not_succ_le_zero _)
    | succ f =>
      rw [Lemmas.C03.succ_sub_one_int, Heap_Convert_loop1,
        if_pos (Int.natCast_nonneg k), Model.Heap.convertLoop, Heap_size, moveDown_tie,
        moveDownF_enough c d.size d k f (by omega)]
      obtain ⟨d', hm, r⟩ := Lemmas.C03.moveDown_ok c d k (Nat.le_refl _)
      rw [hm, toOut_ok, bind_ok]
      exact ih d' f (by rw [r.size]; omega)

example : (#[3, 1, 2] : Array Int).size + 1 + 1 ≤ 5 := by decide

theorem convert_loop_tie [Inhabited α] [DecidableEq α] (c comp : Comp α) (k : Nat) (d : Array α) (fuel : Nat)
    (hf : d.size + k + 1 ≤ fuel) :
    Out.bind (Heap_Convert_loop1 c comp fuel d ((k : Int) - 1)) (fun r => Out.ok r.1)
      = toOut (Model.Heap.convertLoop c k d) := by
  rw [convert_loop_tie_full c comp k d fuel hf]
  cases Model.Heap.convertLoop c k d <;> simp

example : (#[3, 1, 2] : Array Int).size + 1 + 1 ≤ 5 := by decide

/-- a negative start: no iteration (needs one unit of fuel to find that out) -/
theorem convert_loop_neg [Inhabited α] [DecidableEq α] (c comp : Comp α) (fuel : Nat) (d : Array α) (i : Int)
    (hi : i < 0) : Heap_Convert_loop1 c comp (fuel + 1) d i = Out.ok (d, i) := by
  unfold Heap_Convert_loop1
  have : ¬ (i ≥ 0) := by omega
  simp [this]

example : (-1 : Int) < 0 := by decide

/-- Go's `(size - 2) / 2` (truncating) is the model's `k - 1`, `k = (convertStart size + 1).toNat`, and `k ≤ ⌈size/2⌉` -/
theorem convertStart_spec (size : Nat) :
    ((size : Int) - 2).tdiv 2 = (((Model.Heap.convertStart size + 1).toNat : Nat) : Int) - 1 ∧
    (Model.Heap.convertStart size + 1).toNat ≤ (size + 1) / 2 := by
  obtain ⟨k, e, _, hk⟩ := Lemmas.C03.convertStart_count size
  show Model.Heap.convertStart size = _ ∧ _
  rw [e, Int.sub_add_cancel, Int.toNat_natCast]
  exact ⟨rfl, hk⟩

/-- `Convert(comp)` for every fuel ≥ `len(data) + ⌈len(data)/2⌉ + 1`: the new comparator and the new `data`,
every outcome included. -/
theorem convert_tie [Inhabited α] [DecidableEq α] (h : Model.Heap.Heap α) (comp : Comp α) (fuel : Nat)
    (hf : h.data.size + (h.data.size + 1) / 2 + 1 ≤ fuel) :
    Heap_Convert fuel h.comp h.data comp
      = toOut (Outcome.map (fun h' => (h'.comp, h'.data)) (Model.Heap.convert h comp)) := by
  unfold Heap_Convert Model.Heap.convert Heap_size
  obtain ⟨hs, hk⟩ := convertStart_spec h.data.size
  simp only [hs]
  rw [convert_loop_tie_full comp comp _ h.data fuel (by omega)]
  cases Model.Heap.convertLoop comp (Model.Heap.convertStart h.data.size + 1).toNat h.data <;>
    rfl

example : (#[3, 1, 2] : Array Int).size + ((#[3, 1, 2] : Array Int).size + 1) / 2 + 1 ≤ 6 := by decide

/-- the same with the rounder bound `2 * len(data) + 1` -/
theorem convert_tie_2n [Inhabited α] [DecidableEq α] (h : Model.Heap.Heap α) (comp : Comp α) (fuel : Nat)
    (hf : 2 * h.data.size + 1 ≤ fuel) :
    Heap_Convert fuel h.comp h.data comp
      = toOut (Outcome.map (fun h' => (h'.comp, h'.data)) (Model.Heap.convert h comp)) :=
  convert_tie h comp fuel (by omega)

example : 2 * (#[3, 1, 2] : Array Int).size + 1 ≤ 7 := by decide

/-- The regenerated loop of `getIndex`, started at `i`, against the model's structural `getIndexL` on the rest of
the slice: the early `return i, true` (`some`) or the fall-through with the loop variable at `len(slice)`.  One
unit of fuel per iteration plus one for the final test. -/
theorem getIndex_loop_tie [Inhabited α] [DecidableEq α] (c : Comp α) (d slice : Array α) (val : α) :
    ∀ (fuel i : Nat), i ≤ slice.size → slice.size - i + 1 ≤ fuel →
    Heap_getIndex_loop1 c d slice val fuel (i : Int)
      = Out.ok (match Model.Heap.getIndexL val (slice.toList.drop i) i with
          | some k => (some ((k : Int), true), (k : Int))
          | none => (none, (slice.size : Int))) := by
  intro fuel
  induction fuel with
  | zero => intro i _ hf; omega
  | succ fuel ih =>
    intro i hi hf
    unfold Heap_getIndex_loop1
    by_cases hlt : i < slice.size
    · rw [if_pos (Int.ofNat_lt.mpr hlt), hIdx_nat, Array.getElem?_eq_getElem hlt,
        List.drop_eq_getElem_cons (Array.length_toList ▸ hlt), bind_optOut_some, Model.Heap.getIndexL,
        Array.getElem_toList]
      by_cases he : slice[i] = val
      · rw [if_pos he, if_pos he]
      · rw [if_neg he, if_neg he]
        exact ih (i + 1) hlt (by omega)
    · obtain rfl : i = slice.size := Nat.le_antisymm hi (Nat.le_of_not_lt hlt)
      rw [if_neg (Int.lt_irrefl _), List.drop_eq_nil_of_le (Nat.le_of_eq Array.length_toList)]
      rfl

example : (0 : Nat) ≤ (#[3, 1] : Array Int).size ∧ (#[3, 1] : Array Int).size - 0 + 1 ≤ 3 := by decide

example : Model.Heap.getIndexL (1 : Int) [3, 1] 0 = some 1 := by decide

theorem getIndex_lt [DecidableEq α] (slice : Array α) (val : α) (k : Nat)
    (h : Model.Heap.getIndex slice val = some k) : k < slice.size :=
  Lemmas.C03.lt_of_getElem? (Lemmas.C03.getIndex_some h)

example : Model.Heap.getIndex (#[3, 1] : Array Int) 1 = some 1 := by decide

/-- `getIndex(slice, val)` for every fuel ≥ `len(slice) + 1`: `(k, true)` at the first occurrence, `(-1, false)`
when there is none (never a panic, never a hang). -/
theorem getIndex_tie [Inhabited α] [DecidableEq α] (c : Comp α) (d slice : Array α) (val : α) (fuel : Nat)
    (hf : slice.size + 1 ≤ fuel) :
    Heap_getIndex fuel c d slice val
      = Out.ok (match Model.Heap.getIndex slice val with
          | some k => ((k : Int), true)
          | none => (-1, false)) := by
  unfold Heap_getIndex Model.Heap.getIndex
  have := getIndex_loop_tie c d slice val fuel 0 (by omega) (by omega)
  simp only [Int.natCast_zero, List.drop_zero] at this
  simp only [this]
  cases Model.Heap.getIndexL val slice.toList 0 <;> simp

example : (#[3, 1] : Array Int).size + 1 ≤ 3 := by decide

/-- `Delete(val)` for every fuel ≥ `len(data) + 1`: the `bool`, whether the `error` is non-nil (exactly when the
`bool` is `false`) and the new `data`; every outcome included. -/
theorem delete_tie [Inhabited α] [DecidableEq α] (h : Model.Heap.Heap α) (val : α) (fuel : Nat)
    (hf : h.data.size + 1 ≤ fuel) :
    Heap_Delete fuel h.comp h.data val
      = toOut (Outcome.map (fun r => (r.2, !r.2, r.1.data)) (Model.Heap.delete h val)) := by
  unfold Heap_Delete Model.Heap.delete Heap_size
  refine ite_rel (R := TiedBy _) Int.natCast_eq_zero (fun _ => rfl) fun hne => ?_
  have h0 : h.data.size ≠ 0 := mt Int.natCast_eq_zero.mpr hne
  have hl := natCast_pred h0
  simp only [getIndex_tie h.comp h.data h.data val fuel hf, bind_ok, hl]
  cases hg : Model.Heap.getIndex h.data val with
  | none => rfl
  | some idx =>
    obtain ⟨d1, d2, _, r⟩ := Lemmas.C03.removeAt_ok h.comp (Lemmas.C03.getIndex_some hg)
    have hsl : hSlice d1 0 ((h.data.size - 1 : Nat) : Int) = optOut (Model.Heap.dropLast? d1) := by
      rw [← hSlice_dropLast, Lemmas.C03.swap_size r.swapped, hl]
    simp only [Bool.not_true, Bool.false_eq_true, if_false, swap_tie, r.swapped, bind_optOut_some, hsl, r.cut,
      moveDown_root_tie h.comp fuel d2 (h.data.size - 1) (Nat.le_trans (Nat.succ_le_succ (Nat.sub_le _ _)) hf),
      r.sift]
    rfl

example : (#[3, 1] : Array Int).size + 1 ≤ 3 := by decide

theorem ite_pred_neg (k : Nat) : (if (k : Int) - 1 < 0 then (k : Int) - 1 else -1) = -1 := by split <;> omega

/-- the regenerated `l >= len(data) || l < 0` at an index `l ≥ 0` -/
theorem leaf_test (l n : Nat) : (decide ((l : Int) ≥ (n : Int)) || decide ((l : Int) < 0)) = true ↔ l ≥ n := by
  rw [decide_eq_false (Int.not_lt.mpr (Int.natCast_nonneg l)), Bool.or_false, decide_eq_true_eq]
  exact Int.ofNat_le

/-- The regenerated inner `for { … }` of `FromSlice` is the model's `fsInner`: every outcome, the value the loop
leaves in `i` included, for every amount of fuel.  (The regenerated test `l >= len(data) || l < 0`: `l < 0` is dead
for `i ≥ 0`.) -/
theorem fromSlice_inner_tie [Inhabited α] [DecidableEq α] (c : Comp α) (fuel : Nat) (d : Array α) (i : Nat) :
    FromSlice_loop2 c fuel d (i : Int)
      = toOut (Outcome.map (fun r => (r.1, ((r.2 : Nat) : Int))) (Model.Heap.fsInner c fuel d i)) := by
  induction fuel generalizing d i with
  | zero => rfl
  | succ fuel ih =>
    unfold FromSlice_loop2 Model.Heap.fsInner
    simp only [left_int, right_int]
    refine ite_rel (R := TiedBy _) (leaf_test _ _) (fun _ => rfl) fun _ => ?_
    rw [pick_bridge]
    cases Model.Heap.pick c d.size d (2 * i + 1) (2 * i + 2) with
    | none => rfl
    | some cur =>
      simp only [Option.map, bind_optOut_some, hIdx_nat]
      cases d[cur]? with
      | none => cases d[i]? <;> rfl
      | some x =>
        cases d[i]? with
        | none => rfl
        | some y =>
          simp only [bind_optOut_some]
          refine ite_rel_not (R := TiedBy _) (eq_true_iff_not_not _) (fun _ => ?_) fun _ => rfl
          rw [swap_tie]
          cases Model.Heap.swap d i cur with
          | none => rfl
          | some d' => simp only [bind_optOut_some, ih]

/-- The regenerated outer loop of `FromSlice` (its inner loop runs on what remains of the outer loop's fuel)
against the model's `fsOuter c F` (whose inner loop gets `len(data)`): whenever the model's loop does not run out
of ITS fuel `F`, the regenerated loop with any fuel ≥ `F + len(data)` computes the same outcome (data or panic),
and leaves `-1` in the loop variable (or the start value, when that is negative: no iteration).
(On the empty slice with `i ≥ 0` the model's inner loop has no fuel at all: the model hangs.) -/
theorem fromSlice_outer_tie [Inhabited α] [DecidableEq α] (c : Comp α) (F : Nat) :
    ∀ (d : Array α) (i : Int) (fuel : Nat), Model.Heap.fsOuter c F d i ≠ .hang → F + d.size ≤ fuel →
    FromSlice_loop1 c fuel d i
      = Out.bind (toOut (Model.Heap.fsOuter c F d i))
          (fun d' => Out.ok (d', if i < 0 then i else (-1 : Int))) := by
  induction F with
  | zero => intro d i fuel h; exact absurd rfl h
  | succ F ih =>
    intro d i fuel hnh hf
    obtain ⟨f, rfl⟩ : ∃ f, fuel = f + 1 := ⟨fuel - 1, by omega⟩
    unfold FromSlice_loop1
    unfold Model.Heap.fsOuter at hnh ⊢
    by_cases hi : i < 0
    · simp only [ge_iff_le, Int.not_le.mpr hi, hi, if_false, if_true]; rfl
    · obtain ⟨n, rfl⟩ := Int.eq_ofNat_of_zero_le (Int.not_lt.mp hi)
      have hpos : 0 < d.size := Nat.pos_of_ne_zero fun h0 => hnh (by rw [if_neg hi, h0]; rfl)
      obtain ⟨d', i', hr, r⟩ := Lemmas.C03.fsInner_ok c d.size d n hpos (Nat.sub_le _ _)
      have hm := Lemmas.C03.fsInner_mono c d.size (f - d.size) d n (by rw [hr]; nofun)
      rw [Nat.add_sub_cancel' (by omega)] at hm
      simp only [ge_iff_le, Int.not_lt.mp hi, hi, if_true, if_false, Int.toNat_natCast, fromSlice_inner_tie, hm, hr,
        Outcome.map, toOut_ok, bind_ok] at hnh ⊢
      rw [ih d' ((i' : Int) - 1) f hnh (by rw [r.size]; omega), ite_pred_neg]

-- the first conjunct is no hypothesis of `fromSlice_outer_tie`: the second implies it
example : (0 < (#[3, 1] : Array Int).size ∨ (0 : Int) < 0) ∧
    Model.Heap.fsOuter (fun a b : Int => decide (a < b)) 5 #[3, 1] 0 ≠ .hang ∧
    5 + (#[3, 1] : Array Int).size ≤ 7 := by
  refine ⟨Or.inl (by decide), ?_, by decide⟩
  intro h; cases h

/-- `FromSlice(data, comp)`: the comparator, the new heap's `data` and the written argument slice (the same array).

The hypothesis `fromSlice data comp ≠ .hang` cannot be dropped.  For a comparator that is no strict weak order the
outer loop may end only after more than the `fsFuel len(data) = len(data)² + 1` iterations the model gives it: on
`[0,1,2,3,4]`, with `comp a b` true exactly at (0,2) (1,2) (1,4) (2,0) (2,1) (2,3) (3,2) (3,4) (4,1) (4,3), it needs
28 units (27 iterations and the exit test; `fsFuel 5 = 26`), so the model answers `hang` where `FromSlice 31` answers
`[1,2,0,3,4]` (both by evaluation).  It may also never end (`fun _ _ => true` on 3 elements: the inner loop moves `i` from 0 to 2, the outer
`i--` brings it back to 0).  For a strict weak order it always ends in time (`fromSlice_spec`): `fromSlice_tie_swo`. -/
theorem fromSlice_tie_partial [Inhabited α] [DecidableEq α] (data : Array α) (comp : Comp α) (fuel : Nat)
    (hnh : Model.Heap.fromSlice data comp ≠ .hang)
    (hf : Model.Heap.fsFuel data.size + data.size ≤ fuel) :
    FromSlice fuel data comp
      = toOut (Outcome.map (fun h' => (h'.comp, h'.data, h'.data)) (Model.Heap.fromSlice data comp)) := by
  unfold FromSlice
  unfold Model.Heap.fromSlice at hnh ⊢
  have hno : Model.Heap.fsOuter comp (Model.Heap.fsFuel data.size) data ((data.size : Int).tdiv 2 - 1) ≠ .hang := by
    intro hh
    rw [hh] at hnh
    exact hnh rfl
  simp only [fromSlice_outer_tie comp _ data _ fuel hno hf]
  cases Model.Heap.fsOuter comp (Model.Heap.fsFuel data.size) data ((data.size : Int).tdiv 2 - 1) <;>
    rfl

example : Model.Heap.fromSlice (#[3, 1] : Array Int) (fun a b => decide (a < b)) ≠ .hang ∧
    Model.Heap.fsFuel (#[3, 1] : Array Int).size + (#[3, 1] : Array Int).size ≤ 7 := by
  refine ⟨?_, by decide⟩
  intro h; cases h

/-- `FromSlice(data, comp)` for a strict weak order (the comparators C03 is about) and every fuel ≥
`len(data)² + 1 + len(data)`: no hypothesis on the outcome (`fromSlice_spec`: it is always `ok`). -/
theorem fromSlice_tie_swo [Inhabited α] [DecidableEq α] (data : Array α) (comp : Comp α)
    (hc : GoguVerif.Spec.C03.SWO comp) (fuel : Nat)
    (hf : Model.Heap.fsFuel data.size + data.size ≤ fuel) :
    FromSlice fuel data comp
      = toOut (Outcome.map (fun h' => (h'.comp, h'.data, h'.data)) (Model.Heap.fromSlice data comp)) := by
  apply fromSlice_tie_partial data comp fuel _ hf
  obtain ⟨h', e, _⟩ :=
  Lemmas.C03.fromSlice_spec data comp hc
  rw [e]
  simp

example : GoguVerif.Spec.C03.SWO (fun a b : Int => decide (a < b)) ∧
    Model.Heap.fsFuel (#[3, 1] : Array Int).size + (#[3, 1] : Array Int).size ≤ 7 :=
  ⟨Lemmas.C03.swo_key id, by decide⟩

end GoguVerif.Theorems.GenTieHeap
