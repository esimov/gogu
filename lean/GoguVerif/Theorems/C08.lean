import GoguVerif.Lemmas.C08
/-!
# C08 — property theorems (expiring cache = map with per-entry deadlines)

The model (`Model.Cache`: `call`, the event histories `ev`/`runEv`, the clocked machine `step`/`run`)
against the specification `Spec.C08.step cfg c`, where `c` decides the one instant `now = deadline`
that the property leaves open; `Lemmas.C08.abs` and `Lemmas.C08.Inv` are the abstraction function
and the representation invariant.

All theorems quantify over every instant `now : Int`, every map, every configuration and every
history; none is a statement about sampled instants.  `now` is whatever the clock reads
(`time.Now().UnixNano()` in the code, virtual milliseconds since `New` under the harness); where a
deadline `now + d` has to be positive to count as one, the hypothesis `0 ≤ t₀` is explicit.
-/
namespace GoguVerif.Theorems.C08
open GoguVerif.Model.Cache GoguVerif.Lemmas.C08
open GoguVerif.Spec.C08 (Op Out)

/-! ## Refinement: every answer of the model is an answer the specification admits -/

theorem inv_init (cfg : Cfg) : Inv cfg (init cfg) := by
  refine ⟨List.nodup_nil, fun _ => ?_⟩
  show cfg.cleanupInt = (0 / cfg.cleanupInt + 1) * cfg.cleanupInt
  rw [Int.zero_ediv, Int.zero_add, Int.one_mul]

theorem abs_init (cfg : Cfg) : abs (init cfg) = {} := rfl

/-- One API call at any instant, on any map with distinct keys: answer and new map are the specification's
(deadline instant counted as live).  No clock state. -/
theorem call_refines (cfg : Cfg) (now : Int) {m : Items} (hn : (keys m).Nodup) {op : Op}
    (hop : ∀ ms, op ≠ .sleep ms) :
    Spec.C08.step (absCfg cfg) true ⟨now, absItems m⟩ op
      = (⟨now, absItems (call cfg now m op).1⟩, (call cfg now m op).2) := by
  cases op with
  | set k v d => exact congrArg (fun p => (p.1, Out.err p.2)) (setOne_abs cfg now m k v d)
  | update k v d =>
    have h := store_abs cfg now m k v d
    show (if Spec.C08.accepted (absCfg cfg) v = true then _ else _)
      = ((⟨now, absItems (update cfg now m k v d).1⟩ : Spec.C08.St), Out.err (update cfg now m k v d).2)
    rw [update_eq_store]
    cases ha : Spec.C08.accepted (absCfg cfg) v <;> rw [ha] at h <;>
      exact congrArg (fun p => (p.1, Out.err p.2)) h
  | get k =>
    rw [call_get, Spec.C08.step, find_abs, get_eq]
    cases lookup k m with
    | none => rfl
    | some it =>
      show ((⟨now, absItems m⟩ : Spec.C08.St),
        Out.got (if Spec.C08.live true now (absItem (k, it)) = true then some it.object else none)) = _
      rw [live_abs, Option.filter_some]; cases expired now it <;> rfl
  | delete k =>
    show _ = ((⟨now, absItems (delete m k).1⟩ : Spec.C08.St), Out.err (delete m k).2)
    rw [Spec.C08.step, find_abs, delete]
    cases lookup k m with
    | none => rfl
    | some it => exact congrArg (fun es => ((⟨now, es⟩ : Spec.C08.St), Out.err false)) (erase_abs k m)
  | flush => rfl
  | deleteExpired => exact congrArg (fun es => ((⟨now, es⟩ : Spec.C08.St), Out.err false)) (purgeAt_abs hn)
  | count =>
    exact congrArg (fun n : Nat => ((⟨now, absItems m⟩ : Spec.C08.St), Out.int n)) (List.length_map absItem)
  | list => exact congrArg (fun l => ((⟨now, absItems m⟩ : Spec.C08.St), Out.items l)) (listObs_abs hn).symm
  | mapToCache kvs d =>
    exact congrArg (fun p => (p.1, Out.err p.2)) (mapToCacheLoop_abs cfg now d kvs m false)
  | isExpired k =>
    show _ = ((⟨now, absItems m⟩ : Spec.C08.St), Out.bool (isExpired now m k))
    rw [Spec.C08.step, find_abs, isExpired_eq]
    cases lookup k m with
    | none => rfl
    | some it =>
      show ((⟨now, absItems m⟩ : Spec.C08.St), Out.bool (!Spec.C08.live true now (absItem (k, it)))) = _
      rw [live_abs, Bool.not_not]
  | sleep ms => exact absurd rfl (hop ms)

/-- Per-operation refinement: in a state satisfying the invariant, the model's answer and
successor state are exactly those of the specification with the deadline instant counted as live
(`c = true`), and the invariant is preserved. -/
theorem step_refines (cfg : Cfg) (s : St) (op : Op) (hI : Inv cfg s) (hop : WellTimed op) :
    Spec.C08.step (absCfg cfg) true (abs s) op = (abs (step cfg s op).1, (step cfg s op).2)
      ∧ Inv cfg (step cfg s op).1 := by
  refine ⟨?_, inv_step op hI hop⟩
  obtain ⟨ms, rfl⟩ | h := step_sleep_or_call op
  · by_cases hcl : cfg.cleanupInt > 0
    · have ha := runTicks_abs cfg (s.now + ms) (ms.toNat + 1) s.now s.nextTick s.items (hI.ticker hcl) hI.nodup
      rw [step, if_pos hcl]
      exact congrArg (fun es => ((⟨s.now + ms, es⟩ : Spec.C08.St), Out.unit))
        ((if_pos hcl).trans ha.symm)
    · rw [step, if_neg hcl]
      exact congrArg (fun es => ((⟨s.now + ms, es⟩ : Spec.C08.St), Out.unit)) (if_neg hcl)
  · rw [h.2 cfg s]; exact call_refines cfg s.now hI.nodup h.1

theorem step_admitted (cfg : Cfg) (s : St) (op : Op) (hI : Inv cfg s) (hop : WellTimed op) :
    (abs (step cfg s op).1, (step cfg s op).2) ∈ Spec.C08.stepAll (absCfg cfg) (abs s) op :=
  (step_refines cfg s op hI hop).1 ▸ List.mem_cons_self

/-- A history of answers the specification admits: each step is one of `Spec.C08.stepAll`. -/
inductive Admits (cfg : Spec.C08.Cfg) : Spec.C08.St → List Op → List Out → Prop
  | nil (s) : Admits cfg s [] []
  | cons {s s' op o ops os} :
      (s', o) ∈ Spec.C08.stepAll cfg s op → Admits cfg s' ops os → Admits cfg s (op :: ops) (o :: os)

/-- Refinement, whole histories: for every configuration, every reachable state and every
history in which time does not run backwards, the model's answers form a history the
map-with-deadlines specification admits; the invariant holds afterwards. -/
theorem run_admitted (cfg : Cfg) (ops : List Op) :
    ∀ s, Inv cfg s → (∀ op ∈ ops, WellTimed op) →
      Admits (absCfg cfg) (abs s) ops (run cfg s ops).2 ∧ Inv cfg (run cfg s ops).1 := by
  induction ops with
  | nil => intro s hI _; exact ⟨.nil _, hI⟩
  | cons op ops ih =>
    intro s hI hw
    have hop := hw op List.mem_cons_self
    have h1 := step_admitted cfg s op hI hop
    have h2 := (step_refines cfg s op hI hop).2
    have h3 := ih (step cfg s op).1 h2 (fun o ho => hw o (List.mem_cons_of_mem _ ho))
    exact ⟨.cons h1 h3.1, h3.2⟩

/-- From `New`: the model's whole behaviour is admitted by the specification started empty. -/
theorem cache_refines_deadline_map (cfg : Cfg) (ops : List Op) (hw : ∀ op ∈ ops, WellTimed op) :
    Admits (absCfg cfg) {} ops (run cfg (init cfg) ops).2 := by
  have := (run_admitted cfg ops (init cfg) (inv_init cfg) hw).1
  rwa [abs_init] at this

/-- the specification resolved with one fixed choice for the deadline instant -/
def specRun (cfg : Spec.C08.Cfg) (c : Bool) (s : Spec.C08.St) : List Op → Spec.C08.St × List Out
  | [] => (s, [])
  | op :: ops =>
    match Spec.C08.step cfg c s op with
    | (s', o) => match specRun cfg c s' ops with
      | (s'', os) => (s'', o :: os)

/-- The code resolves the open instant uniformly: it behaves as the specification in which an entry
is still live at `now = deadline` (`Get`, `Set`, `IsExpired`, `DeleteExpired` all test `now > exp`). -/
theorem run_refines (cfg : Cfg) (ops : List Op) :
    ∀ s, Inv cfg s → (∀ op ∈ ops, WellTimed op) →
      specRun (absCfg cfg) true (abs s) ops = (abs (run cfg s ops).1, (run cfg s ops).2) := by
  induction ops with
  | nil => intro s _ _; rfl
  | cons op ops ih =>
    intro s hI hw
    have hop := hw op List.mem_cons_self
    have h := step_refines cfg s op hI hop
    simp only [specRun, run, h.1]
    rw [ih _ h.2 (fun o ho => hw o (List.mem_cons_of_mem _ ho))]

/-! ## The clauses of the property, for every instant and every map

`m` is any association list with unique keys (`Inv` gives that for every reachable state). -/

/-- the duration `store` works with: `DefaultExpiration` is replaced by the cache's default -/
def effDur (cfg : Cfg) (d : Int) : Int := if d = Gen.defaultExpiration then cfg.expTime else d

theorem expiry_eq (cfg : Cfg) (now d : Int) :
    expiry cfg now d = if effDur cfg d > 0 then now + effDur cfg d
      else if effDur cfg d < 0 then Gen.noExpiration else 0 := rfl

theorem expiry_pos {cfg : Cfg} {now d : Int} (h : 0 < effDur cfg d) :
    expiry cfg now d = now + effDur cfg d := by
  rw [expiry_eq, if_pos h]

/-- `NoExpiration`, any negative duration, or a default of zero or less: the stored deadline is
`-1` or `0`, never positive. -/
theorem expiry_nonpos {cfg : Cfg} {now d : Int} (h : effDur cfg d ≤ 0) :
    expiry cfg now d = -1 ∨ expiry cfg now d = 0 := by
  rw [expiry_eq, if_neg (Int.not_lt.mpr h)]
  split
  · exact .inl rfl
  · exact .inr rfl

/-- `Get` succeeds exactly on a stored entry that never expires or whose deadline has not passed
(the deadline instant itself included), and returns that entry. -/
theorem get_some_iff {now k : Int} {m : Items} {it : Item} :
    Model.Cache.get now m k = some it ↔
      lookup k m = some it ∧ (it.expiration ≤ 0 ∨ now ≤ it.expiration) := by
  rw [get_eq, Option.filter_eq_some_iff, Bool.not_eq_true', expired_eq_false_iff]

/-- `Get` fails exactly for a missing key or an entry whose (positive) deadline lies strictly before `now`. -/
theorem get_none_iff {now k : Int} {m : Items} :
    Model.Cache.get now m k = none ↔
      lookup k m = none ∨ ∃ it, lookup k m = some it ∧ 0 < it.expiration ∧ it.expiration < now := by
  rw [get_eq]
  cases lookup k m with
  | none => exact ⟨fun _ => .inl rfl, fun _ => rfl⟩
  | some it =>
    rw [Option.filter_some]
    cases h : expired now it
    · refine ⟨(fun h' => nomatch h'), fun h' => ?_⟩
      obtain h' | ⟨_, h1, h'⟩ := h'
      · nomatch h'
      · cases h1; rw [expired_iff.mpr h'] at h; nomatch h
    · exact ⟨fun _ => .inr ⟨it, rfl, expired_iff.mp h⟩, fun _ => rfl⟩

/-- `Set` stores when the key has no live entry and the value is accepted (`set_ok_iff`: only then). -/
theorem set_ok {cfg : Cfg} {now k v d : Int} {m : Items}
    (hfree : Model.Cache.get now m k = none) (hacc : rejected cfg v = false) :
    Model.Cache.set cfg now m k v d = (assign k ⟨v, expiry cfg now d⟩ m, false) := by
  rw [set_eq, hfree, store_of_accepted hacc]; rfl

/-- `Set` on a key with a live entry reports an error and changes nothing. -/
theorem set_blocked {cfg : Cfg} {now k v d : Int} {m : Items} {it : Item}
    (hlive : Model.Cache.get now m k = some it) :
    Model.Cache.set cfg now m k v d = (m, true) := by
  rw [set_eq, hlive]; rfl

/-- `Set` of a rejected value (the empty string) reports an error and changes nothing. -/
theorem set_rejected {cfg : Cfg} {now k v d : Int} {m : Items} (hrej : rejected cfg v = true) :
    Model.Cache.set cfg now m k v d = (m, true) := by
  rw [set_eq, store_of_rejected hrej]; exact ite_self _

theorem set_ok_iff {cfg : Cfg} {now k v d : Int} {m : Items} :
    (Model.Cache.set cfg now m k v d).2 = false ↔
      Model.Cache.get now m k = none ∧ rejected cfg v = false := by
  constructor
  · intro h
    cases hg : Model.Cache.get now m k with
    | some it => rw [set_blocked hg] at h; simp at h
    | none =>
      cases hr : rejected cfg v with
      | true => rw [set_rejected hr] at h; simp at h
      | false => exact ⟨rfl, rfl⟩
  · intro ⟨h1, h2⟩; rw [set_ok h1 h2]

/-- `Update` always stores an accepted value — over a live, an expired or no entry alike
(its `Get` probe can never produce an item together with an error). -/
theorem update_stores {cfg : Cfg} {now k v d : Int} {m : Items} (hacc : rejected cfg v = false) :
    update cfg now m k v d = (assign k ⟨v, expiry cfg now d⟩ m, false) := by
  rw [update_eq_store, store_of_accepted hacc]

theorem update_rejected {cfg : Cfg} {now k v d : Int} {m : Items} (hrej : rejected cfg v = true) :
    update cfg now m k v d = (m, true) := by
  rw [update_eq_store, store_of_rejected hrej]

/-- After a store, `Get` of that key at any later-or-earlier instant `now'` sees the new entry
(as long as it is live at `now'`); other keys are unaffected. -/
theorem get_assign {now' k k' : Int} {it : Item} {m : Items} :
    Model.Cache.get now' (assign k it m) k' =
      if k' = k then (if it.expiration > 0 ∧ now' > it.expiration then none else some it)
      else Model.Cache.get now' m k' := by
  rw [get_eq, get_eq, lookup_assign]
  split
  · rw [Option.filter_some, expired]
    by_cases h2 : it.expiration > 0 ∧ now' > it.expiration
    · rw [if_pos h2, decide_eq_true h2]; rfl
    · rw [if_neg h2, decide_eq_false h2]; rfl
  · rfl

/-- `Delete` removes exactly the named entry and errs iff there was none. -/
theorem delete_spec (m : Items) (k : Int) :
    ((delete m k).2 = false ↔ lookup k m ≠ none) ∧
      ∀ k', lookup k' (delete m k).1 = if k' = k then none else lookup k' m := by
  refine ⟨?_, fun k' => by rw [delete_fst]; exact lookup_erase k k' m⟩
  unfold delete
  cases lookup k m with
  | none => simp
  | some it => simp

theorem flush_spec (k : Int) : lookup k flush = none ∧ count flush = 0 := ⟨rfl, rfl⟩

/-- `DeleteExpired` (and so every janitor tick) removes exactly the entries with `0 < exp < now`, keeps
all others untouched and in place, and reports no error (`m` is any list, so in whatever order the
map is iterated). -/
theorem deleteExpired_exact {now : Int} {m : Items} (hn : (keys m).Nodup) :
    deleteExpired now m
      = (m.filter (fun p => !decide (0 < p.2.expiration ∧ p.2.expiration < now)), false) :=
  deleteExpired_eq_filter hn

theorem lookup_deleteExpired_iff {now k : Int} {m : Items} {it : Item} (hn : (keys m).Nodup) :
    lookup k (deleteExpired now m).1 = some it ↔
      lookup k m = some it ∧ ¬ (0 < it.expiration ∧ it.expiration < now) := by
  rw [lookup_deleteExpired hn, Option.filter_eq_some_iff, Bool.not_eq_true', ← Bool.not_eq_true,
    expired_iff]

/-- Entries without expiry (`exp ≤ 0`: `NoExpiration`, or a default of zero or less) are never removed
by cleanup, at any instant. -/
theorem deleteExpired_keeps_unexpiring {now k : Int} {m : Items} {it : Item} (hn : (keys m).Nodup)
    (h : lookup k m = some it) (hexp : it.expiration ≤ 0) :
    lookup k (deleteExpired now m).1 = some it :=
  (lookup_deleteExpired_iff hn).mpr ⟨h, by omega⟩

/-- `IsExpired` is true exactly for stored entries strictly past their (positive) deadline. -/
theorem isExpired_iff {now k : Int} {m : Items} :
    isExpired now m k = true ↔
      ∃ it, lookup k m = some it ∧ 0 < it.expiration ∧ it.expiration < now := by
  rw [isExpired_eq]
  cases lookup k m with
  | none => exact ⟨(fun h => nomatch h), fun ⟨_, h, _⟩ => nomatch h⟩
  | some it => exact expired_iff.trans ⟨fun h => ⟨it, rfl, h⟩, fun ⟨_, h, h'⟩ => by cases h; exact h'⟩

/-- `IsExpired` is the stored-and-not-gettable test. -/
theorem isExpired_iff_get {now k : Int} {m : Items} :
    isExpired now m k = true ↔ lookup k m ≠ none ∧ Model.Cache.get now m k = none := by
  rw [isExpired_iff, get_none_iff]
  cases lookup k m <;> simp

theorem count_eq (m : Items) : count m = (keys m).length := (List.length_map _).symm

/-- `List()` (canonical form: pairs sorted by key) reports exactly the stored entries — every one,
expired-but-unpurged ones included — once each. -/
theorem listObs_spec {m : Items} (hn : (keys m).Nodup) :
    (listObs m).Pairwise (fun a b => a.1 ≤ b.1) ∧ (listObs m).length = count m ∧
      ∀ k v, (k, v) ∈ listObs m ↔ ∃ it, lookup k m = some it ∧ it.object = v := by
  have hp : (listObs m).Perm (m.map fun p => (p.1, p.2.object)) := by
    rw [listObs, list_eq_reverse hn]
    exact (sortKV_perm_self _).trans ((List.reverse_perm m).map _)
  refine ⟨sortKV_sorted _, by rw [hp.length_eq]; simp [count], fun k v => ?_⟩
  rw [hp.mem_iff, List.mem_map]
  constructor
  · rintro ⟨⟨k', it⟩, hmem, he⟩
    simp only [Prod.mk.injEq] at he
    obtain ⟨rfl, rfl⟩ := he
    exact ⟨it, lookup_of_mem hn hmem, rfl⟩
  · rintro ⟨it, hl, rfl⟩
    exact ⟨(k, it), mem_of_lookup hl, rfl⟩

/-- `MapToCache` over a Go map (unique keys) listed in the order `kvs`: it reports an error iff the
`Set` of at least one entry fails, every entry's key ends up as its own `Set` on the original map
would leave it, and no other key changes. -/
theorem mapToCache_spec {cfg : Cfg} {now d : Int} {m : Items} {kvs : List (Int × Int)}
    (hk : (kvs.map (·.1)).Nodup) :
    ((mapToCache cfg now m kvs d).2 = true ↔
        ∃ kv ∈ kvs, (Model.Cache.set cfg now m kv.1 kv.2 d).2 = true) ∧
    (∀ kv ∈ kvs, lookup kv.1 (mapToCache cfg now m kvs d).1
        = lookup kv.1 (Model.Cache.set cfg now m kv.1 kv.2 d).1) ∧
    (∀ k, k ∉ kvs.map (·.1) → lookup k (mapToCache cfg now m kvs d).1 = lookup k m) := by
  obtain ⟨h1, h2⟩ := mapToCacheLoop_spec (cfg := cfg) (now := now) (d := d) kvs m false hk
  refine ⟨?_, h2, fun k hk' => lookup_mapToCacheLoop_other kvs m false hk'⟩
  rw [mapToCache, h1, Bool.false_or, List.any_eq_true]

/-- The iteration order of the argument map does not matter: same error flag, same resulting map. -/
theorem mapToCache_order_irrelevant {cfg : Cfg} {now d : Int} {m : Items} {kvs kvs' : List (Int × Int)}
    (hk : (kvs.map (·.1)).Nodup) (hp : kvs.Perm kvs') :
    (mapToCache cfg now m kvs d).2 = (mapToCache cfg now m kvs' d).2 ∧
      ∀ k, lookup k (mapToCache cfg now m kvs d).1 = lookup k (mapToCache cfg now m kvs' d).1 := by
  have hk' : (kvs'.map (·.1)).Nodup := ((hp.map (·.1)).nodup_iff).mp hk
  obtain ⟨a1, a2⟩ := mapToCacheLoop_spec (cfg := cfg) (now := now) (d := d) kvs m false hk
  obtain ⟨b1, b2⟩ := mapToCacheLoop_spec (cfg := cfg) (now := now) (d := d) kvs' m false hk'
  refine ⟨by rw [mapToCache, mapToCache, a1, b1, hp.any_eq], fun k => ?_⟩
  by_cases hmem : k ∈ kvs.map (·.1)
  · obtain ⟨kv, hkv, rfl⟩ := List.mem_map.mp hmem
    exact (a2 kv hkv).trans (b2 kv (hp.mem_iff.mp hkv)).symm
  · have hmem' : k ∉ kvs'.map (·.1) := fun h => hmem ((hp.map (·.1)).mem_iff.mpr h)
    exact (lookup_mapToCacheLoop_other kvs m false hmem).trans
      (lookup_mapToCacheLoop_other kvs' m false hmem').symm

/-! ## All instants, all histories: liveness before the deadline, expiry after it, cleanup

A history is any list of events — API calls and janitor ticks, each at its own instant — that do not
store, delete or flush the key under consideration (`touches k e = false`); everything else,
including purges and operations on other keys, is arbitrary. -/

/-- An entry is live at **every** instant up to and including its deadline: whatever happened
since it was stored (no event later than `now`), `Get` at `now ≤ exp` returns it. -/
theorem live_before_deadline {cfg : Cfg} {m : Items} {k : Int} {it : Item} (es : List Ev) (now : Int)
    (hn : (keys m).Nodup) (hst : lookup k m = some it)
    (hun : ∀ e ∈ es, touches k e = false) (hpast : ∀ e ∈ es, evTime e ≤ now)
    (hlive : now ≤ it.expiration) :
    Model.Cache.get now (runEv cfg m es).1 k = some it := by
  rw [get_some_iff]
  exact ⟨lookup_runEv_stable es m hn hst hun fun e he _ =>
    expired_eq_false_iff.mpr (.inr (Int.le_trans (hpast e he) hlive)), .inr hlive⟩

/-- An entry is expired at **every** instant strictly after its (positive) deadline: `Get` fails,
whether or not cleanup has removed it meanwhile. -/
theorem expired_after_deadline {cfg : Cfg} {m : Items} {k : Int} {it : Item} (es : List Ev) (now : Int)
    (hn : (keys m).Nodup) (hst : lookup k m = some it)
    (hun : ∀ e ∈ es, touches k e = false) (hpos : 0 < it.expiration) (hlate : it.expiration < now) :
    Model.Cache.get now (runEv cfg m es).1 k = none := by
  rw [get_none_iff, lookup_runEv es m hn hun, hst, Option.filter_some]
  split
  · exact .inr ⟨it, rfl, hpos, hlate⟩
  · exact .inl rfl

/-- Entries without expiry never expire and are never removed by cleanup: after any history, with
purges at any instants, `Get` at any instant returns the entry. -/
theorem unexpiring_forever {cfg : Cfg} {m : Items} {k : Int} {it : Item} (es : List Ev) (now : Int)
    (hn : (keys m).Nodup) (hst : lookup k m = some it)
    (hun : ∀ e ∈ es, touches k e = false) (hexp : it.expiration ≤ 0) :
    lookup k (runEv cfg m es).1 = some it ∧ Model.Cache.get now (runEv cfg m es).1 k = some it ∧
      isExpired now (runEv cfg m es).1 k = false := by
  have h : lookup k (runEv cfg m es).1 = some it :=
    lookup_runEv_stable es m hn hst hun fun e _ _ => expired_eq_false_iff.mpr (.inl hexp)
  refine ⟨h, get_some_iff.mpr ⟨h, .inl hexp⟩, ?_⟩
  rw [isExpired_eq, h]
  exact expired_eq_false_iff.mpr (.inl hexp)

/-- The statement's timing clause in one piece.  A successful `Set` (or `Update`, see
`update_stores`) at instant `t₀ ≥ 0` with a positive effective duration `D = effDur cfg d`, followed by
any history that does not touch the key: `Get` returns the value at every `now ≤ t₀ + D` (nothing
in the history being later than `now`) and fails at every `now > t₀ + D`. -/
theorem positive_duration_entry {cfg : Cfg} {m : Items} {k v d t₀ : Int} (es : List Ev)
    (hn : (keys m).Nodup) (ht₀ : 0 ≤ t₀) (hd : 0 < effDur cfg d)
    (hok : (Model.Cache.set cfg t₀ m k v d).2 = false)
    (hun : ∀ e ∈ es, touches k e = false) :
    let m' := (Model.Cache.set cfg t₀ m k v d).1
    (∀ now, (∀ e ∈ es, evTime e ≤ now) → now ≤ t₀ + effDur cfg d →
        Model.Cache.get now (runEv cfg m' es).1 k = some ⟨v, t₀ + effDur cfg d⟩) ∧
    (∀ now, t₀ + effDur cfg d < now → Model.Cache.get now (runEv cfg m' es).1 k = none) := by
  intro m'
  obtain ⟨h1, h2⟩ := set_ok_iff.mp hok
  have hm' : m' = assign k ⟨v, t₀ + effDur cfg d⟩ m := by
    show (Model.Cache.set cfg t₀ m k v d).1 = _
    rw [set_ok h1 h2, expiry_pos hd]
  have hn' : (keys m').Nodup := hm' ▸ nodup_assign hn
  have hst : lookup k m' = some ⟨v, t₀ + effDur cfg d⟩ := by rw [hm', lookup_assign, if_pos rfl]
  exact ⟨fun now hp hl => live_before_deadline es now hn' hst hun hp hl,
         fun now hl => expired_after_deadline es now hn' hst hun (Int.add_pos_of_nonneg_of_pos ht₀ hd) hl⟩

/-- Once the janitor has ticked at an instant past the deadline, the expired entry is gone — and it
stays gone for the rest of the history (nothing re-stores the key). -/
theorem janitor_purges {cfg : Cfg} {m : Items} {k : Int} {it : Item} (es : List Ev) (t : Int)
    (hn : (keys m).Nodup) (hst : lookup k m = some it)
    (hun : ∀ e ∈ es, touches k e = false) (hpos : 0 < it.expiration) (ht : it.expiration < t)
    (htick : Ev.tick t ∈ es) :
    lookup k (runEv cfg m es).1 = none := by
  rw [lookup_runEv es m hn hun, hst, Option.filter_some, if_neg]
  rw [Bool.not_eq_true, Bool.not_eq_false', List.any_eq_true]
  exact ⟨.tick t, htick, expired_iff.mpr ⟨hpos, ht⟩⟩

/-- With background cleanup enabled and a punctual ticker, an entry whose deadline is `D` is gone by
`D + cleanupInt`: after any history, not touching the key, whose ticks are punctual on a window
that starts no later than `D` and reaches `D + cleanupInt`. -/
theorem cleanup_within_interval {cfg : Cfg} {m : Items} {k : Int} {it : Item} (es : List Ev)
    (start now : Int)
    (hcl : 0 < cfg.cleanupInt) (hn : (keys m).Nodup) (hst : lookup k m = some it)
    (hun : ∀ e ∈ es, touches k e = false) (hpos : 0 < it.expiration)
    (hpunct : Punctual cfg.cleanupInt start now es) (hstart : start ≤ it.expiration)
    (hnow : it.expiration + cfg.cleanupInt ≤ now) :
    lookup k (runEv cfg m es).1 = none := by
  -- the first tick after the deadline is at most `cleanupInt` later
  obtain ⟨hd, h1, h2⟩ := (next_multiple_iff hcl (t := it.expiration)).mp rfl
  exact janitor_purges es _ hn hst hun hpos h1
    (hpunct _ hd (Int.lt_of_le_of_lt hstart h1) (Int.le_trans h2 hnow))

/-- A live entry is never removed by cleanup, however many ticks fire: `live_before_deadline` /
`unexpiring_forever` for a history of ticks only. -/
theorem ticks_keep_live {cfg : Cfg} {m : Items} {k : Int} {it : Item} (ts : List Int) (now : Int)
    (hn : (keys m).Nodup) (hst : lookup k m = some it) (hpast : ∀ t ∈ ts, t ≤ now)
    (hlive : it.expiration ≤ 0 ∨ now ≤ it.expiration) :
    lookup k (runEv cfg m (ts.map Ev.tick)).1 = some it :=
  lookup_runEv_stable _ m hn hst (List.forall_mem_map.mpr fun _ _ => rfl) (List.forall_mem_map.mpr fun t htm _ =>
    expired_eq_false_iff.mpr (hlive.imp id (Int.le_trans (hpast t htm))))

/-! ## The same clauses on the clocked machine the harness compares with the real code

`Model.Cache.run` is what the driver runs beside the implementation (virtual clock, `sleep`).
Each of its runs is an event history with no event later than the final clock reading and a ticker that is punctual
by construction (`Lemmas.C08.run_history`), so the theorems on histories apply without any timing hypothesis. -/

/-- After any protocol history that does not touch key `k` (time not running backwards), starting in
any reachable state in which `k ↦ it` is stored, with `s'` the final state:
* if the entry has no deadline or the clock has not passed it, `Get` returns its value;
* if the clock is strictly past a positive deadline, `Get` fails;
* if moreover cleanup is enabled, the deadline was not yet passed at the start and the clock has
  reached `deadline + cleanupInt`, the entry is no longer in the map (`Count`/`List` drop it). -/
theorem clocked_entry_lifecycle {cfg : Cfg} {s : St} {k : Int} {it : Item} (ops : List Op)
    (hI : Inv cfg s) (hw : ∀ op ∈ ops, WellTimed op)
    (hst : lookup k s.items = some it) (hun : ∀ op ∈ ops, touchesOp k op = false) :
    let s' := (run cfg s ops).1
    ((it.expiration ≤ 0 ∨ s'.now ≤ it.expiration) →
        (step cfg s' (.get k)).2 = .got (some it.object) ∧ lookup k s'.items = some it) ∧
    (0 < it.expiration → it.expiration < s'.now → (step cfg s' (.get k)).2 = .got none) ∧
    (0 < cfg.cleanupInt → 0 < it.expiration → s.now ≤ it.expiration →
        it.expiration + cfg.cleanupInt ≤ s'.now → lookup k s'.items = none) := by
  intro s'
  obtain ⟨es, H⟩ := run_history ops s hI hw
  have hun' := H.untouched hun
  refine ⟨?_, ?_, ?_⟩
  · intro hlive
    have hg : Model.Cache.get s'.now s'.items k = some it := by
      rw [H.items]
      rcases hlive with h | h
      · exact (unexpiring_forever _ _ hI.nodup hst hun' h).2.1
      · exact live_before_deadline _ _ hI.nodup hst hun' H.times h
    refine ⟨?_, (get_some_iff.mp hg).1⟩
    rw [step_get, hg]; rfl
  · intro hpos hlate
    have hg : Model.Cache.get s'.now s'.items k = none := by
      rw [H.items]; exact expired_after_deadline _ _ hI.nodup hst hun' hpos hlate
    rw [step_get, hg]; rfl
  · intro hcl hpos hstart hnow
    rw [H.items]
    exact cleanup_within_interval _ s.now s'.now hcl hI.nodup hst hun' hpos (H.punctual hcl) hstart hnow

/-! ## Non-vacuity: the hypotheses are satisfiable, the model computes the documented behaviour -/
section Examples

/-- string-valued cache, default expiry 20, janitor every 10 -/
def cfgX : Cfg := ⟨20, 10, true⟩

def opsX : List Op :=
  [.set 0 5 0, .sleep 20, .get 0, .set 0 6 0, .sleep 1, .get 0, .isExpired 0, .count, .sleep 9, .count]

/-- live at the deadline instant (20), expired at 21, purged by the tick at 30 -/
example : (run cfgX (init cfgX) opsX).2 =
    [.err false, .unit, .got (some 5), .err true, .unit, .got none, .bool true, .int 1, .unit, .int 0] := by
  rfl

theorem opsX_wellTimed : ∀ op ∈ opsX, WellTimed op := by
  intro op h
  simp only [opsX, List.mem_cons, List.not_mem_nil, or_false] at h
  rcases h with rfl | rfl | rfl | rfl | rfl | rfl | rfl | rfl | rfl | rfl <;> simp [WellTimed]

example : ∀ op ∈ opsX, WellTimed op := opsX_wellTimed

/-- `run_admitted` / `cache_refines_deadline_map` applied -/
example : Admits (absCfg cfgX) {} opsX (run cfgX (init cfgX) opsX).2 :=
  cache_refines_deadline_map cfgX opsX opsX_wellTimed

def evsX : List Ev := [.tick 10, .call 12 (.set 1 7 (-1)), .call 15 .deleteExpired, .tick 20]

/-- `positive_duration_entry`: hypotheses hold for a concrete store and history; conclusion at the
deadline instant and just after it -/
example :
    Model.Cache.get 20 (runEv cfgX (Model.Cache.set cfgX 0 [] 0 5 0).1 evsX).1 0 = some ⟨5, 20⟩ ∧
    Model.Cache.get 21 (runEv cfgX (Model.Cache.set cfgX 0 [] 0 5 0).1 evsX).1 0 = none := by
  have h := positive_duration_entry (cfg := cfgX) (m := []) (k := 0) (v := 5) (d := 0) (t₀ := 0) evsX
    List.nodup_nil (Int.le_refl _) (by decide) rfl (by decide)
  exact ⟨h.1 20 (by decide) (by decide), h.2 21 (by decide)⟩

/-- `unexpiring_forever`: an entry stored under a zero default (`exp = 0`) survives ticks at any time -/
example : lookup 1 (runEv ⟨0, 10, false⟩ [(1, ⟨7, 0⟩)] [.tick 10, .tick 1000000]).1 = some ⟨7, 0⟩ :=
  (unexpiring_forever (cfg := ⟨0, 10, false⟩) (it := ⟨7, 0⟩) [.tick 10, .tick 1000000] 0 (by decide) (by decide)
    (by decide) (by decide)).1

/-- `cleanup_within_interval`: a punctual tick sequence exists -/
example : lookup 0 (runEv cfgX [(0, ⟨5, 20⟩)] [.tick 10, .tick 20, .tick 30]).1 = none :=
  cleanup_within_interval (cfg := cfgX) (it := ⟨5, 20⟩) [.tick 10, .tick 20, .tick 30] 0 30 (by decide) (by decide)
    (by decide) (by decide) (by decide)
    (by
      rintro _ ⟨n, rfl⟩ h1 h2
      have : n = 1 ∨ n = 2 ∨ n = 3 := by simp only [cfgX] at h1 h2; omega
      rcases this with rfl | rfl | rfl
      · exact .head _
      · exact .tail _ (.head _)
      · exact .tail _ (.tail _ (.head _)))
    (by decide) (by decide)

/-- `clocked_entry_lifecycle` from the state right after a successful `Set` -/
example : lookup 0 (run cfgX (step cfgX (init cfgX) (.set 0 5 0)).1 [.sleep 20, .get 0, .sleep 10]).1.items = none := by
  have hI : Inv cfgX (step cfgX (init cfgX) (.set 0 5 0)).1 := inv_step _ (inv_init cfgX) trivial
  have h := clocked_entry_lifecycle (cfg := cfgX) (k := 0) (it := ⟨5, 20⟩)
    [.sleep 20, .get 0, .sleep 10] hI
    (by intro op h
        simp only [List.mem_cons, List.not_mem_nil, or_false] at h
        rcases h with rfl | rfl | rfl <;> simp [WellTimed])
    (by decide) (by decide)
  exact h.2.2 (by decide) (by decide) (by decide) (by decide)

/-- `mapToCache_order_irrelevant`: both orders of a two-entry map -/
example : (mapToCache cfgX 0 [(1, ⟨9, -1⟩)] [(1, 7), (2, 8)] 0).2
    = (mapToCache cfgX 0 [(1, ⟨9, -1⟩)] [(2, 8), (1, 7)] 0).2 :=
  (mapToCache_order_irrelevant (by decide) (List.Perm.swap _ _ _)).1

/-! Facts about the model that the four repairs F14–F17 made true: -/

/-- F14: `Set` reports the rejection of an empty string value -/
example : Model.Cache.set ⟨-1, 0, true⟩ 0 [] 1 0 0 = ([], true) := by rfl
/-- F15: `MapToCache` reports the error of a blocked entry and still stores the others -/
example : mapToCache ⟨-1, 0, false⟩ 0 [(1, ⟨5, -1⟩)] [(1, 7), (2, 8)] 0
    = ([(2, ⟨8, -1⟩), (1, ⟨5, -1⟩)], true) := by rfl
/-- F16: `IsExpired` is true past the deadline, false at it -/
example : isExpired 11 [(0, ⟨5, 10⟩)] 0 = true ∧ isExpired 10 [(0, ⟨5, 10⟩)] 0 = false := by decide
/-- F17: an entry stored under a zero default (`exp = 0`) is not purged -/
example : deleteExpired 100 (Model.Cache.set ⟨0, 10, false⟩ 0 [] 2 2 0).1 = ([(2, ⟨2, 0⟩)], false) := by
  rfl

end Examples

end GoguVerif.Theorems.C08
