import GoguVerif.Lemmas.C09
/-!
# C09 — property theorems: the trie is a string-keyed map with exact prefix queries

All theorems are about the model `Model.Trie` of `trie/trie.go` and hold for every history, key and
value — no bound.  The model is tied to the code by the correspondence run and, definition by
definition except `LongestPrefix` (its loop is outside the translated fragment), by the regenerated tie
`Theorems/GenTieTrie.lean`.  First the refinement to the
specification `Spec.C09` (finite map from non-empty byte strings, kept as a sorted list), then the clauses
of the property statement, for the state `t` reached from the empty trie by ANY history `ops` of calls
whose `Put`s have non-empty keys (`Reached ops t`).

There is no open known finding for C09; the witnesses of F18 and F19 are evaluated on the model below.
-/
namespace GoguVerif.Theorems.C09
open GoguVerif.Spec GoguVerif.Spec.C09 GoguVerif.Model.Trie GoguVerif.Lemmas.C09

theorem trie_init : Inv {} ∧ abs {} = [] := ⟨inv_init, abs_init⟩

/-- One call (any operation; `Put` with a non-empty key): the model does not panic, answers what the
specification prescribes, moves to a state representing the specification's next state, keeps `Inv`. -/
theorem trie_step_refines (t : Trie) (op : Op) (hi : Inv t) (hv : ValidOp op) :
    ∃ t', Model.Trie.step t op = some (t', (Spec.C09.step (abs t) op).2) ∧
      abs t' = (Spec.C09.step (abs t) op).1 ∧ Inv t' :=
  by
  cases op with
  | put k v =>
    cases k with
    | nil => exact absurd rfl hv
    | cons c ks => exact step_put t hi c ks v
  | get k => exact ⟨t, step_get t hi k, rfl, hi⟩
  | contains k => exact ⟨t, step_contains t hi k, rfl, hi⟩
  | size => exact ⟨t, step_size t hi, rfl, hi⟩
  | keys => exact ⟨_, step_keys t, rfl, hi⟩
  | startsWith p =>
    obtain ⟨q, h⟩ := step_startsWith t hi p
    exact ⟨_, h, by cases p <;> rfl, hi⟩
  | longestPrefix q => exact ⟨t, step_longestPrefix t hi q, by cases q <;> rfl, hi⟩

/-- Whole histories from any state satisfying the invariant. -/
theorem trie_run_refines (ops : List Op) : ∀ (t : Trie), Inv t → (∀ op ∈ ops, ValidOp op) →
    ∃ t', Model.Trie.run t ops = some (t', (specRun (abs t) ops).2) ∧
      abs t' = (specRun (abs t) ops).1 ∧ Inv t' := by
  induction ops with
  | nil => intro t hi _; exact ⟨t, rfl, rfl, hi⟩
  | cons op ops ih =>
    intro t hi hv
    obtain ⟨t1, s1, s2, s3⟩ := trie_step_refines t op hi (hv op (List.mem_cons_self ..))
    obtain ⟨t2, r1, r2, r3⟩ := ih t1 s3 (fun o ho => hv o (List.mem_cons_of_mem _ ho))
    refine ⟨t2, ?_, ?_, r3⟩
    · simp only [Model.Trie.run, s1, r1, specRun, s2]
    · simp only [specRun, r2, s2]

/-- Every history on a fresh trie: no panic, the answers are exactly the specification's. -/
theorem trie_refines (ops : List Op) (hv : ∀ op ∈ ops, ValidOp op) :
    ∃ t', Model.Trie.run {} ops = some (t', (specRun [] ops).2) ∧
      abs t' = build (putsOf ops) ∧ Inv t' := by
  obtain ⟨t', h1, h2, h3⟩ := trie_run_refines ops {} inv_init hv
  refine ⟨t', h1, ?_, h3⟩
  rw [h2, abs_init, specRun_state]; rfl

/-- In EVERY state satisfying the invariant (reached by a history or not) the represented map is strictly
increasing in byte-lexicographic order, so `Keys` (= its key list, `step_keys`) is sorted and
duplicate-free. -/
theorem inv_sorted (t : Trie) (hi : Inv t) :
    OrdMap.Sorted lexLt (abs t) ∧ (keys (abs t)).Pairwise (fun a b => lexLt a b = true) ∧
      (keys (abs t)).Nodup :=
  have hs := ents_sorted t.root hi.ord
  ⟨hs, List.pairwise_map.2 (Lemmas.C04.sorted_iff_pairwise.1 hs), Lemmas.C04.keys_nodup lexLt_sto hs⟩

theorem lexLt_strict_total : OrdMap.STO lexLt := lexLt_sto

example : lexLt [0x61] [0x61, 0x00] = true ∧ lexLt [0x61, 0xFF] [0x62] = true ∧
    lexLt [0x7F] [0x80] = true := by decide

example : ValidOp (.put [0x61, 0xC3] 7) ∧ ValidOp (.get []) ∧ ValidOp .keys :=
  ⟨by simp [ValidOp], trivial, trivial⟩

/-- `t` is the state of the model after running the history `ops` on a fresh trie. -/
def Reached (ops : List Op) (t : Trie) : Prop := ∃ outs, Model.Trie.run {} ops = some (t, outs)

/-- The hypothesis of the clause theorems: all `Put` keys of the history are non-empty. -/
def ValidHist (ops : List Op) : Prop := ∀ op ∈ ops, ValidOp op

/-- Every valid history reaches a state: the model never panics on it. -/
theorem reached_exists (ops : List Op) (hv : ValidHist ops) : ∃ t, Reached ops t := by
  obtain ⟨t', h1, _, _⟩ := trie_refines ops hv
  exact ⟨t', _, h1⟩

/-- A reached state satisfies the invariant and represents the map built from the history's `Put`s. -/
theorem reached_spec (ops : List Op) (t : Trie) (hv : ValidHist ops) (hr : Reached ops t) :
    Inv t ∧ abs t = build (putsOf ops) := by
  obtain ⟨t', h1, h2, h3⟩ := trie_refines ops hv
  obtain ⟨outs, ho⟩ := hr
  rw [h1] at ho
  cases ho
  exact ⟨h3, h2⟩

/-- Outside the property's domain: `Put` with an empty key panics in the model (as `key[0]` does in Go). -/
theorem put_empty_panics (t : Trie) (v : Int) : Model.Trie.step t (.put [] v) = none := by
  have hp : put t.root [] v 0 true = none := by cases t.root <;> rfl
  have hg : Model.Trie.get t.root [] 0 = some (T.nil, true) := by cases t.root <;> rfl
  simp [Model.Trie.step, Put, hg, hp]

section clauses
variable (ops : List Op) (t : Trie) (hv : ValidHist ops) (hr : Reached ops t)
include hv hr

theorem reached_lookup (k : Key) : OrdMap.lookup lexLt k (abs t) = latest k (putsOf ops) := by
  rw [(reached_spec ops t hv hr).2, build_lookup]

theorem reached_keys (k : Key) : k ∈ keys (abs t) ↔ k ∈ (putsOf ops).map (·.1) := by
  rw [(reached_spec ops t hv hr).2, build_keys]

/-- `Get k` reports the value of the last `Put k _` of the history
and absence if there was none (in particular for proper prefixes and extensions of stored keys, and for
the empty key); the state does not change. -/
theorem get_exact (k : Key) :
    Model.Trie.step t (.get k) = some (t, .got (if k.isEmpty then none else latest k (putsOf ops))) := by
  rw [step_get t (reached_spec ops t hv hr).1 k, reached_lookup ops t hv hr]

/-- `Contains k` is true iff `k` was put. -/
theorem contains_exact (k : Key) :
    Model.Trie.step t (.contains k) = some (t, .bool (decide (k ∈ (putsOf ops).map (·.1)))) := by
  rw [step_contains t (reached_spec ops t hv hr).1 k, reached_lookup ops t hv hr]
  refine congrArg (fun b => some (t, Out.bool b)) ?_
  cases k with
  | nil =>
    -- the empty key is never stored
    refine (decide_eq_false fun hm => ?_).symm
    obtain ⟨e, he, h0⟩ := List.mem_map.mp ((reached_keys ops t hv hr []).mpr hm)
    exact ents_ne_nil _ e he h0
  | cons c ks =>
    have h := latest_eq_none_iff (c :: ks) (putsOf ops)
    cases hl : latest (c :: ks) (putsOf ops) with
    | none => exact (decide_eq_false (h.mp hl)).symm
    | some v =>
      exact (decide_eq_true (Decidable.byContradiction fun hn => by rw [h.mpr hn] at hl; cases hl)).symm

/-- Proper prefixes and extensions are not reported: a key that was never put (whatever its relation
to the stored keys) is absent for `Get` and `Contains`. -/
theorem not_put_not_reported (k : Key) (hk : k ∉ (putsOf ops).map (·.1)) :
    Model.Trie.step t (.get k) = some (t, .got none) ∧
    Model.Trie.step t (.contains k) = some (t, .bool false) := by
  refine ⟨?_, ?_⟩
  · rw [get_exact ops t hv hr k, (latest_eq_none_iff k _).mpr hk, ite_self]
  · rw [contains_exact ops t hv hr k, decide_eq_false hk]

/-- Size = number of distinct keys, computed: the length of the history's key list with duplicates
erased. -/
theorem size_eq_distinct :
    Model.Trie.step t .size = some (t, .int ((putsOf ops).map (·.1)).eraseDups.length) := by
  have hi := (reached_spec ops t hv hr).1
  rw [step_size t hi, length_eq_eraseDups (abs t) (inv_sorted t hi).1 _ (reached_keys ops t hv hr)]

/-- Size = number of distinct keys: there is a duplicate-free list of exactly the keys that were put,
and `Size` is its length. -/
theorem size_distinct :
    ∃ ks : List Key, ks.Nodup ∧ (∀ k, k ∈ ks ↔ k ∈ (putsOf ops).map (·.1)) ∧
      Model.Trie.step t .size = some (t, .int ks.length) :=
  ⟨_, Lemmas.ListFacts.nodup_eraseDups _, fun _ => List.mem_eraseDups, size_eq_distinct ops t hv hr⟩

/-- Keys: every key that was put, exactly once, unaltered, strictly increasing in byte-lexicographic
order; no error; the map is unchanged. -/
theorem keys_sorted_complete :
    ∃ t' ks, Model.Trie.step t .keys = some (t', .keyList ks false) ∧ abs t' = abs t ∧
      ks.Pairwise (fun a b => lexLt a b = true) ∧ ks.Nodup ∧
      (∀ k, k ∈ ks ↔ k ∈ (putsOf ops).map (·.1)) := by
  obtain ⟨_, hpw, hnd⟩ := inv_sorted t (reached_spec ops t hv hr).1
  exact ⟨_, keys (abs t), step_keys t, rfl, hpw, hnd, reached_keys ops t hv hr⟩

/-- `StartsWith p` (`p` non-empty) = the sub-list of the `Keys` answer consisting of the keys that begin
with `p` — hence exactly the stored keys with prefix `p`, in the same (lexicographic) order. -/
theorem startsWith_exact (p : Key) (hp : p ≠ []) :
    ∃ t' t'' ks, Model.Trie.step t .keys = some (t', .keyList ks false) ∧
      Model.Trie.step t (.startsWith p) = some (t'', .keyList (ks.filter (isPrefix p)) false) ∧
      abs t'' = abs t ∧
      (∀ k, k ∈ ks.filter (isPrefix p) ↔ k ∈ (putsOf ops).map (·.1) ∧ ∃ s, k = p ++ s) := by
  cases p with
  | nil => exact absurd rfl hp
  | cons c ps =>
    obtain ⟨q, hq⟩ := step_startsWith t (reached_spec ops t hv hr).1 (c :: ps)
    refine ⟨_, _, keys (abs t), step_keys t, hq, rfl, fun k => ?_⟩
    rw [List.mem_filter, reached_keys ops t hv hr, isPrefix_iff]

/-- `LongestPrefix q` (`q` non-empty) returns, without error and without changing the trie, the longest
stored key that is a prefix of `q`, and the empty string iff no stored key is a prefix of `q`. -/
theorem longestPrefix_exact (q : Key) (hq : q ≠ []) :
    ∃ r, Model.Trie.step t (.longestPrefix q) = some (t, .key r false) ∧
      ((r = [] ∧ ∀ k ∈ (putsOf ops).map (·.1), isPrefix k q = false) ∨
       (r ∈ (putsOf ops).map (·.1) ∧ isPrefix r q = true ∧
        ∀ k ∈ (putsOf ops).map (·.1), isPrefix k q = true → k.length ≤ r.length)) := by
  cases q with
  | nil => exact absurd rfl hq
  | cons c qs =>
    refine ⟨longest (c :: qs) (abs t), step_longestPrefix t (reached_spec ops t hv hr).1 (c :: qs), ?_⟩
    have hge := foldl_lf_ge (c :: qs) (abs t) []
    have hmem : ∀ k, k ∈ (putsOf ops).map (·.1) ↔ ∃ e ∈ abs t, e.1 = k :=
      fun k => (reached_keys ops t hv hr k).symm.trans List.mem_map
    rcases foldl_lf_result (c :: qs) (abs t) [] with h | ⟨e, he, h1, h2⟩
    · left
      refine ⟨h, ?_⟩
      intro k hk
      obtain ⟨e, he, rfl⟩ := (hmem k).mp hk
      cases hp : isPrefix e.1 (c :: qs) with
      | false => rfl
      | true =>
        have h3 := hge e he hp
        rw [h] at h3
        exact absurd (List.eq_nil_of_length_eq_zero (Nat.le_zero.mp h3)) (ents_ne_nil _ e he)
    · right
      rw [longest_eq, h1]
      refine ⟨(hmem _).mpr ⟨e, he, rfl⟩, h2, ?_⟩
      intro k hk hp
      obtain ⟨e', he', rfl⟩ := (hmem k).mp hk
      exact h1 ▸ hge e' he' hp

/-- Observers do not change the map: after any non-`Put` call the abstract state (hence every later
answer) is the same. -/
theorem observers_keep_map (op : Op) (hop : ∀ k v, op ≠ .put k v) :
    ∃ t' o, Model.Trie.step t op = some (t', o) ∧ abs t' = abs t ∧ t'.n = t.n := by
  have hi := (reached_spec ops t hv hr).1
  cases op with
  | put k v => exact absurd rfl (hop k v)
  | get k => exact ⟨t, _, step_get t hi k, rfl, rfl⟩
  | contains k => exact ⟨t, _, step_contains t hi k, rfl, rfl⟩
  | size => exact ⟨t, _, step_size t hi, rfl, rfl⟩
  | keys => exact ⟨_, _, step_keys t, rfl, rfl⟩
  | startsWith p => exact (step_startsWith t hi p).elim fun q h => ⟨_, _, h, rfl, rfl⟩
  | longestPrefix q => exact ⟨t, _, step_longestPrefix t hi q, rfl, rfl⟩

end clauses

/-- Empty key / prefix / query: `Get ""` and `Contains ""` report absence, `StartsWith ""` and
`LongestPrefix ""` are rejected with an error and an empty result; the map and the counter are unchanged in all four.  Holds in every state. -/
theorem empty_rules (t : Trie) :
    Model.Trie.step t (.get []) = some (t, .got none) ∧
    Model.Trie.step t (.contains []) = some (t, .bool false) ∧
    (∃ t', Model.Trie.step t (.startsWith []) = some (t', .keyList [] true) ∧ abs t' = abs t ∧ t'.n = t.n) ∧
    Model.Trie.step t (.longestPrefix []) = some (t, .key [] true) := by
  refine ⟨rfl, rfl, ⟨{ t with q := [] }, rfl, rfl, rfl⟩, rfl⟩

/-- the F18 witness on the model: nested keys, proper prefixes are not reported, Size counts
both keys -/
example :
    (Model.Trie.run {} [.put [0x61, 0x62, 0x63] 1, .get [0x61, 0x62], .contains [0x61],
        .put [0x61, 0x62] 2, .size, .keys]).map (·.2) =
      some [.unit, .got none, .bool false, .unit, .int 2,
        .keyList [[0x61, 0x62], [0x61, 0x62, 0x63]] false] := by decide

/-- the F19 witness: bytes ≥ 0x80 come back unaltered; StartsWith / LongestPrefix on them -/
example :
    (Model.Trie.run {} [.put [0x61, 0xC3, 0xA9, 0x61, 0xFF] 221, .keys, .put [0xA9, 0x80] 5,
        .startsWith [0xA9], .longestPrefix [0xA9, 0x80, 0xFF]]).map (·.2) =
      some [.unit, .keyList [[0x61, 0xC3, 0xA9, 0x61, 0xFF]] false, .unit,
        .keyList [[0xA9, 0x80]] false, .key [0xA9, 0x80] false] := by decide

/-- a history satisfying the hypotheses of the clause theorems, and the state it reaches -/
example : ValidHist [.put [1] 10, .keys, .put [1, 2] 11, .put [1] 12] ∧
    ∃ t, Reached [.put [1] 10, .keys, .put [1, 2] 11, .put [1] 12] t ∧ t.n = 2 := by
  refine ⟨?_, _, ⟨_, rfl⟩, by decide⟩
  intro op hop
  simp only [List.mem_cons, List.not_mem_nil, or_false] at hop
  rcases hop with rfl | rfl | rfl | rfl <;> simp [ValidOp]

end GoguVerif.Theorems.C09
