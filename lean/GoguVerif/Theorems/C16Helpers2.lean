import GoguVerif.Lemmas.C16Helpers2
import GoguVerif.Lemmas.C12Zip
import GoguVerif.Lemmas.C16Fixtures
import GoguVerif.Lemmas.C16Table
import GoguVerif.Gen.Effects
/-!
# C16 — store-level refinement of concrete helpers, second batch

`Theorems/C16Helpers.lean` closes, for 17 helpers, the gap between the frame theorem for every program of
the builder discipline (`Theorems/C16.lean`) and the effect table's claim that a given helper IS such a
program.  Here the same is done for the helpers written over the slice store in
`Model/StoreHelpers2.lean`: `DifferenceBy`, `Duplicate`, `IntersectionBy`, `Zip`, `Unzip`.  For each, for
ALL stores, all well-formed argument headers (any offset, any spare capacity, any other slice sharing the
array, arguments sharing an array with each other) and all callbacks:

1. **value refinement** (`<h>_refines`) — the elements of the returned header(s) in the new store are the
   answer of the value-level model (`Model/C11.lean`, for `Zip`/`Unzip` `Model/C12.lean`), whose correctness
   is C11's / C12's theorem;
2. **frame** — `Frame σ σ'`: every array that existed before the call is unchanged in every cell, spare
   capacity included; the result is a well-formed header into storage that did not exist before (`Zip`,
   `Unzip`: every row is, and different rows lie in different arrays);
3. **discipline** (`<h>_disciplined`) — the store function equals `run` of an explicit program of `Instr`s
   (`make` + one `append` per element of the answer; `Zip`/`Unzip`: one `make` per argument + one indexed
   write per cell through the register of a row the program made), so `Theorems.C16.run_frame` applies.

`Duplicate` ranges over a local Go map in its second loop; the order is a parameter of the model
(`duplicateStoreIn`), and 1.–3. are proved for EVERY order (`duplicate_any_order`,
`duplicate_any_order_disciplined`); `duplicate_refines` is the instance "insertion order", which is the order
of `Model.C11.duplicate`.

`Zip`/`Unzip`: the store-level model is shown to SIMULATE the value-level model `Model.C12.zipWith` step by
step for every argument list, panics included (`zipWith_simulates`: one panics iff the other does — the two
deliberate `panic(…)`s and every index panic); on `n` arguments of `n` elements C12's theorem then gives that
no panic is reached and the answer is the transpose (`zip_refines`, `unzip_refines`); otherwise both panic
(`zip_panics`, `unzip_panics`).

Assumed, as in `Theorems/C16Helpers.lean`: element type `Int`, callbacks are pure Lean functions, `WF` for
the argument headers, the growth policy of `Store.append`, and that `Model/StoreHelpers2.lean` mirrors the
Go statements (read off the source, not regenerated); for `Zip`/`Unzip` that the outer `[][]T` arrays (the
variadic parameter, the result) are not `[]T` storage (they are Lean lists of headers).
-/
set_option autoImplicit false
namespace GoguVerif.Theorems.C16Helpers2
open Model.Store Model.StoreHelpers Model.StoreHelpers2 Lemmas.C16Helpers Lemmas.C16Helpers2
open Theorems.C16Helpers

theorem differenceByStore_eq (σ : Store) (s1 s2 : Slice) (fn : Int → Int) (h : WF σ s1) (h2 : WF σ s2) :
    differenceByStore σ s1 s2 fn =
      some (appendEach (alloc σ 0 0).1 (alloc σ 0 0).2 (Model.C11.differenceBy (elems σ s1) (elems σ s2) fn)) :=
  differenceByLoop_eq fn h h2 _ _ (Inv.alloc σ 0 0)

theorem differenceBy_refines (σ : Store) (s1 s2 : Slice) (fn : Int → Int) (h : WF σ s1) (h2 : WF σ s2) :
    ∃ σ' res, differenceByStore σ s1 s2 fn = some (σ', res) ∧
      elems σ' res = Model.C11.differenceBy (elems σ s1) (elems σ s2) fn ∧
      Frame σ σ' ∧ σ.length ≤ res.arr ∧ WF σ' res :=
  builder_refines (differenceByStore_eq σ s1 s2 fn h h2)

theorem differenceBy_disciplined (σ : Store) (regs : List Slice) (s1 s2 : Slice) (fn : Int → Int) (h : WF σ s1)
    (h2 : WF σ s2) :
    ∃ σ' res, differenceByStore σ s1 s2 fn = some (σ', res) ∧
      run σ.length { σ := σ, regs := regs }
        (Instr.alloc 0 0 ::
          (Model.C11.differenceBy (elems σ s1) (elems σ s2) fn).map (Instr.append regs.length)) =
        { σ := σ', regs := regs ++ [res] } :=
  builder_disciplined (differenceByStore_eq σ s1 s2 fn h h2) regs

/-- `arg0 = [1,2,3,4]` minus `arg1 = [2,9]`: compared by parity nothing is left (`1`, `3` are odd as `9`; `2`,
`4` even as `2`); compared by `x / 3`, `1` and `2` go (image `0`, as `2`) and `3`, `4` (image `1`) are kept -/
example : differenceByStore σx arg0 arg1 (fun x => x % 2) =
      some (σx ++ [[]], { arr := 2, off := 0, len := 0, cap := 0 }) ∧
    differenceByStore σx arg0 arg1 (fun x => x / 3) =
      some (σx ++ [[], [3], [3, 4, 0]], { arr := 4, off := 0, len := 2, cap := 3 }) := by decide +kernel

theorem duplicateStoreIn_eq (order : List (Int × Nat) → List (Int × Nat)) (σ : Store) (arg : Slice)
    (h : WF σ arg) :
    duplicateStoreIn order σ arg =
      some (appendEach (alloc σ 0 arg.len).1 (alloc σ 0 arg.len).2
        (Model.C11.dupCollect (order (Model.C11.dupCountLoop [] (elems σ arg))))) := by
  unfold duplicateStoreIn
  simp only
  rw [dupCountLoop_eq (alloc_frame σ 0 arg.len) h []]
  simp only [dupCollectLoop_eq]

/-- Duplicate, for every iteration order of the local map: the result shows the value-level collecting loop
applied to the counted entries in that order; frame; fresh result. -/
theorem duplicate_any_order (order : List (Int × Nat) → List (Int × Nat)) (σ : Store) (arg : Slice)
    (h : WF σ arg) :
    ∃ σ' res, duplicateStoreIn order σ arg = some (σ', res) ∧
      elems σ' res = Model.C11.dupCollect (order (Model.C11.dupCountLoop [] (elems σ arg))) ∧
      Frame σ σ' ∧ σ.length ≤ res.arr ∧ WF σ' res :=
  builder_refines (duplicateStoreIn_eq order σ arg h)

theorem duplicate_any_order_disciplined (order : List (Int × Nat) → List (Int × Nat)) (σ : Store)
    (regs : List Slice) (arg : Slice) (h : WF σ arg) :
    ∃ σ' res, duplicateStoreIn order σ arg = some (σ', res) ∧
      run σ.length { σ := σ, regs := regs }
        (Instr.alloc 0 arg.len ::
          (Model.C11.dupCollect (order (Model.C11.dupCountLoop [] (elems σ arg)))).map
            (Instr.append regs.length)) =
        { σ := σ', regs := regs ++ [res] } :=
  builder_disciplined (duplicateStoreIn_eq order σ arg h) regs

/-- the local map iterated in insertion order -/
theorem duplicate_refines (σ : Store) (arg : Slice) (h : WF σ arg) :
    ∃ σ' res, duplicateStore σ arg = some (σ', res) ∧
      elems σ' res = Model.C11.duplicate (elems σ arg) ∧
      Frame σ σ' ∧ σ.length ≤ res.arr ∧ WF σ' res :=
  duplicate_any_order id σ arg h

theorem duplicate_disciplined (σ : Store) (regs : List Slice) (arg : Slice) (h : WF σ arg) :
    ∃ σ' res, duplicateStore σ arg = some (σ', res) ∧
      run σ.length { σ := σ, regs := regs }
        (Instr.alloc 0 arg.len :: (Model.C11.duplicate (elems σ arg)).map (Instr.append regs.length)) =
        { σ := σ', regs := regs ++ [res] } :=
  duplicate_any_order_disciplined id σ regs arg h

/-- a store for `Duplicate`: the argument `[3, 1, 3, 1, 3, 2]` at offset 1, two sentinel cells of spare
capacity behind it, a foreign cell in front -/
def σd : Store := [[-555, 3, 1, 3, 1, 3, 2, -777, -777]]
def argd : Slice := { arr := 0, off := 1, len := 6, cap := 8 }

theorem wf_argd : WF σd argd := ⟨by decide, _, rfl, by decide⟩

example : duplicateStore σd argd = some (σd ++ [[3, 1, 0, 0, 0, 0]], { arr := 1, off := 0, len := 2, cap := 6 }) ∧
    duplicateStoreIn List.reverse σd argd =
      some (σd ++ [[1, 3, 0, 0, 0, 0]], { arr := 1, off := 0, len := 2, cap := 6 }) := by decide +kernel

theorem intersectionByStore_eq (σ : Store) (fn : Int → Int) (p0 : Slice) (others : List Slice) (h0 : WF σ p0)
    (ho : ∀ p ∈ others, WF σ p) :
    intersectionByStore σ fn (p0 :: others) =
      some (appendEach (alloc σ 0 0).1 (alloc σ 0 0).2
        (Model.C11.interByLoop fn (others.length + 1) (others.map (elems σ)) [] (elems σ p0))) :=
  interByLoop_eq fn (others.length + 1) h0 ho _ _ (Inv.alloc σ 0 0) (alloc_elems σ 0 0)

/-- at least one slice argument; the frame covers ALL of them -/
theorem intersectionBy_refines (σ : Store) (fn : Int → Int) (p0 : Slice) (others : List Slice) (h0 : WF σ p0)
    (ho : ∀ p ∈ others, WF σ p) :
    ∃ σ' res, intersectionByStore σ fn (p0 :: others) = some (σ', res) ∧
      Model.C11.intersectionBy fn ((p0 :: others).map (elems σ)) = .ok (elems σ' res) ∧
      Frame σ σ' ∧ σ.length ≤ res.arr ∧ WF σ' res := by
  obtain ⟨σ', res, e, g1, g⟩ := builder_refines (intersectionByStore_eq σ fn p0 others h0 ho)
  exact ⟨σ', res, e, by simp [g1, Model.C11.intersectionBy], g⟩

/-- `IntersectionBy(fn)` panics at `params[0]`, in the store model as in the value-level model -/
theorem intersectionBy_no_argument (σ : Store) (fn : Int → Int) :
    intersectionByStore σ fn [] = none ∧ Model.C11.intersectionBy fn ([] : List (List Int)) = .panic := ⟨rfl, rfl⟩

theorem intersectionBy_disciplined (σ : Store) (regs : List Slice) (fn : Int → Int) (p0 : Slice)
    (others : List Slice) (h0 : WF σ p0) (ho : ∀ p ∈ others, WF σ p) :
    ∃ σ' res, intersectionByStore σ fn (p0 :: others) = some (σ', res) ∧
      run σ.length { σ := σ, regs := regs }
        (Instr.alloc 0 0 ::
          (Model.C11.interByLoop fn (others.length + 1) (others.map (elems σ)) [] (elems σ p0)).map
            (Instr.append regs.length)) =
        { σ := σ', regs := regs ++ [res] } :=
  builder_disciplined (intersectionByStore_eq σ fn p0 others h0 ho) regs

/-- `arg0 = [1,2,3,4]` against `arg1 = [2,9]` and `other0 = [4,-777]` by parity: every element of `arg0` has
an image in both (`9`, `-777` odd; `2`, `4` even), so all four are kept -/
example : intersectionByStore σx (fun x => x % 2) [arg0, arg1, other0] =
      some (σx ++ [[], [1], [1, 2, 3], [1, 2, 3, 4, 0, 0, 0]], { arr := 5, off := 0, len := 4, cap := 7 }) ∧
    intersectionByStore σx (fun x => x / 2) [arg0, arg1] =
      some (σx ++ [[], [2], [2, 3, 0]], { arr := 4, off := 0, len := 2, cap := 3 }) := by decide +kernel

theorem square_map_elems {σ : Store} {slices : List Slice} (hs : ∀ p ∈ slices, WF σ p) :
    Spec.C12.Square (slices.map (elems σ)) ↔ ∀ p ∈ slices, p.len = slices.length := by
  unfold Spec.C12.Square
  rw [List.length_map]
  constructor
  · intro h p hp
    rw [← elems_length (hs p hp)]
    exact h _ (List.mem_map_of_mem hp)
  · intro h row hrow
    obtain ⟨p, hp, rfl⟩ := List.mem_map.mp hrow
    rw [elems_length (hs p hp)]
    exact h p hp

/-- simulation, for ALL argument lists (square or not): the store-level model panics exactly when the
value-level model `Model.C12.zipWith` does (the deliberate panics and every index panic), and otherwise the
rows it returns show the value-level answer. -/
theorem zipWith_simulates (tr : Bool) (σ : Store) (slices : List Slice) (hs : ∀ p ∈ slices, WF σ p) :
    (Model.C12.zipWith tr (slices.map (elems σ)) = .panic ∧ zipWithStore tr σ slices = none) ∨
    ∃ σ' rows, zipWithStore tr σ slices = some (σ', rows) ∧
      Model.C12.zipWith tr (slices.map (elems σ)) = .ok (rows.map (elems σ')) := by
  rcases (zipWithStore_sim tr σ slices hs).elim with ⟨h1, h2⟩ | ⟨⟨σ', rows⟩, r, h1, h2, post⟩
  · exact Or.inl ⟨h2, h1⟩
  · exact Or.inr ⟨σ', rows, h1, by rw [h2, ← post.shows]⟩

/-- Zip / Unzip on `n` arguments of `n` elements each (any `n`, `0` included): no panic is reached; the
rows returned show the value-level model's answer, which is the transpose; frame — every array that existed
before is unchanged in every cell; every row is a well-formed header into storage that did not exist
before, and different rows lie in different arrays (a write to one row never changes another). -/
theorem zipWith_refines (tr : Bool) (σ : Store) (slices : List Slice) (hs : ∀ p ∈ slices, WF σ p)
    (hsq : ∀ p ∈ slices, p.len = slices.length) :
    ∃ σ' rows, zipWithStore tr σ slices = some (σ', rows) ∧
      Model.C12.zipWith tr (slices.map (elems σ)) = .ok (rows.map (elems σ')) ∧
      Spec.C12.TransposeOK (slices.map (elems σ)) (rows.map (elems σ')) ∧
      Frame σ σ' ∧ rows.length = slices.length ∧
      (∀ r ∈ rows, σ.length ≤ r.arr ∧ WF σ' r) ∧
      (∀ (i j : Nat) (ri rj : Slice), rows[i]? = some ri → rows[j]? = some rj → i ≠ j → ri.arr ≠ rj.arr) := by
  obtain ⟨r, hr, ht⟩ := Lemmas.C12.zipWith_ok tr (slices.map (elems σ)) ((square_map_elems hs).mpr hsq)
  have hsim := zipWithStore_sim tr σ slices hs
  rw [hr] at hsim
  obtain ⟨⟨σ', rows⟩, h1, post⟩ := hsim.of_ok
  obtain rfl := post.shows
  have inv := post.inv
  exact ⟨σ', rows, h1, hr, ht, inv.frame, by simpa using ht.1, fun r hr => ⟨inv.fresh r hr, inv.wf r hr⟩, inv.ne⟩

/-- outside that domain both models panic (`Zip`/`Unzip` panic deliberately) -/
theorem zipWith_panics (tr : Bool) (σ : Store) (slices : List Slice) (hs : ∀ p ∈ slices, WF σ p)
    (hsq : ¬ ∀ p ∈ slices, p.len = slices.length) :
    zipWithStore tr σ slices = none ∧ Model.C12.zipWith tr (slices.map (elems σ)) = .panic := by
  have hp := Lemmas.C12.zipWith_panic tr (slices.map (elems σ)) (fun h => hsq ((square_map_elems hs).mp h))
  have hsim := zipWithStore_sim tr σ slices hs
  rw [hp] at hsim
  exact ⟨hsim.of_panic, hp⟩

theorem zip_refines (σ : Store) (slices : List Slice) (hs : ∀ p ∈ slices, WF σ p)
    (hsq : ∀ p ∈ slices, p.len = slices.length) :
    ∃ σ' rows, zipStore σ slices = some (σ', rows) ∧
      Model.C12.zip (slices.map (elems σ)) = .ok (rows.map (elems σ')) ∧
      Spec.C12.TransposeOK (slices.map (elems σ)) (rows.map (elems σ')) ∧
      Frame σ σ' ∧ rows.length = slices.length ∧
      (∀ r ∈ rows, σ.length ≤ r.arr ∧ WF σ' r) ∧
      (∀ (i j : Nat) (ri rj : Slice), rows[i]? = some ri → rows[j]? = some rj → i ≠ j → ri.arr ≠ rj.arr) :=
  zipWith_refines false σ slices hs hsq

theorem unzip_refines (σ : Store) (slices : List Slice) (hs : ∀ p ∈ slices, WF σ p)
    (hsq : ∀ p ∈ slices, p.len = slices.length) :
    ∃ σ' rows, unzipStore σ slices = some (σ', rows) ∧
      Model.C12.unzip (slices.map (elems σ)) = .ok (rows.map (elems σ')) ∧
      Spec.C12.TransposeOK (slices.map (elems σ)) (rows.map (elems σ')) ∧
      Frame σ σ' ∧ rows.length = slices.length ∧
      (∀ r ∈ rows, σ.length ≤ r.arr ∧ WF σ' r) ∧
      (∀ (i j : Nat) (ri rj : Slice), rows[i]? = some ri → rows[j]? = some rj → i ≠ j → ri.arr ≠ rj.arr) :=
  zipWith_refines true σ slices hs hsq

theorem zip_panics (σ : Store) (slices : List Slice) (hs : ∀ p ∈ slices, WF σ p)
    (hsq : ¬ ∀ p ∈ slices, p.len = slices.length) :
    zipStore σ slices = none ∧ Model.C12.zip (slices.map (elems σ)) = .panic :=
  zipWith_panics false σ slices hs hsq

theorem unzip_panics (σ : Store) (slices : List Slice) (hs : ∀ p ∈ slices, WF σ p)
    (hsq : ¬ ∀ p ∈ slices, p.len = slices.length) :
    unzipStore σ slices = none ∧ Model.C12.unzip (slices.map (elems σ)) = .panic :=
  zipWith_panics true σ slices hs hsq

/-- every run of the store-level model that does not panic is `run` of the program `zipProg`: one `make` per
argument, then one indexed write per cell, each through the register of a row the program made itself -/
theorem zipWith_run (tr : Bool) (σ : Store) (regs : List Slice) (slices : List Slice) (hs : ∀ p ∈ slices, WF σ p)
    (σ' : Store) (rows : List Slice) (h : zipWithStore tr σ slices = some (σ', rows)) :
    run σ.length { σ := σ, regs := regs } (zipProg tr regs.length (slices.map (elems σ))) =
      { σ := σ', regs := regs ++ rows } := by
  obtain ⟨_, _, post⟩ := (h ▸ zipWithStore_sim tr σ slices hs).of_some
  exact post.run regs

/-- Zip obeys the discipline (`n` arguments of `n` elements): it is `run` of `n` × `make` + `n²` indexed
writes into the rows made, hence `Theorems.C16.run_frame` applies. -/
theorem zip_disciplined (σ : Store) (regs : List Slice) (slices : List Slice) (hs : ∀ p ∈ slices, WF σ p)
    (hsq : ∀ p ∈ slices, p.len = slices.length) :
    ∃ σ' rows, zipStore σ slices = some (σ', rows) ∧
      run σ.length { σ := σ, regs := regs } (zipProg false regs.length (slices.map (elems σ))) =
        { σ := σ', regs := regs ++ rows } := by
  obtain ⟨σ', rows, h, _⟩ := zip_refines σ slices hs hsq
  exact ⟨σ', rows, h, zipWith_run false σ regs slices hs σ' rows h⟩

theorem unzip_disciplined (σ : Store) (regs : List Slice) (slices : List Slice) (hs : ∀ p ∈ slices, WF σ p)
    (hsq : ∀ p ∈ slices, p.len = slices.length) :
    ∃ σ' rows, unzipStore σ slices = some (σ', rows) ∧
      run σ.length { σ := σ, regs := regs } (zipProg true regs.length (slices.map (elems σ))) =
        { σ := σ', regs := regs ++ rows } := by
  obtain ⟨σ', rows, h, _⟩ := unzip_refines σ slices hs hsq
  exact ⟨σ', rows, h, zipWith_run true σ regs slices hs σ' rows h⟩

/-- a store for `Zip`/`Unzip`: three arguments of three elements; the first two share array 0 (`z0` at offset
1 with a foreign cell in front, `z1` right behind it, then two sentinel cells of spare capacity), the third
lies in array 1 with one sentinel cell of spare capacity -/
def σz : Store := [[-555, 1, 2, 3, 4, 5, 6, -777, -777], [7, 8, 9, -888]]
def z0 : Slice := { arr := 0, off := 1, len := 3, cap := 8 }
def z1 : Slice := { arr := 0, off := 4, len := 3, cap := 5 }
def z2 : Slice := { arr := 1, off := 0, len := 3, cap := 4 }

theorem wf_z : ∀ p ∈ [z0, z1, z2], WF σz p := by
  intro p hp
  simp only [List.mem_cons, List.not_mem_nil, or_false] at hp
  rcases hp with rfl | rfl | rfl <;> exact ⟨by decide, _, rfl, by decide⟩

example : zipStore σz [z0, z1, z2] =
      some (σz ++ [[1, 4, 7], [2, 5, 8], [3, 6, 9]],
        [{ arr := 2, off := 0, len := 3, cap := 3 }, { arr := 3, off := 0, len := 3, cap := 3 },
         { arr := 4, off := 0, len := 3, cap := 3 }]) ∧
    unzipStore σz [z0, z1, z2] =
      some (σz ++ [[1, 4, 7], [2, 5, 8], [3, 6, 9]],
        [{ arr := 2, off := 0, len := 3, cap := 3 }, { arr := 3, off := 0, len := 3, cap := 3 },
         { arr := 4, off := 0, len := 3, cap := 3 }]) ∧
    zipStore σz [z0, z1] = none ∧ unzipStore σz [z0, z1, { z2 with len := 2 }] = none ∧
    zipStore σz [] = some (σz, []) := by decide +kernel

/-- the hypotheses of `zip_refines` / `unzip_refines` hold of that store -/
example : (∀ p ∈ [z0, z1, z2], WF σz p) ∧ ∀ p ∈ [z0, z1, z2], p.len = [z0, z1, z2].length := ⟨wf_z, by decide⟩

/-- the helpers covered here with what is PROVED about them: (name, parameters written through, parameters
the result may alias) -/
def covered2 : List (String × List Nat × List Nat) :=
  [("DifferenceBy", [], []), ("Duplicate", [], []), ("IntersectionBy", [], []), ("Zip", [], []), ("Unzip", [], [])]

/-- for every helper covered here the classification in the translator's table (`Gen.effects`, regenerated from the
source on every run) is the one proved above (no parameter written
through, the result aliases no parameter). -/
theorem covered2_agree_with_table :
    covered2.all (fun c => Gen.effects.any (fun e => e.name == c.1 && e.writes == c.2.1 && e.aliases == c.2.2 &&
      !e.selfAssignOnly)) = true :=
  Lemmas.C16Table.all_any_of_foundAt [11, 15, 43, 105, 100] (by decide +kernel)

end GoguVerif.Theorems.C16Helpers2
