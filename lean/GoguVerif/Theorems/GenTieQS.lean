import GoguVerif.Gen.Containers
import GoguVerif.Theorems.GenTiePrim
import GoguVerif.Model.Queue
import GoguVerif.Model.Stack
import GoguVerif.Lemmas.TieRules
/-!
# The regenerated tie for the slice-backed containers (C05 `queue.Queue`, C06 `stack.Stack`)

`Gen/Containers.lean` is produced on every run by the translator (METHOD mode, see translator/frag.go) from
`queue/queue.go` and `stack/stack.go`: every method with the fields of its pointer receiver as variables, a
mutating method returning its results paired with the final fields; index and slice expressions fail exactly
when Go panics (`Res`).  The theorems below state, for ALL states and arguments, that

* no method panics (every `Res` below is an `Except.ok …`; put together as `queue_go_total` /
  `stack_go_total` in `Theorems/C01NoPanicGen.lean`), and
* the regenerated method computes exactly the state and the answer of the hand-written model's `step`
  (`Model.Queue.step`, `Model.Stack.step`), which is what the theorems of C05 / C06 are about.

The element type is `Int` (the translation of the type parameter `T comparable`), `default = 0`.
`GenTie.goSlice_nat`, `GenTie.goIdx_nat`, `GenTie.natCast_pred` are those of `Theorems/GenTiePrim.lean`, which declares into
the namespace `GenTie`.
-/
namespace GoguVerif.Theorems.GenTieQS
open GoguVerif.Gen.Funcs (Res Exc goIdx goSlice)
open GoguVerif.Gen.Containers

theorem goSlice_tail (x : Int) (r : List Int) :
    goSlice (x :: r) (1 : Int) (((x :: r).length : Nat) : Int) = Except.ok r := by
  rw [show (1 : Int) = ((1 : Nat) : Int) from rfl,
    GenTie.goSlice_nat (x :: r) 1 (x :: r).length (Nat.succ_pos r.length) (Nat.le_refl _), List.take_length]
  rfl

theorem goIdx_last (s : List Int) (h : s ≠ []) :
    goIdx s (((s.length : Nat) : Int) - 1) = Except.ok (s.getLast h) := by
  rw [GenTie.natCast_pred (List.length_pos_iff.mpr h), GenTie.goIdx_nat, ← List.getLast?_eq_getElem?,
    List.getLast?_eq_some_getLast h]

theorem goSlice_init (s : List Int) (h : s ≠ []) :
    goSlice s (0 : Int) (((s.length : Nat) : Int) - 1) = Except.ok (s.take (s.length - 1)) := by
  rw [GenTie.natCast_pred (List.length_pos_iff.mpr h)]
  exact GenTie.goSlice_nat s 0 _ (Nat.zero_le _) (Nat.sub_le _ _)

/-- the generated counting search loop = the model's structural search, on the suffix still to be scanned -/
theorem searchLoop_queue (items : List Int) (item : Int) (i : Nat) (rest : List Int) (h : items.drop i = rest) :
    queue.Queue_Search.loop1 items item rest.length (i : Int) ()
      = Except.ok (if Model.Queue.searchLoop item rest then Sum.inl true else Sum.inr ()) := by
  induction rest generalizing i with
  | nil => rfl
  | cons x r ih =>
    have hx : items[i]? = some x := by rw [← List.head?_drop, h]; rfl
    have hr : items.drop (i + 1) = r := by rw [← List.drop_drop, h]; rfl
    rw [List.length_cons, queue.Queue_Search.loop1, GenTie.goIdx_nat, hx, Model.Queue.searchLoop]
    exact ite_rel (R := fun y (b : Bool) => y = Except.ok (if b then Sum.inl true else Sum.inr ())) decide_eq_true_iff
      (fun _ => rfl) fun _ => ih (i + 1) hr

/-- the stack's generated loop and model loop are, text for text, the queue's -/
theorem stack_loop_eq (items : List Int) (item : Int) (n : Nat) (i : Int) :
    stack.Stack_Search.loop1 items item n i () = queue.Queue_Search.loop1 items item n i () := by
  induction n generalizing i with
  | zero => rfl
  | succ n ih => rw [stack.Stack_Search.loop1, queue.Queue_Search.loop1]; simp only [ih]

theorem stack_searchLoop_eq (item : Int) (l : List Int) :
    Model.Stack.searchLoop item l = Model.Queue.searchLoop item l := by
  induction l with
  | nil => rfl
  | cons x r ih => rw [Model.Stack.searchLoop, Model.Queue.searchLoop, ih]

theorem searchLoop_stack (items : List Int) (item : Int) (i : Nat) (rest : List Int) (h : items.drop i = rest) :
    stack.Stack_Search.loop1 items item rest.length (i : Int) ()
      = Except.ok (if Model.Stack.searchLoop item rest then Sum.inl true else Sum.inr ()) := by
  rw [stack_loop_eq, stack_searchLoop_eq]; exact searchLoop_queue items item i rest h

section Queue
open GoguVerif.Spec.C05

theorem queue_enqueue_tie (items : List Int) (x : Int) :
    Model.Queue.step items (.enqueue x) = ((queue.Queue_Enqueue items x).2, Out.unit) := rfl

theorem queue_dequeue_tie (items : List Int) :
    queue.Queue_Dequeue items =
      Except.ok (match Model.Queue.step items .dequeue with
        | (s, .deq v e) => ((v, e), s)
        | (s, _) => ((0, true), s)) := by
  cases items with
  | nil => rfl
  | cons x r =>
    -- all but the bounds check of `items[1:]` computes
    simp only [queue.Queue_Dequeue, goSlice_tail]
    rfl

theorem queue_peek_tie (items : List Int) :
    Model.Queue.step items .peek = (items, match queue.Queue_Peek items with
      | Except.ok v => Out.val v
      | Except.error _ => Out.unit) ∧ (∃ v, queue.Queue_Peek items = Except.ok v) := by
  -- `items[0]` is in range on `x :: r`: both sides compute
  cases items <;> exact ⟨rfl, _, rfl⟩

theorem queue_search_tie (items : List Int) (x : Int) :
    queue.Queue_Search items x = Except.ok (Model.Queue.searchLoop x items) ∧
    Model.Queue.step items (.search x) = (items, Out.bool (Model.Queue.searchLoop x items)) := by
  refine ⟨?_, rfl⟩
  have h : queue.Queue_Search.loop1 items x items.length 0 () = _ := searchLoop_queue items x 0 items rfl
  rw [queue.Queue_Search, queue.Queue_size, Int.sub_zero, Int.toNat_natCast, h]
  cases Model.Queue.searchLoop x items <;> rfl

theorem queue_size_tie (items : List Int) :
    Model.Queue.step items .size = (items, Out.int (queue.Queue_Size items)) := rfl

theorem queue_clear_tie (items : List Int) :
    Model.Queue.step items .clear = ((queue.Queue_Clear items).2, Out.unit) := rfl

end Queue

section Stack
open GoguVerif.Spec.C06

theorem stack_push_tie (items : List Int) (x : Int) :
    Model.Stack.step items (.push x) = ((stack.Stack_Push items x).2, Out.unit) := rfl

theorem stack_pop_tie (items : List Int) :
    stack.Stack_Pop items =
      Except.ok (match Model.Stack.step items .pop with
        | (s, .val v) => (v, s)
        | (s, _) => (0, s)) := by
  by_cases h : items = []
  · subst h; rfl
  · have hne' : ¬ items.length = 0 := mt List.eq_nil_of_length_eq_zero h
    have hne : ¬ ((items.length : Nat) : Int) = 0 := Int.natCast_ne_zero.2 hne'
    simp only [stack.Stack_Pop, stack.Stack_size, hne, decide_false, Bool.false_eq_true, if_false,
      goIdx_last items h, goSlice_init items h, Model.Stack.step, hne', List.getLast?_eq_some_getLast h]

theorem stack_peek_tie (items : List Int) :
    Model.Stack.step items .peek = (items, match stack.Stack_Peek items with
      | Except.ok v => Out.val v
      | Except.error _ => Out.unit) ∧ (∃ v, stack.Stack_Peek items = Except.ok v) := by
  by_cases h : items = []
  · subst h; exact ⟨rfl, _, rfl⟩
  · have hne' : ¬ items.length = 0 := mt List.eq_nil_of_length_eq_zero h
    have hne : ¬ ((items.length : Nat) : Int) = 0 := Int.natCast_ne_zero.2 hne'
    simp only [stack.Stack_Peek, stack.Stack_size, hne, decide_false, Bool.false_eq_true, if_false,
      goIdx_last items h, Model.Stack.step, hne', List.getLast?_eq_some_getLast h]
    exact ⟨trivial, _, rfl⟩

theorem stack_search_tie (items : List Int) (x : Int) :
    stack.Stack_Search items x = Except.ok (Model.Stack.searchLoop x items) ∧
    Model.Stack.step items (.search x) = (items, Out.bool (Model.Stack.searchLoop x items)) := by
  refine ⟨?_, rfl⟩
  have h : stack.Stack_Search.loop1 items x items.length 0 () = _ := searchLoop_stack items x 0 items rfl
  rw [stack.Stack_Search, stack.Stack_size, Int.sub_zero, Int.toNat_natCast, h]
  cases Model.Stack.searchLoop x items <;> rfl

theorem stack_size_tie (items : List Int) :
    Model.Stack.step items .size = (items, Out.int (stack.Stack_Size items)) := rfl

end Stack

example : queue.Queue_Dequeue [4, 5, 6] = Except.ok ((4, false), [5, 6]) := by rfl
example : queue.Queue_Dequeue [] = Except.ok ((0, true), []) := by rfl
example : stack.Stack_Pop [4, 5, 6] = Except.ok (6, [4, 5]) := by rfl
example : stack.Stack_Search [4, 5, 6] 5 = Except.ok true := by rfl

end GoguVerif.Theorems.GenTieQS
