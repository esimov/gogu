import GoguVerif.Lemmas.C03
/-!
# C03 — property theorems (heap order and conservation)

About the array model `Model/Heap.lean` of `heap/heap.go` + `heap/heapsort.go`, for ALL states,
inputs and histories (no bound).  `Inv` (`Lemmas/C03/Ops.lean`) is the representation invariant:
the comparator is a strict weak order and `data` is in heap order.

Every operation conserves the elements and neither panics nor hangs, in every state
(`step_conserves`, `C03_conservation`).  Order needs `Inv`, and `Delete` keeps `Inv` only when the
victim sits at the root or in the last slot (known finding `heap.delete-no-resift`): hence
`step_refines` / `C03_partial` under `DeleteSafe`, the negations `C03_full_false` and
`delete_preserves_inv_false` by a witness evaluated on the model, `delete_order_iff` for what happens
otherwise, and `C03_patched_partial` for every history against the specification weakened while a
ghost flag is set.
-/
namespace GoguVerif.Theorems.C03
open GoguVerif.Model.Heap GoguVerif.Spec.C03 GoguVerif.Lemmas.C03

variable {α : Type}

def ltI : Comp Int := fun a b => decide (a < b)
def gtI : Comp Int := fun a b => decide (a > b)
/-- by key `x / 10`, Go's truncating division, as `heapComp("klt")` of `harness/k_heap_test.go` -/
def kltI : Comp Int := fun a b => decide (a.tdiv 10 < b.tdiv 10)
def kgtI : Comp Int := fun a b => decide (a.tdiv 10 > b.tdiv 10)

theorem _root_.GoguVerif.Spec.C03.SWO.flip {c : Comp α} (h : SWO c) : SWO fun a b => c b a :=
  ⟨h.irrefl, fun _ _ _ h1 h2 => h.trans _ _ _ h2 h1, fun _ _ _ h1 h2 => h.negTrans _ _ _ h2 h1⟩

theorem swo_lt : SWO ltI := swo_key id
theorem swo_gt : SWO gtI := (swo_key id).flip
theorem swo_klt : SWO kltI := swo_key (·.tdiv 10)
theorem swo_kgt : SWO kgtI := (swo_key (·.tdiv 10)).flip

/-- abstraction function: the comparator and the multiset (list up to permutation) of `data` -/
def abs (h : Heap α) : SState α := { comp := h.comp, held := h.data.toList }

/-- comparators handed to `Convert` / `FromSlice` are strict weak orders -/
def OpOK : Op α → Prop
  | .convert c => SWO c
  | .fromSlice _ c => SWO c
  | _ => True

/-- the exact side condition of the known finding: the slot `getIndex` finds is the root or the last -/
def DeleteSafe [DecidableEq α] (h : Heap α) : Op α → Prop
  | .delete v => ∀ idx, getIndex h.data v = some idx → idx = 0 ∨ idx = h.data.size - 1
  | _ => True

/-- the operations that empty `data` or build it anew: heap order holds afterwards whatever it was before -/
def Rebuilds : Op α → Prop
  | .clear | .convert _ | .fromSlice _ _ | .merge _ | .meld _ => True
  | _ => False

/-- The invariant holds initially (`NewHeap`). -/
theorem inv_init {comp : Comp α} (hc : SWO comp) : Inv (new comp) := inv_new hc

/-- What an operation that took `h` to `h'` with the answer `out` has done: it conserves the elements, in every state;
from `Inv` its answer is the specified one; `Inv` is kept unless a `Delete` hits an inner slot, and holds outright after
an operation that rebuilds. -/
structure Stepped [Inhabited α] [DecidableEq α] (h : Heap α) (op : Op α) (h' : Heap α) (out : Out α) : Prop where
  swo : SWO h'.comp
  cons : ConsStep (abs h) op out (abs h')
  spec : Inv h → SpecStep (abs h) op out (abs h')
  inv : Inv h → DeleteSafe h op → Inv h'
  rebuilt : Rebuilds op → Inv h'

/-- Every operation ends, in every state.  `step_conserves`, `step_refines` and `step_patched` are its parts. -/
theorem step_spec [Inhabited α] [DecidableEq α] (h : Heap α) (op : Op α)
    (hc : SWO h.comp) (hop : OpOK op) :
    ∃ h' out, step h op = .ok (h', out) ∧ Stepped h op h' out := by
  cases op with
  | push v =>
    obtain ⟨h', e, c, p, i⟩ := push_spec h hc.irrefl v
    exact ⟨h', .unit, by unfold step; simp only [e],
      { swo := c ▸ hc, cons := ⟨rfl, c, p⟩, spec := fun _ => ⟨rfl, c, p⟩, inv := fun hi _ => i hi, rebuilt := nofun }⟩
  | pushn vs =>
    obtain ⟨h', e, c, p, i⟩ := pushAll_spec h hc.irrefl vs
    exact ⟨h', .unit, by unfold step; simp only [e],
      { swo := c ▸ hc, cons := ⟨rfl, c, p⟩, spec := fun _ => ⟨rfl, c, p⟩, inv := fun hi _ => i hi, rebuilt := nofun }⟩
  | pop =>
    obtain ⟨h', x, e, c, r, i⟩ := pop_spec h
    have r0 : h.data.toList = [] ∧ x = default ∧ h'.data.toList = [] →
        (abs h).held = [] ∧ Out.val x = .val default ∧ (abs h').held = [] :=
      fun ⟨r1, r2, r3⟩ => ⟨r1, r2 ▸ rfl, r3⟩
    exact ⟨h', .val x, by unfold step; simp only [e],
      { swo := c ▸ hc
        cons := ⟨c, r.imp r0 fun ⟨m, p, _⟩ => ⟨x, rfl, m, p⟩⟩
        spec := fun hi => ⟨c, r.imp r0 fun ⟨_, p, ex⟩ => ⟨x, rfl, ex hi, p⟩⟩
        inv := fun hi _ => i hi
        rebuilt := nofun }⟩
  | peek =>
    obtain ⟨x, e, r⟩ := peek_spec h
    have r0 : h.data.toList = [] ∧ x = default → (abs h).held = [] ∧ Out.val x = .val default :=
      fun ⟨r1, r2⟩ => ⟨r1, r2 ▸ rfl⟩
    exact ⟨h, .val x, by unfold step; simp only [e],
      { swo := hc
        cons := ⟨rfl, .refl _, r.imp r0 fun ⟨m, _⟩ => ⟨x, rfl, m⟩⟩
        spec := fun hi => ⟨rfl, .refl _, r.imp r0 fun ⟨_, ex⟩ => ⟨x, rfl, ex hi⟩⟩
        inv := fun hi _ => hi
        rebuilt := nofun }⟩
  | size =>
    have cs : SpecStep (abs h) .size (.int h.data.size) (abs h) :=
      ⟨rfl, rfl, .refl _⟩
    exact ⟨h, _, rfl, { swo := hc, cons := cs, spec := fun _ => cs, inv := fun hi _ => hi, rebuilt := nofun }⟩
  | isEmpty =>
    have cs : SpecStep (abs h) .isEmpty (.bool (h.data.size == 0)) (abs h) :=
      ⟨congrArg Out.bool (size_beq_zero h.data), rfl, .refl _⟩
    exact ⟨h, _, rfl, { swo := hc, cons := cs, spec := fun _ => cs, inv := fun hi _ => hi, rebuilt := nofun }⟩
  | clear =>
    obtain ⟨c, e, i⟩ := clear_spec h
    exact ⟨clear h, .unit, rfl,
      { swo := c ▸ hc
        cons := ⟨rfl, c, e⟩
        spec := fun _ => ⟨rfl, c, e⟩
        inv := fun _ _ => i hc
        rebuilt := fun _ => i hc }⟩
  | values =>
    have cs : SpecStep (abs h) .values (.vals h.data.toList) (abs h) :=
      ⟨⟨_, rfl, .refl _⟩, rfl, .refl _⟩
    exact ⟨h, _, rfl, { swo := hc, cons := cs, spec := fun _ => cs, inv := fun hi _ => hi, rebuilt := nofun }⟩
  | delete v =>
    obtain ⟨h', b, e, c, r, i⟩ := delete_spec h v
    have cs : SpecStep (abs h) (.delete v) (.del b) (abs h') :=
      ⟨c, r.imp (fun ⟨r1, r2, r3⟩ => ⟨r2, r1 ▸ rfl, r3⟩)
        fun ⟨r1, r2, r3⟩ => ⟨r2, r1 ▸ rfl, r3 ▸ .refl _⟩⟩
    exact ⟨h', .del b, by unfold step; simp only [e],
      { swo := c ▸ hc, cons := cs, spec := fun _ => cs, inv := i, rebuilt := nofun }⟩
  | convert c =>
    obtain ⟨h', e, hc', i, p⟩ := convert_spec h c hop
    exact ⟨h', .unit, by unfold step; simp only [e],
      { swo := hc' ▸ hop
        cons := ⟨rfl, hc', p⟩
        spec := fun _ => ⟨rfl, hc', p⟩
        inv := fun _ _ => i
        rebuilt := fun _ => i }⟩
  | merge arg =>
    obtain ⟨h2, e2, _, p2, _⟩ := pushAll_new hc.irrefl arg
    obtain ⟨nh, e, _, c, p, i⟩ := merge_meld_ok h h2 hc.irrefl
    have pn : nh.data.toList.Perm (h.data.toList ++ arg) := p.trans (.append_left _ p2)
    have cs : SpecStep (abs h) (.merge arg)
        (.merged h.data.toList h2.data.toList nh.data.toList h.data.size h2.data.size) (abs nh) :=
      ⟨c, pn, _, _, _, congrArg (Out.merged _ _ _ _) p2.length_eq, .refl _, p2, pn⟩
    exact ⟨nh, _, by unfold step; simp only [e2, e],
      { swo := c ▸ hc, cons := cs, spec := fun _ => cs, inv := fun _ _ => i hc, rebuilt := fun _ => i hc }⟩
  | meld arg =>
    obtain ⟨h2, e2, _, p2, _⟩ := pushAll_new hc.irrefl arg
    obtain ⟨nh, _, e, c, p, i⟩ := merge_meld_ok h h2 hc.irrefl
    have pn : nh.data.toList.Perm (h.data.toList ++ arg) := p.trans (.append_left _ p2)
    have cs : SpecStep (abs h) (.meld arg) (.merged [] [] nh.data.toList 0 0) (abs nh) :=
      ⟨c, pn, _, rfl, pn⟩
    exact ⟨nh, _, by unfold step; simp only [e2, e]; rfl,
      { swo := c ▸ hc, cons := cs, spec := fun _ => cs, inv := fun _ _ => i hc, rebuilt := fun _ => i hc }⟩
  | fromSlice data c =>
    obtain ⟨h', e, hc', i, p⟩ := fromSlice_spec data.toArray c hop
    have cs : SpecStep (abs h) (.fromSlice data c) (.vals h'.data.toList) (abs h') :=
      ⟨⟨_, rfl, p⟩, hc', p⟩
    exact ⟨h', _, by unfold step; simp only [e],
      { swo := hc' ▸ hop, cons := cs, spec := fun _ => cs, inv := fun _ _ => i, rebuilt := fun _ => i }⟩

/-- From a state satisfying `Inv`, every operation (with a `Delete`
that hits the root or the last slot) terminates without panic, keeps `Inv`, and its answer and
successor state are admitted by the specification. -/
theorem step_refines [Inhabited α] [DecidableEq α] (h : Heap α) (op : Op α)
    (hi : Inv h) (hop : OpOK op) (hsafe : DeleteSafe h op) :
    ∃ h' out, step h op = .ok (h', out) ∧ Inv h' ∧ SpecStep (abs h) op out (abs h') := by
  obtain ⟨h', out, e, r⟩ := step_spec h op hi.swo hop
  exact ⟨h', out, e, r.inv hi hsafe, r.spec hi⟩

/-- A history all of whose `Delete`s (along the model's own run) hit the root or the last slot, and
whose new comparators are strict weak orders. -/
def SafeRun [Inhabited α] [DecidableEq α] : Heap α → List (Op α) → Prop
  | _, [] => True
  | h, op :: ops => OpOK op ∧ DeleteSafe h op ∧ ∀ h' o, step h op = .ok (h', o) → SafeRun h' ops

theorem safeRun_cons [Inhabited α] [DecidableEq α] {h h1 : Heap α} {op : Op α} {o1 : Out α}
    {ops : List (Op α)} (hop : OpOK op) (hsafe : DeleteSafe h op) (e : step h op = .ok (h1, o1))
    (hrest : SafeRun h1 ops) : SafeRun h (op :: ops) :=
  ⟨hop, hsafe, fun h' o e' => by rw [e] at e'; cases e'; exact hrest⟩

/-- C03, for every history in which each `Delete` hits the root or the last slot: the model
never panics or hangs, and all its answers are admitted by the specification (extremal `Peek`/`Pop`,
exact multiset and `Size` bookkeeping); the invariant holds at the end.  What is missing for the
full statement is exactly heap order after `Delete` of a victim at a slot that is neither the root
nor the last (the code moves the last element there and sifts only from the root). -/
theorem C03_partial [Inhabited α] [DecidableEq α] (h : Heap α) (ops : List (Op α))
    (hi : Inv h) (hs : SafeRun h ops) :
    ∃ h' outs, run h ops = .ok (h', outs) ∧ Inv h' ∧ SpecRun (abs h) ops outs (abs h') := by
  induction ops generalizing h with
  | nil => exact ⟨h, [], rfl, hi, .nil _⟩
  | cons op ops ih =>
    obtain ⟨hop, hsafe, hrest⟩ := hs
    obtain ⟨h1, o, e, i1, s1⟩ := step_refines h op hi hop hsafe
    obtain ⟨h2, os, e2, i2, s2⟩ := ih h1 i1 (hrest h1 o e)
    exact ⟨h2, o :: os, by simp only [run, e, e2], i2, .cons s1 s2⟩

/-- heap `FromSlice([4,3,2,2,3,1,1], >)` of the recorded witness -/
def witnessHeap : Heap Int := { comp := gtI, data := #[4, 3, 2, 2, 3, 1, 1] }

theorem witness_fromSlice : fromSlice #[4, 3, 2, 2, 3, 1, 1] gtI = .ok witnessHeap := by rfl

theorem witness_inv : Inv witnessHeap := by
  obtain ⟨h', e, _, i, _⟩ := fromSlice_spec #[4, 3, 2, 2, 3, 1, 1] gtI swo_gt
  rw [witness_fromSlice] at e
  cases e; exact i

theorem witness_delete :
    delete witnessHeap 3 = .ok ({ comp := gtI, data := #[4, 1, 2, 2, 3, 1] }, true) := by rfl

/-- Negation of "`Delete` preserves heap order": `Delete(3)` on the witness heap (victim at
slot 1, neither root nor last) leaves `[4 1 2 2 3 1]`, where slot 4 (`3`) precedes its parent slot 1
(`1`) under `>`. -/
theorem delete_preserves_inv_false :
    ¬ (∀ (h : Heap Int) (v : Int) (h' : Heap Int) (b : Bool), Inv h → delete h v = .ok (h', b) → Inv h') := by
  intro H
  have := (H witnessHeap 3 _ _ witness_inv witness_delete).heap 4 (by decide) (by decide) 3 1 rfl rfl
  exact absurd this (by decide)

/-- the recorded witness as a history from the empty max-heap -/
def witnessOps : List (Op Int) := [.fromSlice [4, 3, 2, 2, 3, 1, 1] gtI, .delete 3, .pop, .pop]

/-- what the model answers (and the code: this is the recorded witness of `heap.delete-no-resift`):
the second `Pop` returns 2 although 3 is held -/
theorem witness_run :
    run (new gtI) witnessOps =
      .ok ({ comp := gtI, data := #[3, 1, 1, 2] },
           [.vals [4, 3, 2, 2, 3, 1, 1], .del true, .val 4, .val 2]) := by rfl

theorem witness_ops_ok : ∀ op ∈ witnessOps, OpOK op := by
  intro op hop
  simp only [witnessOps, List.mem_cons, List.mem_nil_iff, or_false] at hop
  rcases hop with rfl | rfl | rfl | rfl
  · exact swo_gt
  all_goals trivial

/-- Negation of the full-strength C03: on the recorded witness the model's answers are NOT
admitted by the specification (the last `Pop` is not extremal). -/
theorem C03_full_false :
    ¬ (∀ (h : Heap Int) (ops : List (Op Int)), Inv h → (∀ op ∈ ops, OpOK op) →
        ∃ h' outs, run h ops = .ok (h', outs) ∧ SpecRun (abs h) ops outs (abs h')) := by
  intro H
  obtain ⟨h', outs, e, sr⟩ := H (new gtI) witnessOps (inv_init swo_gt) witness_ops_ok
  rw [witness_run] at e
  cases e
  -- invert the four specification steps; `t1`, `t2`, `t3` are the states after `FromSlice`, `Delete`, `Pop`
  cases sr with
  | @cons _ t1 _ _ _ _ _ s1 sr =>
    cases sr with
    | @cons _ t2 _ _ _ _ _ s2 sr =>
      cases sr with
      | @cons _ t3 _ _ _ _ _ s3 sr =>
        cases sr with
        | cons s4 sr =>
          obtain ⟨_, c1, p1⟩ := s1
          obtain ⟨c2, r2⟩ := s2
          obtain ⟨c3, r3⟩ := s3
          obtain ⟨c4, r4⟩ := s4
          have m2 : t2.held.Perm ([4, 3, 2, 2, 3, 1, 1].erase 3) := by
            rcases r2 with ⟨_, _, p⟩ | ⟨_, e, _⟩
            · exact p.trans (List.Perm.erase 3 p1)
            · cases e
          have m3 : t3.held.Perm (([4, 3, 2, 2, 3, 1, 1].erase 3).erase 4) := by
            rcases r3 with ⟨_, e, _⟩ | ⟨x, e, _, p⟩
            · cases e
            · cases e; exact p.trans (List.Perm.erase 4 m2)
          rcases r4 with ⟨e0, _, _⟩ | ⟨x, e, ex, _⟩
          · rw [e0] at m3
            have := m3.length_eq
            simp at this
          · cases e
            have h3 : (3 : Int) ∈ t3.held := m3.mem_iff.mpr (by decide)
            have := ex.2 3 h3
            rw [c3, c2, c1] at this
            exact absurd this (by decide)

/-- Per-operation conservation, in every state (heap order is not assumed): no operation
panics or hangs, `Peek`/`Pop` answer a held element (the zero value when empty), `Pop` and a
successful `Delete` remove exactly one occurrence, `Delete` reports absence otherwise, `Merge`
leaves both inputs intact, `Meld` empties them, `Convert`/`FromSlice` keep the elements, `Size`,
`IsEmpty`, `GetValues` report the multiset. -/
theorem step_conserves [Inhabited α] [DecidableEq α] (h : Heap α) (op : Op α)
    (hc : SWO h.comp) (hop : OpOK op) :
    ∃ h' out, step h op = .ok (h', out) ∧ SWO h'.comp ∧ ConsStep (abs h) op out (abs h') := by
  obtain ⟨h', out, e, r⟩ := step_spec h op hc hop
  exact ⟨h', out, e, r.swo, r.cons⟩

/-- Conservation and panic/hang-freedom for EVERY history over strict-weak-order comparators —
including histories that run into the `Delete` defect. -/
theorem C03_conservation [Inhabited α] [DecidableEq α] (h : Heap α) (ops : List (Op α))
    (hc : SWO h.comp) (hop : ∀ op ∈ ops, OpOK op) :
    ∃ h' outs, run h ops = .ok (h', outs) ∧ ConsRun (abs h) ops outs (abs h') := by
  induction ops generalizing h with
  | nil => exact ⟨h, [], rfl, .nil _⟩
  | cons op ops ih =>
    obtain ⟨h1, o, e, c1, s1⟩ := step_conserves h op hc (hop op List.mem_cons_self)
    obtain ⟨h2, os, e2, s2⟩ := ih h1 c1 (fun o ho => hop o (List.mem_cons_of_mem _ ho))
    exact ⟨h2, o :: os, by simp only [run, e, e2], .cons s1 s2⟩

/-! Every history, against the specification patched with exactly the known finding.

Ghost flag `tainted`: set by a `Delete` whose victim sits neither at the root nor in the last slot, reset by `Clear`,
`Convert`, `FromSlice` and whenever at most one element is left.  While the flag is clear every answer satisfies the
full specification; while it is set, the conservation half.

`taintNext` does NOT reset the flag on `Merge` and `Meld`, although heap order holds after them whatever it was before
(`Stepped.rebuilt`, `Rebuilds`) and the monitor in `Kinds/Heap.lean` clears its flag there: after a tainting `Delete`
followed by `Merge` or `Meld`, `C03_patched_partial` promises only the conservation half where the monitor demands
order again.  At that point `step_spec` proves more than `C03_patched_partial` states. -/

/-- Bool form of `DeleteSafe h (.delete v)` -/
def deleteSafeB [DecidableEq α] (h : Heap α) (v : α) : Bool :=
  match getIndex h.data v with
  | none => true
  | some idx => idx == 0 || idx == h.data.size - 1

theorem deleteSafeB_iff [DecidableEq α] (h : Heap α) (v : α) :
    deleteSafeB h v = true ↔ DeleteSafe h (.delete v) := by
  unfold deleteSafeB DeleteSafe
  cases e : getIndex h.data v with
  | none =>
    simp only [true_iff]
    intro idx h'; rw [e] at h'; cases h'
  | some idx =>
    simp only [Bool.or_eq_true, beq_iff_eq, e, Option.some.injEq, forall_eq']

def taintNext [DecidableEq α] (h : Heap α) (t : Bool) (op : Op α) (h' : Heap α) : Bool :=
  match op with
  | .clear => false
  | .convert _ => false
  | .fromSlice _ _ => false
  | .delete v => (t || !deleteSafeB h v) && decide (1 < h'.data.size)
  | _ => t && decide (1 < h'.data.size)

/-- the patched specification along the model's run -/
def PatchedRun [Inhabited α] [DecidableEq α] : Heap α → Bool → List (Op α) → List (Out α) → Prop
  | _, _, [], [] => True
  | h, t, op :: ops, o :: os =>
    ∃ h', step h op = .ok (h', o) ∧
      (if t then ConsStep (abs h) op o (abs h') else SpecStep (abs h) op o (abs h')) ∧
      PatchedRun h' (taintNext h t op h') ops os
  | _, _, _, _ => False

theorem inv_of_small (h : Heap α) (hc : SWO h.comp) (hs : h.data.size ≤ 1) : Inv h :=
  ⟨hc, fun i h0 hn => by omega⟩

theorem taintNext_false [DecidableEq α] {h h' : Heap α} {t : Bool} {op : Op α}
    (ht : taintNext h t op h' = false) :
    Rebuilds op ∨ h'.data.size ≤ 1 ∨ (t = false ∧ DeleteSafe h op) := by
  have small : ∀ {b : Bool}, (b && decide (1 < h'.data.size)) = false → b = false ∨ h'.data.size ≤ 1 :=
    fun hb => (Bool.and_eq_false_iff.mp hb).imp_right fun h => Nat.le_of_not_lt (of_decide_eq_false h)
  cases op with
  | clear | convert | fromSlice => exact .inl trivial
  | delete v =>
    refine (small ht).elim (fun hb => .inr (.inr ?_)) (.inr ∘ .inl)
    cases t with
    | true => cases hb
    | false => exact ⟨rfl, (deleteSafeB_iff h v).mp (by simpa using hb)⟩
  | _ => exact (small ht).elim (fun t0 => .inr (.inr ⟨t0, trivial⟩)) (.inr ∘ .inl)

theorem step_patched [Inhabited α] [DecidableEq α] (h : Heap α) (t : Bool) (op : Op α)
    (hc : SWO h.comp) (hi : t = false → Inv h) (hop : OpOK op) :
    ∃ h' o, step h op = .ok (h', o) ∧ SWO h'.comp ∧
      (if t then ConsStep (abs h) op o (abs h') else SpecStep (abs h) op o (abs h')) ∧
      (taintNext h t op h' = false → Inv h') := by
  obtain ⟨h', o, e, r⟩ := step_spec h op hc hop
  refine ⟨h', o, e, r.swo, ?_, fun ht => ?_⟩
  · cases t with
    | true => exact r.cons
    | false => exact r.spec (hi rfl)
  · rcases taintNext_false ht with rb | s | ⟨t0, safe⟩
    · exact r.rebuilt rb
    · exact inv_of_small h' r.swo s
    · exact r.inv (hi t0) safe

/-- C03 for EVERY history, against the specification patched with exactly the known finding
(`C03_partial` in its most general form): the model never panics or hangs; while the ghost flag is
clear — initially, and again after `Clear` / `Convert` / `FromSlice` / shrinking to ≤ 1 element —
every answer is admitted by the full specification (extremal `Peek`/`Pop` included); after a
`Delete` of a victim at a slot that is neither the root nor the last, and until the next reset,
the conservation half still holds for every answer.  Missing for the full property: the order clause
of `Peek`/`Pop` while the flag is set — which is false of the code (`C03_full_false`). -/
theorem C03_patched_partial [Inhabited α] [DecidableEq α] (h : Heap α) (t : Bool) (ops : List (Op α))
    (hc : SWO h.comp) (hi : t = false → Inv h) (hop : ∀ op ∈ ops, OpOK op) :
    ∃ h' outs, run h ops = .ok (h', outs) ∧ PatchedRun h t ops outs := by
  induction ops generalizing h t with
  | nil => exact ⟨h, [], rfl, trivial⟩
  | cons op ops ih =>
    obtain ⟨h1, o, e, c1, s1, i1⟩ := step_patched h t op hc hi (hop op List.mem_cons_self)
    obtain ⟨h2, os, e2, pr⟩ := ih h1 (taintNext h t op h1) c1 i1 (fun o ho => hop o (List.mem_cons_of_mem _ ho))
    exact ⟨h2, o :: os, by simp only [run, e, e2], ⟨h1, e, s1, pr⟩⟩

/-- `Delete` of a held value succeeds and removes exactly one
occurrence; of an absent value it reports absence and changes nothing; it never panics. -/
theorem delete_multiset [DecidableEq α] (h : Heap α) (v : α) :
    ∃ h' b, delete h v = .ok (h', b) ∧ h'.comp = h.comp ∧
      ((b = true ∧ v ∈ h.data.toList ∧ h'.data.toList.Perm (h.data.toList.erase v)) ∨
       (b = false ∧ v ∉ h.data.toList ∧ h' = h)) :=
  (delete_spec h v).imp fun _ hb => hb.imp fun _ ⟨e, c, r, _⟩ => ⟨e, c, r⟩

/-- Exactly what `Delete` does to heap order at an inner slot: the victim found by `getIndex` at
a slot that is neither the root nor the last is overwritten with the last element and nothing else
moves; heap order survives iff that element fits there (does not precede the slot's parent, and no
child of the slot precedes it). -/
theorem delete_order_iff [DecidableEq α] (h : Heap α) (hi : Inv h) (v : α) {idx : Nat}
    (hidx : getIndex h.data v = some idx) (hmid : 0 < idx ∧ idx < h.data.size - 1)
    {h' : Heap α} {b : Bool} (hd : delete h v = .ok (h', b)) :
    Inv h' ↔
      Ok h.comp h.data (h.data.size - 1) ((idx - 1) / 2) ∧
      (∀ c, (c - 1) / 2 = idx → 0 < c → c < h.data.size - 1 → Ok h.comp h.data c (h.data.size - 1)) :=
  delete_heap_iff h hi v hidx hmid hd

/-- `Peek` under the invariant: the zero value when empty, else an element no held element precedes. -/
theorem peek_extremal [Inhabited α] (h : Heap α) (hi : Inv h) :
    ∃ x, peek h = .ok x ∧
      ((h.data.toList = [] ∧ x = default) ∨ Extremal h.comp h.data.toList x) :=
  let ⟨x, e, r⟩ := peek_spec h; ⟨x, e, r.imp_right fun ⟨_, ex⟩ => ex hi⟩

/-- `Pop` under the invariant: extremal element, exactly one occurrence removed, invariant kept. -/
theorem pop_extremal [Inhabited α] [DecidableEq α] (h : Heap α) (hi : Inv h) :
    ∃ h' x, pop h = .ok (h', x) ∧ h'.comp = h.comp ∧ Inv h' ∧
      ((h.data.toList = [] ∧ x = default ∧ h'.data.toList = []) ∨
       (Extremal h.comp h.data.toList x ∧ h'.data.toList.Perm (h.data.toList.erase x))) :=
  let ⟨h', x, e, c, r, i⟩ := pop_spec h; ⟨h', x, e, c, i hi, r.imp_right fun ⟨_, p, ex⟩ => ⟨ex hi, p⟩⟩

/-- The monitor accepts the model's `Peek` answer. -/
theorem peek_checked (h : Heap Int) (hi : Inv h) :
    ∃ x, peek h = .ok x ∧ checkPeek h.comp h.data.toList x = true := by
  obtain ⟨x, e, r⟩ := peek_extremal h hi
  refine ⟨x, e, ?_⟩
  rcases r with ⟨r1, r2⟩ | r
  · simp [checkPeek, r1, r2]
  · rw [checkPeek, List.isEmpty_eq_false_iff.mpr (List.ne_nil_of_mem r.1)]
    simp only [Bool.false_eq_true, if_false]
    exact decide_eq_true r

/-- `FromSlice` / `Convert` establish the invariant from ANY data (no invariant assumed before). -/
theorem fromSlice_establishes (data : Array α) (c : Comp α) (hc : SWO c) :
    ∃ h', fromSlice data c = .ok h' ∧ h'.comp = c ∧ Inv h' ∧ h'.data.toList.Perm data.toList :=
  fromSlice_spec data c hc

theorem convert_establishes (h : Heap α) (c : Comp α) (hc : SWO c) :
    ∃ h', convert h c = .ok h' ∧ h'.comp = c ∧ Inv h' ∧ h'.data.toList.Perm h.data.toList :=
  convert_spec h c hc

/-- `FromSlice` terminates although its inner loop overwrites the outer loop variable: the
model's outer loop, given `len² + 1` iterations of fuel, never answers `.hang` (nor `.panic`). -/
theorem fromSlice_terminates (data : Array α) (c : Comp α) (hc : SWO c) :
    fromSlice data c ≠ .hang ∧ fromSlice data c ≠ .panic := by
  obtain ⟨h', e, _⟩ := fromSlice_spec data c hc
  rw [e]; constructor <;> intro h <;> cases h

/-- `Sort`: a permutation of the input, ordered oppositely to the comparator (for `i < j`,
`out[i]` does not precede `out[j]`: a max-heap comparator gives ascending order). -/
theorem sort_spec (data : Array α) (c : Comp α) (hc : SWO c) :
    ∃ out, sort data c = .ok out ∧ out.toList.Perm data.toList ∧ SortedOpp c out.toList := by
  obtain ⟨h', e, hcomp, hinv, hperm⟩ := fromSlice_spec data c hc
  obtain ⟨out, eo, so, po⟩ := sortLoop_spec hc h'.data.size h'.data (Nat.le_refl _)
    { heap := hcomp ▸ hinv.heap
      across := fun _ _ _ h1 => .beyond h1
      sorted := fun _ _ h1 h2 => .beyond (Nat.le_of_lt (Nat.lt_of_le_of_lt h1 h2)) }
  exact ⟨out, by simp only [sort, e, eo], (Array.perm_iff_toList_perm.mp po).trans hperm, so⟩

/-- The monitor accepts the model's `Sort` answer. -/
theorem sort_checked (data : Array Int) (c : Comp Int) (hc : SWO c) :
    ∃ out, sort data c = .ok out ∧ checkSort c data.toList out.toList = true := by
  obtain ⟨out, e, p, s⟩ := sort_spec data c hc
  refine ⟨out, e, ?_⟩
  simp only [checkSort, sameElems, Bool.and_eq_true, decide_eq_true_eq]
  exact ⟨List.isPerm_iff.mpr p.symm, s⟩

/-- `parent(i) = (i - 1) / 2` on Go `int` (truncating) is what the model computes on `Nat`. -/
theorem parent_matches_go (i : Nat) : ((i : Int) - 1).tdiv 2 = ((parent i : Nat) : Int) := parent_int i

example : SWO ltI ∧ SWO gtI ∧ SWO kltI ∧ SWO kgtI := ⟨swo_lt, swo_gt, swo_klt, swo_kgt⟩
/-- the by-key comparator really has ties (distinct elements, neither precedes the other) -/
example : kltI 10 11 = false ∧ kltI 11 10 = false ∧ (10 : Int) ≠ 11 := by decide
example : Inv witnessHeap := witness_inv
/-- a history with a root `Delete`, a last-slot `Delete` and an absent `Delete` is `SafeRun` -/
example : SafeRun (new ltI) [.push 3, .push 1, .push 2, .delete 1, .delete 3, .delete 9, .pop] := by
  refine safeRun_cons trivial trivial (h1 := ⟨ltI, #[3]⟩) rfl ?_
  refine safeRun_cons trivial trivial (h1 := ⟨ltI, #[1, 3]⟩) rfl ?_
  refine safeRun_cons trivial trivial (h1 := ⟨ltI, #[1, 3, 2]⟩) rfl ?_
  refine safeRun_cons trivial ((deleteSafeB_iff _ _).mp rfl) (h1 := ⟨ltI, #[2, 3]⟩) rfl ?_
  refine safeRun_cons trivial ((deleteSafeB_iff _ _).mp rfl) (h1 := ⟨ltI, #[2]⟩) rfl ?_
  refine safeRun_cons trivial ((deleteSafeB_iff _ _).mp rfl) (h1 := ⟨ltI, #[2]⟩) rfl ?_
  exact safeRun_cons trivial trivial (h1 := ⟨ltI, #[]⟩) rfl trivial
/-- the witness history violates `DeleteSafe` (victim at slot 1 of 7), so `C03_partial` rightly
does not cover it -/
example : ¬ DeleteSafe witnessHeap (.delete 3) := by
  intro h
  have := h 1 (by rfl)
  exact absurd this (by decide)
/-- on the witness the ghost flag is really set by `Delete(3)` (slot 1 of 7) and is clear again
after a `Convert` -/
example : taintNext witnessHeap false (.delete 3) { comp := gtI, data := #[4, 1, 2, 2, 3, 1] } = true ∧
    taintNext witnessHeap true (.convert ltI) witnessHeap = false := ⟨by rfl, by rfl⟩
example : sort #[3, 1, 2, 3, 0] gtI = .ok #[0, 1, 2, 3, 3] := by rfl

end GoguVerif.Theorems.C03
