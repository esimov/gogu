import GoguVerif.Gen.LockTable
import GoguVerif.Lemmas.RWLock
/-!
# C01 — race-, panic- and deadlock-freedom of the lock-guarded containers

For ANY number of threads, each running ANY sequence of well-locked sections, under ANY interleaving
admitted by `sync.RWMutex`: no reachable state has two threads able to perform conflicting accesses,
and some step is enabled while a thread is unfinished.  The invariant is mutual exclusion of a writer
(`Inv`).  The table regenerated from /repo's current source (`Gen.lockTable`) is well locked and free
of the flags the section abstraction cannot express (`table_ok`), so the generic theorems apply to
any system of threads running sections of the table.  That no call panics is in `Theorems/C01NoPanic.lean`.
-/
namespace GoguVerif.Theorems.C01
open GoguVerif.Model.Lock
open GoguVerif.Lemmas.RWLock (forall_upd excl_upd no_writer_of_free)

theorem holds_some {t : Thread} {c : Sect} (h : t.cur = some c) : t.holds = c.mode := by rw [Thread.holds, h]; rfl

theorem holds_none {t : Thread} (h : t.cur = none) : t.holds = none := by rw [Thread.holds, h]; rfl

structure Inv (s : State) : Prop where
  wellLocked : ∀ i, (s i).WellLocked
  excl : ∀ i j, i ≠ j → (s i).holds = some .w → (s j).holds = none

theorem inv_init {s : State} (h : Init s) : Inv s := by
  refine ⟨fun i => (h i).2, ?_⟩
  intro i j _ hw
  rw [holds_none (h i).1] at hw
  cases hw

theorem inv_step {s s' : State} (hinv : Inv s) (st : Step s s') : Inv s' := by
  -- `Lock.upd` unfolds to `Lin.upd`, for which `forall_upd` and `excl_upd` are stated
  obtain ⟨hwl, hmx⟩ := hinv
  cases st with
  | enter i sec rest h ok =>
    have hw := hwl i
    rw [h] at hw
    refine ⟨forall_upd (fun k _ => hwl k)
      ⟨fun c hc => Option.some.inj hc ▸ hw.2 sec List.mem_cons_self,
       fun c hc => hw.2 c (List.mem_cons_of_mem _ hc)⟩,
      excl_upd (hold := Thread.holds) hmx (fun hm => ?_) (fun hm => ?_)⟩
    -- `hm` speaks of `sec.mode`, the mode the entering thread will hold
    · rw [show sec.mode = some .w from hm] at ok; exact ok
    · cases hs : sec.mode with
      | none => exact absurd hs hm
      | some m =>
        rw [hs] at ok
        cases m with
        | r => exact ok
        | w => exact no_writer_of_free ok
  | leave i sec rest h =>
    have hw := hwl i
    rw [h] at hw
    exact ⟨forall_upd (fun k _ => hwl k) ⟨nofun, hw.2⟩,
      excl_upd (hold := Thread.holds) hmx nofun (fun hm => absurd rfl hm)⟩

theorem inv_reach {init s : State} (hi : Init init) (r : Reach init s) : Inv s := by
  induction r with
  | refl => exact inv_init hi
  | step _ st ih => exact inv_step ih st

/-- Lock discipline ⇒ no reachable state has a data race, for any number of threads running any
sequence of well-locked sections under any interleaving. -/
theorem race_free {init s : State} (hi : Init init) (r : Reach init s) : ¬ Race s := by
  obtain ⟨hwl, hmx⟩ := inv_reach hi r
  rintro ⟨i, j, hij, ci, cj, hci, hcj, a, ha, b, hb, _, hw⟩
  have wi := (hwl i).1 ci hci a ha
  have wj := (hwl j).1 cj hcj b hb
  cases hw with
  | inl h =>
    have := hmx i j hij ((holds_some hci).trans (wi.1 h))
    exact wj.2 ((holds_some hcj).symm.trans this)
  | inr h =>
    have := hmx j i (fun e => hij e.symm) ((holds_some hcj).trans (wj.1 h))
    exact wi.2 ((holds_some hci).symm.trans this)

/-- When all goroutines are between critical sections, any of them can enter any section at once,
whatever its lock mode. -/
theorem quiescent_admits_everyone {s : State} (hq : ∀ i, (s i).cur = none) (i : Nat) (m : Option Mode) :
    canEnter s i m := by
  have hn : ∀ j, (s j).holds = none := fun j => holds_none (hq j)
  cases m with
  | none => trivial
  | some m =>
    cases m with
    | r => exact no_writer_of_free fun j _ => hn j
    | w => intro j _; exact hn j

/-- No deadlock: while some thread is unfinished, some step is enabled. -/
theorem deadlock_free {init s : State} (hi : Init init) (r : Reach init s)
    (i : Nat) (hunf : (s i).cur ≠ none ∨ (s i).rest ≠ []) : ∃ s', Step s s' := by
  have _ := And.intro hi r  -- not needed: true of every state, reachable or not, since sections do not block
  by_cases hex : ∃ k c, (s k).cur = some c
  · obtain ⟨k, c, hc⟩ := hex
    exact ⟨_, Step.leave s k c (s k).rest (by rw [← hc])⟩
  · have hnone : ∀ k, (s k).cur = none := fun k =>
      Option.eq_none_iff_forall_ne_some.2 fun c h => hex ⟨k, c, h⟩
    cases hr : (s i).rest with
    | nil => exact absurd hr (hunf.resolve_left fun h => h (hnone i))
    | cons sec rest =>
      exact ⟨_, Step.enter s i sec rest (by rw [← hnone i, ← hr]) (quiescent_admits_everyone hnone i _)⟩

/-- Whenever all goroutines are between critical sections (in particular: when all calls have returned), the state is
again an initial state: nobody holds the lock, every remaining program is well locked — so `race_free` and
`deadlock_free` apply afresh to whatever is called next on the same instance. -/
theorem quiescent_is_init {init s : State} (hi : Init init) (r : Reach init s) (hq : ∀ i, (s i).cur = none) :
    Init s ∧ ∀ i, (s i).holds = none := by
  have hinv := inv_reach hi r
  exact ⟨fun i => ⟨hq i, hinv.wellLocked i⟩, fun i => holds_none (hq i)⟩

/-- A goroutine inside a section can leave it in every state.  This is the constructor `Step.leave`, which has no
guard; that the real sections do not block is `table_ok` (no flag `blocksWhileHolding` / `nestedAcquire` is admitted). -/
theorem can_always_leave {s : State} (i : Nat) (sec : Sect) (rest : List Sect) (h : s i = ⟨some sec, rest⟩) :
    Step s (upd s i ⟨none, rest⟩) := Step.leave s i sec rest h

/-- No flag that concerns locking is permitted.  The three admitted ones are no races:
`atomicOutsideLock` (an access to a field of a `sync/atomic` type outside the critical section; the Go
memory model orders such accesses, C02 counts it as a step), `twoAtomicWritesInLock` (judged by C02's
`atomicsOk`), and `goroutine`, which marks the rows of the library's own goroutines (`go c.cleanup()`):
they must be well locked like every other row (C02's `goroutinesOk` adds: one critical section per
iteration).  `BsTree.Traverse` collects under the read lock and calls back after releasing it, so it
is an ordinary `r` section and needs no flag. -/
def allowedFlags : List String := ["atomicOutsideLock", "twoAtomicWritesInLock", "goroutine"]

def pathOk (p : PathEntry) : Bool :=
  p.flags.all (allowedFlags.contains ·) && p.sects.all (fun s => decide s.WellLocked)

def tableOk (t : List MethodEntry) : Bool := t.all (fun m => m.paths.all pathOk)

/-- Every path of the table regenerated from the Go source is well locked and carries only allowed
flags. -/
theorem table_ok : tableOk GoguVerif.Gen.lockTable = true := by decide +kernel

theorem table_sections_wellLocked :
    ∀ m ∈ GoguVerif.Gen.lockTable, ∀ p ∈ m.paths, ∀ c ∈ p.sects, c.WellLocked := by
  intro m hm p hp c hc
  have h := table_ok
  simp only [tableOk, List.all_eq_true] at h
  have h2 := h m hm p hp
  simp only [pathOk, Bool.and_eq_true, List.all_eq_true, decide_eq_true_eq] at h2
  exact h2.2 c hc

/-- A thread whose program consists of sections of table methods (any methods, any paths, any
number of calls — a superset of "any sequence of method calls"). -/
def FromTable (t : Thread) : Prop :=
  t.cur = none ∧ ∀ c ∈ t.rest, ∃ m ∈ GoguVerif.Gen.lockTable, ∃ p ∈ m.paths, c ∈ p.sects

theorem init_of_fromTable {s : State} (h : ∀ i, FromTable (s i)) : Init s := by
  intro i
  refine ⟨(h i).1, ?_, ?_⟩
  · intro c hc; rw [(h i).1] at hc; cases hc
  · intro c hc
    obtain ⟨m, hm, p, hp, hcp⟩ := (h i).2 c hc
    exact table_sections_wellLocked m hm p hp c hcp

/-- C01 for the current source: any number of goroutines calling the public methods of one shared
instance never reach a state with two conflicting simultaneous accesses. -/
theorem containers_race_free {init s : State} (h : ∀ i, FromTable (init i)) (r : Reach init s) :
    ¬ Race s := race_free (init_of_fromTable h) r

/-- While one of the same goroutines is unfinished, some goroutine can take a step. -/
theorem containers_deadlock_free {init s : State} (h : ∀ i, FromTable (init i)) (r : Reach init s)
    (i : Nat) (hunf : (s i).cur ≠ none ∨ (s i).rest ≠ []) : ∃ s', Step s s' :=
  deadlock_free (init_of_fromTable h) r i hunf

/-- a method that sends on a channel (or otherwise blocks) while holding a lock is rejected -/
example : pathOk { sects := [⟨some .r, [⟨0, false⟩]⟩], flags := ["blocksWhileHolding"] } = false := by decide +kernel
example : pathOk { sects := [⟨some .r, [⟨0, false⟩]⟩], flags := ["traverseProducer"] } = false := by decide +kernel

/-- non-vacuity: a concrete two-thread system built from well-locked sections is an `Init` state -/
example : Init (fun i => if i = 0 then ⟨none, [⟨some .w, [⟨0, true⟩]⟩]⟩
                         else ⟨none, [⟨some .r, [⟨0, false⟩]⟩]⟩) := by
  intro i
  dsimp only
  split <;> exact ⟨rfl, nofun, by decide⟩

/-- a writer under the read lock is rejected -/
example : pathOk { sects := [⟨some .r, [⟨0, true⟩]⟩], flags := [] } = false := by decide +kernel
/-- an unlocked read is rejected -/
example : pathOk { sects := [⟨none, [⟨0, false⟩]⟩], flags := [] } = false := by decide +kernel

end GoguVerif.Theorems.C01
