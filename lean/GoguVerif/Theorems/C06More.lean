import GoguVerif.Theorems.C06
/-!
# C06 — whole-history laws of the LIFO (arbitrary interleaved histories)

`Theorems/C06.lean` proves that the slice-backed `Stack` produces exactly the answers of the abstract
LIFO `Spec.C06.run` for every history; its corollary `lifo_order` only covers "push `xs`, then pop
`|xs|` times".  This file proves laws of WHOLE histories (any interleaving of the five operations,
any initial content `s`) about `Spec.C06.run` and transfers them to `Model.Stack` through
`stack_refines`.  (The linked `LStack` violates the full clause — findings F12a/F12b — and is not
treated here.)

`Pop` has no error result, so which pops succeed is read off the history: `popped n` collects the
answers of the pops issued while something is held, `n` being the number of elements held at the
start (`+1` per push, `−1` per pop at positive count; `depth` is that count alone).

The laws: conservation (`popped ++ final` is a permutation of `initial ++ pushed`, what is held is
held in push order); LIFO order (a `Pop` answers the value of the `Push` it is bracketed with —
`push x`, a well-bracketed segment, `pop` — and every point of a history is either inside such an
open bracket or sees a prefix of the initial content); the size answers as counts of the history;
what `Peek`, `Search` and `Pop` answer at any point.
-/
namespace GoguVerif.Theorems.C06More
open Spec.C06

-- some of the statements below carry the instance arguments of `α` without using them
set_option linter.unusedSectionVars false
variable {α : Type} [Inhabited α] [DecidableEq α]

def pushed : List (Op α) → List α
  | [] => []
  | .push x :: ops => x :: pushed ops
  | _ :: ops => pushed ops

/-- number of elements held after a history that started with `n` elements -/
def depth : Nat → List (Op α) → Nat
  | n, [] => n
  | n, .push _ :: ops => depth (n + 1) ops
  | n, .pop :: ops => depth (n - 1) ops
  | n, _ :: ops => depth n ops

/-- the values returned by the successful pops (those issued while something is held), in order;
`n` = number of elements held at the start.  Total on any two lists: it stops at the end of the shorter, and an
answer to a `Pop` that is not a `.val` (`run` gives none) contributes nothing. -/
def popped : Nat → List (Op α) → List (Out α) → List α
  | n, op :: ops, o :: os =>
    match op with
    | .push _ => popped (n + 1) ops os
    | .pop =>
      if n = 0 then popped 0 ops os
      else (match o with | .val v => [v] | _ => []) ++ popped (n - 1) ops os
    | _ => popped n ops os
  | _, _, _ => []

/-- well-bracketing: started at depth `d`, no pop reaches below depth 0 and the segment ends at
depth 0.  `balanced 0 seg`: every pop of `seg` is matched by an earlier push of `seg` and every push
of `seg` is popped in `seg`. -/
def balanced : Nat → List (Op α) → Bool
  | d, [] => d == 0
  | d, .push _ :: ops => balanced (d + 1) ops
  | 0, .pop :: _ => false
  | d + 1, .pop :: ops => balanced d ops
  | d, _ :: ops => balanced d ops

theorem run_length (s : List α) (ops : List (Op α)) : (run s ops).2.length = ops.length := by
  induction ops generalizing s with
  | nil => rfl
  | cons op ops ih => exact congrArg (· + 1) (ih _)

theorem run_drop (s : List α) (a b : List (Op α)) :
    (run s (a ++ b)).2.drop a.length = (run (run s a).1 b).2 := by
  rw [run_append, ← run_length s a]; exact List.drop_left

theorem run_snoc (s : List α) (pre : List (Op α)) (op : Op α) :
    (run s (pre ++ [op])).1 = (step (run s pre).1 op).1 := by rw [run_append]; rfl

/-- The answer observed at any point of any history is the abstract LIFO's answer in the content
reached by the history so far. -/
theorem observation (s : List α) (pre post : List (Op α)) (op : Op α) :
    (run s (pre ++ op :: post)).2[pre.length]? = some (step (run s pre).1 op).2 := by
  rw [← List.head?_drop, run_drop]; rfl

theorem observation_after (s : List α) (pre mid post : List (Op α)) (a b : Op α) :
    (run s (pre ++ a :: (mid ++ b :: post))).2[pre.length + 1 + mid.length]? =
      some (step (run (step (run s pre).1 a).1 mid).1 b).2 := by
  have h := observation s (pre ++ a :: mid) post b
  have e : (run s (pre ++ a :: mid)).1 = (run (step (run s pre).1 a).1 mid).1 := by
    rw [run_append]; rfl
  rw [List.append_assoc, List.cons_append, List.length_append, List.length_cons, e] at h
  rw [Nat.add_right_comm]; exact h

theorem snoc_induction {β : Type} {motive : List β → Prop} (nil : motive [])
    (snoc : ∀ l x, motive l → motive (l ++ [x])) (l : List β) : motive l := by
  have : ∀ r : List β, motive r.reverse := fun r => by
    induction r with
    | nil => exact nil
    | cons x r ih => rw [List.reverse_cons]; exact snoc _ x ih
  exact List.reverse_reverse l ▸ this l.reverse

-- `C06.pop_empty` under the name the audit lists; the proofs below see the equation by unfolding
theorem step_pop_nil : step ([] : List α) .pop = ([], .val default) := C06.pop_empty

/-- What every history keeps, by one induction: nothing pushed is lost or duplicated, what is held is held in push
order, and the number held is the bracket counter. -/
theorem run_accounts (s : List α) (ops : List (Op α)) :
    (popped s.length ops (run s ops).2 ++ (run s ops).1).Perm (s ++ pushed ops) ∧
    (run s ops).1.Sublist (s ++ pushed ops) ∧ (run s ops).1.length = depth s.length ops := by
  induction ops generalizing s with
  | nil => exact ⟨.of_eq (List.append_nil s).symm, List.sublist_append_left s [], rfl⟩
  | cons op ops ih =>
    rw [run_cons]
    cases op with
    | push x =>
      have := ih (s ++ [x])
      rw [List.length_append, List.append_assoc] at this
      exact this
    | pop =>
      rcases snoc_cases s with rfl | ⟨r, x, rfl⟩
      · exact ih []
      · rw [C06.step_pop_concat, List.length_append, List.append_assoc]
        exact ⟨((ih r).1.cons x).trans List.perm_middle.symm,
          (ih r).2.1.trans (List.Sublist.append (.refl r) (List.sublist_cons_self x _)), (ih r).2.2⟩
    | _ => exact ih s

/-- Conservation, any initial content, any interleaving: the values returned by the successful
pops together with what is still held are, up to order, exactly the initial content together with
the pushed values: every pushed value is accounted for exactly once (never lost, never duplicated). -/
theorem conservation_perm (s : List α) (ops : List (Op α)) :
    (popped s.length ops (run s ops).2 ++ (run s ops).1).Perm (s ++ pushed ops) :=
  (run_accounts s ops).1

/-- What is still held is held in the order it was pushed (above what is left of the initial
content). -/
theorem content_sublist (s : List α) (ops : List (Op α)) :
    (run s ops).1.Sublist (s ++ pushed ops) :=
  (run_accounts s ops).2.1

/-- The number of elements held is the bracket counter of the history. -/
theorem size_eq_depth (s : List α) (ops : List (Op α)) : (run s ops).1.length = depth s.length ops :=
  (run_accounts s ops).2.2

/-- Size, whole histories: `final size + #successful pops = |initial| + #pushes` (so
`Size = |initial| + pushes − successful pops`, never negative). -/
theorem depth_counts (s : List α) (ops : List (Op α)) :
    (run s ops).1.length + (popped s.length ops (run s ops).2).length = s.length + (pushed ops).length := by
  have := (conservation_perm s ops).length_eq
  rw [List.length_append, List.length_append, Nat.add_comm] at this
  exact this

theorem final_size (s : List α) (ops : List (Op α)) :
    ((run s ops).1.length : Int) =
      (s.length : Int) + (pushed ops).length - (popped s.length ops (run s ops).2).length := by
  have := depth_counts s ops
  omega

/-- Every `Size` observation inside a history is the length of the abstract stack at that point,
i.e. `|initial| + #pushes − #successful pops` of the history so far. -/
theorem size_observation (s : List α) (pre post : List (Op α)) :
    (run s (pre ++ Op.size :: post)).2[pre.length]? =
      some (Out.int ((s.length : Int) + (pushed pre).length
        - (popped s.length pre (run s pre).2).length)) := by
  rw [observation, ← final_size]; rfl

/-- A well-bracketed segment (started `t.length` deep) consumes exactly the `t.length` topmost
elements and never reaches below them: whatever lies beneath (`s`) is what is left. -/
theorem balanced_restores (mid : List (Op α)) :
    ∀ (s t : List α), balanced t.length mid = true → (run (s ++ t) mid).1 = s := by
  induction mid with
  | nil =>
    intro s t h
    rw [List.eq_nil_of_length_eq_zero (eq_of_beq (show (t.length == 0) = true from h))]
    exact List.append_nil s
  | cons op mid ih =>
    intro s t h
    rw [run_cons]
    cases op with
    | push x =>
      have := ih s (t ++ [x]) (by rw [List.length_append]; exact h)
      rw [← List.append_assoc] at this
      exact this
    | pop =>
      rcases snoc_cases t with rfl | ⟨r, x, rfl⟩
      · exact absurd h Bool.false_ne_true
      · rw [List.length_append] at h
        rw [← List.append_assoc, C06.step_pop_concat]
        exact ih s r h
    | _ => exact ih s t h

theorem run_balanced (c : List α) (mid : List (Op α)) (hb : balanced 0 mid = true) : (run c mid).1 = c := by
  have := balanced_restores mid c [] hb
  rwa [List.append_nil] at this

theorem run_opened (s : List α) (a mid : List (Op α)) (x : α) (hb : balanced 0 mid = true) :
    (run s (a ++ Op.push x :: mid)).1 = (run s a).1 ++ [x] := by
  rw [run_append, run_cons]
  exact run_balanced _ mid hb

/-- Pop returns the most recently pushed value not yet popped: in any history, from any initial
content: if `push x` is followed by a well-bracketed segment `mid` (all of whose pushes are popped
inside it, and whose pops pop only its own pushes) and then a `Pop`, that `Pop` answers `x`, and
afterwards the content is what it was before the `push x`. -/
theorem pop_returns_matching_push (s : List α) (pre mid post : List (Op α)) (x : α)
    (hb : balanced 0 mid = true) :
    (run s (pre ++ Op.push x :: (mid ++ Op.pop :: post))).2[pre.length + 1 + mid.length]?
      = some (Out.val x) ∧
    (run s (pre ++ Op.push x :: (mid ++ [Op.pop]))).1 = (run s pre).1 := by
  constructor
  · rw [observation_after, run_balanced _ mid hb]
    exact congrArg (fun r => some r.2) (C06.step_pop_concat (run s pre).1 x)
  · rw [← List.cons_append, ← List.append_assoc, run_snoc, run_opened s pre mid x hb, C06.step_pop_concat]

def readOnly : Op α → Bool
  | .peek | .search _ | .size => true
  | _ => false

theorem step_readOnly (s : List α) {op : Op α} (h : readOnly op = true) : (step s op).1 = s := by
  cases op with
  | peek | search | size => rfl
  | _ => cases h

theorem run_readOnly (s : List α) (mid : List (Op α)) (h : ∀ op ∈ mid, readOnly op = true) :
    (run s mid).1 = s := by
  induction mid with
  | nil => rfl
  | cons op mid ih =>
    rw [run_cons, step_readOnly s (h op List.mem_cons_self)]
    exact ih fun o ho => h o (List.mem_cons_of_mem _ ho)

/-- Peek shows what the next Pop returns, at any point of any history (observing calls may come
in between); on the empty stack both answer the zero value. -/
theorem peek_then_pop (s : List α) (pre mid post : List (Op α))
    (hm : ∀ op ∈ mid, readOnly op = true) :
    ∃ v, (run s (pre ++ Op.peek :: (mid ++ Op.pop :: post))).2[pre.length]? = some (Out.val v) ∧
      (run s (pre ++ Op.peek :: (mid ++ Op.pop :: post))).2[pre.length + 1 + mid.length]?
        = some (Out.val v) ∧
      v = (run s pre).1.getLast?.getD default := by
  rw [observation, observation_after, run_readOnly _ mid hm]
  exact ⟨_, rfl, congrArg some (C06.peek_is_next_pop (run s pre).1).2.symm, rfl⟩

/-- Search reports exactly the elements currently held, at any point of any history. -/
theorem search_observation (s : List α) (pre post : List (Op α)) (x : α) :
    (run s (pre ++ Op.search x :: post)).2[pre.length]? = some (Out.bool (decide (x ∈ (run s pre).1))) := by
  rw [observation]; rfl

/-- A reported element was pushed (or initial). -/
theorem search_true_was_pushed (s : List α) (pre post : List (Op α)) (x : α)
    (h : (run s (pre ++ Op.search x :: post)).2[pre.length]? = some (Out.bool true)) :
    x ∈ s ++ pushed pre := by
  rw [search_observation] at h
  have : x ∈ (run s pre).1 := by simpa using h
  exact (content_sublist s pre).subset this

/-- Pop / Peek on an empty stack return the zero value and change nothing, at any point. -/
theorem pop_empty_observation (s : List α) (pre post : List (Op α)) (he : (run s pre).1 = []) :
    (run s (pre ++ Op.pop :: post)).2[pre.length]? = some (Out.val default) ∧
    (run s (pre ++ [Op.pop])).1 = [] ∧
    (run s (pre ++ Op.peek :: post)).2[pre.length]? = some (Out.val default) := by
  rw [observation, observation, run_snoc, he]
  exact ⟨rfl, rfl, rfl⟩

theorem balanced_append (a b : List (Op α)) :
    ∀ (d1 d2 : Nat), balanced d1 a = true → balanced d2 b = true → balanced (d1 + d2) (a ++ b) = true := by
  induction a with
  | nil =>
    intro d1 d2 h1 h2
    rw [eq_of_beq (show (d1 == 0) = true from h1), Nat.zero_add]
    exact h2
  | cons op a ih =>
    intro d1 d2 h1 h2
    cases op with
    | push x =>
      have := ih (d1 + 1) d2 h1 h2
      rwa [Nat.add_right_comm] at this
    | pop =>
      cases d1 with
      | zero => exact absurd h1 Bool.false_ne_true
      | succ d =>
        rw [Nat.add_right_comm]
        exact ih d d2 h1 h2
    | _ => exact ih d1 d2 h1 h2

/-- The bracket structure of a history run from `s`: either it has popped all it pushed and holds a
prefix of `s`, or it is a history `a` (with a bracket structure of its own), a `push x` still open, and
a well-bracketed segment.  A derivation lists all open pushes, innermost last. -/
inductive Frames (s : List α) : List (Op α) → Prop
  | initial {pre} : (run s pre).1 <+: s → Frames s pre
  | opened {a} (x : α) {mid} : Frames s a → balanced 0 mid = true → Frames s (a ++ Op.push x :: mid)

/-- A well-bracketed segment can be added to any bracket structure: it leaves the content as it was (`run_balanced`). -/
theorem Frames.extend {s : List α} {a : List (Op α)} (h : Frames s a) (m : List (Op α))
    (hb : balanced 0 m = true) : Frames s (a ++ m) := by
  cases h with
  | initial hp =>
    refine .initial ?_
    rw [run_append, run_balanced _ m hb]
    exact hp
  | opened x ha hmid =>
    rw [List.append_assoc, List.cons_append]
    exact .opened x ha (balanced_append _ m 0 0 hmid hb)

/-- Every history has a bracket structure, read from its right end: a push opens a frame, a pop closes the innermost
open push or, if none is open, shortens the prefix of `s` that is held, and an observing call extends the last
segment. -/
theorem frames (s : List α) (pre : List (Op α)) : Frames s pre := by
  induction pre using snoc_induction with
  | nil => exact .initial (List.prefix_refl s)
  | snoc pre op ih =>
    cases op with
    | push x => exact .opened x ih rfl
    | pop =>
      cases ih with
      | initial hp =>
        refine .initial (List.IsPrefix.trans ?_ hp)
        rw [run_snoc]
        rcases snoc_cases (run s pre).1 with h0 | ⟨r, x, h1⟩
        · rw [h0]; exact List.prefix_refl _
        · rw [h1, C06.step_pop_concat]; exact List.prefix_append r [x]
      | @opened a x mid ha hmid =>
        -- the pop closes the bracket of `x`: what is open now is what was open after `a`
        rw [List.append_assoc, List.cons_append]
        exact ha.extend _ (balanced_append mid [Op.pop] 0 1 hmid rfl)
    | _ => exact ih.extend _ rfl

/-- Every point of every history is covered: after any history `pre`, either the last push not
yet popped is identified by bracketing — `pre = a ++ push x :: mid` with `mid` well-bracketed, and
`x` is on top (so, by `pop_returns_matching_push`, the next `Pop` returns `x`) — or every push has
been popped and what is held is a prefix of the initial content. -/
theorem open_push_or_initial (s : List α) (pre : List (Op α)) :
    (∃ a x mid, pre = a ++ Op.push x :: mid ∧ balanced 0 mid = true ∧
        (run s pre).1 = (run s a).1 ++ [x]) ∨
    (run s pre).1 <+: s := by
  cases frames s pre with
  | initial hp => exact Or.inr hp
  | opened x _ hmid => exact Or.inl ⟨_, x, _, rfl, hmid, run_opened s _ _ x hmid⟩

theorem stack_run_eq : @Model.Stack.run α _ _ = run := funext fun s => funext (C06.stack_refines s)

theorem stack_conservation_perm (s : List α) (ops : List (Op α)) :
    (popped s.length ops (Model.Stack.run s ops).2 ++ (Model.Stack.run s ops).1).Perm
      (s ++ pushed ops) := by
  rw [stack_run_eq]; exact conservation_perm s ops

theorem stack_content_sublist (s : List α) (ops : List (Op α)) :
    (Model.Stack.run s ops).1.Sublist (s ++ pushed ops) := by
  rw [stack_run_eq]; exact content_sublist s ops

theorem stack_depth_counts (s : List α) (ops : List (Op α)) :
    (Model.Stack.run s ops).1.length + (popped s.length ops (Model.Stack.run s ops).2).length =
      s.length + (pushed ops).length := by
  rw [stack_run_eq]; exact depth_counts s ops

theorem stack_size_observation (s : List α) (pre post : List (Op α)) :
    (Model.Stack.run s (pre ++ Op.size :: post)).2[pre.length]? =
      some (Out.int ((s.length : Int) + (pushed pre).length
        - (popped s.length pre (Model.Stack.run s pre).2).length)) := by
  rw [stack_run_eq]; exact size_observation s pre post

theorem stack_pop_returns_matching_push (s : List α) (pre mid post : List (Op α)) (x : α)
    (hb : balanced 0 mid = true) :
    (Model.Stack.run s (pre ++ Op.push x :: (mid ++ Op.pop :: post))).2[pre.length + 1 + mid.length]?
      = some (Out.val x) ∧
    (Model.Stack.run s (pre ++ Op.push x :: (mid ++ [Op.pop]))).1 = (Model.Stack.run s pre).1 := by
  rw [stack_run_eq]
  exact pop_returns_matching_push s pre mid post x hb

theorem stack_peek_then_pop (s : List α) (pre mid post : List (Op α))
    (hm : ∀ op ∈ mid, readOnly op = true) :
    ∃ v, (Model.Stack.run s (pre ++ Op.peek :: (mid ++ Op.pop :: post))).2[pre.length]?
        = some (Out.val v) ∧
      (Model.Stack.run s (pre ++ Op.peek :: (mid ++ Op.pop :: post))).2[pre.length + 1 + mid.length]?
        = some (Out.val v) ∧
      v = (Model.Stack.run s pre).1.getLast?.getD default := by
  rw [stack_run_eq]; exact peek_then_pop s pre mid post hm

theorem stack_search_observation (s : List α) (pre post : List (Op α)) (x : α) :
    (Model.Stack.run s (pre ++ Op.search x :: post)).2[pre.length]? =
      some (Out.bool (decide (x ∈ (Model.Stack.run s pre).1))) := by
  rw [stack_run_eq]; exact search_observation s pre post x

theorem stack_open_push_or_initial (s : List α) (pre : List (Op α)) :
    (∃ a x mid, pre = a ++ Op.push x :: mid ∧ balanced 0 mid = true ∧
        (Model.Stack.run s pre).1 = (Model.Stack.run s a).1 ++ [x]) ∨
    (Model.Stack.run s pre).1 <+: s := by
  rw [stack_run_eq]; exact open_push_or_initial s pre

example : balanced 0 [.push (5 : Int), .peek, .pop, .push 6, .push 7, .pop, .size, .pop] = true :=
  rfl

example : (Model.Stack.run [1] ([.pop, .pop] ++ Op.push (9 : Int) ::
      ([.push 5, .peek, .pop, .push 6, .push 7, .pop, .size, .pop] ++ Op.pop :: [.size]))).2[2 + 1 + 8]?
    = some (Out.val 9) := rfl

example : popped 1 [.push 2, .pop, .pop, .pop, .push (0 : Int), .peek, .pop, .push 4]
      (run [1] [.push 2, .pop, .pop, .pop, .push (0 : Int), .peek, .pop, .push 4]).2 = [2, 1, 0] ∧
    (run [1] [.push 2, .pop, .pop, .pop, .push (0 : Int), .peek, .pop, .push 4]).1 = [4] ∧
    pushed [.push 2, .pop, .pop, .pop, .push (0 : Int), .peek, .pop, .push 4] = [2, 0, 4] :=
  ⟨rfl, rfl, rfl⟩

end GoguVerif.Theorems.C06More
