import GoguVerif.Gen.Cache
import GoguVerif.Lemmas.GoMap
/-! The map primitives that `Gen/Cache.lean` prints are `get?`, `put`, `del` of `Model/C14`; their laws
are those of `Lemmas/GoMap`.  `GenTieFunc` reads its printed map through `mapHas_eq`, `mapGet_eq`, `mapSet_eq`;
`GenTieCache` uses `mapDel_eq` for `mapDel_of_not_mem` only and otherwise relates the printed primitives to
`Model.Cache` directly (`lookup_toModel`, `toModel_mapSet`, `toModel_mapDel`). -/
namespace GoguVerif.Theorems.GenTieCacheMap
open GoguVerif.Gen.Cache (mapHas mapGet mapSet mapDel)
open GoguVerif.Model.C14 (get? put del)

variable {κ β : Type} [DecidableEq κ]

theorem mapHas_eq (m : List (κ × β)) (k : κ) : mapHas m k = (get? m k).isSome := by
  induction m with
  | nil => rfl
  | cons e r ih => obtain ⟨k', v⟩ := e; rw [mapHas, get?, ih]; split <;> rfl

theorem mapGet_eq (m : List (κ × β)) (k : κ) (z : β) : mapGet m k z = (get? m k).getD z := by
  induction m with
  | nil => rfl
  | cons e r ih => obtain ⟨k', v⟩ := e; rw [mapGet, get?, ih]; split <;> rfl

theorem mapSet_eq (m : List (κ × β)) (k : κ) (v : β) : mapSet m k v = put m k v := by
  induction m with
  | nil => rfl
  | cons e r ih => obtain ⟨k', v'⟩ := e; rw [mapSet, put, ih]

theorem mapDel_eq (m : List (κ × β)) (k : κ) : mapDel m k = del m k := by
  induction m with
  | nil => rfl
  | cons e r ih => obtain ⟨k', v'⟩ := e; rw [mapDel, del, ih]

end GoguVerif.Theorems.GenTieCacheMap
