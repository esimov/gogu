import GoguVerif.Gen.Funcs
import GoguVerif.Lemmas.TieRules
import GoguVerif.Lemmas.GoMap
/-!
# The prelude of `Gen/Funcs.lean`

Facts about the definitions the translator prints in front of every translation (`goIdx`, `goSet`, `goSlice`, the Go map
as an association list `mapHas` / `mapGet` / `mapSet`) and about the values its loops return, for the tie modules over
`Gen/Funcs.lean` and `Gen/Containers.lean`.  Nothing here (nor in `Lemmas/TieRules.lean`) mentions a translated Go
function, so no change of the Go source can break this module: the tie modules that import it stay independent of each
other.  The declarations live in the namespace `Theorems.GenTie`, which this module shares with `Theorems/GenTie.lean`
(the statements there name `fromSum`): `open Theorems.GenTie (…)` in `GenTieC14` or `GenTieQS` opens names of this module,
not of `Theorems/GenTie.lean`.
-/
namespace GoguVerif.Theorems.GenTie
open GoguVerif.Gen.Funcs (Exc goIdx goSlice goSet mapHas mapSet mapDel)

/-- the value a loop with early `return` yields: the returned value, or the default when it ran to the end -/
def fromSum {α σ : Type} (d : α) : α ⊕ σ → α
  | .inl r => r
  | .inr _ => d

@[simp] theorem fromSum_inl {α σ : Type} (d r : α) : fromSum (σ := σ) d (Sum.inl r) = r := rfl
@[simp] theorem fromSum_inr {α σ : Type} (d : α) (x : σ) : fromSum d (Sum.inr x : α ⊕ σ) = d := rfl

theorem goIdx_nat {α : Type} (s : List α) (n : Nat) :
    goIdx s (n : Int) = match s[n]? with | some v => Except.ok v | none => Except.error Exc.panic := by
  rw [goIdx, if_neg (Int.not_lt.mpr (Int.natCast_nonneg n)), Int.toNat_natCast]
  rfl

theorem goSet_nat {α : Type} (s : List α) (k : Nat) (v : α) :
    goSet s (k : Int) v = if k < s.length then Except.ok (s.set k v) else Except.error Exc.panic := by
  simp only [goSet, Int.natCast_nonneg, true_and, Int.ofNat_lt, Int.toNat_natCast]

theorem goSlice_nat {α : Type} (s : List α) (lo hi : Nat) (h1 : lo ≤ hi) (h2 : hi ≤ s.length) :
    goSlice s (lo : Int) (hi : Int) = Except.ok ((s.take hi).drop lo) := by
  rw [goSlice, if_pos ⟨Int.natCast_nonneg lo, Int.ofNat_le.2 h1, Int.ofNat_le.2 h2⟩, Int.toNat_natCast,
    Int.toNat_natCast]

theorem natCast_pred {n : Nat} (h : 0 < n) : (n : Int) - 1 = ((n - 1 : Nat) : Int) :=
  (Int.natCast_sub h).symm

/-- the translator's bound for `for i := len(s) - 1; i >= 0; i--` -/
theorem len_toNat (n : Nat) : ((n : Int) - 1 + 1).toNat = n := by
  rw [Int.sub_add_cancel, Int.toNat_natCast]

/-! The prelude's map primitives are `get?`, `put`, `del` of `Model/C14`, whose laws are in `Lemmas/GoMap`. -/

theorem mapHas_eq {κ β : Type} [DecidableEq κ] (m : List (κ × β)) (k : κ) :
    mapHas m k = (Model.C14.get? m k).isSome := by
  induction m with
  | nil => rfl
  | cons e r ih => obtain ⟨k', v⟩ := e; rw [mapHas, Model.C14.get?, ih]; split <;> rfl

theorem mapSet_eq {κ β : Type} [DecidableEq κ] (m : List (κ × β)) (k : κ) (v : β) :
    mapSet m k v = Model.C14.put m k v := by
  induction m with
  | nil => rfl
  | cons e r ih => obtain ⟨k', v'⟩ := e; rw [mapSet, Model.C14.put, ih]

theorem mapDel_eq {κ β : Type} [DecidableEq κ] (m : List (κ × β)) (k : κ) :
    mapDel m k = Model.C14.del m k := by
  induction m with
  | nil => rfl
  | cons e r ih => obtain ⟨k', v'⟩ := e; rw [mapDel, Model.C14.del, ih]

theorem mapHas_mapSet {β : Type} (m : List (Int × β)) (k x : Int) (v : β) :
    mapHas (mapSet m k v) x = (decide (k = x) || mapHas m x) := by
  rw [mapHas_eq, mapSet_eq, Lemmas.C14.get?_put, mapHas_eq]
  by_cases h : k = x <;> simp [h]

theorem mapSet_fresh {β : Type} (m : List (Int × β)) (k : Int) (v : β) (h : mapHas m k = false) :
    mapSet m k v = m ++ [(k, v)] := by
  rw [mapHas_eq, Option.isSome_eq_false_iff, Option.isNone_iff_eq_none, Lemmas.C14.get?_eq_none_iff] at h
  rw [mapSet_eq, Lemmas.C14.put_of_not_mem v h]

/-- `ite_rel` for a Boolean test of the regenerated code; the branches may use the model's proposition -/
theorem ite_tie {α β : Type} (R : β → α → Prop) {c : Bool} {p : Prop} [Decidable p] (h : c = true ↔ p)
    {a b : β} {a' b' : α} (ha : p → R a a') (hb : ¬ p → R b b') :
    R (if c = true then a else b) (if p then a' else b') :=
  ite_rel h (fun hc => ha (h.mp hc)) fun hc => hb (mt h.mpr hc)

end GoguVerif.Theorems.GenTie
