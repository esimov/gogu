import GoguVerif.Lemmas.C14
/-!
# C14 — property theorems: map helpers select, transform and invert entries exactly

Every theorem is about the MODEL functions of `Model/C14.lean` (the Go loops) and holds for ALL
inputs.  A Go map is the list of its entries in the order in which this call's `range` visits them;
the only hypothesis on it, where one is needed, is `WF m` (keys pairwise distinct), so each theorem
holds for every iteration order.  The specification clauses are those of `Spec/C14.lean`.
-/
set_option autoImplicit false
-- `select_partition`, `mapKeys_spec`, `mapKeys_injective` take the section's `[DecidableEq K]` without using it; the
-- argument is part of their statements, so it is not omitted and the linter is switched off instead
set_option linter.unusedSectionVars false
namespace GoguVerif.Theorems.C14
open GoguVerif.Model.C14 GoguVerif.Spec.C14 GoguVerif.Lemmas.C14

variable {K V R : Type}

/-- `Keys` never panics and lists every key exactly once (in this call's iteration order). -/
theorem keys_spec [Inhabited K] (m : GoMap K V) : ∃ r, Keys m = .ok r ∧ KeysSpec m r :=
  ⟨_, keys_eq m, List.Perm.refl _⟩

/-- `Values` never panics and lists the value of every entry exactly once. -/
theorem values_spec [Inhabited V] (m : GoMap K V) : ∃ r, Values m = .ok r ∧ ValuesSpec m r :=
  ⟨_, values_eq m, List.Perm.refl _⟩

example : Keys [((3 : Int), (7 : Int)), (1, 7)] = .ok [3, 1] := rfl

/-! ## The specification pins the order-independent answers down up to the order of the entries -/

/-- Two answers that both meet a selection clause are the same map: so `Pick`, `PickBy`,
`FilterMap`, `Omit`, `OmitBy` give the same map for every iteration order. -/
theorem selectSpec_unique [DecidableEq K] {m a b : AMap K V} {sel : K × V → Bool}
    (ha : SelectSpec m sel a) (hb : SelectSpec m sel b) : a.Perm b := by
  obtain ⟨wfa, sounda, completea⟩ := ha
  obtain ⟨wfb, soundb, completeb⟩ := hb
  rw [List.perm_ext_iff_of_nodup (WF.nodup wfa) (WF.nodup wfb)]
  exact fun e => ⟨fun he => completeb e (sounda e he).1 (sounda e he).2,
    fun he => completea e (soundb e he).1 (soundb e he).2⟩

theorem selectSpec_perm {m m' r : AMap K V} {sel : K × V → Bool} (hp : m.Perm m')
    (h : SelectSpec m sel r) : SelectSpec m' sel r :=
  let ⟨wf, sound, complete⟩ := h
  ⟨wf, fun e he => ⟨hp.mem_iff.mp (sound e he).1, (sound e he).2⟩, fun e he hs => complete e (hp.mem_iff.mpr he) hs⟩

section select
variable [DecidableEq K]

theorem pickBy_eq_filter [Inhabited V] {m : GoMap K V} (h : WF m) (fn : K → V → Bool) :
    PickBy m fn = m.filter (fun e => fn e.1 e.2) := by
  -- the loop reads each value back from the map; equality as LISTS rests on `put` appending a fresh
  -- key, which is the model's choice, not Go's
  have hid : (m.filter fun e => fn e.1 e.2).map (fun e => (e.1, idx m e.1)) = (m.filter fun e => fn e.1 e.2).map id :=
    List.map_congr_left fun e he => Prod.ext rfl (idx_of_mem h (List.mem_filter.mp he).1)
  rw [PickBy, pickByLoop_eq, hid, List.map_id]
  exact foldPut_nil_fresh (WF.sublist List.filter_sublist h)

theorem pickBy_spec [Inhabited V] {m : GoMap K V} (h : WF m) (fn : K → V → Bool) :
    PickBySpec m fn (PickBy m fn) := by
  rw [pickBy_eq_filter h]
  exact selectSpec_filter h _

theorem omitBy_eq_filter {m : GoMap K V} (h : WF m) (fn : K → V → Bool) :
    OmitBy m fn = m.filter (fun e => !fn e.1 e.2) :=
  omitByLoop_eq fn m [] h

theorem omitBy_spec {m : GoMap K V} (h : WF m) (fn : K → V → Bool) :
    OmitBySpec m fn (OmitBy m fn) := by
  rw [omitBy_eq_filter h]
  exact selectSpec_filter h _

theorem filterMap_eq_filter {m : GoMap K V} (h : WF m) (fn : V → Bool) :
    FilterMap m fn = m.filter (fun e => fn e.2) := by
  rw [FilterMap, filterMapLoop_eq]
  exact foldPut_nil_fresh (WF.sublist List.filter_sublist h)

theorem filterMap_spec {m : GoMap K V} (h : WF m) (fn : V → Bool) :
    FilterMapSpec m fn (FilterMap m fn) := by
  rw [filterMap_eq_filter h]
  exact selectSpec_filter h _

theorem pick_eq_filter [Inhabited V] {m : GoMap K V} (h : WF m) (keys : List K) (hk : keys ≠ []) :
    Pick m keys = (m.filter (fun e => decide (e.1 ∈ keys)), false) := by
  rw [Pick, if_neg (mt List.eq_nil_of_length_eq_zero hk), pickLoop_eq_pickByLoop]
  exact congrArg (·, false) ((pickBy_eq_filter h _).trans (by simp only [contains_eq]))

/-- `Pick` returns exactly the entries whose key is listed (with no keys: nothing, and the error). -/
theorem pick_spec [Inhabited V] {m : GoMap K V} (h : WF m) (keys : List K) :
    PickSpec m keys (Pick m keys).1 ∧ ((Pick m keys).2 = true ↔ keys = []) := by
  by_cases hk : keys = []
  · subst hk
    exact ⟨⟨wf_nil, fun _ he => absurd he List.not_mem_nil,
      fun _ _ hs => absurd (of_decide_eq_true hs) List.not_mem_nil⟩, fun _ => rfl, fun _ => rfl⟩
  · rw [pick_eq_filter h keys hk]
    exact ⟨selectSpec_filter h _, fun hf => absurd hf Bool.false_ne_true, fun he => absurd he hk⟩

theorem omit_eq_filter {m : GoMap K V} (h : WF m) (keys : List K) :
    Omit m keys = m.filter (fun e => !decide (e.1 ∈ keys)) := by
  rw [Omit, omitLoop_eq_omitByLoop]
  exact (omitBy_eq_filter h _).trans (by simp only [contains_eq])

/-- `Omit` returns (its argument reduced to) exactly the entries whose key is not listed. -/
theorem omit_spec {m : GoMap K V} (h : WF m) (keys : List K) : OmitSpec m keys (Omit m keys) := by
  rw [omit_eq_filter h]
  exact selectSpec_filter h _

/-- Specification level: ANY answers that meet the selection clauses for a predicate and for its
negation partition the map. -/
theorem select_partition {m a b : AMap K V} {sel : K × V → Bool} (h : WF m)
    (ha : SelectSpec m sel a) (hb : SelectSpec m (fun e => !sel e) b) : PartitionSpec m a b := by
  obtain ⟨wfa, sounda, completea⟩ := ha
  obtain ⟨wfb, soundb, completeb⟩ := hb
  unfold PartitionSpec
  have hnd : (a ++ b).Nodup := by
    refine List.nodup_append.mpr ⟨WF.nodup wfa, WF.nodup wfb, fun x hx y hy e => ?_⟩
    subst e
    have h2 := (soundb x hy).2
    simp [(sounda x hx).2] at h2
  rw [List.perm_ext_iff_of_nodup hnd (WF.nodup h)]
  intro e
  rw [List.mem_append]
  constructor
  · rintro (he | he)
    · exact (sounda e he).1
    · exact (soundb e he).1
  · intro he
    by_cases hs : sel e = true
    · exact Or.inl (completea e he hs)
    · exact Or.inr (completeb e he (by simp [hs]))

/-- `Pick` and `Omit` with the same keys always partition the original map (also with no keys). -/
theorem pick_omit_partition [Inhabited V] {m : GoMap K V} (h : WF m) (keys : List K) :
    PartitionSpec m (Pick m keys).1 (Omit m keys) :=
  select_partition h (pick_spec h keys).1 (omit_spec h keys)

theorem pickBy_omitBy_partition [Inhabited V] {m : GoMap K V} (h : WF m) (fn : K → V → Bool) :
    PartitionSpec m (PickBy m fn) (OmitBy m fn) :=
  select_partition h (pickBy_spec h fn) (omitBy_spec h fn)

theorem filterMap_omitBy_partition {m : GoMap K V} (h : WF m) (fn : V → Bool) :
    PartitionSpec m (FilterMap m fn) (OmitBy m (fun _ v => fn v)) :=
  select_partition h (filterMap_spec h fn) (omitBy_spec h _)

/-- The answer of the selecting helpers does not depend on the iteration order (as a map). -/
theorem pick_order_independent [Inhabited V] {m m' : GoMap K V} (h : WF m) (hp : m.Perm m')
    (keys : List K) : (Pick m keys).1.Perm (Pick m' keys).1 :=
  selectSpec_unique (selectSpec_perm hp (pick_spec h keys).1) (pick_spec (WF.perm h hp) keys).1

theorem omit_order_independent {m m' : GoMap K V} (h : WF m) (hp : m.Perm m')
    (keys : List K) : (Omit m keys).Perm (Omit m' keys) :=
  selectSpec_unique (selectSpec_perm hp (omit_spec h keys)) (omit_spec (WF.perm h hp) keys)

-- non-vacuity: a well-formed map in a non-sorted order, a repeated and an absent key
example : WF [((2 : Int), (5 : Int)), (0, 6), (1, 5)] := by decide
example : Pick [((2 : Int), (5 : Int)), (0, 6), (1, 5)] [1, 2, 2, 9] = ([(2, 5), (1, 5)], false) := rfl
example : Omit [((2 : Int), (5 : Int)), (0, 6), (1, 5)] [1, 2, 2, 9] = [(0, 6)] := rfl
-- two iteration orders of the same map (hypothesis of the order-independence theorems)
example : [((2 : Int), (5 : Int)), (0, 6), (1, 5)].Perm [(0, 6), (1, 5), (2, 5)] := by decide

end select

theorem pickBy_order_independent [DecidableEq K] [Inhabited V] {m m' : GoMap K V} (h : WF m)
    (hp : m.Perm m') (fn : K → V → Bool) : (PickBy m fn).Perm (PickBy m' fn) :=
  selectSpec_unique (selectSpec_perm hp (pickBy_spec h fn)) (pickBy_spec (WF.perm h hp) fn)

theorem omitBy_order_independent [DecidableEq K] {m m' : GoMap K V} (h : WF m)
    (hp : m.Perm m') (fn : K → V → Bool) : (OmitBy m fn).Perm (OmitBy m' fn) :=
  selectSpec_unique (selectSpec_perm hp (omitBy_spec h fn)) (omitBy_spec (WF.perm h hp) fn)

theorem filterMap_order_independent [DecidableEq K] {m m' : GoMap K V} (h : WF m)
    (hp : m.Perm m') (fn : V → Bool) : (FilterMap m fn).Perm (FilterMap m' fn) :=
  selectSpec_unique (selectSpec_perm hp (filterMap_spec h fn)) (filterMap_spec (WF.perm h hp) fn)

section transform
variable [DecidableEq K]

theorem mapValues_eq_map {m : GoMap K V} (h : WF m) (fn : V → R) :
    MapValues m fn = m.map (fun e => (e.1, fn e.2)) := by
  rw [MapValues, mapValuesLoop_eq]
  exact foldPut_nil_fresh ((wf_map_mk _ _ m).mpr h)

theorem mapValues_spec {m : GoMap K V} (h : WF m) (fn : V → R) :
    MapValuesSpec m fn (MapValues m fn) := by
  rw [mapValues_eq_map h]
  exact List.Perm.refl _

/-- `MapKeys`: every entry of the result is the image of an entry of `m`, and the image key of every
entry of `m` is present (when keys collide, some pre-image wins).  Holds for every iteration order;
`m` need not even be well formed. -/
theorem mapKeys_spec [DecidableEq R] (m : GoMap K V) (fn : K → V → R) :
    MapKeysSpec m fn (MapKeys m fn) := by
  rw [MapKeys, mapKeysLoop_eq]
  refine ⟨wf_foldPut _ wf_nil, fun e he => ?_, fun e0 he0 => ?_⟩
  · obtain ⟨e0, he0, rfl⟩ := List.mem_map.mp (mem_of_mem_foldPut_nil he)
    exact ⟨e0, he0, rfl, rfl⟩
  · exact key_mem_foldPut (List.mem_map_of_mem (f := Prod.fst) (List.mem_map_of_mem he0))

/-- without collisions `MapKeys` is exactly the entry-wise image -/
theorem mapKeys_injective [DecidableEq R] (m : GoMap K V) (fn : K → V → R)
    (hinj : ((m.map fun e => fn e.1 e.2)).Nodup) :
    MapKeys m fn = m.map (fun e => (fn e.1 e.2, e.2)) := by
  rw [MapKeys, mapKeysLoop_eq]
  exact foldPut_nil_fresh ((wf_map_mk _ _ m).mpr hinj)

theorem invert_eq [DecidableEq V] [Inhabited K] [Inhabited V] {m : GoMap K V} (h : WF m) :
    Invert m = .ok (foldPut (m.map fun e => (e.2, e.1)) []) := by
  rw [Invert, keys_eq]
  simp only [invertLoop_eq, List.map_map]
  exact congrArg (fun l => Outcome.ok (foldPut l [])) (List.map_congr_left fun e he =>
    Prod.ext (idx_of_mem h he) rfl)

/-- `Invert` never panics and maps every value back to a key that held it. -/
theorem invert_spec [DecidableEq V] [Inhabited K] [Inhabited V] {m : GoMap K V} (h : WF m) :
    ∃ r, Invert m = .ok r ∧ InvertSpec m r := by
  refine ⟨_, invert_eq h, wf_foldPut _ wf_nil, fun e he => ?_, fun e0 he0 => ?_⟩
  · obtain ⟨e0, he0, rfl⟩ := List.mem_map.mp (mem_of_mem_foldPut_nil he)
    exact he0
  · exact key_mem_foldPut (List.mem_map_of_mem (f := Prod.fst) (List.mem_map_of_mem he0))

/-- with pairwise distinct values `Invert` is exactly the swapped map -/
theorem invert_injective [DecidableEq V] [Inhabited K] [Inhabited V] {m : GoMap K V} (h : WF m)
    (hv : (m.map Prod.snd).Nodup) : Invert m = .ok (m.map fun e => (e.2, e.1)) := by
  rw [invert_eq h]
  exact congrArg Outcome.ok (foldPut_nil_fresh ((wf_map_mk _ _ m).mpr hv))

example : MapKeys [((0 : Int), (1 : Int)), (2, 5), (3, 7)] (fun k _ => k.tdiv 2) = [(0, 1), (1, 7)] := rfl
-- hypotheses of the collision-free variants are satisfiable
example : ([((0 : Int), (1 : Int)), (2, 5), (3, 7)].map fun e => e.1 + e.2).Nodup := by decide
example : ([((0 : Int), (1 : Int)), (2, 5), (3, 7)].map Prod.snd).Nodup := by decide
example : Invert [((0 : Int), (1 : Int)), (2, 1), (3, 7)] = .ok [(1, 2), (7, 3)] := rfl

theorem sliceToMap_eq (s1 : List K) (s2 : List V) (hl : s1.length = s2.length) :
    SliceToMap s1 s2 = .ok (foldPut (s1.zip s2) []) := by
  rw [SliceToMap, if_neg (not_not_intro hl)]
  exact sliceToMapLoop_eq [] s1 [] s2 0 rfl rfl hl []

/-- `SliceToMap` panics exactly on unequal lengths; otherwise the result pairs positions, the last
occurrence of a key winning. -/
theorem sliceToMap_spec (s1 : List K) (s2 : List V) :
    SliceToMapSpec s1 s2 (match SliceToMap s1 s2 with | .ok r => some r | .panic => none) := by
  unfold SliceToMapSpec
  by_cases hl : s1.length = s2.length
  · rw [sliceToMap_eq s1 s2 hl]
    refine ⟨fun hne => absurd hl hne, fun _ => ⟨_, rfl, wf_foldPut _ wf_nil, fun e he => ?_, fun k hk => ?_⟩⟩
    · rw [lastVal, lookup_eq_get?]
      exact get?_of_mem_foldPut_nil he
    · exact key_mem_foldPut (by rwa [List.map_fst_zip (Nat.le_of_eq hl)])
  · rw [SliceToMap, if_pos hl]
    exact ⟨fun _ => rfl, fun h => absurd h hl⟩

example : SliceToMap [(1 : Int), 2, 1] [(5 : Int), 6, 7] = .ok [(1, 7), (2, 6)] := rfl
example : SliceToMap [(1 : Int), 2] [(5 : Int)] = .panic := rfl

end transform

theorem mapValues_order_independent [DecidableEq K] {m m' : GoMap K V} (h : WF m)
    (hp : m.Perm m') (fn : V → R) : (MapValues m fn).Perm (MapValues m' fn) := by
  rw [mapValues_eq_map h, mapValues_eq_map (WF.perm h hp)]
  exact hp.map _

theorem mapEvery_spec (m : GoMap K V) (fn : V → Bool) : EverySpec m fn (MapEvery fn m) := by
  unfold EverySpec
  rw [mapEvery_eq, List.all_eq_true]

theorem mapSome_spec (m : GoMap K V) (fn : V → Bool) : SomeSpec m fn (MapSome fn m) := by
  unfold SomeSpec
  rw [mapSome_eq, List.any_eq_true]

theorem mapContains_spec [DecidableEq V] (m : GoMap K V) (x : V) : ContainsSpec m x (MapContains x m) := by
  unfold ContainsSpec
  rw [mapContains_eq_mapSome, mapSome_eq, List.any_eq_true]
  simp only [decide_eq_true_eq]

theorem mapEvery_order_independent {m m' : GoMap K V} (hp : m.Perm m') (fn : V → Bool) :
    MapEvery fn m = MapEvery fn m' := by
  rw [mapEvery_eq, mapEvery_eq, hp.all_eq]

theorem mapSome_order_independent {m m' : GoMap K V} (hp : m.Perm m') (fn : V → Bool) :
    MapSome fn m = MapSome fn m' := by
  rw [mapSome_eq, mapSome_eq, hp.any_eq]

/-- `FindKey` returns the key of SOME qualifying entry (the first one this call's iteration meets);
the zero value when none qualifies.  For every iteration order. -/
theorem findKey_spec [Inhabited K] (m : GoMap K V) (fn : V → Bool) : FindKeySpec m fn (FindKey fn m) := by
  unfold FindKeySpec
  rw [findKey_eq]
  rcases find?_cases (fun e : K × V => fn e.2) m with ⟨e, hm, hq, hf⟩ | ⟨hn, hf⟩ <;> rw [hf]
  · exact ⟨fun _ => ⟨e, hm, rfl, hq⟩, fun hn => absurd ⟨e, hm, hq⟩ hn⟩
  · exact ⟨fun ⟨e, hm, hq⟩ => absurd hq (hn e hm), fun _ => rfl⟩

theorem findByKey_spec [DecidableEq K] (m : GoMap K V) (fn : K → Bool) :
    FindByKeySpec m fn (FindByKey fn m) := by
  unfold FindByKeySpec
  rw [findByKey_eq]
  rcases find?_cases (fun e : K × V => fn e.1) m with ⟨e, hm, hq, hf⟩ | ⟨hn, hf⟩ <;> rw [hf]
  · exact ⟨fun _ => ⟨e, hm, rfl, hq⟩, fun hn => absurd ⟨e, hm, hq⟩ hn⟩
  · exact ⟨fun ⟨e, hm, hq⟩ => absurd hq (hn e hm), fun _ => rfl⟩

theorem find_eq [Inhabited V] (m : GoMap Int V) (fn : V → Bool) :
    Find m fn = .ok (findLoop m fn (sortKeys (m.map Prod.fst))) := by
  rw [Find, show keysLoop m (List.replicate m.length default) 0 = .ok (m.map Prod.fst) from keys_eq m]

/-- `Find` never panics and returns the qualifying entry with the smallest key (nothing when no entry
qualifies), whatever the iteration order. -/
theorem find_spec [Inhabited V] {m : GoMap Int V} (h : WF m) (fn : V → Bool) :
    ∃ r, Find m fn = .ok r ∧ FindSpec m fn r := by
  refine ⟨_, find_eq m fn, ?_⟩
  rw [findLoop_eq]
  have hperm := sortKeys_perm (m.map Prod.fst)
  have hkey : ∀ e ∈ m, e.1 ∈ sortKeys (m.map Prod.fst) ∧ fn (idx m e.1) = fn e.2 :=
    fun e he => ⟨hperm.mem_iff.mpr (List.mem_map_of_mem he), by rw [idx_of_mem h he]⟩
  rcases find?_cases (fun k => fn (idx m k)) (sortKeys (m.map Prod.fst)) with ⟨k, hk, hq, hf⟩ | ⟨hn, hf⟩ <;>
    rw [hf]
  · obtain ⟨e, he, rfl⟩ := List.mem_map.mp (hperm.mem_iff.mp hk)
    show FindSpec m fn [(e.1, idx m e.1)]
    rw [idx_of_mem h he] at hq ⊢
    exact ⟨fun _ => ⟨e, he, rfl, hq, fun e' he' hq' =>
        find?_sorted_le (sortKeys_sorted _) hf (hkey e' he').1 ((hkey e' he').2.trans hq')⟩,
      fun hn => absurd ⟨e, he, hq⟩ hn⟩
  · exact ⟨fun ⟨e, he, hq⟩ => absurd ((hkey e he).2.trans hq) (hn e.1 (hkey e he).1), fun _ => rfl⟩

example : Find [((5 : Int), (2 : Int)), (1, 3), (3, 2), (4, 2)] (fun v => v == 2) = .ok [(3, 2)] := rfl

theorem find_order_independent [Inhabited V] {m m' : GoMap Int V} (h : WF m) (hp : m.Perm m')
    (fn : V → Bool) : Find m fn = Find m' fn := by
  -- `Find` sees the map only through its sorted keys and through reads, and neither sees the order
  rw [find_eq, find_eq, sortKeys_congr (hp.map Prod.fst), findLoop_eq, findLoop_eq]
  simp only [idx_perm h hp]

/-- `Pluck`: the value under the key from each map that has it, in the order of the slice — whatever
the iteration order inside each map. -/
theorem pluck_spec [DecidableEq K] [Inhabited V] (maps : List (GoMap K V)) (key : K) :
    PluckSpec maps key (Pluck maps key) := by
  unfold PluckSpec Pluck
  rw [pluckLoop_eq]
  rfl

theorem filterMapCollection_spec (coll : List (GoMap K V)) (fn : V → Bool) :
    FilterCollSpec coll fn (FilterMapCollection coll fn) := by
  unfold FilterCollSpec FilterMapCollection
  rw [filterCollLoop_eq]
  rfl

theorem filter2DMapCollection_spec (coll : List (GoMap K (GoMap K V))) (fn : GoMap K V → Bool) :
    FilterCollSpec coll fn (Filter2DMapCollection coll fn) := by
  unfold FilterCollSpec Filter2DMapCollection
  rw [filterCollLoop_eq]
  rfl

theorem partitionMap_spec [DecidableEq K] (coll : List (GoMap K V)) (fn : GoMap K V → Bool) :
    PartitionMapSpec coll fn (PartitionMap coll fn) := by
  unfold PartitionMapSpec PartitionMap
  rw [partitionLoop_eq]
  exact ⟨rfl, rfl⟩

example : FilterMapCollection [[((0 : Int), (2 : Int)), (1, 2)], [(0, 1)], [(5, 2)]] (fun v => v == 2)
    = [[(0, 2), (1, 2)], [(5, 2)]] := rfl

/-- `MapUnique` keeps exactly one entry per distinct value (which one is up to the iteration order). -/
theorem mapUnique_spec [DecidableEq K] [DecidableEq V] {m : GoMap K V} (h : WF m) :
    MapUniqueSpec m (MapUnique m) := by
  rw [mapUnique_eq h]
  exact ⟨WF.sublist (Lemmas.Dedup.firstByG_sublist _ m) h, fun e he => (Lemmas.Dedup.firstByG_sublist _ m).subset he,
    List.pairwise_map.mpr (Lemmas.Dedup.firstByG_pairwise Prod.snd m),
    fun e he => (Lemmas.Dedup.mem_firstByG_image Prod.snd m e.2).mpr (List.mem_map_of_mem he)⟩

example : MapUnique [((0 : Int), (1 : Int)), (4, 1), (2, 3), (3, 1)] = [(0, 1), (2, 3)] := rfl

/-! ## Negation witness for the repaired defect F25 (commit ebbf64a)

Before the repair the inner loop of the collection filters had no `break`; the model of THAT loop
violates the specification on a map with two qualifying values (kernel-checked), which is the trace
`corpus/C14/f25_collection_filter_appends_once_per_value.trace`. -/

/-- the pre-repair inner loop: `for _, v := range item { if fn(v) { filtered = append(filtered, item) } }` -/
def filterInnerPreFix (fn : V → Bool) (item : GoMap K V) :
    GoMap K V → List (GoMap K V) → List (GoMap K V)
  | [], filtered => filtered
  | (_, v) :: r, filtered =>
    if fn v then filterInnerPreFix fn item r (filtered ++ [item]) else filterInnerPreFix fn item r filtered

example : ¬ FilterCollSpec [[((0 : Int), (0 : Int)), (1, 0)]] (fun v => v.tmod 2 == 0)
    (filterInnerPreFix (fun v => v.tmod 2 == 0) [(0, 0), (1, 0)] [(0, 0), (1, 0)] []) := by decide

end GoguVerif.Theorems.C14
