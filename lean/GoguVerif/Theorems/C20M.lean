import GoguVerif.Theorems.C20
import GoguVerif.Kinds.C20
/-!
# C20 — the monitors and the driver: throttle monitor, sorted delay log, debounce call numbers

Continues `namespace GoguVerif.Theorems.C20`.  Main part: `TMon` (the decidable monitor that judges the
implementation's trace in the driver) is run alongside the model `tstep` in the driver's format: every operation is one line, followed
by a `done` observation line; `Next` callers get the ids 0, 1, 2, … in the order they start.  (The driver itself steps with
`tstepCode`, which is `tstep` in every reachable state: `Lemmas.C20Code.tstepCode_eq`.)  For
every configuration, every choice function (which blocked caller wins a wake-up — any number of
callers may be blocked at the same time) and every sequence of operations the monitor reports no
violated clause.  Then, with `Kinds/C20.lean` (which `Theorems/C20.lean` does not import): the delay monitor on the log
as the driver renders it; the driver's call numbers.
-/
namespace GoguVerif.Theorems.C20
open GoguVerif.Spec.C20 GoguVerif.Model.C20 GoguVerif.Lemmas.C20T GoguVerif.Lemmas.C20T2

/-- operations of a throttle case (the harness numbers the `Next` callers itself) -/
inductive TAct where
  | call
  | cancel
  | next
  | advance (dt : Nat)
deriving Repr, DecidableEq

def TAct.ev (c : Nat) : TAct → TEv
  | .call => .call
  | .cancel => .cancel
  | .next => .next c
  | .advance dt => .advance dt

/-- what the model shows on a `next` line (as `Kinds/C20.lean` renders it): blocked, true or false -/
def nextRes (s' : TState) (id : Nat) : Option Bool :=
  if s'.blocked.contains id then none
  else if s'.grants.any (fun g => g.id == id) then some true else some false

structure TRun where
  m : TMon
  s : TState
  /-- id of the next `Next` caller -/
  c : Nat := 0

/-- the monitor's reaction to the operation line -/
def tmonEvent (m : TMon) (s' : TState) (c : Nat) : TAct → Option String × TMon
  | .call => (none, m.onCall)
  | .cancel => (none, m.onCancel)
  | .advance dt => (none, m.onSleep dt)
  | .next => m.onNext c (nextRes s' c)

/-- one operation line followed by a `done` line -/
def tmonStep (cfg : TCfg) (ch : Choice) (r : TRun) (a : TAct) : Option String × TRun :=
  let s' := tstep cfg ch r.s (a.ev r.c)
  let r1 := tmonEvent r.m s' r.c a
  let r2 := r1.2.onDone s'.doneLog
  (firstSome r1.1 r2.1, { m := r2.2, s := s', c := if a = .next then r.c + 1 else r.c })

def tmonRun (cfg : TCfg) (ch : Choice) : List TAct → TRun → Option String
  | [], _ => none
  | a :: rest, r =>
    match tmonStep cfg ch r a with
    | (some c, _) => some c
    | (none, r') => tmonRun cfg ch rest r'

theorem onCancel_cancel (m : TMon) :
    (∀ c, m.cancel = some c → m.onCancel.cancel = some c) ∧
    (m.cancel = none → m.onCancel.cancel = some (m.line, m.now)) := by
  unfold TMon.onCancel TMon.tick
  exact ⟨fun c h => by rw [h], fun h => by rw [h]⟩

theorem go_skip_prefix : ∀ (old : List (Nat × Int × Bool)) (m : TMon) (err : Option String)
    (new : List (Nat × Int × Bool)), (∀ x ∈ old, x.1 ∈ m.completed) →
    TMon.onDone.go m err (old ++ new) = TMon.onDone.go m err new := by
  intro old
  induction old with
  | nil => intro m err new _; rfl
  | cons x r ih =>
    intro m err new h
    obtain ⟨id, t, res⟩ := x
    have hc : m.completed.contains id = true := List.contains_iff_mem.mpr (h (id, t, res) (by simp))
    rw [List.cons_append, TMon.onDone.go, if_pos hc]
    exact ih m err new (fun y hy => h y (by simp [hy]))

theorem go_nil (m : TMon) (err : Option String) : TMon.onDone.go m err [] = (err, m) := by
  rw [TMon.onDone.go]

theorem onPerm_accepts (m : TMon) (t : Int) (lo : Nat) (hc : m.cancel = none)
    (hgap : ∀ P, m.lastPerm = some P → gapOK m.dur m.trailing P.t t = true)
    (hj : ∃ c ∈ m.calls, justifiedBy m.dur m.trailing (m.lastPerm.map fun p => (p.t, p.lo)) t m.line c = true) :
    m.onPerm t lo =
      (none, { m with lastPerm := some { t := t, lo := lo, pos := m.line }, nperms := m.nperms + 1 }) := by
  have hany : ∀ o, m.lastPerm = o →
      m.calls.any (justifiedBy m.dur m.trailing (o.map fun p => (p.t, p.lo)) t m.line) = true := by
    intro o ho; rw [List.any_eq_true, ← ho]; exact hj
  unfold TMon.onPerm
  cases hl : m.lastPerm with
  | none =>
    have h1 := hany none hl
    simp only [Option.map_none] at h1
    simp [hc, h1]
  | some P =>
    have h1 := hany (some P) hl
    have h2 := hgap P hl
    simp only [Option.map_some] at h1
    simp [hc, h1, h2]

/-- the monitor after a `done` line that brought nothing new -/
def afterDone (m : TMon) : TMon :=
  TMon.tick { m with opened := m.opened.map fun o => { o with lastBlocked := m.line } }

theorem onDone_of_go (m mg : TMon) (l : List (Nat × Int × Bool))
    (hgo : TMon.onDone.go m none l = (none, mg))
    (hchk : (mg.cancel.isSome && !mg.opened.isEmpty) = false) :
    m.onDone l = (none, afterDone mg) := by
  unfold TMon.onDone
  simp only [hgo, hchk, firstSome, Bool.false_eq_true, if_false]
  rfl

theorem go_cancel_list (cpos : Nat) (ctime : Int) : ∀ (ops : List TOpen) (m : TMon),
    (ops.map (·.id)).Nodup → (∀ o ∈ ops, o.id ∉ m.completed) →
    m.cancel = some (cpos, ctime) → (∀ o ∈ ops, o.startPos < cpos) →
    TMon.onDone.go { m with opened := ops } none (ops.map fun o => (o.id, ctime, false)) =
      (none, { m with opened := [], completed := (ops.map (·.id)).reverse ++ m.completed }) := by
  intro ops
  induction ops with
  | nil => intro m _ _ _ _; exact go_nil _ _
  | cons o rest ih =>
    intro m hnd hdis hcan hpos
    rw [List.map_cons, List.nodup_cons] at hnd
    have hne : ∀ a ∈ rest, a.id ≠ o.id := fun a ha heq => hnd.1 (heq ▸ List.mem_map_of_mem ha)
    have hc : m.completed.contains o.id = false :=
      Bool.eq_false_iff.mpr fun hcc => hdis o List.mem_cons_self (List.contains_iff_mem.mp hcc)
    have hfilter : (o :: rest).filter (fun x => x.id != o.id) = rest := by
      rw [List.filter_cons_of_neg (by simp), List.filter_eq_self.mpr fun a ha => bne_iff_ne.mpr (hne a ha)]
    have hfalse : TMon.onFalse { m with opened := rest, completed := o.id :: m.completed } o ctime = none := by
      unfold TMon.onFalse
      simp only [hcan]
      rw [if_pos (hpos o List.mem_cons_self)]
      simp
    rw [List.map_cons, TMon.onDone.go]
    simp only [hc, Bool.false_eq_true, if_false, List.find?_cons_of_pos, beq_self_eq_true, hfilter, hfalse, firstSome]
    rw [ih { m with completed := o.id :: m.completed } hnd.2
      (fun o' ho' hmem => (List.mem_cons.mp hmem).elim (fun heq => hne o' ho' heq)
        (hdis o' (List.mem_cons_of_mem _ ho')))
      hcan fun o' ho' => hpos o' (List.mem_cons_of_mem _ ho')]
    simp [List.reverse_cons, List.append_assoc]

theorem go_one_grant (m : TMon) (o : TOpen) (t : Int)
    (hc : o.id ∉ m.completed) (hfind : m.opened.find? (fun x => x.id == o.id) = some o)
    (ht : t ≤ m.now) (hcan : m.cancel = none)
    (hgap : ∀ P, m.lastPerm = some P → gapOK m.dur m.trailing P.t t = true)
    (hj : ∃ c ∈ m.calls, justifiedBy m.dur m.trailing (m.lastPerm.map fun p => (p.t, p.lo)) t m.line c = true) :
    TMon.onDone.go m none [(o.id, t, true)] =
      (none, { m with opened := m.opened.filter (fun x => x.id != o.id), completed := o.id :: m.completed,
                      lastPerm := some { t := t, lo := o.lastBlocked, pos := m.line },
                      nperms := m.nperms + 1 }) := by
  have hcc : m.completed.contains o.id = false := (List.contains_eq_mem _ _).trans (decide_eq_false hc)
  rw [TMon.onDone.go]
  simp only [hcc, Bool.false_eq_true, if_false, hfind, if_true]
  rw [onPerm_accepts { m with opened := m.opened.filter (fun x => x.id != o.id), completed := o.id :: m.completed }
    t o.lastBlocked hcan hgap hj]
  have : ¬ (t > m.now) := by omega
  simp only [this, if_false, firstSome, go_nil]

/-! ## the synchronisation invariant

The invariant is a conjunction of independent parts, each about a few components of monitor and model; an
operation touches only some of them.  Each part bounds the positions it records by a line `L`: between two
operations that is the monitor's own line (`TSync`), before a `done` line the line after it (`done_line`); an operation
takes two lines, its own and the `done` line, hence the `r.m.line + 1 + 1` of the step proofs.  Of the model's state it asks what every state between two steps satisfies
(`Lemmas.C20Code.Reach`), not how it was reached: the scheduler may change from one operation to the next. -/

/-- The monitor's triggers and last permission against the model's trigger log and permissions.  The monitor
justifies a permission by a `Call` line after the line `lo` at which the previous permission's caller was last
seen blocked; the model's log gives every trigger its epoch (the number of permissions handed out before it), and
a permission answers a trigger of its own epoch: so it is enough to know where the triggers of the CURRENT epoch
`G.length` stand.  `L` is the next line. -/
structure TrigSync (L : Nat) (mcalls : List (Nat × Int)) (lp : Option TPerm) (calls : List (Int × Nat))
    (G : List Grant) : Prop where
  known : ∀ c ∈ calls, ∃ pos, (pos, c.1) ∈ mcalls ∧ pos < L ∧ (c.2 = G.length → ∀ P, lp = some P → P.lo < pos)
  last_t : lp.map (·.t) = (G.getLast?).map (·.t)
  last_lo : ∀ P, lp = some P → P.lo < L
  ep : ∀ c ∈ calls, c.2 ≤ G.length

section TrigSync
variable {L : Nat} {mcalls : List (Nat × Int)} {lp : Option TPerm} {calls : List (Int × Nat)} {G : List Grant}

theorem TrigSync.mono {L' : Nat} (h : TrigSync L mcalls lp calls G) (hL : L ≤ L') : TrigSync L' mcalls lp calls G where
  known := fun c hc => let ⟨pos, h1, h2, h3⟩ := h.known c hc; ⟨pos, h1, Nat.lt_of_lt_of_le h2 hL, h3⟩
  last_t := h.last_t
  last_lo := fun P hP => Nat.lt_of_lt_of_le (h.last_lo P hP) hL
  ep := h.ep

theorem TrigSync.call (h : TrigSync L mcalls lp calls G) (t : Int) :
    TrigSync (L + 1) ((L, t) :: mcalls) lp (calls ++ [(t, G.length)]) G where
  known := forall_mem_snoc
    (fun c hc => let ⟨pos, h1, h2, h3⟩ := h.known c hc; ⟨pos, List.mem_cons_of_mem _ h1, Nat.lt_succ_of_lt h2, h3⟩)
    ⟨L, List.mem_cons_self, Nat.lt_succ_self _, fun _ => h.last_lo⟩
  last_t := h.last_t
  last_lo := fun P hP => Nat.lt_succ_of_lt (h.last_lo P hP)
  ep := forall_mem_snoc h.ep (Nat.le_refl _)

/-- a permission begins a new epoch: no logged trigger belongs to it yet -/
theorem TrigSync.grant (h : TrigSync L mcalls lp calls G) (g : Grant)
    (P : TPerm) (ht : P.t = g.t) (hlo : P.lo < L) : TrigSync L mcalls (some P) calls (G ++ [g]) where
  known := fun c hc =>
    let ⟨pos, h1, h2, _⟩ := h.known c hc
    ⟨pos, h1, h2, fun he => absurd (he ▸ h.ep c hc : (G ++ [g]).length ≤ G.length)
      (by rw [List.length_append]; exact Nat.not_succ_le_self _)⟩
  last_t := by rw [List.getLast?_concat]; exact congrArg some ht
  last_lo := fun _ hP => Option.some.inj hP ▸ hlo
  ep := fun c hc => by rw [List.length_append]; exact Nat.le_succ_of_le (h.ep c hc)

/-- a permission `g` of the model passes the monitor's two tests: the spacing is the model's; the justifying `Call`
line is that of the trigger which `g` answers, a trigger of the epoch that `g` ends -/
theorem TrigSync.accepts {cfg : TCfg} {g : Grant} {now : Int} {last : Option Int} {waiting stop : Bool}
    {scheduled : Option Sched} {blocked : List Nat} {wsrc : Int × Nat} (h : TrigSync L mcalls lp calls G)
    (hI : TCore cfg now last waiting stop scheduled blocked (G ++ [g]) wsrc calls)
    (hsp : spacedOK cfg.dur cfg.trailing ((G ++ [g]).map (·.t)) = true) :
    (∀ P, lp = some P → gapOK cfg.dur cfg.trailing P.t g.t = true) ∧
    (∃ c ∈ mcalls, justifiedBy cfg.dur cfg.trailing (lp.map fun P => (P.t, P.lo)) g.t L c = true) ∧
    g.t ≤ now := by
  have hk : (G ++ [g])[G.length]? = some g := List.getElem?_concat_length
  have hA := hI.gr g (List.mem_append_right _ (List.mem_singleton_self _))
  obtain ⟨pos, hpos, hposL, hlo⟩ := h.known _ hA.logged
  have hp := h.last_t
  -- the monitor's last permission is the model's last grant, which is `g`'s predecessor
  have hprev : ∀ P, lp = some P → g.prevT = some P.t := fun P hP => by
    rw [hI.chain _ g hk, List.take_left, ← hp, hP]; rfl
  refine ⟨fun P hP => ?_, ⟨_, hpos, ?_⟩, ?_⟩
  · rw [List.map_append, List.map_singleton, spacedOK_snoc, Bool.and_eq_true, List.getLast?_map, ← hp, hP] at hsp
    exact hsp.2
  · unfold justifiedBy
    simp only [Bool.and_eq_true, decide_eq_true_eq]
    refine ⟨⟨Nat.le_of_lt hposL, hA.le_t⟩, ?_⟩
    cases hP : lp with
    | none => rfl
    | some P =>
      simp only [Option.map_some, Bool.and_eq_true, decide_eq_true_eq, Bool.or_eq_true]
      refine ⟨hlo (hI.epochs _ g hk) P hP, ?_⟩
      cases htr : cfg.trailing with
      | true => exact Or.inl rfl
      | false => exact Or.inr (hA.after htr P.t (hprev P hP))
  · exact hI.last_le g.t (by rw [hI.last_eq, List.getLast?_concat]; rfl)

end TrigSync

structure CancelSync (L : Nat) (mc : Option (Nat × Int)) (stop : Bool) : Prop where
  running : stop = false → mc = none
  stopped : stop = true → ∃ cpos ctime, mc = some (cpos, ctime) ∧ cpos < L

theorem CancelSync.mono {L L' mc stop} (h : CancelSync L mc stop) (hL : L ≤ L') : CancelSync L' mc stop :=
  ⟨h.running, fun hs => let ⟨cpos, ctime, h1, h2⟩ := h.stopped hs; ⟨cpos, ctime, h1, Nat.lt_of_lt_of_le h2 hL⟩⟩

/-- bookkeeping of the `Next` callers; ids are handed out in order (`c` is the next one), so a new caller
is neither blocked nor completed nor a grant's owner -/
structure IdSync (L : Nat) (ops : List TOpen) (fin blocked : List Nat)
    (doneLog : List (Nat × Int × Bool)) (grants : List Grant) (c : Nat) : Prop where
  opened : ops.map (·.id) = blocked
  started : ∀ o ∈ ops, o.startPos < L
  completed : ∀ x ∈ doneLog, x.1 ∈ fin
  nodup : blocked.Nodup
  fresh_b : ∀ id ∈ blocked, id < c
  fresh_g : ∀ g ∈ grants, g.id < c
  fresh_c : ∀ id ∈ fin, id < c
  disj : ∀ id ∈ blocked, id ∉ fin

section IdSync
variable {L : Nat} {ops : List TOpen} {fin blocked : List Nat}
  {doneLog : List (Nat × Int × Bool)} {grants : List Grant} {c : Nat}

theorem IdSync.mono {L' : Nat} (h : IdSync L ops fin blocked doneLog grants c) (hL : L ≤ L') :
    IdSync L' ops fin blocked doneLog grants c :=
  { h with started := fun o ho => Nat.lt_of_lt_of_le (h.started o ho) hL }

theorem IdSync.refresh (h : IdSync L ops fin blocked doneLog grants c) (l : Nat) :
    IdSync L (ops.map fun o => { o with lastBlocked := l }) fin blocked doneLog grants c :=
  { h with
    opened := by rw [List.map_map]; exact h.opened
    started := by
      intro o ho
      obtain ⟨o0, ho0, rfl⟩ := List.mem_map.mp ho
      exact h.started o0 ho0 }

theorem IdSync.release (h : IdSync L ops fin blocked doneLog grants c) (g : Grant) (t : Int) (b : Bool)
    (hid : g.id ∈ blocked) :
    IdSync L (ops.filter fun o => o.id != g.id) (g.id :: fin) (blocked.filter fun x => x != g.id)
      (doneLog ++ [(g.id, t, b)]) (grants ++ [g]) c where
  opened := by rw [← h.opened, List.filter_map]; rfl
  started := fun o ho => h.started o (List.mem_filter.mp ho).1
  completed := forall_mem_snoc (fun x hx => List.mem_cons_of_mem _ (h.completed x hx)) List.mem_cons_self
  nodup := h.nodup.sublist List.filter_sublist
  fresh_b := fun id hid' => h.fresh_b id (List.mem_filter.mp hid').1
  fresh_g := forall_mem_snoc h.fresh_g (h.fresh_b _ hid)
  fresh_c := List.forall_mem_cons.mpr ⟨h.fresh_b _ hid, h.fresh_c⟩
  disj := fun id hid' =>
    let ⟨h1, h2⟩ := List.mem_filter.mp hid'
    List.not_mem_cons_of_ne_of_not_mem (bne_iff_ne.mp h2) (h.disj id h1)

theorem IdSync.block (h : IdSync L ops fin blocked doneLog grants c) (o : TOpen) (ho : o.id = c)
    (hs : o.startPos < L) :
    IdSync L (ops ++ [o]) fin (blocked ++ [c]) doneLog grants (c + 1) where
  opened := by rw [List.map_append, h.opened, List.map_singleton, ho]
  started := forall_mem_snoc h.started hs
  completed := h.completed
  nodup := by
    rw [List.nodup_append]
    refine ⟨h.nodup, by simp, ?_⟩
    intro a ha b hb hab
    cases List.mem_singleton.mp hb
    exact Nat.lt_irrefl _ (hab ▸ h.fresh_b a ha)
  fresh_b := forall_mem_snoc (fun id hid => Nat.lt_succ_of_lt (h.fresh_b id hid)) (Nat.lt_succ_self _)
  fresh_g := fun g hg => Nat.lt_succ_of_lt (h.fresh_g g hg)
  fresh_c := fun id hid => Nat.lt_succ_of_lt (h.fresh_c id hid)
  disj := forall_mem_snoc h.disj fun hc => Nat.lt_irrefl _ (h.fresh_c _ hc)

theorem IdSync.returned (h : IdSync L ops fin blocked doneLog grants c) (t : Int) (b : Bool)
    (grants' : List Grant) (hg : ∀ g ∈ grants', g ∈ grants ∨ g.id = c) :
    IdSync L ops (c :: fin) blocked (doneLog ++ [(c, t, b)]) grants' (c + 1) where
  opened := h.opened
  started := h.started
  completed := forall_mem_snoc (fun x hx => List.mem_cons_of_mem _ (h.completed x hx)) List.mem_cons_self
  nodup := h.nodup
  fresh_b := fun id hid => Nat.lt_succ_of_lt (h.fresh_b id hid)
  fresh_g := by
    intro g hg'
    rcases hg g hg' with hg' | hg'
    · exact Nat.lt_succ_of_lt (h.fresh_g g hg')
    · rw [hg']; exact Nat.lt_succ_self _
  fresh_c := List.forall_mem_cons.mpr ⟨Nat.lt_succ_self _, fun id hid => Nat.lt_succ_of_lt (h.fresh_c id hid)⟩
  disj := fun id hid => List.not_mem_cons_of_ne_of_not_mem (Nat.ne_of_lt (h.fresh_b id hid)) (h.disj id hid)

theorem IdSync.cancel (h : IdSync L ops fin blocked doneLog grants c) (t : Int) :
    IdSync L [] ((ops.map (·.id)).reverse ++ fin) []
      (doneLog ++ blocked.map fun id => (id, t, false)) grants c where
  opened := rfl
  started := by intro o ho; cases ho
  completed := by
    intro x hx
    rcases List.mem_append.mp hx with hx | hx
    · exact List.mem_append_right _ (h.completed x hx)
    · obtain ⟨id, hid, rfl⟩ := List.mem_map.mp hx
      exact List.mem_append_left _ (List.mem_reverse.mpr (h.opened ▸ hid))
  nodup := List.nodup_nil
  fresh_b := by intro id hid; cases hid
  fresh_g := h.fresh_g
  fresh_c := List.forall_mem_append.mpr ⟨fun id hid => h.fresh_b id (h.opened ▸ List.mem_reverse.mp hid), h.fresh_c⟩
  disj := by intro id hid; cases hid

theorem IdSync.opened_nil (h : IdSync L ops fin blocked doneLog grants c) (hb : blocked = []) : ops = [] :=
  List.map_eq_nil_iff.mp (h.opened.trans hb)

end IdSync

/-- monitor and model in step, the lines before `L` having been read -/
structure TSyncCore (cfg : TCfg) (L : Nat) (m : TMon) (s : TState) (c : Nat) : Prop where
  reach : Lemmas.C20Code.Reach cfg s
  dur_eq : m.dur = cfg.dur
  tr_eq : m.trailing = cfg.trailing
  now_eq : m.now = s.now
  trig : TrigSync L m.calls m.lastPerm s.calls s.grants
  cancel : CancelSync L m.cancel s.stop
  ids : IdSync L m.opened m.completed s.blocked s.doneLog s.grants c

structure TSync (cfg : TCfg) (r : TRun) : Prop extends TSyncCore cfg r.m.line r.m r.s r.c where
  blockedAt : ∀ o ∈ r.m.opened, o.lastBlocked + 1 = r.m.line

theorem tsync_afterDone {cfg : TCfg} {m : TMon} {s : TState} {c : Nat}
    (h : TSyncCore cfg (m.line + 1) m s c) : TSync cfg { m := afterDone m, s := s, c := c } where
  toTSyncCore := { h with ids := h.ids.refresh m.line }
  blockedAt := by
    intro o ho
    obtain ⟨o0, _, rfl⟩ := List.mem_map.mp ho
    rfl

theorem IdSync.find {L : Nat} {ops : List TOpen} {fin blocked : List Nat} {doneLog : List (Nat × Int × Bool)}
    {grants : List Grant} {c : Nat} (h : IdSync L ops fin blocked doneLog grants c) {id : Nat}
    (hid : id ∈ blocked) : ∃ o, ops.find? (fun x => x.id == id) = some o ∧ o.id = id ∧ o ∈ ops := by
  cases hf : ops.find? (fun x => x.id == id) with
  | none =>
    rw [← h.opened, List.mem_map] at hid
    obtain ⟨o, ho, hoid⟩ := hid
    exact absurd (by simp [hoid]) (List.find?_eq_none.mp hf o ho)
  | some o => exact ⟨o, rfl, by simpa using List.find?_some hf, List.mem_of_find?_eq_some hf⟩

/-- the last check of a `done` line: after `Cancel` no `Next` is open -/
theorem none_open_after_cancel {cfg L m s c} (h : TSyncCore cfg L m s c) :
    (m.cancel.isSome && !m.opened.isEmpty) = false := by
  rcases Bool.eq_false_or_eq_true s.stop with hs | hs
  · rw [h.ids.opened_nil (h.reach.inv.bs hs)]; simp
  · rw [h.cancel.running hs]; rfl

/-- the `done` line: its old entries are skipped, the new ones turn `m1` into `mg` without a report, and `mg` is in
step with the model -/
theorem done_line {cfg m1 mg s c} {old new : List (Nat × Int × Bool)} (hlog : s.doneLog = old ++ new)
    (hold : ∀ x ∈ old, x.1 ∈ m1.completed) (hgo : TMon.onDone.go m1 none new = (none, mg))
    (h : TSyncCore cfg (mg.line + 1) mg s c) :
    m1.onDone s.doneLog = (none, afterDone mg) ∧ TSync cfg { m := afterDone mg, s := s, c := c } :=
  ⟨onDone_of_go _ _ _ (by rw [hlog, go_skip_prefix old m1 none new hold]; exact hgo) (none_open_after_cancel h),
    tsync_afterDone h⟩

theorem done_quiet {cfg m s c} (h : TSyncCore cfg (m.line + 1) m s c) :
    m.onDone s.doneLog = (none, afterDone m) ∧ TSync cfg { m := afterDone m, s := s, c := c } :=
  done_line (List.append_nil _).symm h.ids.completed (go_nil m none) h

theorem grant_accepted {cfg : TCfg} {L : Nat} {m : TMon} {s s' : TState} {c : Nat}
    (h : TSyncCore cfg L m s c) (hr : Lemmas.C20Code.Reach cfg s') (g : Grant) (cs : List (Nat × Int)) (L0 : Nat)
    (hcs : TrigSync L0 cs m.lastPerm s'.calls s.grants) (hg : s'.grants = s.grants ++ [g]) :
    (∀ P, m.lastPerm = some P → gapOK m.dur m.trailing P.t g.t = true) ∧
    (∃ c ∈ cs, justifiedBy m.dur m.trailing (m.lastPerm.map fun P => (P.t, P.lo)) g.t L0 c = true) ∧
    g.t ≤ s'.now := by
  have hI' : TCore cfg _ _ _ _ _ _ s'.grants _ _ := hr.inv
  have hsp := hr.spaced.spaced
  rw [hg] at hI' hsp
  rw [h.dur_eq, h.tr_eq]
  exact hcs.accepts hI' hsp

/-- `Call` and `advance` differ only in what the operation line does to the monitor's trigger list `cs`
and clock `t`; the `done` line after it is the same: nothing new, or one blocked caller's permission -/
theorem woke_step {cfg : TCfg} {r : TRun} (h : TSync cfg r) (ch : Choice)
    (e : TEv) (he : e = TEv.call ∨ ∃ dt, e = TEv.advance dt) {s' : TState} (hs' : s' = tstep cfg ch r.s e)
    (cs : List (Nat × Int)) (t : Int) (h_now : t = s'.now)
    (h_trig : TrigSync (r.m.line + 1) cs r.m.lastPerm s'.calls r.s.grants) :
    ∃ m2, (TMon.tick { r.m with calls := cs, now := t }).onDone s'.doneLog = (none, m2) ∧
      TSync cfg { m := m2, s := s', c := r.c } := by
  have hI := h.reach.inv
  have hr' : Lemmas.C20Code.Reach cfg s' := hs' ▸ h.reach.step ch e
  have hL : r.m.line ≤ r.m.line + 1 + 1 := Nat.le_add_right _ 2
  have hL1 : r.m.line + 1 ≤ r.m.line + 1 + 1 := Nat.le_succ _
  obtain ⟨hw, hstop⟩ := hs' ▸ tstep_woke ch e hI he
  rcases hw with ⟨h1, h2, h3⟩ | ⟨g, h1, h2, h3, h4⟩
  · -- nothing new
    exact ⟨_, done_quiet
      { h.toTSyncCore with
        reach := hr', now_eq := h_now
        trig := by rw [h1]; exact h_trig.mono hL1
        cancel := by rw [hstop]; exact h.cancel.mono hL
        ids := by rw [h1, h2, h3]; exact h.ids.mono hL }⟩
  · -- one blocked caller got a permission
    obtain ⟨hgap, ⟨cj, hcj, hjust⟩, hgt⟩ := grant_accepted h.toTSyncCore hr' g cs _ h_trig h1
    -- the caller was blocked, so the model was not stopped
    have hstopf : r.s.stop = false := (Bool.eq_false_or_eq_true r.s.stop).resolve_left fun hs => by
      rw [hI.bs hs] at h3; cases h3
    obtain ⟨o, hfo, hoid, homem⟩ := h.ids.find h3
    have hgo := go_one_grant (TMon.tick { r.m with calls := cs, now := t }) o g.t
      (by rw [hoid]; exact h.ids.disj g.id h3) (by rw [hoid]; exact hfo)
      (by rw [h_now]; exact hgt) (h.cancel.running hstopf) hgap
      ⟨cj, hcj, hjust⟩
    rw [hoid] at hgo
    have hlo : o.lastBlocked < r.m.line := h.blockedAt o homem ▸ Nat.lt_succ_self _
    exact ⟨_, done_line h2 h.ids.completed hgo
      { h.toTSyncCore with
        reach := hr', now_eq := h_now
        trig := by
          rw [h1]
          exact (h_trig.grant g _ rfl (Nat.lt_succ_of_lt hlo)).mono hL1
        cancel := by rw [hstop]; exact h.cancel.mono hL
        ids := by rw [h1, h2, h4 h.ids.nodup]; exact (h.ids.mono hL).release g g.t true h3 }⟩

theorem cancel_step {cfg : TCfg} {r : TRun} (h : TSync cfg r) (ch : Choice) {s' : TState}
    (hs' : s' = tstep cfg ch r.s .cancel) :
    ∃ m2, r.m.onCancel.onDone s'.doneLog = (none, m2) ∧ TSync cfg { m := m2, s := s', c := r.c } := by
  have hI := h.reach.inv
  have hr' : Lemmas.C20Code.Reach cfg s' := hs' ▸ h.reach.step ch .cancel
  have hL : r.m.line ≤ r.m.line + 1 + 1 := Nat.le_add_right _ 2
  rw [tstep_cancel cfg ch r.s h.reach.strict] at hs'
  subst hs'
  have hcan : ∃ cpos ctime, r.m.onCancel.cancel = some (cpos, ctime) ∧ cpos < r.m.line + 1 ∧
      (∀ o ∈ r.m.opened, o.startPos < cpos) ∧
      r.s.blocked.map (fun id => (id, r.s.now, false)) = r.m.opened.map (fun o => (o.id, ctime, false)) := by
    rcases Bool.eq_false_or_eq_true r.s.stop with hs | hs
    · obtain ⟨cpos, ctime, hc1, hc2⟩ := h.cancel.stopped hs
      have hop : r.m.opened = [] := h.ids.opened_nil (hI.bs hs)
      exact ⟨cpos, ctime, (onCancel_cancel r.m).1 _ hc1, Nat.lt_succ_of_lt hc2,
        (by intro o ho; rw [hop] at ho; cases ho), by rw [hI.bs hs, hop]; rfl⟩
    · refine ⟨r.m.line, r.m.now, (onCancel_cancel r.m).2 (h.cancel.running hs), Nat.lt_succ_self _, h.ids.started, ?_⟩
      · rw [← h.ids.opened, List.map_map, h.now_eq]; rfl
  obtain ⟨cpos, ctime, hc1, hc2, hc3, hc4⟩ := hcan
  exact ⟨_, done_line (congrArg (r.s.doneLog ++ ·) hc4) h.ids.completed
    (go_cancel_list cpos ctime r.m.opened r.m.onCancel (by rw [h.ids.opened]; exact h.ids.nodup)
      (fun o ho => h.ids.disj o.id (h.ids.opened ▸ List.mem_map_of_mem ho)) hc1 hc3)
    { h.toTSyncCore with
      reach := hr'
      trig := h.trig.mono hL
      cancel := ⟨fun hs => (by cases hs), fun _ => ⟨cpos, ctime, hc1, Nat.lt_succ_of_lt hc2⟩⟩
      ids := (h.ids.mono hL).cancel r.s.now }⟩

theorem nextRes_of_not_blocked {s' : TState} {id : Nat} (h : id ∉ s'.blocked) :
    ((∀ g ∈ s'.grants, g.id ≠ id) → nextRes s' id = some false) ∧
    ((∃ g ∈ s'.grants, g.id = id) → nextRes s' id = some true) := by
  unfold nextRes
  rw [if_neg (fun hc => h (List.contains_iff_mem.mp hc))]
  constructor
  · intro hg
    rw [if_neg]
    rw [List.any_eq_true]
    rintro ⟨g, hg', he⟩
    exact hg g hg' (beq_iff_eq.mp he)
  · rintro ⟨g, hg, he⟩
    exact if_pos (List.any_eq_true.mpr ⟨g, hg, by rw [he]; exact beq_self_eq_true id⟩)

theorem onNext_block (m : TMon) (id : Nat) (hcan : m.cancel = none) :
    m.onNext id none = (none, TMon.tick { m with opened := m.opened ++
      [{ id := id, startPos := m.line, startTime := m.now, lastBlocked := m.line }] }) := by
  unfold TMon.onNext
  simp [hcan]

theorem onNext_false (m : TMon) (id : Nat) {cpos : Nat} {ctime : Int} (hc : m.cancel = some (cpos, ctime))
    (hle : cpos ≤ m.line) :
    m.onNext id (some false) = (none, TMon.tick { m with completed := id :: m.completed }) := by
  unfold TMon.onNext
  simp only [TMon.onFalse, hc]
  rw [if_neg (Nat.not_lt.mpr hle)]
  simp

theorem onNext_true (m : TMon) (id : Nat) (hc : m.cancel = none)
    (hgap : ∀ P, m.lastPerm = some P → gapOK m.dur m.trailing P.t m.now = true)
    (hj : ∃ c ∈ m.calls, justifiedBy m.dur m.trailing (m.lastPerm.map fun p => (p.t, p.lo)) m.now m.line c = true) :
    m.onNext id (some true) =
      (none, TMon.tick { m with
        lastPerm := some ({ t := m.now, lo := m.line, pos := m.line } : TPerm)
        nperms := m.nperms + 1
        completed := id :: m.completed }) := by
  unfold TMon.onNext
  simp only [onPerm_accepts m m.now m.line hc hgap hj]

theorem next_step {cfg : TCfg} {r : TRun} (h : TSync cfg r) (ch : Choice) {s' : TState}
    (hs' : s' = tstep cfg ch r.s (.next r.c)) :
    ∃ m1 m2, r.m.onNext r.c (nextRes s' r.c) = (none, m1) ∧ m1.onDone s'.doneLog = (none, m2) ∧
      TSync cfg { m := m2, s := s', c := r.c + 1 } := by
  have hr' : Lemmas.C20Code.Reach cfg s' := hs' ▸ h.reach.step ch (.next r.c)
  have hL : r.m.line ≤ r.m.line + 1 + 1 := Nat.le_add_right _ 2
  have hcfresh : r.c ∉ r.s.blocked := fun hc => Nat.lt_irrefl _ (h.ids.fresh_b r.c hc)
  rw [tstep_next cfg ch r.s r.c h.reach.strict] at hs'
  have hd := tnext_does r.s r.c
  generalize tnext r.s r.c = q at hd hs'
  cases hd with
  | refused hs =>
    -- cancelled: the caller returns false at once
    obtain ⟨cpos, ctime, hc1, hc2⟩ := h.cancel.stopped hs
    rw [(nextRes_of_not_blocked (s' := s') (by rw [hs']; exact hcfresh)).1
      (by rw [hs']; exact fun g hg => Nat.ne_of_lt (h.ids.fresh_g g hg))]
    subst hs'
    exact ⟨_, _, onNext_false r.m r.c hc1 (Nat.le_of_lt hc2), done_quiet
      { h.toTSyncCore with
        reach := hr'
        trig := h.trig.mono hL
        cancel := h.cancel.mono hL
        ids := (h.ids.mono hL).returned r.s.now false r.s.grants fun g hg => Or.inl hg }⟩
  | granted hw hs =>
    -- a permission is waiting: the caller returns true at once
    rw [(nextRes_of_not_blocked (s' := s') (by rw [hs']; exact hcfresh)).2
      (by rw [hs']; exact ⟨_, List.mem_append_right _ (List.mem_singleton.mpr rfl), rfl⟩)]
    obtain ⟨hgap, ⟨cj, hcj, hjust⟩, _⟩ := grant_accepted h.toTSyncCore hr'
      { t := r.s.now, id := r.c, ctime := r.s.wsrc.1, cepoch := r.s.wsrc.2, prevT := r.s.last } r.m.calls _
      (by rw [hs']; exact h.trig) (by rw [hs']; rfl)
    subst hs'
    exact ⟨_, _, onNext_true r.m r.c (h.cancel.running hs) (by rw [h.now_eq]; exact hgap)
        ⟨cj, hcj, by rw [h.now_eq]; exact hjust⟩,
      done_quiet
        { h.toTSyncCore with
          reach := hr'
          trig := (h.trig.mono hL).grant _ _ h.now_eq (Nat.lt_succ_of_lt (Nat.lt_succ_self r.m.line))
          cancel := h.cancel.mono hL
          ids := (h.ids.mono hL).returned r.s.now true (grantTo r.s r.c).grants
            (forall_mem_snoc (fun _ => Or.inl) (Or.inr rfl)) }⟩
  | blocks hw hs =>
    -- nothing waiting: the caller blocks
    rw [show nextRes s' r.c = none by
      rw [hs']; exact if_pos (List.contains_iff_mem.mpr (List.mem_append_right _ (List.mem_singleton.mpr rfl)))]
    subst hs'
    exact ⟨_, _, onNext_block r.m r.c (h.cancel.running hs), done_quiet
      { h.toTSyncCore with
        reach := hr'
        trig := h.trig.mono hL
        cancel := h.cancel.mono hL
        ids := (h.ids.mono hL).block _ rfl (Nat.lt_succ_of_lt (Nat.lt_succ_self r.m.line)) }⟩

theorem tmonStep_eq {cfg : TCfg} {ch : Choice} {r : TRun} {a : TAct} {m1 m2 : TMon}
    (h1 : tmonEvent r.m (tstep cfg ch r.s (a.ev r.c)) r.c a = (none, m1))
    (h2 : m1.onDone (tstep cfg ch r.s (a.ev r.c)).doneLog = (none, m2)) :
    tmonStep cfg ch r a =
      (none, { m := m2, s := tstep cfg ch r.s (a.ev r.c), c := if a = .next then r.c + 1 else r.c }) := by
  unfold tmonStep
  simp only [h1, h2, firstSome]

/-- one operation line + `done` line: no clause is reported and monitor and model stay in step -/
theorem tmonStep_sync {cfg : TCfg} {r : TRun} (h : TSync cfg r) (ch : Choice) (a : TAct) :
    (tmonStep cfg ch r a).1 = none ∧ TSync cfg (tmonStep cfg ch r a).2 := by
  cases a with
  | call =>
    obtain ⟨m2, h1, h2⟩ := woke_step h ch .call (Or.inl rfl) rfl ((r.m.line, r.m.now) :: r.m.calls) r.m.now
      (by rw [(tstep_keeps cfg ch r.s .call).now, h.now_eq]; simp [TEv.dt])
      (by rw [(tstep_keeps cfg ch r.s .call).calls, h.now_eq]; exact h.trig.call _)
    rw [tmonStep_eq (a := .call) rfl h1]; exact ⟨rfl, h2⟩
  | advance dt =>
    obtain ⟨m2, h1, h2⟩ := woke_step h ch (.advance dt) (Or.inr ⟨dt, rfl⟩) rfl r.m.calls (r.m.now + dt)
      (by rw [(tstep_keeps cfg ch r.s (.advance dt)).now, h.now_eq]; rfl)
      (by rw [(tstep_keeps cfg ch r.s (.advance dt)).calls]; exact (List.append_nil _).symm ▸ h.trig.mono (Nat.le_succ _))
    rw [tmonStep_eq (a := .advance dt) rfl h1]; exact ⟨rfl, h2⟩
  | cancel =>
    obtain ⟨m2, h1, h2⟩ := cancel_step h ch rfl
    rw [tmonStep_eq (a := .cancel) rfl h1]; exact ⟨rfl, h2⟩
  | next =>
    obtain ⟨m1, m2, h0, h1, h2⟩ := next_step h ch rfl
    rw [tmonStep_eq (a := .next) h0 h1]; exact ⟨rfl, h2⟩

theorem tsync_init (cfg : TCfg) : TSync cfg { m := { dur := cfg.dur, trailing := cfg.trailing }, s := {}, c := 0 } where
  reach := Lemmas.C20Code.reach_init cfg
  dur_eq := rfl
  tr_eq := rfl
  now_eq := rfl
  trig := ⟨fun _ hc => (nomatch hc), rfl, fun _ hP => (nomatch hP), fun _ hc => nomatch hc⟩
  cancel := ⟨fun _ => rfl, by intro hs; cases hs⟩
  ids :=
    { opened := rfl
      started := by intro o ho; cases ho
      completed := by intro x hx; cases hx
      nodup := List.nodup_nil
      fresh_b := by intro id hid; cases hid
      fresh_g := by intro g hg; cases hg
      fresh_c := by intro id hid; cases hid
      disj := by intro id hid; cases hid }
  blockedAt := by intro o ho; cases ho

theorem tmonRun_accepts (cfg : TCfg) (ch : Choice) : ∀ (acts : List TAct) (r : TRun),
    TSync cfg r → tmonRun cfg ch acts r = none := by
  intro acts
  induction acts with
  | nil => intro r _; rfl
  | cons a rest ih =>
    intro r h
    obtain ⟨h1, h2⟩ := tmonStep_sync h ch a
    rcases hr : tmonStep cfg ch r a with ⟨c, r'⟩
    rw [hr] at h1 h2
    simp only at h1 h2
    subst h1
    simp only [tmonRun, hr]
    exact ih _ h2

/-- **The throttle monitor accepts the model**: for every duration, trailing on/off, every choice
function (any number of `Next` callers may be blocked at the same time) and every sequence of
operations — each operation line followed by a `done` line, as in every generated case — `TMon`, fed
the operations and shown the model's answers (`blocked`/`T`/`F` on `next` lines, the model's
completion log on `done` lines), reports none of its clauses. -/
theorem tmon_accepts_model (cfg : TCfg) (ch : Choice) (acts : List TAct) :
    tmonRun cfg ch acts { m := { dur := cfg.dur, trailing := cfg.trailing }, s := {}, c := 0 } = none :=
  tmonRun_accepts cfg ch acts _ (tsync_init cfg)

example : tmonRun ⟨50, true⟩ (fun _ _ => 1)
    [.next, .next, .call, .advance 1, .call, .advance 49, .next, .cancel, .next]
    { m := { dur := 50, trailing := true }, s := {}, c := 0 } = none := by decide +kernel

/-! ## The delay monitor accepts the model's log in the order the driver renders it

The driver sorts the model's executions by (time, id) (`Kinds.C20.sortFires`).  Every check of
`LMon.onFired` depends on the log only through membership and distinctness of ids, so the monitor
accepts every permutation of the model's log — in particular the sorted one. -/

theorem insertFire_perm (x : LFire) : ∀ l : List LFire, (Kinds.C20.insertFire x l).Perm (x :: l) :=
  Lemmas.ListFacts.insert_perm (ins := Kinds.C20.insertFire)
    (c := fun x y => (x.f < y.f || (x.f == y.f && x.id < y.id)) = true) (fun _ => rfl) (fun _ _ _ => rfl) x

theorem sortFires_perm (l : List LFire) : (Kinds.C20.sortFires l).Perm l := by
  have : ∀ (l acc : List LFire), (l.foldl (fun acc x => Kinds.C20.insertFire x acc) acc).Perm (l.reverse ++ acc) := by
    intro l
    induction l with
    | nil => intro acc; exact List.Perm.refl _
    | cons x r ih =>
      intro acc
      rw [List.foldl_cons, List.reverse_cons, List.append_assoc]
      exact (ih _).trans (List.Perm.append_left _ (insertFire_perm x acc))
  have h := this l []
  rw [List.append_nil] at h
  exact h.trans (List.reverse_perm l)

/-- the model's log as the driver renders it: sorted by (time, id) -/
def llogSorted (s : LState) : List (Int × Nat × Int) :=
  (Kinds.C20.sortFires s.fired).map fun fr => (fr.f, fr.id, fr.tc)

theorem llogSorted_perm (s : LState) : (llogSorted s).Perm (llog s) :=
  (sortFires_perm s.fired).map _

/-- monitor and model side by side, the monitor being shown the *sorted* log -/
def lmonRunSorted : List (LEv × Bool) → LMon → LState → Option String
  | [], _, _ => none
  | (e, o) :: r, m, s =>
    if o then
      match (lmonPush m e).onFired (llogSorted (lstep s e)) with
      | some c => some c
      | none => lmonRunSorted r ((lmonPush m e).observe (llogSorted (lstep s e))) (lstep s e)
    else lmonRunSorted r (lmonPush m e) (lstep s e)

theorem lmonRunSorted_accepts : ∀ (tr : List (LEv × Bool)) (hist : List LEv) (m : LMon) (s : LState),
    LSync hist m s → lmonRunSorted tr m s = none := by
  intro tr
  induction tr with
  | nil => intro hist m s _; rfl
  | cons x r ih =>
    intro hist m s h
    obtain ⟨e, o⟩ := x
    have hp := lsync_push e h
    cases o with
    | false => exact ih _ _ _ hp
    | true =>
      rw [lmonRunSorted, if_pos rfl, lonFired_accepts_perm hp _ (llogSorted_perm _)]
      exact ih _ _ _ (hp.observe fun _ hx => (llogSorted_perm _).mem_iff.mp hx)

/-- **The delay monitor accepts the model's log as the driver renders it** (sorted by time and id). -/
theorem lmon_accepts_model_sorted (tr : List (LEv × Bool)) : lmonRunSorted tr {} {} = none :=
  lmonRunSorted_accepts tr [] _ _ lsync_init

/-! ## The driver's call-number ↔ position translation for the debounce kind

The harness reports executions by call number; `Kinds.C20.debounceKind` keeps the positions of the
calls (`callPos`), renders the model's log with `noOfPos` and translates the implementation's log
back with `callPos[k]?`.  The two are inverse on recorded call positions (that every position in the
model's log is a recorded one is not proved here). -/

theorem findIdx_roundtrip (idx : Nat) (l : List Nat) (h : idx ∈ l) :
    ∃ k, l.findIdx? (· == idx) = some k ∧ l[k]? = some idx := by
  cases hf : l.findIdx? (· == idx) with
  | none => exact Bool.noConfusion ((List.findIdx?_eq_none_iff.mp hf idx h).symm.trans (beq_self_eq_true idx))
  | some k =>
    obtain ⟨hk, hp, _⟩ := List.findIdx?_eq_some_iff_getElem.mp hf
    exact ⟨k, rfl, by rw [List.getElem?_eq_getElem hk, beq_iff_eq.mp hp]⟩

/-- rendering a recorded call position as a call number and translating it back gives the position -/
theorem noOfPos_roundtrip (st : Kinds.C20.DSt) (f tc : Int) (idx : Nat) (h : idx ∈ st.callPos.toList) :
    (if st.noOfPos idx < 0 then none
      else (st.callPos[(st.noOfPos idx).toNat]?).map fun p => (f, p, tc)) = some (f, idx, tc) := by
  obtain ⟨k, hk1, hk2⟩ := findIdx_roundtrip idx st.callPos.toList h
  have hno : st.noOfPos idx = (k : Int) := by
    unfold Kinds.C20.DSt.noOfPos
    rw [hk1]
  rw [hno, if_neg (by omega)]
  have : st.callPos[((k : Int)).toNat]? = some idx := by
    rw [Int.toNat_natCast, ← Array.getElem?_toList]; exact hk2
  rw [this]; rfl

end GoguVerif.Theorems.C20
