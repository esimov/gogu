import GoguVerif.Model.Stack
import GoguVerif.Model.LStack
/-!
# C06 — property theorems (stacks are LIFO)

* `stack_refines`: every history of the model of the slice-backed `Stack` produces exactly the
  abstract LIFO's answers (full property for `Stack`).
* Linked `LStack`: the full-strength statement
  `∀ t ops, (Model.LStack.run (new t) ops).2 = (Spec.C06.run [t] ops).2`
  is FALSE of the code as it is (known findings F12a `lstack.pop-returns-element-beneath`,
  F12b `lstack.pop-keeps-bottom`, pinned by `stack.Example_linkedList`); its negation is proved by
  the two concrete witnesses (`lstack_full_fails_beneath`, `lstack_full_fails_bottom`), and
  `lstack_refines_patched_partial` proves that every history of the model produces exactly the
  answers of the spec patched with exactly those two deviations; `lstack_agrees_until_pop_partial`:
  until the first `Pop`, the linked stack answers exactly as the abstract LIFO.
-/
/-! What `lifo_order` and `size_step` below need of the whole-history laws, in the namespace of
`Theorems/C06More.lean`, under whose names the audit lists them. -/
namespace GoguVerif.Theorems.C06More

theorem snoc_cases {β : Type} (s : List β) : s = [] ∨ ∃ r x, s = r ++ [x] :=
  (List.eq_nil_or_concat s).imp id fun ⟨r, x, h⟩ => ⟨r, x, h.trans List.concat_eq_append⟩

theorem run_cons {α : Type} [Inhabited α] [DecidableEq α] (s : List α) (op : Spec.C06.Op α) (ops : List (Spec.C06.Op α)) :
    Spec.C06.run s (op :: ops) = ((Spec.C06.run (Spec.C06.step s op).1 ops).1,
      (Spec.C06.step s op).2 :: (Spec.C06.run (Spec.C06.step s op).1 ops).2) := rfl

theorem run_append {α : Type} [Inhabited α] [DecidableEq α] (s : List α) (a b : List (Spec.C06.Op α)) :
    Spec.C06.run s (a ++ b) = ((Spec.C06.run (Spec.C06.run s a).1 b).1,
      (Spec.C06.run s a).2 ++ (Spec.C06.run (Spec.C06.run s a).1 b).2) := by
  induction a generalizing s with
  | nil => rfl
  | cons op a ih => simp [run_cons, ih]

end GoguVerif.Theorems.C06More

namespace GoguVerif.Theorems.C06
open Spec.C06

variable {α : Type} [Inhabited α] [DecidableEq α]

theorem searchLoop_eq_mem {α : Type} [DecidableEq α] (x : α) (l : List α) : Model.Stack.searchLoop x l = decide (x ∈ l) := by
  induction l with
  | nil => rfl
  | cons y r ih =>
    rw [Model.Stack.searchLoop, ih]
    by_cases h : y = x <;> simp [h, eq_comm (a := x)]

theorem stack_step_refines (s : List α) (op : Op α) :
    Model.Stack.step s op = Spec.C06.step s op := by
  cases op with
  | pop =>
    -- on `a :: l` both sides compute: `items[:size-1]` in the code, `dropLast` in the spec
    cases s with
    | nil => rfl
    | cons a l => exact congrArg (fun t => (t, Out.val _)) List.dropLast_eq_take.symm
  | peek => cases s <;> rfl
  | search x => exact congrArg (fun b => (s, Out.bool b)) (searchLoop_eq_mem x s)
  | _ => rfl

theorem stack_refines (s : List α) (ops : List (Op α)) :
    Model.Stack.run s ops = Spec.C06.run s ops := by
  induction ops generalizing s with
  | nil => rfl
  | cons op ops ih => simp only [Model.Stack.run, Spec.C06.run, stack_step_refines, ih]

/-- the top of the stack is the END of the list -/
theorem step_pop_concat (r : List α) (x : α) : Spec.C06.step (r ++ [x]) .pop = (r, .val x) := by
  rw [Spec.C06.step, List.getLast?_concat, List.dropLast_concat]

theorem run_pushes (s xs : List α) :
    Spec.C06.run s (xs.map .push) = (s ++ xs, xs.map fun _ => Out.unit) := by
  induction xs generalizing s with
  | nil => rw [List.append_nil]; rfl
  | cons x xs ih => rw [List.append_cons s x xs]; exact congrArg (fun r => (r.1, Out.unit :: r.2)) (ih (s ++ [x]))

/-- stated for the reversed list, so that the induction follows the pops -/
theorem run_pops (ys s : List α) :
    Spec.C06.run (s ++ ys.reverse) (List.replicate ys.length (Op.pop : Op α)) = (s, ys.map Out.val) := by
  induction ys with
  | nil => rw [List.reverse_nil, List.append_nil]; rfl
  | cons y ys ih =>
    rw [List.reverse_cons, ← List.append_assoc, List.length_cons, List.replicate_succ, C06More.run_cons,
      step_pop_concat, ih]
    rfl

/-- Pop returns the most recently pushed element not yet popped: pushing `xs` and popping
`xs.length` times yields `xs` reversed and leaves what was there before. -/
theorem lifo_order (s xs : List α) :
    Spec.C06.run s (xs.map .push ++ List.replicate xs.length .pop) =
      (s, xs.map (fun _ => Out.unit) ++ xs.reverse.map Out.val) := by
  have := run_pops xs.reverse s
  rw [List.reverse_reverse, List.length_reverse] at this
  rw [C06More.run_append, run_pushes, this]

/-- Peek is the element the next Pop returns, and does not change the content. -/
theorem peek_is_next_pop (s : List α) :
    (Spec.C06.step s .peek).1 = s ∧ (Spec.C06.step s .peek).2 = (Spec.C06.step s .pop).2 := by
  simp only [Spec.C06.step]
  cases s.getLast? <;> simp

theorem pop_empty : Spec.C06.step ([] : List α) .pop = ([], .val default) := rfl

theorem size_step (s : List α) (op : Op α) :
    ((Spec.C06.step s op).1.length : Int) =
      match op with
      | .push _ => (s.length : Int) + 1
      | .pop => if s = [] then 0 else (s.length : Int) - 1
      | _ => s.length := by
  cases op with
  | push x => exact congrArg Nat.cast List.length_append
  | pop =>
    rcases C06More.snoc_cases s with rfl | ⟨r, x, rfl⟩
    · rfl
    · rw [step_pop_concat,
        if_neg (List.append_ne_nil_of_right_ne_nil r (List.cons_ne_nil x [])), List.length_append]
      exact (Int.add_sub_cancel (r.length : Int) 1).symm
  | _ => rfl

theorem search_iff (s : List α) (x : α) : (Spec.C06.step s (.search x)).2 = .bool true ↔ x ∈ s := by
  simp [Spec.C06.step]

/-- The model of `lstack.go` is, step for step, the LIFO spec patched with exactly the two recorded deviations. -/
theorem lstack_step_patched (s : Model.LStack.St α) (op : Op α) :
    Patched.step ({ xs := s.list, n := s.n } : Patched.St α) op =
      ({ xs := (Model.LStack.step s op).1.list, n := (Model.LStack.step s op).1.n }, (Model.LStack.step s op).2) := by
  cases op with
  | pop =>
    -- `Patched.step` tests the length itself, the model leaves it to `DSeq.pop`
    by_cases h : s.list.length ≤ 1
    · simp only [Model.LStack.step, Patched.step, Model.DSeq.pop, if_pos h]
    · simp only [Model.LStack.step, Patched.step, Model.DSeq.pop, if_neg h]
  | _ => rfl

/-- Every history of the linked stack produces exactly the answers of the patched spec (hence only
`_partial`: known findings F12a/F12b).  `Spec.C06.Patched` has a `step` and no `run`, so its history
is written as the `foldl` that collects the answers. -/
theorem lstack_refines_patched_partial (s : Model.LStack.St α) (ops : List (Op α)) :
    (Model.LStack.run s ops).2 =
      (ops.foldl (fun (acc : Patched.St α × List (Out α)) op =>
          let r := Patched.step acc.1 op; (r.1, acc.2 ++ [r.2]))
        (({ xs := s.list, n := s.n } : Patched.St α), [])).2 := by
  suffices h : ∀ (ops : List (Op α)) (s : Model.LStack.St α) (pre : List (Out α)),
      pre ++ (Model.LStack.run s ops).2 =
      (ops.foldl (fun (acc : Patched.St α × List (Out α)) op =>
          let r := Patched.step acc.1 op; (r.1, acc.2 ++ [r.2]))
        (({ xs := s.list, n := s.n } : Patched.St α), pre)).2 by
    exact h ops s []
  intro ops
  induction ops with
  | nil => intro s pre; exact List.append_nil pre
  | cons op ops ih =>
    intro s pre
    rw [List.foldl_cons, lstack_step_patched, ← ih, List.append_assoc]
    rfl

/-- Until the first `Pop` the linked stack answers exactly as the abstract LIFO (Push / Peek /
Search / Size are unaffected by the findings). -/
theorem lstack_agrees_until_pop_partial (s : Model.LStack.St α) (hs : s.n = s.list.length)
    (ops : List (Op α)) (hp : ∀ op ∈ ops, op ≠ .pop) :
    (Model.LStack.run s ops).2 = (Spec.C06.run s.list ops).2 := by
  induction ops generalizing s with
  | nil => rfl
  | cons op ops ih =>
    have hrest : ∀ o ∈ ops, o ≠ .pop := fun o ho => hp o (List.mem_cons_of_mem _ ho)
    cases op with
    | pop => exact absurd rfl (hp _ List.mem_cons_self)
    | push x =>
      exact congrArg (Out.unit :: ·) (ih ⟨s.list ++ [x], s.n + 1⟩
        (by rw [hs, List.length_append]; rfl) hrest)
    | size => exact congr (congrArg (fun n l => Out.int n :: l) hs) (ih s hs hrest)
    | _ => exact congrArg (List.cons _) (ih s hs hrest)

/-- Negation of the full clause, witness of F12a: `NewLinked(1); Push(2); Pop()` answers 1, the
abstract LIFO answers 2. -/
theorem lstack_full_fails_beneath :
    (Model.LStack.run (Model.LStack.new (1 : Int)) [.push 2, .pop]).2 ≠
      (Spec.C06.run [(1 : Int)] [.push 2, .pop]).2 := by decide

/-- Negation of the full clause, witness of F12b: `NewLinked(1); Pop(); Peek()`: Pop answers the zero
value and the element stays visible. -/
theorem lstack_full_fails_bottom :
    (Model.LStack.run (Model.LStack.new (1 : Int)) [.pop, .peek, .size]).2 =
      [.val 0, .val 1, .int 0] ∧
    (Spec.C06.run [(1 : Int)] [.pop, .peek, .size]).2 = [.val 1, .val 0, .int 0] := by decide

end GoguVerif.Theorems.C06
