import GoguVerif.Theorems.GenTieCacheMap
import GoguVerif.Lemmas.C08
import GoguVerif.Lemmas.TieRules
/-!
# The regenerated tie for the expiring cache (C08 `cache.Cache`)

`Gen/Cache.lean` is produced on every run by the translator (`translator/frag_cache.go`) from `cache/cache.go`:
every method with the modelled fields of its receiver (`items`, `expTime`, `cleanupInt`) as variables, the clock as
the parameter `clock_`, the type switch of `store` as the parameter `strOf_V`, a mutating method returning its
results followed by the new `items`.

The generated state is `g : List (Int × Gen.Cache.Item Int)` (the Go map as the
association list of frag.go: `m[k] = v` overwrites in place or appends, `delete` removes the first entry of the key);
the model's state is `m : Model.Cache.Items` (`assign` = cons in front of `erase`).  Both stand for the same Go map
when `Rel g m`: the entries of `g` (an `Item` of the generated structure read as the model's `Item`) are a
PERMUTATION of those of `m`, and no key occurs twice.  The model normalises the position of a stored entry (front),
the generated code keeps it (in place / end); the order of the list is the iteration order of the Go map, which the
language leaves open, so the theorems below state equality of the states *up to that permutation* and equality of
every answer *exactly*.  `rel_nil` and the `Rel` halves of the theorems make `Rel` an invariant.

The instantiation is the model's: keys `Int`, values `Int`; `strOf_V` is any function that calls a value a string of
length 0 exactly when the model rejects it (`StrOK`; satisfiable for both instantiations of `Cfg.strVals`, see the
examples).  All clock readings of one call are the one instant `now` (simplification made by the translator and by
the model alike; `set_tie`, `setDefault_tie`, `update_tie`, `mapToCache_tie` depend on it).
-/
namespace GoguVerif.Theorems.GenTieCache
open GoguVerif.Model.Cache GoguVerif.Lemmas.C08
open GoguVerif.Gen.Cache (mapHas mapGet mapSet mapDel)
open GoguVerif.Theorems.GenTieCacheMap (mapDel_eq)
open GoguVerif.Lemmas.C14 (del_of_not_mem)

abbrev GItem := Gen.Cache.Item Int
abbrev GItems := List (Int × GItem)

def conv (it : GItem) : Item := ⟨it.object, it.expiration⟩

def toModel (g : GItems) : Items := g.map fun p => (p.1, conv p.2)

/-- the generated state `g` and the model state `m` stand for the same Go map -/
def Rel (g : GItems) (m : Items) : Prop := (toModel g).Perm m ∧ (keys m).Nodup

/-- `strOf` (dynamic type string? then the bytes) agrees with the model's `rejected` -/
def StrOK (cfg : Cfg) (strOf : Int → Option (List UInt8)) : Prop :=
  ∀ v, (match strOf v with | some s => decide (((s.length : Nat) : Int) = 0) | none => false) = rejected cfg v

/-- `V = int`: no value is a string -/
example (cfg : Cfg) (h : cfg.strVals = false) : StrOK cfg (fun _ => none) := by
  intro v; simp [rejected, h]

/-- `V = string`: the model's value `0` is `""` -/
example (cfg : Cfg) (h : cfg.strVals = true) : StrOK cfg (fun v => some (if v = 0 then [] else [120])) := by
  intro v
  by_cases hv : v = 0 <;> simp [rejected, h, hv]

theorem rel_nil : Rel [] [] := ⟨List.Perm.refl _, by simp⟩

theorem Rel.perm {g : GItems} {m : Items} (h : Rel g m) : (toModel g).Perm m := h.1
theorem Rel.nodup {g : GItems} {m : Items} (h : Rel g m) : (keys m).Nodup := h.2

example : Rel [(1, ⟨5, 0⟩), (2, ⟨6, 9⟩)] [(2, ⟨6, 9⟩), (1, ⟨5, 0⟩)] :=
  ⟨List.Perm.swap _ _ _, by decide⟩

/-! `mapDel` on an absent key, stated for the printed primitive; the import of `GenTieCacheMap` and the two `open`s
for `mapDel_eq`, `del_of_not_mem` are there for this statement. -/
section prim
variable {β : Type}

theorem mapDel_of_not_mem {m : List (Int × β)} {k : Int} (h : k ∉ m.map (·.1)) : mapDel m k = m :=
  (mapDel_eq m k).trans (del_of_not_mem h)

end prim

/-- `item, ok := c.items[key]` of the generated code against the model's `lookup` -/
theorem lookup_toModel (g : GItems) (k : Int) (z : GItem) :
    lookup k (toModel g) = if mapHas g k then some (conv (mapGet g k z)) else none := by
  induction g with
  | nil => simp [toModel, lookup, mapHas]
  | cons e r ih =>
    by_cases h : e.1 = k
    · simp [toModel, lookup, mapHas, mapGet, h]
    · have := ih
      simp only [toModel] at this
      simp [toModel, lookup, mapHas, mapGet, h, this]

theorem nodup_toModel_cons {e : Int × GItem} {r : GItems} (hn : (keys (toModel (e :: r))).Nodup) :
    (keys (toModel r)).Nodup ∧ e.1 ∉ keys (toModel r) := by
  simp only [toModel, List.map_cons, keys_cons, List.nodup_cons] at hn
  exact ⟨hn.2, hn.1⟩

/-- `delete(c.items, key)` -/
theorem toModel_mapDel {g : GItems} (k : Int) (hn : (keys (toModel g)).Nodup) :
    toModel (mapDel g k) = erase k (toModel g) := by
  induction g with
  | nil => rfl
  | cons e r ih =>
    have hn' := nodup_toModel_cons hn
    by_cases h : e.1 = k
    · subst h
      have : erase e.1 (toModel r) = toModel r := erase_of_not_mem hn'.2
      simp [toModel, mapDel, erase] at this ⊢
      exact this.symm
    · have := ih hn'.1
      simp only [toModel] at this
      simp [toModel, mapDel, erase, h, this]

/-- `c.items[key] = it` -/
theorem toModel_mapSet {g : GItems} (k : Int) (it : GItem) (hn : (keys (toModel g)).Nodup) :
    (toModel (mapSet g k it)).Perm (assign k (conv it) (toModel g)) := by
  induction g with
  | nil => simp [toModel, mapSet, assign, erase]
  | cons e r ih =>
    have hn' := nodup_toModel_cons hn
    by_cases h : e.1 = k
    · subst h
      have : erase e.1 (toModel r) = toModel r := erase_of_not_mem hn'.2
      simp only [toModel] at this
      simp [toModel, mapSet, assign, erase, this]
    · have := ih hn'.1
      simp only [toModel, assign] at this
      simp only [toModel, mapSet, h, if_false, List.map_cons, assign, erase]
      exact (List.Perm.cons _ this).trans (List.Perm.swap _ _ _)

/-! ## `Rel` through the map primitives (`Lemmas.C08`: these do not depend on the order of the list) -/

theorem rel_lookup {g : GItems} {m : Items} (h : Rel g m) (k : Int) (z : GItem) :
    lookup k m = if mapHas g k then some (conv (mapGet g k z)) else none := by
  rw [← lookup_perm h.perm h.nodup k, lookup_toModel]

theorem rel_assign {g : GItems} {m : Items} (h : Rel g m) (k : Int) (it : GItem) :
    Rel (mapSet g k it) (assign k (conv it) m) :=
  ⟨(toModel_mapSet k it (nodup_of_perm h.perm h.nodup)).trans (assign_perm h.perm k _), nodup_assign h.nodup⟩

theorem rel_erase {g : GItems} {m : Items} (h : Rel g m) (k : Int) :
    Rel (mapDel g k) (erase k m) :=
  ⟨(toModel_mapDel k (nodup_of_perm h.perm h.nodup)) ▸ erase_perm h.perm k, nodup_erase h.nodup⟩

/-- the regenerated constants are the ones the model uses -/
theorem consts_tie : Gen.Cache.NoExpiration = Gen.noExpiration ∧ Gen.Cache.DefaultExpiration = Gen.defaultExpiration :=
  ⟨by decide, by decide⟩

/-- `store`, computed: the flag and the new list of the generated code in terms of the model's `rejected`, `expiry` -/
theorem store_eq (cfg : Cfg) (strOf : Int → Option (List UInt8)) (hs : StrOK cfg strOf) (now : Int) (g : GItems)
    (k v d : Int) :
    Gen.Cache.Cache_store strOf now g cfg.expTime cfg.cleanupInt k v d =
      if rejected cfg v then (true, g) else (false, mapSet g k ⟨v, expiry cfg now d⟩) := by
  unfold Gen.Cache.Cache_store
  rw [← hs v]
  cases strOf v <;> simp only [decide_eq_true_eq] <;> rfl

theorem store_tie (cfg : Cfg) (strOf : Int → Option (List UInt8)) (hs : StrOK cfg strOf) (now : Int)
    (g : GItems) (m : Items) (h : Rel g m) (k v d : Int) :
    (Gen.Cache.Cache_store strOf now g cfg.expTime cfg.cleanupInt k v d).1 = (store cfg now m k v d).2 ∧
    Rel (Gen.Cache.Cache_store strOf now g cfg.expTime cfg.cleanupInt k v d).2 (store cfg now m k v d).1 := by
  rw [store_eq cfg strOf hs, store]
  split
  · exact ⟨rfl, h⟩
  · exact ⟨rfl, rel_assign h k ⟨v, expiry cfg now d⟩⟩

theorem add_tie (cfg : Cfg) (strOf : Int → Option (List UInt8)) (hs : StrOK cfg strOf) (now : Int)
    (g : GItems) (m : Items) (h : Rel g m) (k v d : Int) :
    (Gen.Cache.Cache_add strOf now g cfg.expTime cfg.cleanupInt k v d).1 = (add cfg now m k v d).2 ∧
    Rel (Gen.Cache.Cache_add strOf now g cfg.expTime cfg.cleanupInt k v d).2 (add cfg now m k v d).1 :=
  store_tie cfg strOf hs now g m h k v d

theorem set_tie (cfg : Cfg) (strOf : Int → Option (List UInt8)) (hs : StrOK cfg strOf) (now : Int)
    (g : GItems) (m : Items) (h : Rel g m) (k v d : Int) :
    (Gen.Cache.Cache_Set strOf now g cfg.expTime cfg.cleanupInt k v d).1 = (set cfg now m k v d).2 ∧
    Rel (Gen.Cache.Cache_Set strOf now g cfg.expTime cfg.cleanupInt k v d).2 (set cfg now m k v d).1 := by
  have hst := store_tie cfg strOf hs now g m h k v d
  unfold Gen.Cache.Cache_Set Model.Cache.set
  rw [rel_lookup h k default]
  cases mapHas g k
  · exact hst
  · rw [if_pos rfl, if_pos rfl]
    exact ite_rel (R := fun (a : Bool × GItems) (b : Items × Bool) => a.1 = b.2 ∧ Rel a.2 b.1)
      (by rw [Bool.or_eq_true, decide_eq_true_eq, decide_eq_true_eq]; rfl) (fun _ => ⟨rfl, h⟩) fun _ => hst

/-- `SetDefault` = `Set` with `DefaultExpiration` (the protocol's `.set k v 0`) -/
theorem setDefault_tie (cfg : Cfg) (strOf : Int → Option (List UInt8)) (hs : StrOK cfg strOf) (now : Int)
    (g : GItems) (m : Items) (h : Rel g m) (k v : Int) :
    (Gen.Cache.Cache_SetDefault strOf now g cfg.expTime cfg.cleanupInt k v).1 = (set cfg now m k v 0).2 ∧
    Rel (Gen.Cache.Cache_SetDefault strOf now g cfg.expTime cfg.cleanupInt k v).2 (set cfg now m k v 0).1 :=
  set_tie cfg strOf hs now g m h k v 0

/-- `Get`: the item (read as the model's `Item`) and the error flag; `Get` does not change the state -/
theorem get_tie (now : Int) (g : GItems) (m : Items) (h : Rel g m) (eT cI k : Int) :
    (Gen.Cache.Cache_Get now g eT cI k).1.map conv = get now m k ∧
    (Gen.Cache.Cache_Get now g eT cI k).2 = (get now m k).isNone := by
  unfold Gen.Cache.Cache_Get Model.Cache.get
  rw [rel_lookup h k default]
  cases mapHas g k
  · exact ⟨rfl, rfl⟩
  · rw [if_pos rfl]
    exact ite_rel (R := fun (a : Option GItem × Bool) (b : Option Item) => a.1.map conv = b ∧ a.2 = b.isNone)
      decide_eq_true_iff
      (fun _ => ite_rel (R := fun (a : Option GItem × Bool) (b : Option Item) => a.1.map conv = b ∧ a.2 = b.isNone)
        decide_eq_true_iff (fun _ => ⟨rfl, rfl⟩) fun _ => ⟨rfl, rfl⟩)
      fun _ => ⟨rfl, rfl⟩

theorem update_tie (cfg : Cfg) (strOf : Int → Option (List UInt8)) (hs : StrOK cfg strOf) (now : Int)
    (g : GItems) (m : Items) (h : Rel g m) (k v d : Int) :
    (Gen.Cache.Cache_Update strOf now g cfg.expTime cfg.cleanupInt k v d).1 = (update cfg now m k v d).2 ∧
    Rel (Gen.Cache.Cache_Update strOf now g cfg.expTime cfg.cleanupInt k v d).2 (update cfg now m k v d).1 := by
  have hg := get_tie now g m h cfg.expTime cfg.cleanupInt k
  have ha := add_tie cfg strOf hs now g m h k v d
  rw [update_eq_store]
  unfold Gen.Cache.Cache_Update
  dsimp only
  -- `item != nil && err != nil` is dead: the flag is `isNone` of the item
  have hdead : ((Gen.Cache.Cache_Get now g cfg.expTime cfg.cleanupInt k).1.isSome &&
      (Gen.Cache.Cache_Get now g cfg.expTime cfg.cleanupInt k).2) = false := by
    rw [hg.2, ← hg.1]
    cases (Gen.Cache.Cache_Get now g cfg.expTime cfg.cleanupInt k).1 <;> simp
  simp only [hdead]
  exact ha

theorem delete_tie (g : GItems) (m : Items) (h : Rel g m) (eT cI k : Int) :
    (Gen.Cache.cache_delete g eT cI k).1 = (delete m k).2 ∧
    Rel (Gen.Cache.cache_delete g eT cI k).2 (delete m k).1 := by
  unfold Gen.Cache.cache_delete delete
  rw [rel_lookup h k default]
  cases mapHas g k
  · exact ⟨rfl, h⟩
  · exact ⟨rfl, rel_erase h k⟩

theorem Delete_tie (g : GItems) (m : Items) (h : Rel g m) (eT cI k : Int) :
    (Gen.Cache.Cache_Delete g eT cI k).1 = (delete m k).2 ∧
    Rel (Gen.Cache.Cache_Delete g eT cI k).2 (delete m k).1 :=
  delete_tie g m h eT cI k

/-- the loop of the regenerated `DeleteExpired` and the model's loop, run side by side over the same snapshot, keep
`Rel` (the accumulated flags are not compared: `DeleteExpired` drops them) -/
theorem gDeleteExpiredLoop_spec (clk eT cI now : Int) (es : GItems) :
    ∀ (g : GItems) (m : Items) (err err' : Bool), Rel g m →
      Rel (Gen.Cache.cache_DeleteExpired_loop1 clk eT cI now es g err).1
        (deleteExpiredLoop now (toModel es) m err').1 := by
  induction es with
  | nil => intro g m err err' h; exact h
  | cons p r ih =>
    intro g m err err' h
    obtain ⟨k, it⟩ := p
    rw [Gen.Cache.cache_DeleteExpired_loop1]
    show Rel _ (deleteExpiredLoop now ((k, conv it) :: toModel r) m err').1
    rw [deleteExpiredLoop]
    have hc : (decide (it.expiration > 0) && decide (now > it.expiration)) = true ↔
        (conv it).expiration > 0 ∧ now > (conv it).expiration := by
      rw [Bool.and_eq_true, decide_eq_true_eq, decide_eq_true_eq]; rfl
    by_cases hp : (decide (it.expiration > 0) && decide (now > it.expiration)) = true
    · rw [if_pos hp, if_pos (hc.mp hp)]
      exact ih _ _ _ _ (delete_tie g m h eT cI k).2
    · rw [if_neg hp, if_neg (mt hc.mpr hp)]
      exact ih g m err err' h

/-- `DeleteExpired` (the instant `now` is read once, before the loop) -/
theorem deleteExpired_tie (now : Int) (g : GItems) (m : Items) (h : Rel g m) (eT cI : Int) :
    (Gen.Cache.cache_DeleteExpired now g eT cI).1 = (deleteExpired now m).2 ∧
    Rel (Gen.Cache.cache_DeleteExpired now g eT cI).2 (deleteExpired now m).1 := by
  -- the model's loop over the generated snapshot, then over its own: both keep exactly the entries not expired
  have hn := nodup_of_perm h.perm h.nodup
  have hg : Rel (Gen.Cache.cache_DeleteExpired now g eT cI).2 (deleteExpired now (toModel g)).1 :=
    gDeleteExpiredLoop_spec now eT cI now g g (toModel g) false false ⟨.refl _, hn⟩
  rw [deleteExpired_eq_filter hn] at hg
  rw [deleteExpired_eq_filter h.nodup]
  exact ⟨rfl, hg.perm.trans (h.perm.filter _), keys_filter_nodup _ h.nodup⟩

theorem flush_tie (g : GItems) (eT cI : Int) : Rel (Gen.Cache.Cache_Flush g eT cI) flush := rel_nil

/-- the copy loop of the regenerated `List` and the model's, side by side over the same snapshot, keep `Rel` -/
theorem gListLoop_spec (g : GItems) (eT cI : Int) (es : GItems) :
    ∀ (acc : GItems) (m : Items), Rel acc m →
      Rel (Gen.Cache.Cache_List_loop1 g eT cI es acc) (listLoop (toModel es) m) := by
  induction es with
  | nil => intro acc m h; exact h
  | cons p r ih =>
    intro acc m h
    obtain ⟨k, v⟩ := p
    exact ih _ _ (rel_assign h k v)

/-- `List`: the returned map stands for the same Go map as the model's -/
theorem list_tie (g : GItems) (m : Items) (h : Rel g m) (eT cI : Int) :
    Rel (Gen.Cache.Cache_List g eT cI) (list m) := by
  -- the model's loop over the generated snapshot, then over its own: both copies are the map reversed
  have hg : Rel (Gen.Cache.Cache_List g eT cI) (list (toModel g)) := gListLoop_spec g eT cI g [] [] rel_nil
  rw [list_eq_reverse (nodup_of_perm h.perm h.nodup)] at hg
  rw [list_eq_reverse h.nodup]
  exact ⟨hg.perm.trans (((List.reverse_perm _).trans h.perm).trans (List.reverse_perm m).symm),
    nodup_of_perm (List.reverse_perm m) h.nodup⟩

/-- the observable of `List()` the protocol compares (pairs sorted by key) is the same -/
theorem listObs_tie (g : GItems) (m : Items) (h : Rel g m) (eT cI : Int) :
    sortKV ((toModel (Gen.Cache.Cache_List g eT cI)).map fun p => (p.1, p.2.object)) = listObs m := by
  have hr := list_tie g m h eT cI
  exact sortKV_obs_perm hr.perm hr.nodup

theorem count_tie (g : GItems) (m : Items) (h : Rel g m) (eT cI : Int) :
    Gen.Cache.Cache_Count g eT cI = ((count m : Nat) : Int) := by
  unfold Gen.Cache.Cache_Count count
  have := h.perm.length_eq
  simp only [toModel, List.length_map] at this
  simp [this]

/-- the loop of `MapToCache` over the entries of the argument map in the order `kvs` -/
theorem mapToCacheLoop_tie (cfg : Cfg) (strOf : Int → Option (List UInt8)) (hs : StrOK cfg strOf) (now d : Int)
    (arg : List (Int × Int)) (kvs : List (Int × Int)) :
    ∀ (g : GItems) (m : Items) (err : Bool), Rel g m →
      (Gen.Cache.Cache_MapToCache_loop1 strOf now cfg.expTime cfg.cleanupInt arg d kvs g err).2 =
        (mapToCacheLoop cfg now d kvs m err).2 ∧
      Rel (Gen.Cache.Cache_MapToCache_loop1 strOf now cfg.expTime cfg.cleanupInt arg d kvs g err).1
        (mapToCacheLoop cfg now d kvs m err).1 := by
  induction kvs with
  | nil => intro g m err h; exact ⟨rfl, h⟩
  | cons p r ih =>
    intro g m err h
    obtain ⟨k, v⟩ := p
    have hst := set_tie cfg strOf hs now g m h k v d
    unfold Gen.Cache.Cache_MapToCache_loop1 mapToCacheLoop
    dsimp only
    rw [hst.1]
    exact ih _ _ _ hst.2

/-- `MapToCache`, for every order `kvs` in which the argument map is visited -/
theorem mapToCache_tie (cfg : Cfg) (strOf : Int → Option (List UInt8)) (hs : StrOK cfg strOf) (now : Int)
    (g : GItems) (m : Items) (h : Rel g m) (kvs : List (Int × Int)) (d : Int) :
    (Gen.Cache.Cache_MapToCache strOf now g cfg.expTime cfg.cleanupInt kvs d).1 = (mapToCache cfg now m kvs d).2 ∧
    Rel (Gen.Cache.Cache_MapToCache strOf now g cfg.expTime cfg.cleanupInt kvs d).2 (mapToCache cfg now m kvs d).1 := by
  have := mapToCacheLoop_tie cfg strOf hs now d kvs kvs g m false h
  unfold Gen.Cache.Cache_MapToCache mapToCache
  exact ⟨this.1, this.2⟩

theorem isExpired_tie (now : Int) (g : GItems) (m : Items) (h : Rel g m) (eT cI k : Int) :
    Gen.Cache.Cache_IsExpired now g eT cI k = isExpired now m k := by
  unfold Gen.Cache.Cache_IsExpired isExpired
  rw [rel_lookup h k default]
  cases mapHas g k
  · rfl
  · rw [if_pos rfl]
    exact ite_rel (R := Eq) (by rw [Bool.true_and, decide_eq_true_eq]; rfl) (fun _ => rfl) fun _ => rfl

/-! ## hypotheses are satisfiable; the tie on a concrete state -/

example : (Gen.Cache.Cache_Set (fun _ => none) 5 [(1, ⟨7, 3⟩), (2, ⟨8, 0⟩)] 10 0 1 9 0) =
    (false, [(1, ⟨9, 15⟩), (2, ⟨8, 0⟩)]) := by rfl

example : (Model.Cache.set ⟨10, 0, false⟩ 5 [(2, ⟨8, 0⟩), (1, ⟨7, 3⟩)] 1 9 0) =
    ([(1, ⟨9, 15⟩), (2, ⟨8, 0⟩)], false) := by rfl

end GoguVerif.Theorems.GenTieCache
