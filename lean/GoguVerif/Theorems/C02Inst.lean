import GoguVerif.Theorems.C02
import GoguVerif.Spec.C04
import GoguVerif.Spec.C09
import GoguVerif.Lemmas.C08
import GoguVerif.Theorems.C03
import GoguVerif.Theorems.C05
import GoguVerif.Theorems.C06
/-!
# C02 — fine-grained instances of "Theorem 2" for every container

`Theorems/C02.lean` instantiates the fine-grained system (`Model/Fine.lean`) for ONE container, the
slice queue, with a hand-written method table.  This file provides the instances for all containers, the slice
queue included, generically.

## The generic construction `oneStep`

For any sequential object `step : σ → Op → σ × Ret` and any classification `mode : Op → Mode` of its
operations into read-lock / write-lock methods, `oneStep step mode` is the method table whose body
is ONE micro-step performing `step` (local state `Option Ret`: the answer, once computed).

Justification.  Within a critical section the decomposition of the body into micro-steps is
irrelevant: Theorem 2 (`C02Fine.fine_refines_atomic`) quantifies over ALL bodies, and under mutual
exclusion two bodies with the same atomic effect (`Fine.atomic`) generate the same events with the
same values — the only thing Theorem 2 needs from a body is (a) its atomic effect and (b), for a
read-mode body, that no micro-step writes the shared state.  Hence the sequential model of the whole
method is a legitimate body: `Fine.atomic (oneStep step mode op) s = step s op` holds by `rfl`, and
(b) is exactly `∀ op, mode op = .r → ∀ s, (step s op).1 = s` (`oneStep_readOnly_iff`).

## The instances

Slice stack and slice queue (specifications `Spec.C06.step` / `Spec.C05.step` and the code models
`Model.Stack.step` / `Model.Queue.step`), linked queue and linked stack (code models
`Model.LQueue.step` / `Model.LStack.step`; for the linked stack also `Spec.C06.Patched.step`), BST
(`Spec.C04.step`, `Spec.C04.Patched.step`), trie (`Spec.C09.step`), expiring cache at a fixed instant
(`Spec.C08.step cfg c`, `Model.Cache.call cfg now`), heap (`Model.Heap.step`, totalised).

## The tie to the regenerated lock table

Every instance comes with the list `<container>Modes` of (Go type, method, isWrite) of its
operations, proved to be exactly what its `mode` function says (`*_modes_listed`);
`modes_agree_with_table` checks these lists against `Gen.lockTable` (regenerated from the Go source
on every run): whenever the code changes the lock a method takes, the theorem fails.  Where the code
takes the write lock for a method that is an observer in the model (`LQueue.Search`), the instance
follows the CODE.
-/
namespace GoguVerif.Theorems.C02Inst
open GoguVerif.Model GoguVerif.Model.Lin
open GoguVerif.Model.Lock (Mode MethodEntry PathEntry Sect)
open GoguVerif.Lemmas.RWLock (free_01 no_writer_of_free)

section Generic
variable {σ Op Ret : Type} [Inhabited Ret]

/-- The method table of a sequential object: the body of `op` is ONE micro-step performing
`step · op`; the local state is the answer (`none` before the micro-step has run). -/
def oneStep (step : σ → Op → σ × Ret) (mode : Op → Mode) (op : Op) : Fine.Meth σ (Option Ret) Ret :=
  ⟨mode op, [fun p => ((step p.1 op).1, some (step p.1 op).2)], none, fun o => o.getD default⟩

variable (step : σ → Op → σ × Ret) (mode : Op → Mode)

theorem oneStep_atomic (op : Op) (s : σ) : Fine.atomic (oneStep step mode op) s = step s op := rfl

theorem oneStep_mode (op : Op) : (oneStep step mode op).mode = mode op := rfl

theorem oneStep_obj (init : σ) : Fine.obj (oneStep step mode) init = ⟨init, step⟩ := rfl

/-- The side condition of Theorem 2 for the one-step table is EXACTLY: operations classified as
read-mode leave the state unchanged. -/
theorem oneStep_readOnly_iff :
    Fine.ReadOnly (oneStep step mode) ↔ ∀ op, mode op = .r → ∀ s, (step s op).1 = s := by
  constructor
  · intro ro op hm s
    exact ro op hm _ List.mem_cons_self (s, none)
  · intro h op hm f hf p
    simp only [oneStep, List.mem_singleton] at hf
    subst hf
    exact h op hm p.1

theorem oneStep_readOnly (h : ∀ op, mode op = .r → ∀ s, (step s op).1 = s) :
    Fine.ReadOnly (oneStep step mode) := (oneStep_readOnly_iff step mode).2 h

variable {step mode}

/-- Theorem 1 ∘ Theorem 2 for a `oneStep` table.  Any number of goroutines calling the operations
of a lock-guarded object, each call one critical section under the `r`/`w` lock its `mode` says,
interleaved at micro-step granularity: the operations in lock-acquisition order are a legal
sequential run of `⟨init, step⟩` producing exactly the returned values and the abstract state. -/
theorem oneStep_fine_linearizable (ro : ∀ op, mode op = .r → ∀ s, (step s op).1 = s)
    {init : σ} {h s} (r : Fine.Reach (oneStep step mode) init h s) :
    Legal ⟨init, step⟩ init (linOps h) s.absObj :=
  C02.fine_linearizable (oneStep_readOnly step mode ro) r

/-- The fine-grained history IS a history of the atomic system of `⟨init, step⟩`, so
`ret_after_lin`, `lin_after_inv`, `real_time_order` of Theorem 1 apply to it verbatim. -/
theorem oneStep_history_is_atomic (ro : ∀ op, mode op = .r → ∀ s, (step s op).1 = s)
    {init : σ} {h s} (r : Fine.Reach (oneStep step mode) init h s) :
    Reach ⟨init, step⟩ h (Fine.abs s) :=
  C02.fine_history_is_atomic (oneStep_readOnly step mode ro) r

/-! ### Non-vacuity, generically: two overlapping calls

Thread 0 invokes `a`, thread 1 invokes `b`, thread 1 gets the lock first.  `overlap_serial`: any two
operations (thread 0 waits for the lock until thread 1 has released it).  `overlap_readers`: two
read-mode operations are inside their critical sections AT THE SAME TIME and their micro-steps
interleave. -/

omit [Inhabited Ret] in
theorem canEnter_of_free {lam : Type} (s : Fine.State σ lam Op Ret) (i : Nat) (m : Mode)
    (h : ∀ j, j ≠ i → Fine.holds (s.th j) = none) : Fine.canEnter s i m := by
  cases m with
  | r => exact no_writer_of_free h
  | w => exact h

/-- history (newest first) of the serial overlap -/
def serialHist (step : σ → Op → σ × Ret) (init : σ) (a b : Op) : List (Ev Op Ret) :=
  [.ret 0 0 a (step (step init b).1 a).2, .ret 1 1 b (step init b).2,
   .lin 0 0 a (step (step init b).1 a).2, .lin 1 1 b (step init b).2, .inv 1 1 b, .inv 0 0 a]

theorem overlap_serial (step : σ → Op → σ × Ret) (mode : Op → Mode) (init : σ) (a b : Op) :
    ∃ s, Fine.Reach (oneStep step mode) init (serialHist step init a b) s ∧
      s.shared = (step (step init b).1 a).1 ∧ s.absObj = s.shared := by
  -- inv 0 a ; inv 1 b
  have r0 : Fine.Reach (oneStep step mode) init [] (Fine.initState init) := Fine.Reach.init
  have r1 := Fine.Reach.step r0 (Fine.Step.inv _ 0 a rfl)
  have r2 := Fine.Reach.step r1 (Fine.Step.inv _ 1 b rfl)
  -- thread 1: acquire, micro-step, release
  have r3 := Fine.Reach.step r2 (Fine.Step.acquire _ 1 1 b rfl
    (canEnter_of_free _ _ _ (free_01 Fine.holds (fun _ => rfl) (fun h => absurd rfl h) fun _ => rfl)))
  have r4 := Fine.Reach.silent r3 (Fine.Step.micro _ 1 1 b _ _ _ _ _ rfl)
  have r5 := Fine.Reach.silent r4 (Fine.Step.release _ 1 1 b _ _ _ rfl)
  -- thread 0: acquire, micro-step, release
  have r6 := Fine.Reach.step r5 (Fine.Step.acquire _ 0 0 a rfl
    (canEnter_of_free _ _ _ (free_01 Fine.holds (fun h => absurd rfl h) (fun _ => rfl) fun _ => rfl)))
  have r7 := Fine.Reach.silent r6 (Fine.Step.micro _ 0 0 a _ _ _ _ _ rfl)
  have r8 := Fine.Reach.silent r7 (Fine.Step.release _ 0 0 a _ _ _ rfl)
  -- both return
  have r9 := Fine.Reach.step r8 (Fine.Step.ret _ 1 1 b _ rfl)
  have r10 := Fine.Reach.step r9 (Fine.Step.ret _ 0 0 a _ rfl)
  exact ⟨_, r10, rfl, rfl⟩

/-- Two read-mode operations hold the read lock AT THE SAME TIME (state `m`); the history of `overlap_serial` is
reachable as well (in the proof: from `m`, the two micro-steps interleaving). -/
theorem overlap_readers (step : σ → Op → σ × Ret) (mode : Op → Mode) (init : σ) (a b : Op)
    (ha : mode a = .r) (hb : mode b = .r) :
    ∃ m s, Fine.Reach (oneStep step mode) init (List.drop 2 (serialHist step init a b)) m ∧
      Fine.holds (m.th 0) = some .r ∧ Fine.holds (m.th 1) = some .r ∧
      Fine.Reach (oneStep step mode) init (serialHist step init a b) s := by
  have r0 : Fine.Reach (oneStep step mode) init [] (Fine.initState init) := Fine.Reach.init
  have r1 := Fine.Reach.step r0 (Fine.Step.inv _ 0 a rfl)
  have r2 := Fine.Reach.step r1 (Fine.Step.inv _ 1 b rfl)
  -- thread 1 acquires the read lock
  have r3 := Fine.Reach.step r2 (Fine.Step.acquire _ 1 1 b rfl
    (canEnter_of_free _ _ _ (free_01 Fine.holds (fun _ => rfl) (fun h => absurd rfl h) fun _ => rfl)))
  -- thread 0 acquires the read lock while thread 1 is inside
  have r4 := Fine.Reach.step r3 (Fine.Step.acquire _ 0 0 a rfl (by
    show Fine.canEnter _ 0 (mode a)
    rw [ha]
    intro j hj
    by_cases h1 : j = 1
    · subst h1; simp [Lin.upd, Fine.holds, oneStep, hb]
    · simp [Fine.initState, Lin.upd, hj, h1, Fine.holds]))
  -- the two micro-steps, then the two releases in the other order
  have r5 := Fine.Reach.silent r4 (Fine.Step.micro _ 1 1 b _ _ _ _ _ rfl)
  have r6 := Fine.Reach.silent r5 (Fine.Step.micro _ 0 0 a _ _ _ _ _ rfl)
  have r7 := Fine.Reach.silent r6 (Fine.Step.release _ 0 0 a _ _ _ rfl)
  have r8 := Fine.Reach.silent r7 (Fine.Step.release _ 1 1 b _ _ _ rfl)
  have r9 := Fine.Reach.step r8 (Fine.Step.ret _ 1 1 b _ rfl)
  have r10 := Fine.Reach.step r9 (Fine.Step.ret _ 0 0 a _ rfl)
  exact ⟨_, _, r4, by simp [Lin.upd, Fine.holds, oneStep, ha], by simp [Lin.upd, Fine.holds, oneStep, hb], r10⟩

end Generic

def isWrite : Mode → Bool
  | .w => true
  | .r => false

/-- closes the goals `(step s op).1 = s` of the operations classified `w` (hypothesis absurd) and
of the observers whose step returns the state syntactically -/
local macro "observer" h:ident : tactic =>
  `(tactic| first | rfl | cases $h:ident)

instance instInhabitedOutC05 {α : Type} : Inhabited (Spec.C05.Out α) := ⟨.unit⟩
instance instInhabitedOutC06 {α : Type} : Inhabited (Spec.C06.Out α) := ⟨.unit⟩
instance instInhabitedOutC04 {κ ν : Type} : Inhabited (Spec.C04.Out κ ν) := ⟨.unit⟩
instance instInhabitedOutC09 : Inhabited Spec.C09.Out := ⟨.unit⟩
instance instInhabitedOutC08 : Inhabited Spec.C08.Out := ⟨.unit⟩
/-- the answer of a call that has not answered; never observed, since `oneStep`'s `result` is read only
after the one micro-step has stored the answer -/
instance instInhabitedOutcome {β : Type} : Inhabited (Heap.Outcome β) := ⟨.hang⟩

/-! `stackName` and `stackMode` also serve `stack.LStack` -/
section Stack
variable {α : Type} [Inhabited α] [DecidableEq α]

def stackName : Spec.C06.Op α → String
  | .push _ => "Push" | .pop => "Pop" | .peek => "Peek" | .search _ => "Search" | .size => "Size"

/-- `Push`/`Pop` take the write lock, `Peek`/`Search`/`Size` the read lock -/
def stackMode : Spec.C06.Op α → Mode
  | .push _ => .w | .pop => .w | .peek => .r | .search _ => .r | .size => .r

def stackModes : List (String × String × Bool) := [
  ("stack.Stack", "Push", true), ("stack.Stack", "Pop", true), ("stack.Stack", "Peek", false),
  ("stack.Stack", "Search", false), ("stack.Stack", "Size", false)]

omit [Inhabited α] [DecidableEq α] in
theorem stack_modes_listed (op : Spec.C06.Op α) :
    ("stack.Stack", stackName op, isWrite (stackMode op)) ∈ stackModes := by
  cases op <;> repeat constructor

theorem stack_observers (op : Spec.C06.Op α) (h : stackMode op = .r) (s : List α) :
    (Spec.C06.step s op).1 = s := by
  cases op <;> observer h

/-- Any number of goroutines calling `Push`/`Pop`/`Peek`/`Search`/`Size` of a slice stack, interleaved
at micro-step granularity under the RWMutex rules: a legal LIFO run in lock-acquisition order. -/
theorem stack_fine_linearizable {init : List α} {h s}
    (r : Fine.Reach (oneStep Spec.C06.step stackMode) init h s) :
    Legal ⟨init, Spec.C06.step⟩ init (linOps h) s.absObj :=
  oneStep_fine_linearizable stack_observers r

/-- the same for the code model `Model.Stack.step` of `stack.go` -/
theorem stackModel_observers (op : Spec.C06.Op α) (h : stackMode op = .r) (s : List α) :
    (Model.Stack.step s op).1 = s :=
  C06.stack_step_refines s op ▸ stack_observers op h s

theorem stackModel_fine_linearizable {init : List α} {h s}
    (r : Fine.Reach (oneStep Model.Stack.step stackMode) init h s) :
    Legal ⟨init, Model.Stack.step⟩ init (linOps h) s.absObj :=
  oneStep_fine_linearizable stackModel_observers r

end Stack

/-- for `Int` elements and the empty stack: the object `lifoObj` of `Theorems/C02.lean` -/
theorem stack_fine_linearizable_int {h s}
    (r : Fine.Reach (oneStep Spec.C06.step (stackMode (α := Int))) [] h s) :
    Legal C02.lifoObj [] (linOps h) s.absObj := stack_fine_linearizable r

/-- non-vacuity: `Pop` (thread 0) and `Push 7` (thread 1) overlap, the push gets the lock first,
the pop answers 7 -/
example : ∃ s, Fine.Reach (oneStep Spec.C06.step (stackMode (α := Int))) []
    [.ret 0 0 .pop (.val 7), .ret 1 1 (.push 7) .unit, .lin 0 0 .pop (.val 7),
     .lin 1 1 (.push 7) .unit, .inv 1 1 (.push 7), .inv 0 0 .pop] s ∧ s.shared = [] :=
  (overlap_serial Spec.C06.step stackMode [] .pop (.push 7)).imp fun _ h => ⟨h.1, h.2.1⟩

/-- non-vacuity of the read-only hypothesis: `Peek` and `Size` inside at the same time -/
example : ∃ m s, Fine.Reach (oneStep Spec.C06.step (stackMode (α := Int))) ([3] : List Int)
    [.lin 0 0 .peek (.val 3), .lin 1 1 .size (.int 1), .inv 1 1 .size, .inv 0 0 .peek] m ∧
    Fine.holds (m.th 0) = some .r ∧ Fine.holds (m.th 1) = some .r ∧
    Fine.Reach (oneStep Spec.C06.step (stackMode (α := Int))) [3]
      [.ret 0 0 .peek (.val 3), .ret 1 1 .size (.int 1), .lin 0 0 .peek (.val 3),
       .lin 1 1 .size (.int 1), .inv 1 1 .size, .inv 0 0 .peek] s :=
  overlap_readers (Spec.C06.step (α := Int)) stackMode [3] .peek .size rfl rfl

section Queue
variable {α : Type} [Inhabited α] [DecidableEq α]

def queueName : Spec.C05.Op α → String
  | .enqueue _ => "Enqueue" | .dequeue => "Dequeue" | .peek => "Peek" | .search _ => "Search"
  | .size => "Size" | .clear => "Clear"

/-- `Enqueue`/`Dequeue`/`Clear` take the write lock, `Peek`/`Search`/`Size` the read lock -/
def queueMode : Spec.C05.Op α → Mode
  | .enqueue _ => .w | .dequeue => .w | .peek => .r | .search _ => .r | .size => .r | .clear => .w

def queueModes : List (String × String × Bool) := [
  ("queue.Queue", "Enqueue", true), ("queue.Queue", "Dequeue", true), ("queue.Queue", "Peek", false),
  ("queue.Queue", "Search", false), ("queue.Queue", "Size", false), ("queue.Queue", "Clear", true)]

omit [Inhabited α] [DecidableEq α] in
theorem queue_modes_listed (op : Spec.C05.Op α) :
    ("queue.Queue", queueName op, isWrite (queueMode op)) ∈ queueModes := by
  cases op <;> repeat constructor

theorem queue_observers (op : Spec.C05.Op α) (h : queueMode op = .r) (s : List α) :
    (Spec.C05.step s op).1 = s := by
  cases op <;> observer h

/-- the slice queue through the generic construction (compare `C02.queue_fine_linearizable`, whose
`Dequeue` body is two micro-steps: same sequential object, same conclusion) -/
theorem queue_fine_linearizable {init : List α} {h s}
    (r : Fine.Reach (oneStep Spec.C05.step queueMode) init h s) :
    Legal ⟨init, Spec.C05.step⟩ init (linOps h) s.absObj :=
  oneStep_fine_linearizable queue_observers r

/-- the hand-written table of `Theorems/C02.lean` and the generic one have the same modes and the
same atomic effect — they differ only in how the body is cut into micro-steps -/
theorem queueMeth_same (op : Spec.C05.Op Int) (s : List Int) :
    (C02.queueMeth op).mode = (oneStep Spec.C05.step queueMode op).mode ∧
    Fine.atomic (C02.queueMeth op) s = Fine.atomic (oneStep Spec.C05.step queueMode op) s := by
  refine ⟨by cases op <;> rfl, ?_⟩
  rw [C02.queueMeth_atomic, oneStep_atomic]

theorem queueModel_observers (op : Spec.C05.Op α) (h : queueMode op = .r) (s : List α) :
    (Model.Queue.step s op).1 = s :=
  C05.queue_step_refines s op ▸ queue_observers op h s

/-- the same for the code model `Model.Queue.step` of `queue.go` -/
theorem queueModel_fine_linearizable {init : List α} {h s}
    (r : Fine.Reach (oneStep Model.Queue.step queueMode) init h s) :
    Legal ⟨init, Model.Queue.step⟩ init (linOps h) s.absObj :=
  oneStep_fine_linearizable queueModel_observers r

/-- `queue.LQueue`: as the slice queue, except that `Search` takes the WRITE lock in the code
(`lockTable`: `queue.LQueue.Search` is a `w` section).  In the model `Search` is an observer; the
instance follows the code and classifies it `w` (which costs nothing: `w` has no side condition). -/
def lqueueMode : Spec.C05.Op α → Mode
  | .enqueue _ => .w | .dequeue => .w | .peek => .r | .search _ => .w | .size => .r | .clear => .w

def lqueueModes : List (String × String × Bool) := [
  ("queue.LQueue", "Enqueue", true), ("queue.LQueue", "Dequeue", true), ("queue.LQueue", "Peek", false),
  ("queue.LQueue", "Search", true), ("queue.LQueue", "Size", false), ("queue.LQueue", "Clear", true)]

omit [Inhabited α] [DecidableEq α] in
theorem lqueue_modes_listed (op : Spec.C05.Op α) :
    ("queue.LQueue", queueName op, isWrite (lqueueMode op)) ∈ lqueueModes := by
  cases op <;> repeat constructor

theorem lqueue_observers (op : Spec.C05.Op α) (h : lqueueMode op = .r) (s : LQueue.St α) :
    (LQueue.step s op).1 = s := by
  cases op
  case peek => simp only [LQueue.step]; split <;> rfl
  all_goals observer h

/-- linked queue, against its MODEL `Model.LQueue.step` (state: the `DList` sequence and the counter) -/
theorem lqueue_fine_linearizable {init : LQueue.St α} {h s}
    (r : Fine.Reach (oneStep LQueue.step lqueueMode) init h s) :
    Legal ⟨init, LQueue.step⟩ init (linOps h) s.absObj :=
  oneStep_fine_linearizable lqueue_observers r

end Queue

/-- for `Int` elements and the empty queue: the object `fifoObj` of `Theorems/C02.lean` -/
theorem queue_fine_linearizable_int {h s}
    (r : Fine.Reach (oneStep Spec.C05.step (queueMode (α := Int))) [] h s) :
    Legal C02.fifoObj [] (linOps h) s.absObj := queue_fine_linearizable r

/-- non-vacuity: `Dequeue` (thread 0) overlaps `Enqueue 7` (thread 1), which gets the lock first -/
example : ∃ s, Fine.Reach (oneStep Spec.C05.step (queueMode (α := Int))) []
    [.ret 0 0 .dequeue (.deq 7 false), .ret 1 1 (.enqueue 7) .unit, .lin 0 0 .dequeue (.deq 7 false),
     .lin 1 1 (.enqueue 7) .unit, .inv 1 1 (.enqueue 7), .inv 0 0 .dequeue] s ∧ s.shared = [] :=
  (overlap_serial Spec.C05.step queueMode [] .dequeue (.enqueue 7)).imp fun _ h => ⟨h.1, h.2.1⟩

/-- two readers of the slice queue inside at the same time -/
example : ∃ m s, Fine.Reach (oneStep Spec.C05.step (queueMode (α := Int))) [3]
    [.lin 0 0 (.search 3) (.bool true), .lin 1 1 .size (.int 1), .inv 1 1 .size, .inv 0 0 (.search 3)] m ∧
    Fine.holds (m.th 0) = some .r ∧ Fine.holds (m.th 1) = some .r ∧
    Fine.Reach (oneStep Spec.C05.step (queueMode (α := Int))) [3]
      [.ret 0 0 (.search 3) (.bool true), .ret 1 1 .size (.int 1), .lin 0 0 (.search 3) (.bool true),
       .lin 1 1 .size (.int 1), .inv 1 1 .size, .inv 0 0 (.search 3)] s :=
  overlap_readers (Spec.C05.step (α := Int)) queueMode [3] (.search 3) .size rfl rfl

/-- linked queue created by `NewLinked(1)`: `Dequeue` overlaps `Enqueue 7`; the dequeue (second in
lock order) answers the initial element -/
example : ∃ s, Fine.Reach (oneStep LQueue.step (lqueueMode (α := Int))) (LQueue.new 1)
    [.ret 0 0 .dequeue (.val 1), .ret 1 1 (.enqueue 7) .unit, .lin 0 0 .dequeue (.val 1),
     .lin 1 1 (.enqueue 7) .unit, .inv 1 1 (.enqueue 7), .inv 0 0 .dequeue] s ∧ s.shared = ⟨[7], 1⟩ :=
  (overlap_serial LQueue.step lqueueMode (LQueue.new 1) .dequeue (.enqueue 7)).imp fun _ h => ⟨h.1, h.2.1⟩

/-- `Peek` and `Size` of the linked queue inside at the same time -/
example : ∃ m s, Fine.Reach (oneStep LQueue.step (lqueueMode (α := Int))) (LQueue.new 1)
    [.lin 0 0 .peek (.val 1), .lin 1 1 .size (.int 1), .inv 1 1 .size, .inv 0 0 .peek] m ∧
    Fine.holds (m.th 0) = some .r ∧ Fine.holds (m.th 1) = some .r ∧
    Fine.Reach (oneStep LQueue.step (lqueueMode (α := Int))) (LQueue.new 1)
      [.ret 0 0 .peek (.val 1), .ret 1 1 .size (.int 1), .lin 0 0 .peek (.val 1),
       .lin 1 1 .size (.int 1), .inv 1 1 .size, .inv 0 0 .peek] s :=
  overlap_readers (LQueue.step (α := Int)) lqueueMode (LQueue.new 1) .peek .size rfl rfl

section LStack
variable {α : Type} [Inhabited α] [DecidableEq α]

def lstackModes : List (String × String × Bool) := [
  ("stack.LStack", "Push", true), ("stack.LStack", "Pop", true), ("stack.LStack", "Peek", false),
  ("stack.LStack", "Search", false), ("stack.LStack", "Size", false)]

omit [Inhabited α] [DecidableEq α] in
theorem lstack_modes_listed (op : Spec.C06.Op α) :
    ("stack.LStack", stackName op, isWrite (stackMode op)) ∈ lstackModes := by
  cases op <;> repeat constructor

/-- the model works on the sequence held by the `DList`; no observer rewrites a pointer -/
theorem lstack_observers (op : Spec.C06.Op α) (h : stackMode op = .r) (s : LStack.St α) :
    (LStack.step s op).1 = s := by
  cases op <;> observer h

/-- linked stack, against its MODEL `Model.LStack.step`: the code deviates from the LIFO
specification by the known findings F12a/F12b, which are sequential deviations — concurrency adds
nothing to them: every concurrent history is a sequential run of the model. -/
theorem lstack_fine_linearizable {init : LStack.St α} {h s}
    (r : Fine.Reach (oneStep LStack.step stackMode) init h s) :
    Legal ⟨init, LStack.step⟩ init (linOps h) s.absObj :=
  oneStep_fine_linearizable lstack_observers r

theorem lstackPatched_observers (op : Spec.C06.Op α) (h : stackMode op = .r) (s : Spec.C06.Patched.St α) :
    (Spec.C06.Patched.step s op).1 = s := by
  cases op <;> observer h

/-- linked stack against the patched specification `S_patched` (LIFO with F12a/F12b allowed) -/
theorem lstackPatched_fine_linearizable {init : Spec.C06.Patched.St α} {h s}
    (r : Fine.Reach (oneStep Spec.C06.Patched.step stackMode) init h s) :
    Legal ⟨init, Spec.C06.Patched.step⟩ init (linOps h) s.absObj :=
  oneStep_fine_linearizable lstackPatched_observers r

end LStack

/-- linked stack created by `NewLinked(1)`: `Pop` overlaps `Push 7`, the push gets the lock first; the
pop then answers the element BENEATH the top (finding F12a), exactly as in a sequential run -/
example : ∃ s, Fine.Reach (oneStep LStack.step (stackMode (α := Int))) (LStack.new 1)
    [.ret 0 0 .pop (.val 1), .ret 1 1 (.push 7) .unit, .lin 0 0 .pop (.val 1),
     .lin 1 1 (.push 7) .unit, .inv 1 1 (.push 7), .inv 0 0 .pop] s ∧ s.shared = ⟨[1], 1⟩ :=
  (overlap_serial LStack.step stackMode (LStack.new 1) .pop (.push 7)).imp fun _ h => ⟨h.1, h.2.1⟩

example : ∃ m s, Fine.Reach (oneStep LStack.step (stackMode (α := Int))) (LStack.new 1)
    [.lin 0 0 .peek (.val 1), .lin 1 1 (.search 2) (.bool false), .inv 1 1 (.search 2), .inv 0 0 .peek] m ∧
    Fine.holds (m.th 0) = some .r ∧ Fine.holds (m.th 1) = some .r ∧
    Fine.Reach (oneStep LStack.step (stackMode (α := Int))) (LStack.new 1)
      [.ret 0 0 .peek (.val 1), .ret 1 1 (.search 2) (.bool false), .lin 0 0 .peek (.val 1),
       .lin 1 1 (.search 2) (.bool false), .inv 1 1 (.search 2), .inv 0 0 .peek] s :=
  overlap_readers (LStack.step (α := Int)) stackMode (LStack.new 1) .peek (.search 2) rfl rfl

section Bst
variable {κ ν : Type}

/-- the single-element operations (`Traverse` hands every item to a callback and is not one of them) -/
inductive BstOp (κ ν : Type) where
  | upsert (k : κ) (v : ν)
  | get (k : κ)
  | delete (k : κ)
  | size

def BstOp.toOp : BstOp κ ν → Spec.C04.Op κ ν
  | .upsert k v => .upsert k v | .get k => .get k | .delete k => .delete k | .size => .size

def bstName : BstOp κ ν → String
  | .upsert _ _ => "Upsert" | .get _ => "Get" | .delete _ => "Delete" | .size => "Size"

def bstMode : BstOp κ ν → Mode
  | .upsert _ _ => .w | .get _ => .r | .delete _ => .w | .size => .r

def bstModes : List (String × String × Bool) := [
  ("bstree.BsTree", "Upsert", true), ("bstree.BsTree", "Get", false),
  ("bstree.BsTree", "Delete", true), ("bstree.BsTree", "Size", false)]

theorem bst_modes_listed (op : BstOp κ ν) :
    ("bstree.BsTree", bstName op, isWrite (bstMode op)) ∈ bstModes := by
  cases op <;> repeat constructor

/-- the ordered-map specification restricted to the single-element operations -/
def bstStep (comp : κ → κ → Bool) (m : List (κ × ν)) (o : BstOp κ ν) : List (κ × ν) × Spec.C04.Out κ ν :=
  Spec.C04.step comp m o.toOp

theorem bst_observers (comp : κ → κ → Bool) (op : BstOp κ ν) (h : bstMode op = .r) (m : List (κ × ν)) :
    (bstStep comp m op).1 = m := by
  cases op <;> observer h

/-- BST against the ordered-map specification `Spec.C04.step comp` (any comparator) -/
theorem bst_fine_linearizable (comp : κ → κ → Bool) {init : List (κ × ν)} {h s}
    (r : Fine.Reach (oneStep (bstStep comp) bstMode) init h s) :
    Legal ⟨init, bstStep comp⟩ init (linOps h) s.absObj :=
  oneStep_fine_linearizable (bst_observers comp) r

/-- the patched specification restricted to the single-element operations (finding F10: `Delete` of an absent key decrements the
size counter), which is what the code implements -/
def bstPatchedStep (comp : κ → κ → Bool) (p : Spec.C04.Patched.St κ ν) (o : BstOp κ ν) :
    Spec.C04.Patched.St κ ν × Spec.C04.Out κ ν :=
  Spec.C04.Patched.step comp p o.toOp

theorem bstPatched_observers (comp : κ → κ → Bool) (op : BstOp κ ν) (h : bstMode op = .r)
    (p : Spec.C04.Patched.St κ ν) : (bstPatchedStep comp p op).1 = p := by
  cases op <;> observer h

theorem bstPatched_fine_linearizable (comp : κ → κ → Bool) {init : Spec.C04.Patched.St κ ν} {h s}
    (r : Fine.Reach (oneStep (bstPatchedStep comp) bstMode) init h s) :
    Legal ⟨init, bstPatchedStep comp⟩ init (linOps h) s.absObj :=
  oneStep_fine_linearizable (bstPatched_observers comp) r

end Bst

/-- `Get 5` (thread 0) overlaps `Upsert 5 ↦ 50` (thread 1), which gets the lock first: found -/
example : ∃ s, Fine.Reach (oneStep (bstStep (fun a b : Int => decide (a < b))) (bstMode (ν := Int))) []
    [.ret 0 0 (.get 5) (.got (some 50)), .ret 1 1 (.upsert 5 50) .unit, .lin 0 0 (.get 5) (.got (some 50)),
     .lin 1 1 (.upsert 5 50) .unit, .inv 1 1 (.upsert 5 50), .inv 0 0 (.get 5)] s ∧ s.shared = [(5, 50)] :=
  (overlap_serial (bstStep (fun a b : Int => decide (a < b))) bstMode [] (.get 5) (.upsert 5 50)).imp
    fun _ h => ⟨h.1, h.2.1⟩

/-- `Get` and `Size` inside at the same time -/
example : ∃ m s, Fine.Reach (oneStep (bstStep (fun a b : Int => decide (a < b))) (bstMode (ν := Int))) [(5, 50)]
    [.lin 0 0 (.get 5) (.got (some 50)), .lin 1 1 .size (.int 1), .inv 1 1 .size, .inv 0 0 (.get 5)] m ∧
    Fine.holds (m.th 0) = some .r ∧ Fine.holds (m.th 1) = some .r ∧
    Fine.Reach (oneStep (bstStep (fun a b : Int => decide (a < b))) (bstMode (ν := Int))) [(5, 50)]
      [.ret 0 0 (.get 5) (.got (some 50)), .ret 1 1 .size (.int 1), .lin 0 0 (.get 5) (.got (some 50)),
       .lin 1 1 .size (.int 1), .inv 1 1 .size, .inv 0 0 (.get 5)] s :=
  overlap_readers (bstStep (fun a b : Int => decide (a < b))) bstMode [(5, 50)] (.get 5) .size rfl rfl

/-- the single-element operations (`Keys`, `StartsWith`, `LongestPrefix` are not among them; `Keys` and
`StartsWith` moreover fill the instance's result queue under the WRITE lock) -/
inductive TrieOp where
  | put (k : Spec.C09.Key) (v : Int)
  | get (k : Spec.C09.Key)
  | contains (k : Spec.C09.Key)
  | size

def TrieOp.toOp : TrieOp → Spec.C09.Op
  | .put k v => .put k v | .get k => .get k | .contains k => .contains k | .size => .size

def trieName : TrieOp → String
  | .put _ _ => "Put" | .get _ => "Get" | .contains _ => "Contains" | .size => "Size"

def trieMode : TrieOp → Mode
  | .put _ _ => .w | .get _ => .r | .contains _ => .r | .size => .r

def trieModes : List (String × String × Bool) := [
  ("trie.Trie", "Put", true), ("trie.Trie", "Get", false),
  ("trie.Trie", "Contains", false), ("trie.Trie", "Size", false)]

theorem trie_modes_listed (op : TrieOp) : ("trie.Trie", trieName op, isWrite (trieMode op)) ∈ trieModes := by
  cases op <;> repeat constructor

def trieStep (m : List (Spec.C09.Key × Int)) (o : TrieOp) : List (Spec.C09.Key × Int) × Spec.C09.Out :=
  Spec.C09.step m o.toOp

theorem trie_observers (op : TrieOp) (h : trieMode op = .r) (m : List (Spec.C09.Key × Int)) :
    (trieStep m op).1 = m := by
  cases op <;> observer h

/-- trie against the string-keyed map specification `Spec.C09.step` -/
theorem trie_fine_linearizable {init : List (Spec.C09.Key × Int)} {h s}
    (r : Fine.Reach (oneStep trieStep trieMode) init h s) :
    Legal ⟨init, trieStep⟩ init (linOps h) s.absObj :=
  oneStep_fine_linearizable trie_observers r

/-- `Contains "a"` (thread 0) overlaps `Put "a" ↦ 1` (thread 1), which gets the lock first -/
example : ∃ s, Fine.Reach (oneStep trieStep trieMode) []
    [.ret 0 0 (.contains [97]) (.bool true), .ret 1 1 (.put [97] 1) .unit, .lin 0 0 (.contains [97]) (.bool true),
     .lin 1 1 (.put [97] 1) .unit, .inv 1 1 (.put [97] 1), .inv 0 0 (.contains [97])] s ∧ s.shared = [([97], 1)] :=
  (overlap_serial trieStep trieMode [] (.contains [97]) (.put [97] 1)).imp fun _ h => ⟨h.1, h.2.1⟩

/-- `Get` and `Size` inside at the same time -/
example : ∃ m s, Fine.Reach (oneStep trieStep trieMode) [([97], 1)]
    [.lin 0 0 (.get [97]) (.got (some 1)), .lin 1 1 .size (.int 1), .inv 1 1 .size, .inv 0 0 (.get [97])] m ∧
    Fine.holds (m.th 0) = some .r ∧ Fine.holds (m.th 1) = some .r ∧
    Fine.Reach (oneStep trieStep trieMode) [([97], 1)]
      [.ret 0 0 (.get [97]) (.got (some 1)), .ret 1 1 .size (.int 1), .lin 0 0 (.get [97]) (.got (some 1)),
       .lin 1 1 .size (.int 1), .inv 1 1 .size, .inv 0 0 (.get [97])] s :=
  overlap_readers trieStep trieMode [([97], 1)] (.get [97]) .size rfl rfl

/-- the single-element operations; time does not pass (no `sleep`), so `now` is a parameter of the run
(`cache_now_fixed`) -/
inductive CacheOp where
  | set (k v d : Int)
  | get (k : Int)
  | update (k v d : Int)
  | delete (k : Int)
  | count

def CacheOp.toOp : CacheOp → Spec.C08.Op
  | .set k v d => .set k v d | .get k => .get k | .update k v d => .update k v d
  | .delete k => .delete k | .count => .count

def cacheName : CacheOp → String
  | .set _ _ _ => "Set" | .get _ => "Get" | .update _ _ _ => "Update" | .delete _ => "Delete" | .count => "Count"

/-- `Update` is one of the two-section methods of `C02.lastSectionOps`: its first (read-mode) section is
a look-up that cannot make the call return; effect and answer are those of the LAST section, a `w` one -/
def cacheMode : CacheOp → Mode
  | .set _ _ _ => .w | .get _ => .r | .update _ _ _ => .w | .delete _ => .w | .count => .r

def cacheModes : List (String × String × Bool) := [
  ("cache.Cache", "Set", true), ("cache.Cache", "Get", false), ("cache.Cache", "Update", true),
  ("cache.Cache", "Delete", true), ("cache.Cache", "Count", false)]

theorem cache_modes_listed (op : CacheOp) : ("cache.Cache", cacheName op, isWrite (cacheMode op)) ∈ cacheModes := by
  cases op <;> repeat constructor

/-- the specification at configuration `cfg`, with choice `c` for the instant `now = deadline` -/
def cacheStep (cfg : Spec.C08.Cfg) (c : Bool) (s : Spec.C08.St) (o : CacheOp) : Spec.C08.St × Spec.C08.Out :=
  Spec.C08.step cfg c s o.toOp

theorem cache_observers (cfg : Spec.C08.Cfg) (c : Bool) (op : CacheOp) (h : cacheMode op = .r) (s : Spec.C08.St) :
    (cacheStep cfg c s op).1 = s := by
  cases op
  case get k => simp only [cacheStep, CacheOp.toOp, Spec.C08.step]; split <;> rfl
  all_goals observer h

/-- `Set` refuses and changes nothing, or stores: whatever the two tests of `setOne` answer -/
theorem setOne_cases (cfg : Spec.C08.Cfg) (c : Bool) (s : Spec.C08.St) (k v d : Int) :
    Spec.C08.setOne cfg c s k v d = (s, true) ∨
      Spec.C08.setOne cfg c s k v d = ({ s with es := Spec.C08.store k v (Spec.C08.expOf cfg s.now d) s.es }, false) :=
  have key (blocked refused : Bool) (s' : Spec.C08.St) :
      (if blocked then (s, true) else if refused then (s, true) else (s', false)) = (s, true) ∨
        (if blocked then (s, true) else if refused then (s, true) else (s', false)) = (s', false) := by
    cases blocked
    · cases refused
      · exact .inr rfl
      · exact .inl rfl
    · exact .inl rfl
  key _ _ _

/-- The step changes only the entries, and in one of three ways.  `cache_now_fixed` uses the first half;
`C01NoPanic.cacheStep_inv` the three cases (each keeps the keys distinct). -/
theorem cacheStep_fst (cfg : Spec.C08.Cfg) (c : Bool) (op : CacheOp) (s : Spec.C08.St) :
    ∃ es, (cacheStep cfg c s op).1 = { s with es := es } ∧
      (es = s.es ∨ (∃ k v x, es = Spec.C08.store k v x s.es) ∨ ∃ p, es = s.es.filter p) := by
  cases op with
  | set k v d =>
    show ∃ es, (Spec.C08.setOne cfg c s k v d).1 = _ ∧ _
    rcases setOne_cases cfg c s k v d with e | e <;> rw [e]
    · exact ⟨_, rfl, .inl rfl⟩
    · exact ⟨_, rfl, .inr (.inl ⟨_, _, _, rfl⟩)⟩
  | get k => exact ⟨_, cache_observers cfg c (.get k) rfl s, .inl rfl⟩
  | update k v d =>
    simp only [cacheStep, CacheOp.toOp, Spec.C08.step]
    split
    · exact ⟨_, rfl, .inr (.inl ⟨_, _, _, rfl⟩)⟩
    · exact ⟨_, rfl, .inl rfl⟩
  | delete k =>
    simp only [cacheStep, CacheOp.toOp, Spec.C08.step]
    split
    · exact ⟨_, rfl, .inr (.inr ⟨_, rfl⟩)⟩
    · exact ⟨_, rfl, .inl rfl⟩
  | count => exact ⟨_, rfl, .inl rfl⟩

/-- none of these operations moves the clock: the whole run happens at the instant `init.now` -/
theorem cache_now_fixed (cfg : Spec.C08.Cfg) (c : Bool) (op : CacheOp) (s : Spec.C08.St) :
    (cacheStep cfg c s op).1.now = s.now := by
  obtain ⟨_, e, _⟩ := cacheStep_fst cfg c op s
  rw [e]

/-- expiring cache against `Spec.C08.step cfg c`, any configuration, either choice for the boundary
instant, any initial content and instant -/
theorem cache_fine_linearizable (cfg : Spec.C08.Cfg) (c : Bool) {init : Spec.C08.St} {h s}
    (r : Fine.Reach (oneStep (cacheStep cfg c) cacheMode) init h s) :
    Legal ⟨init, cacheStep cfg c⟩ init (linOps h) s.absObj :=
  oneStep_fine_linearizable (cache_observers cfg c) r

/-- the code model `Model.Cache.call cfg now` (the map `c.items` as an association list) -/
def cacheCall (cfg : Cache.Cfg) (now : Int) (m : Cache.Items) (o : CacheOp) : Cache.Items × Spec.C08.Out :=
  Cache.call cfg now m o.toOp

theorem cacheModel_observers (cfg : Cache.Cfg) (now : Int) (op : CacheOp) (h : cacheMode op = .r)
    (m : Cache.Items) : (cacheCall cfg now m op).1 = m := by
  cases op
  case get k => exact congrArg Prod.fst (Lemmas.C08.call_get cfg now m k)
  all_goals observer h

theorem cacheModel_fine_linearizable (cfg : Cache.Cfg) (now : Int) {init : Cache.Items} {h s}
    (r : Fine.Reach (oneStep (cacheCall cfg now) cacheMode) init h s) :
    Legal ⟨init, cacheCall cfg now⟩ init (linOps h) s.absObj :=
  oneStep_fine_linearizable (cacheModel_observers cfg now) r

/-- two `Set`s of the same key race (no expiry): the one that gets the lock first succeeds, the other
is refused — in every interleaving exactly the sequential outcome -/
example : ∃ s, Fine.Reach (oneStep (cacheStep ⟨0, 0, false⟩ true) cacheMode) {}
    [.ret 0 0 (.set 1 10 0) (.err true), .ret 1 1 (.set 1 11 0) (.err false),
     .lin 0 0 (.set 1 10 0) (.err true), .lin 1 1 (.set 1 11 0) (.err false),
     .inv 1 1 (.set 1 11 0), .inv 0 0 (.set 1 10 0)] s ∧ s.shared = { now := 0, es := [⟨1, 11, 0⟩] } :=
  (overlap_serial (cacheStep ⟨0, 0, false⟩ true) cacheMode {} (.set 1 10 0) (.set 1 11 0)).imp
    fun _ h => ⟨h.1, h.2.1⟩

/-- `Get` and `Count` inside at the same time -/
example : ∃ m s, Fine.Reach (oneStep (cacheStep ⟨0, 0, false⟩ true) cacheMode) { now := 0, es := [⟨1, 11, 0⟩] }
    [.lin 0 0 (.get 1) (.got (some 11)), .lin 1 1 .count (.int 1), .inv 1 1 .count, .inv 0 0 (.get 1)] m ∧
    Fine.holds (m.th 0) = some .r ∧ Fine.holds (m.th 1) = some .r ∧
    Fine.Reach (oneStep (cacheStep ⟨0, 0, false⟩ true) cacheMode) { now := 0, es := [⟨1, 11, 0⟩] }
      [.ret 0 0 (.get 1) (.got (some 11)), .ret 1 1 .count (.int 1), .lin 0 0 (.get 1) (.got (some 11)),
       .lin 1 1 .count (.int 1), .inv 1 1 .count, .inv 0 0 (.get 1)] s :=
  overlap_readers (cacheStep ⟨0, 0, false⟩ true) cacheMode { now := 0, es := [⟨1, 11, 0⟩] } (.get 1) .count rfl rfl

/-! ### Heap `heap.Heap`: `Push` (one value)/`Pop`/`Peek`/`Size`/`Clear`

The heap specification `Spec.C03.SpecStep` is relational (ties between extremal elements are left
open), so the sequential object is the array MODEL `Model.Heap.step`.  The model answers an
`Outcome` (`ok`, or Go's index `panic`, or `hang` for the `moveUp` loop under a comparator with
`comp x x`); `heapStep` makes it total by reporting `panic`/`hang` as the call's answer with the state
as it was at the lock acquisition.  From a state satisfying the representation invariant neither
occurs (`heapStep_refines`, from `C03.step_refines`), so for real heaps the totalisation is moot:
`heap_fine_linearizable_spec`. -/
section HeapInst
variable {α : Type} [Inhabited α] [DecidableEq α]

inductive HeapOp (α : Type) where
  | push (v : α)
  | pop
  | peek
  | size
  | clear

def HeapOp.toOp : HeapOp α → Spec.C03.Op α
  | .push v => .push v | .pop => .pop | .peek => .peek | .size => .size | .clear => .clear

def heapName : HeapOp α → String
  | .push _ => "Push" | .pop => "Pop" | .peek => "Peek" | .size => "Size" | .clear => "Clear"

/-- `Clear` is one of the two-section methods of `C02.lastSectionOps`: an emptiness pre-check under the
read lock, then an unconditional truncation under the write lock -/
def heapMode : HeapOp α → Mode
  | .push _ => .w | .pop => .w | .peek => .r | .size => .r | .clear => .w

def heapModes : List (String × String × Bool) := [
  ("heap.Heap", "Push", true), ("heap.Heap", "Pop", true), ("heap.Heap", "Peek", false),
  ("heap.Heap", "Size", false), ("heap.Heap", "Clear", true)]

omit [Inhabited α] [DecidableEq α] in
theorem heap_modes_listed (op : HeapOp α) : ("heap.Heap", heapName op, isWrite (heapMode op)) ∈ heapModes := by
  cases op <;> repeat constructor

/-- the array model, total: a panicking / hanging call answers `.panic` / `.hang` and leaves the state -/
def heapStep (h : Heap.Heap α) (o : HeapOp α) : Heap.Heap α × Heap.Outcome (Spec.C03.Out α) :=
  match Heap.step h o.toOp with
  | .ok (h', out) => (h', .ok out)
  | .panic => (h, .panic)
  | .hang => (h, .hang)

theorem heapStep_ok {h : Heap.Heap α} {o : HeapOp α} {h' out} (e : Heap.step h o.toOp = .ok (h', out)) :
    heapStep h o = (h', .ok out) := by
  simp only [heapStep, e]

theorem heap_observers (op : HeapOp α) (hm : heapMode op = .r) (h : Heap.Heap α) :
    (heapStep h op).1 = h := by
  cases op
  case peek =>
    simp only [heapStep, HeapOp.toOp, Heap.step]
    cases Heap.peek h <;> rfl
  all_goals observer hm

/-- on the path of `Clear` that consists of the read-mode pre-check alone (the heap is empty) the
method has no effect -/
theorem heapStep_clear_empty (h : Heap.Heap α) (e : h.data.size = 0) : (heapStep h .clear).1 = h := by
  simp [heapStep, HeapOp.toOp, Heap.step, Heap.clear, e]

/-- heap against its MODEL `Model.Heap.step` (totalised), any initial state -/
theorem heap_fine_linearizable {init : Heap.Heap α} {h s}
    (r : Fine.Reach (oneStep heapStep heapMode) init h s) :
    Legal ⟨init, heapStep⟩ init (linOps h) s.absObj :=
  oneStep_fine_linearizable heap_observers r

/-- from a state with the representation invariant (comparator a strict weak order, `data` in heap
order) an operation neither panics nor hangs, keeps the invariant, and its answer and successor are
allowed by the relational specification -/
theorem heapStep_refines (h : Heap.Heap α) (o : HeapOp α) (hi : Lemmas.C03.Inv h) :
    ∃ h' out, heapStep h o = (h', .ok out) ∧ Lemmas.C03.Inv h' ∧
      Spec.C03.SpecStep (C03.abs h) o.toOp out (C03.abs h') := by
  obtain ⟨h', out, e, i, sp⟩ := C03.step_refines h o.toOp hi (by cases o <;> trivial) (by cases o <;> trivial)
  exact ⟨h', out, heapStep_ok e, i, sp⟩

theorem heapStep_inv (h : Heap.Heap α) (o : HeapOp α) (hi : Lemmas.C03.Inv h) :
    Lemmas.C03.Inv (heapStep h o).1 ∧ ∃ out, (heapStep h o).2 = .ok out := by
  obtain ⟨h', out, e, i, _⟩ := heapStep_refines h o hi
  rw [e]; exact ⟨i, out, rfl⟩

/-- a legal sequential run of the totalised model from an invariant state is a run of the relational
heap specification: all answers are `ok`, each allowed by `SpecStep` -/
theorem heap_legal_spec {O0 : Heap.Heap α} {s ops s'} (l : Legal ⟨O0, heapStep⟩ s ops s')
    (hi : Lemmas.C03.Inv s) :
    Lemmas.C03.Inv s' ∧ ∃ outs, ops.map (·.2) = outs.map Heap.Outcome.ok ∧
      Spec.C03.SpecRun (C03.abs s) (ops.map (·.1.toOp)) outs (C03.abs s') := by
  induction l with
  | nil s => exact ⟨hi, [], rfl, .nil _⟩
  | @cons s op rest s' _ ih =>
    obtain ⟨h', out, e, _, sp⟩ := heapStep_refines s op hi
    have e1 : (heapStep s op).1 = h' := by rw [e]
    have e2 : (heapStep s op).2 = .ok out := by rw [e]
    obtain ⟨i', outs, eo, run⟩ := ih (heapStep_inv s op hi).1
    refine ⟨i', out :: outs, ?_, ?_⟩
    · show (heapStep s op).2 :: _ = _
      rw [e2, List.map_cons, eo]
    · refine .cons sp ?_
      have run' : Spec.C03.SpecRun (C03.abs (heapStep s op).1) (rest.map (·.1.toOp)) outs (C03.abs s') := run
      rw [e1] at run'
      exact run'

/-- C02 ∘ C03 for the heap.  Any number of goroutines calling `Push`/`Pop`/`Peek`/`Size`/`Clear`
on a heap that starts in an invariant state (e.g. `NewHeap(comp)` with a strict weak order): no call
panics or hangs, and the calls in lock-acquisition order, with the values they returned, are a run
allowed by the heap specification (comparator order and conservation). -/
theorem heap_fine_linearizable_spec {init : Heap.Heap α} (hi : Lemmas.C03.Inv init) {h s}
    (r : Fine.Reach (oneStep heapStep heapMode) init h s) :
    Lemmas.C03.Inv s.absObj ∧ ∃ outs, (linOps h).map (·.2) = outs.map Heap.Outcome.ok ∧
      Spec.C03.SpecRun (C03.abs init) ((linOps h).map (·.1.toOp)) outs (C03.abs s.absObj) :=
  heap_legal_spec (heap_fine_linearizable r) hi

end HeapInst

/-- min-heap on `Int` (`NewHeap(<)`): `Pop` (thread 0) overlaps `Push 7` (thread 1), which gets the lock
first; the model's `moveUp`/`moveDown` are evaluated -/
example : ∃ s, Fine.Reach (oneStep heapStep (heapMode (α := Int))) (Heap.new C03.ltI)
    [.ret 0 0 .pop (.ok (.val 7)), .ret 1 1 (.push 7) (.ok .unit), .lin 0 0 .pop (.ok (.val 7)),
     .lin 1 1 (.push 7) (.ok .unit), .inv 1 1 (.push 7), .inv 0 0 .pop] s ∧ s.shared.data = #[] :=
  (overlap_serial heapStep heapMode (Heap.new C03.ltI) .pop (.push 7)).imp
    fun _ h => ⟨h.1, by rw [h.2.1]; rfl⟩

/-- `Peek` and `Size` inside at the same time -/
example : ∃ m s, Fine.Reach (oneStep heapStep (heapMode (α := Int))) ⟨C03.ltI, #[3, 5]⟩
      [.lin 0 0 .peek (.ok (.val 3)), .lin 1 1 .size (.ok (.int 2)), .inv 1 1 .size, .inv 0 0 .peek] m ∧
    Fine.holds (m.th 0) = some .r ∧ Fine.holds (m.th 1) = some .r ∧
    Fine.Reach (oneStep heapStep (heapMode (α := Int))) ⟨C03.ltI, #[3, 5]⟩
      [.ret 0 0 .peek (.ok (.val 3)), .ret 1 1 .size (.ok (.int 2)), .lin 0 0 .peek (.ok (.val 3)),
       .lin 1 1 .size (.ok (.int 2)), .inv 1 1 .size, .inv 0 0 .peek] s :=
  overlap_readers (heapStep (α := Int)) heapMode ⟨C03.ltI, #[3, 5]⟩ .peek .size rfl rfl

/-- the hypothesis of `heap_fine_linearizable_spec` is met by `NewHeap(<)` -/
example : Lemmas.C03.Inv (Heap.new C03.ltI) := C03.inv_init C03.swo_lt

def allModes : List (String × String × Bool) :=
  stackModes ++ lstackModes ++ queueModes ++ lqueueModes ++ bstModes ++ trieModes ++ cacheModes ++ heapModes

def modeOf (isW : Bool) : Mode := if isW then .w else .r

theorem modeOf_isWrite (m : Mode) : modeOf (isWrite m) = m := by cases m <;> rfl

def sectAgrees (isW : Bool) (s : Sect) : Bool := s.mode == none || s.mode == some (modeOf isW)

def readOnlyPath (p : PathEntry) : Bool := p.sects.all (fun s => s.accs.all (fun a => !a.write))

def lastLocked (p : PathEntry) : Option Sect := (p.sects.filter (fun s => s.mode.isSome)).getLast?

/-- One path of method `(ty, me)` agrees with the listed mode:
* ordinary methods: ALL locked sections of the path are in the listed mode;
* the two-section methods of `C02.lastSectionOps` (`Heap.Clear`, `Cache.Update`), treated as in
  `C02.lin_table_ok`: all sections but the last are read-only (`C02.onlyLastWrites`), and the LAST locked
  section has the listed mode — or the path performs no write at all (the early-return paths: the
  read-mode pre-check alone; there the call is an observer, `heapStep_clear_empty`). -/
def pathAgrees (ty me : String) (isW : Bool) (p : PathEntry) : Bool :=
  if C02.lastSectionOps.contains (ty, me) then
    C02.onlyLastWrites p &&
      (match lastLocked p with
       | none => true
       | some s => sectAgrees isW s || readOnlyPath p)
  else p.sects.all (sectAgrees isW)

/-- every listed (type, method, isWrite): the method exists in the table (instance 0 = the receiver) and
every one of its paths agrees with the listed mode -/
def modesAgree (t : List MethodEntry) (l : List (String × String × Bool)) : Bool :=
  l.all fun e =>
    t.any (fun m => m.type == e.1 && m.method == e.2.1 && m.inst == 0) &&
    t.all (fun m =>
      if m.type == e.1 && m.method == e.2.1 && m.inst == 0 then m.paths.all (pathAgrees e.1 e.2.1 e.2.2)
      else true)

/-- `modesAgree` with the listed operations under their Go types.  The kernel pays for every pair of names it
compares; here the type of a row is compared once per type, not once per listed operation. -/
def modesAgreeBy (t : List MethodEntry) (gs : List (String × List (String × Bool))) : Bool :=
  gs.all fun g => g.2.all fun e =>
    (t.filter fun m => m.type == g.1).any (fun m => m.method == e.1 && m.inst == 0) &&
    (t.filter fun m => m.type == g.1).all (fun m =>
      if m.method == e.1 && m.inst == 0 then m.paths.all (pathAgrees g.1 e.1 e.2) else true)

theorem modesAgree_flat (t : List MethodEntry) {l : List (String × String × Bool)}
    {gs : List (String × List (String × Bool))} (h : l = Lemmas.TableBy.flat gs) :
    modesAgree t l = modesAgreeBy t gs := by
  rw [modesAgree, h, Lemmas.TableBy.all_flat]
  simp only [Lemmas.TableBy.any_key, Lemmas.TableBy.all_key]
  rfl

/-- The modes agree with the table, and every operation of `C02.singleOps` is listed: evaluated as one conjunction,
because the kernel then evaluates what the two have in common (`allModes` under its Go types, each comparison of
two names) once. -/
theorem listed_by :
    (modesAgreeBy GoguVerif.Gen.lockTable (Lemmas.TableBy.groupKey allModes) &&
      (Lemmas.TableBy.groupKey C02.singleOps).all fun g => g.2.all fun me =>
        (Lemmas.TableBy.groupKey allModes).any fun g2 => g2.1 == g.1 && g2.2.any fun e => e.1 == me) = true := by
  decide +kernel

/-- In the table regenerated from the Go source, the lock mode each instance
gives each operation is the lock the Go method takes. -/
theorem modes_agree_with_table : modesAgree GoguVerif.Gen.lockTable allModes = true :=
  modesAgree_flat _ (Lemmas.TableBy.flat_groupKey allModes).symm ▸ (Bool.and_eq_true_iff.1 listed_by).1

/-- every single-element operation named by the property (`C02.singleOps`) belongs to an instance -/
theorem singleOps_covered :
    C02.singleOps.all (fun o => allModes.any (fun e => e.1 == o.1 && e.2.1 == o.2)) = true := by
  rw [← Lemmas.TableBy.flat_groupKey C02.singleOps, ← Lemmas.TableBy.flat_groupKey allModes,
    Lemmas.TableBy.all_flat]
  simp only [Lemmas.TableBy.any_flat, Lemmas.TableBy.any_and_left]
  exact (Bool.and_eq_true_iff.1 listed_by).2

/-- the check is not vacuous: it rejects the model's own classification of `LQueue.Search` (an
observer in `Model.LQueue.step`, but a `w` section in the code), and a `Peek` declared `w` -/
example : modesAgree GoguVerif.Gen.lockTable [("queue.LQueue", "Search", false)] = false := by decide +kernel
example : modesAgree GoguVerif.Gen.lockTable [("stack.Stack", "Peek", true)] = false := by decide +kernel
example : modesAgree GoguVerif.Gen.lockTable [("trie.Trie", "Keys", false)] = false := by decide +kernel
example : modesAgree GoguVerif.Gen.lockTable [("heap.Heap", "Clear", false)] = false := by decide +kernel

/-- what `modesAgree` gives for one listed entry, one table row, one path -/
theorem listed_paths_agree {t : List MethodEntry} {l : List (String × String × Bool)}
    (h : modesAgree t l = true) {ty me : String} {isW : Bool} (he : (ty, me, isW) ∈ l)
    {m : MethodEntry} (hm : m ∈ t) (h1 : m.type = ty) (h2 : m.method = me) (h3 : m.inst = 0)
    {p : PathEntry} (hp : p ∈ m.paths) : pathAgrees ty me isW p = true := by
  simp only [modesAgree, List.all_eq_true, Bool.and_eq_true] at h
  have := (h _ he).2 m hm
  simp [h1, h2, h3] at this
  exact this p hp

/-- For every operation of an instance that is not one of the two-section methods: in the CURRENT
Go source, every section of every path of the method is unlocked or locked in exactly the mode the
instance's `mode` function gives (use with `*_modes_listed` and `modeOf_isWrite`). -/
theorem listed_sections {ty me : String} {isW : Bool} (he : (ty, me, isW) ∈ allModes)
    (hn : C02.lastSectionOps.contains (ty, me) = false)
    {m : MethodEntry} (hm : m ∈ GoguVerif.Gen.lockTable) (h1 : m.type = ty) (h2 : m.method = me)
    (h3 : m.inst = 0) {p : PathEntry} (hp : p ∈ m.paths) {sec : Sect} (hs : sec ∈ p.sects) :
    sec.mode = none ∨ sec.mode = some (modeOf isW) := by
  have := listed_paths_agree modes_agree_with_table he hm h1 h2 h3 hp
  simp only [pathAgrees, hn, Bool.false_eq_true, if_false, List.all_eq_true] at this
  have := this sec hs
  simpa [sectAgrees] using this

/-- e.g. the slice stack: the lock `stackMode op` IS the lock the Go method `stackName op` takes -/
theorem stack_lock_is_table_lock {α : Type} (op : Spec.C06.Op α)
    {m : MethodEntry} (hm : m ∈ GoguVerif.Gen.lockTable) (h1 : m.type = "stack.Stack")
    (h2 : m.method = stackName op) (h3 : m.inst = 0) {p : PathEntry} (hp : p ∈ m.paths)
    {sec : Sect} (hs : sec ∈ p.sects) : sec.mode = none ∨ sec.mode = some (stackMode op) := by
  have he : ("stack.Stack", stackName op, isWrite (stackMode op)) ∈ allModes := by
    simp only [allModes, List.mem_append, stack_modes_listed op, true_or]
  have := listed_sections he (by cases op <;> simp [stackName, C02.lastSectionOps]) hm h1 h2 h3 hp hs
  rwa [modeOf_isWrite] at this

end GoguVerif.Theorems.C02Inst
