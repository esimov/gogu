import GoguVerif.Lemmas.C20Code
import GoguVerif.Lemmas.C20L
/-!
# C20 — property theorems (Delay, debounce and throttle never fire early or more often than allowed)

All statements are about the timed models of `Model/C20.lean` (which mirror `func.go`) and hold for
every wait / duration, every history of events (calls, cancels, `Next` calls, passages of time of any
length) and — for the throttle — every choice of which blocked caller wins a wake-up.
-/
namespace GoguVerif.Theorems.C20
open GoguVerif.Spec.C20 GoguVerif.Model.C20 GoguVerif.Lemmas.C20 GoguVerif.Lemmas.C20T GoguVerif.Lemmas.C20T2 GoguVerif.Lemmas.C20L

theorem fireOK_of_inv {wait hist s} (h : DInv wait hist s) :
    ∀ fr ∈ s.fired, FireOK wait hist fr.f fr.idx fr.tc := by
  intro fr hfr
  have h := h.fired fr hfr
  refine ⟨h.isCall, h.callTime, Int.le_of_eq h.exact.symm, ?_⟩
  intro k e hik hke hlt
  by_cases hk : k ≤ fr.at
  · exact h.between k e hik hk hke
  · -- event `k` comes after the one during which the timer fired
    have := clock_take_mono hist (Nat.succ_le_of_lt (Nat.lt_of_not_le hk))
    exact absurd hlt (Int.not_lt.mpr (Int.le_trans h.fired_by this))

/-- **Never early, most recent call, none after cancel.**  Every execution of the debounced callback
satisfies the specification `FireOK`: it belongs to a `call` event `i` at instant `tc`, runs no
earlier than `tc + wait`, and every event after `i` that happens before the execution is a passage
of time — no newer call (so `i` is the most recent call) and no cancel. -/
theorem debounce_fire_ok (wait : Nat) (evs : List DEv) :
    ∀ fr ∈ (drun wait evs).fired, FireOK wait evs fr.f fr.idx fr.tc :=
  fireOK_of_inv (drun_inv wait evs)

/-- the execution happens exactly at the deadline `tc + wait` (virtual time) -/
theorem debounce_fire_exact (wait : Nat) (evs : List DEv) :
    ∀ fr ∈ (drun wait evs).fired, fr.f = fr.tc + wait :=
  fun fr hfr => ((drun_inv wait evs).fired fr hfr).exact

/-- the same in terms of positions: the execution happens during event `at ≥ i`, event `i` is a call,
and every event in between (including `at` itself when `at ≠ i`) is a passage of time -/
theorem debounce_between_advances (wait : Nat) (evs : List DEv) :
    ∀ fr ∈ (drun wait evs).fired, fr.idx ≤ fr.at ∧ fr.at < evs.length ∧ evs[fr.idx]? = some DEv.call ∧
      ∀ k e, fr.idx < k → k ≤ fr.at → evs[k]? = some e → e.isAdvance = true := by
  intro fr hfr
  have h := (drun_inv wait evs).fired fr hfr
  exact ⟨h.idx_le, h.at_lt, h.isCall, h.between⟩

/-- **At most once per burst**: no call is executed twice (the scheduling calls of the executions are
pairwise different — and by `debounce_fire_ok` each is the last call of its burst). -/
theorem debounce_at_most_once (wait : Nat) (evs : List DEv) :
    ((drun wait evs).fired.map (·.idx)).Nodup := by
  rw [List.Nodup, List.pairwise_map]
  exact (drun_inv wait evs).sorted.imp Nat.ne_of_lt

theorem debounce_unique (wait : Nat) (evs : List DEv) {a b : Fire}
    (ha : a ∈ (drun wait evs).fired) (hb : b ∈ (drun wait evs).fired) (h : a.idx = b.idx) : a = b :=
  pairwise_idx_inj (drun_inv wait evs).sorted ha hb h

/-- at most one timer is pending at any time: structural (`pending : Option Pending`); its deadline
lies in the future and it belongs to the last call -/
theorem debounce_pending (wait : Nat) (evs : List DEv) :
    ∀ p, (drun wait evs).pending = some p →
      clock evs < p.deadline ∧ p.deadline = p.tc + wait ∧ evs[p.idx]? = some DEv.call ∧
      ∀ k e, p.idx < k → evs[k]? = some e → e.isAdvance = true := by
  intro p hp
  have h := drun_inv wait evs
  obtain ⟨hpi, hlt⟩ := h.pend p hp
  exact ⟨h.now_eq ▸ hlt, hpi.exact, hpi.isCall, hpi.after⟩

def AllAdv (l : List DEv) : Prop := ∀ e ∈ l, e.isAdvance = true

theorem fired_mono_step (wait : Nat) (s : DState) (e : DEv) :
    ∀ fr ∈ s.fired, fr ∈ (dstep wait s e).fired :=
  fun _ hfr => (dstep_fired_prefix wait s e).subset hfr

/-- the call `i` has been executed at `D`, or is still pending with its deadline ahead -/
def CallServed (D : Int) (i : Nat) (tc : Int) (s : DState) : Prop :=
  (∃ fr ∈ s.fired, fr.idx = i ∧ fr.f = D) ∨
  (s.pending = some { deadline := D, idx := i, tc := tc } ∧ s.now < D)

theorem callServed_settle (D : Int) (i : Nat) (tc : Int) (s : DState)
    (h : (∃ fr ∈ s.fired, fr.idx = i ∧ fr.f = D) ∨ s.pending = some { deadline := D, idx := i, tc := tc }) :
    CallServed D i tc { s.settle with n := s.settle.n + 1 } := by
  have hs := settle_settles s
  generalize s.settle = s' at hs
  cases hs with
  | runs p hp _ =>
    rcases h with ⟨fr, hfr, h12⟩ | hq
    · exact Or.inl ⟨fr, List.mem_append_left _ hfr, h12⟩
    · cases hp.symm.trans hq
      exact Or.inl ⟨_, List.mem_append_right _ (List.mem_singleton_self _), rfl, rfl⟩
  | rests hnd =>
    rcases h with h | hq
    · exact Or.inl h
    · exact Or.inr ⟨hq, hnd _ hq⟩

theorem callServed_advance (wait : Nat) (D : Int) (i : Nat) (tc : Int) (s : DState) (dt : Nat)
    (h : CallServed D i tc s) : CallServed D i tc (dstep wait s (.advance dt)) := by
  rw [dstep_eq]
  exact callServed_settle D i tc _ (h.imp id And.left)

theorem callServed_fold (wait : Nat) (D : Int) (i : Nat) (tc : Int) :
    ∀ (advs : List DEv) (s : DState), AllAdv advs → CallServed D i tc s →
      CallServed D i tc (advs.foldl (dstep wait) s) :=
  fun advs _ ha h => List.foldlRecOn advs (dstep wait) h fun s hs e he =>
    match e, ha e he with
    | .advance dt, _ => callServed_advance wait D i tc s dt hs

theorem callServed_call {wait hist s} (h : DInv wait hist s) :
    CallServed (clock hist + wait) hist.length (clock hist) (dstep wait s .call) := by
  rw [dstep_eq]
  refine callServed_settle _ _ _ _ (Or.inr ?_)
  rw [← h.now_eq, ← h.n_eq]; rfl

/-- **Completeness.**  If the last call-or-cancel of a history is a call (at position `pre.length`,
instant `clock pre`) and at least `wait` has passed since, that call has been executed exactly once,
at `clock pre + wait`. -/
theorem debounce_completeness (wait : Nat) (pre advs : List DEv) (hadv : AllAdv advs)
    (hlong : (wait : Int) ≤ clock advs) :
    ∃ fr ∈ (drun wait (pre ++ DEv.call :: advs)).fired,
      fr.idx = pre.length ∧ fr.f = clock pre + wait ∧
      ∀ fr' ∈ (drun wait (pre ++ DEv.call :: advs)).fired, fr'.idx = pre.length → fr' = fr := by
  have hinv := drun_inv wait (pre ++ DEv.call :: advs)
  have hrun : drun wait (pre ++ DEv.call :: advs) =
      advs.foldl (dstep wait) (dstep wait (drun wait pre) .call) := List.foldl_append
  have h2 := callServed_fold wait _ _ _ advs _ hadv (callServed_call (drun_inv wait pre))
  rw [← hrun] at h2
  rcases h2 with ⟨fr, hfr, hi, hf⟩ | ⟨_, hlt⟩
  · exact ⟨fr, hfr, hi, hf, fun fr' hfr' hi' => debounce_unique wait _ hfr' hfr (hi'.trans hi.symm)⟩
  · -- still pending: impossible, the clock has passed the deadline
    exfalso
    rw [hinv.now_eq, clock_append] at hlt
    simp only [clock, DEv.dt] at hlt
    omega

/-- the decidable monitor clause agrees with the specification predicate -/
theorem fireOKb_iff (wait : Nat) (evs : List DEv) (f : Int) (i : Nat) (tc : Int) :
    fireOKb wait evs f i tc = true ↔ FireOK wait evs f i tc := by
  constructor
  · intro h
    simp only [fireOKb, Bool.and_eq_true, beq_iff_eq, decide_eq_true_eq, List.all_eq_true,
      List.mem_range] at h
    obtain ⟨⟨⟨h1, h2⟩, h3⟩, h4⟩ := h
    refine ⟨h1, h2, h3, ?_⟩
    intro k e hik hke hlt
    have := h4 k (get_lt hke)
    rw [hke] at this
    simpa [hik, hlt] using this
  · intro h
    simp only [fireOKb, Bool.and_eq_true, beq_iff_eq, decide_eq_true_eq, List.all_eq_true,
      List.mem_range]
    refine ⟨⟨⟨h.isCall, h.callTime⟩, h.notEarly⟩, ?_⟩
    intro k _
    cases hke : evs[k]? with
    | none => rfl
    | some e =>
      simp only [Bool.or_eq_true, Bool.not_eq_true', Bool.and_eq_false_iff, decide_eq_false_iff_not]
      by_cases hik : i < k
      · by_cases hlt : clock (evs.take k) < f
        · right; exact h.mostRecent k e hik hke hlt
        · left; right; exact hlt
      · left; left; exact hik

/-! Non-vacuity: a burst of three calls 4 ms apart (wait 10) runs once, for the last call, at 18;
a cancelled call does not run; the completeness hypotheses are satisfiable. -/
example : (drun 10 [.call, .advance 4, .call, .advance 4, .call, .advance 9, .advance 1, .advance 30]).fired =
    [{ f := 18, idx := 4, tc := 8, «at» := 6 }] := by decide +kernel
example : (drun 10 [.call, .advance 9, .cancel, .advance 30]).fired = [] := by decide +kernel
example : AllAdv [.advance 9, .advance 1] ∧ ((10 : Nat) : Int) ≤ clock [.advance 9, .advance 1] := by
  constructor
  · intro e he; simp at he; rcases he with rfl | rfl <;> rfl
  · decide

/-! ## Throttle

`trun cfg ch evs` is the state after the history `evs` under the choice function `ch` (which blocked
caller wins a wake-up).  `grants` are the permissions (`Next` returning true) in the order they were
handed out, each stamped with the instant of the return. -/

/-- **At most one permission per period.**  Consecutive permissions are at least `duration` apart —
strictly more when not trailing — for every history and every choice function (the specification's
own checker `spacedOK` accepts the model's permission instants). -/
theorem throttle_spacing (cfg : TCfg) (ch : Choice) (evs : List TEv) :
    spacedOK cfg.dur cfg.trailing ((trun cfg ch evs).grants.map (·.t)) = true :=
  (Lemmas.C20Code.trun_reach cfg ch evs).spaced.spaced

/-- the spacing inequality in both forms, for any two consecutive permissions -/
theorem throttle_spacing_pairs (cfg : TCfg) (ch : Choice) (evs : List TEv) (k : Nat) (a b : Grant)
    (ha : (trun cfg ch evs).grants[k]? = some a) (hb : (trun cfg ch evs).grants[k + 1]? = some b) :
    a.t + cfg.dur ≤ b.t ∧ (cfg.trailing = false → a.t + cfg.dur < b.t) :=
  spaced_grants_get (throttle_spacing cfg ch evs) ha hb

/-- **One permission per trigger epoch.**  The `k`-th permission (0-based) answers a `Call` that
happened when exactly `k` permissions had been handed out — i.e. after the previous permission and
before this one — and not later than the permission itself; when not trailing, that `Call` happened
after the previous period had ended (a trigger inside the period is never kept). -/
theorem throttle_triggered (cfg : TCfg) (ch : Choice) (evs : List TEv) (k : Nat) (g : Grant)
    (hg : (trun cfg ch evs).grants[k]? = some g) :
    (g.ctime, k) ∈ (trun cfg ch evs).calls ∧ g.ctime ≤ g.t ∧
    (cfg.trailing = false → ∀ k' g', k = k' + 1 → (trun cfg ch evs).grants[k']? = some g' →
      g'.t + cfg.dur < g.ctime) := by
  have h := trun_inv cfg ch evs
  have hA := h.gr g (List.mem_of_getElem? hg)
  refine ⟨h.epochs k g hg ▸ hA.logged, hA.le_t, fun htr k' g' hk hg' => ?_⟩
  subst hk
  exact hA.after htr g'.t (by rw [h.chain _ g hg, List.take_add_one, hg']; exact getLast?_snoc_map _ g' _)

/-- every logged trigger's epoch is at most the number of permissions handed out so far: a trigger
cannot answer a permission that precedes it -/
theorem throttle_calls_epoch (cfg : TCfg) (ch : Choice) (evs : List TEv) :
    ∀ c ∈ (trun cfg ch evs).calls, c.2 ≤ (trun cfg ch evs).grants.length :=
  (trun_inv cfg ch evs).calls_ep

/-- **One permission per grant, regardless of the number of blocked callers**: a wake-up hands out
exactly one permission when somebody is blocked and one caller fewer is blocked afterwards, none otherwise —
whichever caller the scheduler picks.  (That, the callers being distinct, those still blocked are the others
in their order is `Lemmas.C20T.WakeUp.grants` and `Lemmas.C20T2.Woke`.) -/
theorem wake_one_permission (ch : Choice) (s : TState) (w : Int × Nat) :
    (s.blocked = [] → (wake ch s w).grants = s.grants ∧ (wake ch s w).waiting = true) ∧
    (s.blocked ≠ [] → (wake ch s w).grants.length = s.grants.length + 1 ∧
      (wake ch s w).blocked.length + 1 = s.blocked.length ∧ (wake ch s w).waiting = false) := by
  have h := wake_up ch s w
  generalize wake ch s w = s' at h
  cases h with
  | waits hb => exact ⟨fun _ => ⟨rfl, rfl⟩, fun h => absurd hb h⟩
  | grants id rest _ hlen _ =>
    refine ⟨fun hb => ?_, fun _ => ⟨by simp, hlen, rfl⟩⟩
    rw [hb] at hlen; cases hlen

/-- no one is blocked while a permission is waiting or after cancel -/
theorem throttle_blocked (cfg : TCfg) (ch : Choice) (evs : List TEv) :
    ((trun cfg ch evs).waiting = true ∨ (trun cfg ch evs).stop = true) → (trun cfg ch evs).blocked = [] :=
  fun hc => hc.elim (trun_inv cfg ch evs).bw (trun_inv cfg ch evs).bs

theorem trun_append (cfg : TCfg) (ch : Choice) (evs post : List TEv) :
    trun cfg ch (evs ++ post) = post.foldl (tstep cfg ch) (trun cfg ch evs) :=
  List.foldl_append ..

theorem trun_snoc (cfg : TCfg) (ch : Choice) (evs : List TEv) (e : TEv) :
    trun cfg ch (evs ++ [e]) = tstep cfg ch (trun cfg ch evs) e :=
  trun_append cfg ch evs [e]

/-- `Cancel`: every blocked `Next` returns false at the cancel instant; no permission is handed out -/
theorem tcancel_spec (s : TState) :
    (tcancel s).stop = true ∧ (tcancel s).blocked = [] ∧ (tcancel s).grants = s.grants ∧
    (tcancel s).falses = s.falses ++ s.blocked.map (fun id => (s.now, id)) :=
  ⟨rfl, rfl, rfl, rfl⟩

structure StaysStopped (s s' : TState) : Prop where
  stop : s'.stop = true
  grants : s'.grants = s.grants
  falses : s'.falses = s.falses
  blocked : s'.blocked = s.blocked

theorem advanceTo_stop (ch : Choice) (s : TState) (t : Int) (hs : s.stop = true) :
    StaysStopped s (advanceTo ch s t) := by
  rcases due_cases s t with hd | ⟨sc, hsc, hd⟩
  · rw [advanceTo_noop ch _ _ hd]
    exact ⟨hs, rfl, rfl, rfl⟩
  · rw [advanceTo_due ch _ hsc hd, fire_stop (s := { s with now := max s.now sc.deadline }) ch sc hs]
    exact ⟨hs, rfl, rfl, rfl⟩

theorem tstep_of_stop (cfg : TCfg) (ch : Choice) (s : TState) (e : TEv) (hs : (tpre cfg ch s e).stop = true) :
    StaysStopped (tpre cfg ch s e) (tstep cfg ch s e) := by
  rw [tstep_eq]
  have f := advanceTo_stop ch _ ((tpre cfg ch s e).now + e.dt) hs
  exact ⟨f.stop, f.grants, f.falses, f.blocked⟩

/-- once stopped, every step keeps the permissions as they are, and a `Next` returns false at once -/
theorem stop_step (cfg : TCfg) (ch : Choice) (s : TState) (e : TEv) (hs : s.stop = true)
    (hb : s.blocked = []) :
    (tstep cfg ch s e).stop = true ∧ (tstep cfg ch s e).grants = s.grants ∧
    (tstep cfg ch s e).blocked = [] ∧
    (∀ id, e = .next id → (tstep cfg ch s e).falses = s.falses ++ [(s.now, id)]) := by
  have hpre : (tpre cfg ch s e).stop = true ∧ (tpre cfg ch s e).grants = s.grants ∧
      (tpre cfg ch s e).blocked = [] ∧
      (∀ id, e = .next id → (tpre cfg ch s e).falses = s.falses ++ [(s.now, id)]) := by
    cases e with
    | call =>
      rw [show tpre cfg ch s .call = logCall s from tcall_skip cfg ch (Or.inr hs)]
      exact ⟨hs, rfl, hb, by intro id h; cases h⟩
    | cancel => exact ⟨rfl, rfl, rfl, by intro id h; cases h⟩
    | next id =>
      rw [show tpre cfg ch s (.next id) = _ from tnext_false id hs]
      exact ⟨hs, rfl, hb, by intro id' h; cases h; rfl⟩
    | advance dt => exact ⟨hs, rfl, hb, by intro id h; cases h⟩
  obtain ⟨hstop, hgrants, hblocked, hfalses⟩ := hpre
  have f := tstep_of_stop cfg ch s e hstop
  exact ⟨f.stop, f.grants.trans hgrants, f.blocked.trans hblocked, fun id he => f.falses.trans (hfalses id he)⟩

/-- **After Cancel no permission is handed out and nobody stays blocked**, whatever follows. -/
theorem no_permission_after_cancel (cfg : TCfg) (ch : Choice) (pre post : List TEv) :
    (trun cfg ch (pre ++ TEv.cancel :: post)).grants = (trun cfg ch pre).grants ∧
    (trun cfg ch (pre ++ TEv.cancel :: post)).blocked = [] ∧
    (trun cfg ch (pre ++ TEv.cancel :: post)).stop = true := by
  have f := tstep_of_stop cfg ch (trun cfg ch pre) .cancel rfl
  rw [trun_append]
  exact List.foldlRecOn post (tstep cfg ch)
    (motive := fun s => s.grants = (trun cfg ch pre).grants ∧ s.blocked = [] ∧ s.stop = true)
    ⟨f.grants, f.blocked, f.stop⟩ fun s ⟨hgrants, hblocked, hstop⟩ e _ =>
      let ⟨hstop', hgrants', hblocked', _⟩ := stop_step cfg ch s e hstop hblocked
      ⟨hgrants'.trans hgrants, hblocked', hstop'⟩

/-- the blocked callers are released with `false` at the cancel instant -/
theorem cancel_releases_blocked (cfg : TCfg) (ch : Choice) (s : TState) :
    (tstep cfg ch s .cancel).falses = s.falses ++ s.blocked.map (fun id => (s.now, id)) :=
  (tstep_of_stop cfg ch s .cancel rfl).falses

/-- **A trigger inside the period is dropped when not trailing**: in a reachable state with
`since(last) ≤ duration` a `Call` changes nothing but the ghost log and the event counter. -/
theorem in_period_trigger_dropped (cfg : TCfg) (ch : Choice) (evs : List TEv) (l : Int)
    (htr : cfg.trailing = false) (hlast : (trun cfg ch evs).last = some l)
    (hin : (trun cfg ch evs).now - l ≤ cfg.dur) :
    tstep cfg ch (trun cfg ch evs) .call =
      { logCall (trun cfg ch evs) with n := (trun cfg ch evs).n + 1 } := by
  have hsc := (Lemmas.C20Code.trun_reach cfg ch evs).spaced.notrail htr
  exact tstep_call_dropped cfg ch _ (fun sc h' => by rw [hsc] at h'; cases h') <| by
    rcases Bool.eq_false_or_eq_true (trun cfg ch evs).waiting with hw | hw
    · exact tcall_skip cfg ch (Or.inl hw)
    · rcases Bool.eq_false_or_eq_true (trun cfg ch evs).stop with hs | hs
      · exact tcall_skip cfg ch (Or.inr hs)
      · exact tcall_drop cfg ch hw hs hlast hin (by rw [htr]; simp)

/-- a trigger while a permission is already waiting is coalesced with it -/
theorem waiting_trigger_coalesced (cfg : TCfg) (ch : Choice) (evs : List TEv)
    (hw : (trun cfg ch evs).waiting = true) :
    tstep cfg ch (trun cfg ch evs) .call =
      { logCall (trun cfg ch evs) with n := (trun cfg ch evs).n + 1 } := by
  exact tstep_call_dropped cfg ch _ (Lemmas.C20Code.trun_reach cfg ch evs).strict (tcall_skip cfg ch (Or.inl hw))

/-! Non-vacuity: trailing throttle of 50 ms — permissions at 0, 50, 100 (the script of F32);
without trailing the in-period trigger is dropped; three blocked callers, one trigger: one
permission; cancel releases the blocked caller. -/
example : ((trun ⟨50, true⟩ (fun _ _ => 0)
    [.call, .next 0, .advance 1, .call, .next 1, .advance 49, .call, .next 2, .advance 50]).grants.map
      fun g => (g.t, g.id)) = [(0, 0), (50, 1), (100, 2)] := by decide +kernel
example : ((trun ⟨50, false⟩ (fun _ _ => 0)
    [.call, .next 0, .advance 1, .call, .next 1, .advance 49, .advance 50]).grants.map
      fun g => (g.t, g.id)) = [(0, 0)] := by decide +kernel
example : ((trun ⟨50, true⟩ (fun _ _ => 1) [.next 0, .next 1, .next 2, .call]).grants.map
      fun g => (g.t, g.id)) = [(0, 1)] ∧
    (trun ⟨50, true⟩ (fun _ _ => 1) [.next 0, .next 1, .next 2, .call]).blocked = [0, 2] := by decide +kernel
example : (trun ⟨50, true⟩ (fun _ _ => 0) [.next 0, .advance 3, .cancel, .next 1]).falses = [(3, 0), (3, 1)] := by
  decide +kernel
example : (trun ⟨50, false⟩ (fun _ _ => 0) [.call, .next 0, .advance 7]).last = some 0 ∧
    (trun ⟨50, false⟩ (fun _ _ => 0) [.call, .next 0, .advance 7]).now - 0 ≤ 50 := by decide +kernel

/-- **A step hands out at most one permission**: whatever the event (a `Call` that wakes a blocked
caller, a `Next` that finds a permission waiting, time passing over the trailing timer's deadline)
and however many callers are blocked, the permissions after the step are those before it plus at
most one. -/
theorem throttle_step_one_permission (cfg : TCfg) (ch : Choice) (evs : List TEv) (e : TEv) :
    ∃ ext, (trun cfg ch (evs ++ [e])).grants = (trun cfg ch evs).grants ++ ext ∧ ext.length ≤ 1 := by
  rw [trun_snoc]
  exact tstep_gext ch e (trun_inv cfg ch evs)

theorem tclock_append (a b : List TEv) : tclock (a ++ b) = tclock a + tclock b :=
  clk_append rfl (fun _ _ => rfl) a b

theorem tfold_now (cfg : TCfg) (ch : Choice) : ∀ (evs : List TEv) (s : TState),
    (evs.foldl (tstep cfg ch) s).now = s.now + tclock evs := by
  intro evs
  induction evs with
  | nil => intro s; exact (Int.add_zero _).symm
  | cons e r ih =>
    intro s
    rw [List.foldl_cons, ih, (tstep_keeps cfg ch s e).now, Int.add_assoc]; rfl

/-- the model's clock is the history's clock -/
theorem trun_now (cfg : TCfg) (ch : Choice) (evs : List TEv) : (trun cfg ch evs).now = tclock evs :=
  (tfold_now cfg ch evs {}).trans (Int.zero_add _)

/-- permissions are never taken back: the permissions after a prefix of the history are a prefix of
the permissions after the whole history -/
theorem trun_grants_prefix (cfg : TCfg) (ch : Choice) (evs : List TEv) (p : Nat) :
    (trun cfg ch (evs.take p)).grants <+: (trun cfg ch evs).grants := by
  rw [← List.take_append_drop p evs, trun_append, List.take_append_drop]
  exact (List.foldlRecOn (evs.drop p) (tstep cfg ch)
    (motive := fun s => TInv cfg s ∧ (trun cfg ch (evs.take p)).grants <+: s.grants)
    ⟨trun_inv cfg ch _, List.prefix_refl _⟩ fun s ⟨h, hp⟩ e _ =>
      let ⟨ext, he, _⟩ := tstep_gext ch e h
      ⟨tstep_inv ch e h, hp.trans ⟨ext, he.symm⟩⟩).2

/-- **The ghost trigger log describes the history**: every logged trigger `(t, e)` is a `call` event
at some position `p` of the history, `t` is the instant of that event and `e` the number of
permissions handed out by the events before it. -/
theorem calls_positions (cfg : TCfg) (ch : Choice) (evs : List TEv) :
    ∀ c ∈ (trun cfg ch evs).calls,
      ∃ p, p < evs.length ∧ evs[p]? = some TEv.call ∧ c.1 = tclock (evs.take p) ∧
        c.2 = (trun cfg ch (evs.take p)).grants.length := by
  refine (foldl_inv (step := tstep cfg ch) (I := fun hist s => s = trun cfg ch hist ∧ ∀ c ∈ s.calls,
    ∃ p, p < hist.length ∧ hist[p]? = some TEv.call ∧ c.1 = tclock (hist.take p) ∧
      c.2 = (trun cfg ch (hist.take p)).grants.length) ?_ evs [] {} ⟨rfl, fun _ hc => nomatch hc⟩).2
  rintro hist s e ⟨rfl, ih⟩
  refine ⟨(trun_snoc cfg ch hist e).symm, fun c hc => ?_⟩
  rw [(tstep_keeps cfg ch _ e).calls, List.mem_append] at hc
  rcases hc with hc | hc
  · -- an older trigger: its position lies in `hist`
    obtain ⟨p, hp, h1, h2, h3⟩ := ih c hc
    have hpl := List.take_append_of_le_length (l₂ := [e]) (Nat.le_of_lt hp)
    exact ⟨p, by rw [List.length_append]; exact Nat.lt_add_right _ hp, get_snoc_old _ _ _ h1, by rw [hpl]; exact h2,
      by rw [hpl]; exact h3⟩
  · -- the trigger logged by this event, a `call`
    cases e with
    | call =>
      cases List.mem_singleton.mp hc
      exact ⟨hist.length, by rw [List.length_append]; exact Nat.lt_succ_self _, List.getElem?_concat_length,
        by rw [List.take_left]; exact trun_now cfg ch hist, by rw [List.take_left]⟩
    | _ => cases hc

/-- **The trigger of the `k`-th permission is a `call` event of the history, after the previous
permission and not after this one.**  For the `k`-th permission `g` (0-based) there is a position
`p` with `evs[p] = call`, happening at the instant `g.ctime ≤ g.t`, such that
* the events before `p` have handed out exactly the permissions `0 … k-1` (so the `(k-1)`-th
  permission precedes the trigger), and
* no event before `p` has handed out the `k`-th permission (the trigger is not after it);
when not trailing the trigger came after the previous period had ended. -/
theorem throttle_trigger_position (cfg : TCfg) (ch : Choice) (evs : List TEv) (k : Nat) (g : Grant)
    (hg : (trun cfg ch evs).grants[k]? = some g) :
    ∃ p, evs[p]? = some TEv.call ∧ tclock (evs.take p) = g.ctime ∧ g.ctime ≤ g.t ∧
      (trun cfg ch (evs.take p)).grants = (trun cfg ch evs).grants.take k ∧
      (∀ q, q ≤ p → (trun cfg ch (evs.take q)).grants.length ≤ k) ∧
      (cfg.trailing = false → ∀ k' g', k = k' + 1 → (trun cfg ch evs).grants[k']? = some g' →
        g'.t + cfg.dur < g.ctime) := by
  obtain ⟨hmem, hle, hnt⟩ := throttle_triggered cfg ch evs k g hg
  obtain ⟨p, _, hcall, ht, hk⟩ := calls_positions cfg ch evs _ hmem
  have hk' : k = (trun cfg ch (evs.take p)).grants.length := hk
  refine ⟨p, hcall, ht.symm, hle, ?_, ?_, hnt⟩
  · exact hk' ▸ List.prefix_iff_eq_take.mp (trun_grants_prefix cfg ch evs p)
  · intro q hq
    have h1 := trun_grants_prefix cfg ch (evs.take p) q
    rw [List.take_take, Nat.min_eq_left hq] at h1
    exact hk' ▸ h1.length_le

example : ∃ ext, (trun ⟨50, true⟩ (fun _ _ => 0) ([.next 0, .next 1] ++ [.call])).grants =
    (trun ⟨50, true⟩ (fun _ _ => 0) [.next 0, .next 1]).grants ++ ext ∧ ext.length ≤ 1 :=
  throttle_step_one_permission _ _ _ _

/-! ## Delay

`cnt (evs.take i)` — the number of `delay` events before position `i` — is the timer id handed out by
the `delay` event at position `i`. -/

theorem add_le_add_max (tc d : Int) : tc + d ≤ tc + max d 0 :=
  Int.add_le_add_left (Int.le_max_left d 0) tc

/-- every pending timer's deadline and every execution's instant is `callTime + max d 0` -/
structure LInv (s : LState) : Prop where
  timers : ∀ t ∈ s.timers, t.deadline = t.tc + max t.d 0
  fired : ∀ fr ∈ s.fired, fr.f = fr.tc + max fr.d 0

theorem LInv.of_invh {hist s} (h : LInvH hist s) : LInv s :=
  ⟨fun t ht => by obtain ⟨⟨hT, _⟩, _⟩ := h.timers t ht; exact hT.exact, fun fr hfr => (h.fired fr hfr).exact⟩

/-- **Delay never fires early**: every execution happens exactly `max d 0` after the `Delay` call
that scheduled it — in particular no sooner than `d` after it — for every history of `Delay`, `Stop`
and passages of time. -/
theorem delay_never_early (evs : List LEv) :
    ∀ fr ∈ (lrun evs).fired, fr.f = fr.tc + max fr.d 0 ∧ fr.tc + fr.d ≤ fr.f := by
  intro fr hfr
  have := ((lrun_invh evs).fired fr hfr).exact
  exact ⟨this, this ▸ add_le_add_max _ _⟩

example : ((lrun [.delay 5, .delay (-3), .advance 4, .stop 0, .delay 2, .advance 10]).fired.map
    fun fr => (fr.f, fr.id, fr.tc)) = [(0, 1, 0), (6, 2, 4)] := by decide +kernel

theorem delayOK_of_inv {hist s} (hI : LInvH hist s) :
    ∀ fr ∈ s.fired,
      DelayOK hist (fun i => cnt (hist.take i)) fr.f fr.idx fr.tc ∧ fr.id = cnt (hist.take fr.idx) ∧
      fr.f ≤ lclock hist := by
  intro fr hfr
  have h := hI.fired fr hfr
  refine ⟨⟨⟨fr.d, h.isDelay, h.exact ▸ add_le_add_max _ _⟩, h.callTime, ?_⟩, h.id_eq, hI.now_eq ▸ h.le_now⟩
  intro k hk hx
  exact h.nostop k hk (h.id_eq ▸ hx)

/-- **Every execution satisfies the specification `DelayOK`**: it belongs to a `delay d` event `i` at
instant `tc`, runs no earlier than `tc + d` (exactly at `tc + max d 0`, by `delay_never_early`), and
every `stop` of its timer that comes after the `delay` happens at or after the instant of the
execution (no stop before it ran). -/
theorem delay_ok (evs : List LEv) :
    ∀ fr ∈ (lrun evs).fired,
      DelayOK evs (fun i => cnt (evs.take i)) fr.f fr.idx fr.tc ∧ fr.id = cnt (evs.take fr.idx) ∧
      fr.f ≤ lclock evs :=
  delayOK_of_inv (lrun_invh evs)

/-- **At most one run per `Delay` call**: at most one execution belongs to the event at position `i` -/
theorem delay_at_most_once (evs : List LEv) (i : Nat) : firedAt i (lrun evs).fired ≤ 1 :=
  Nat.le_trans (Nat.le_add_left _ _) ((lrun_invh evs).once i)

/-- **No run after a successful stop**: if the timer `t` is still pending after the first `k` events
and event `k` is `stop t.id`, the callback of that `Delay` call never runs, whatever follows. -/
theorem delay_no_run_after_stop (evs : List LEv) (k : Nat) (t : LPending)
    (ht : t ∈ (lrun (evs.take k)).timers) (hx : evs[k]? = some (LEv.stop t.id)) :
    ∀ fr ∈ (lrun evs).fired, fr.idx ≠ t.idx := by
  intro fr hfr heq
  have hP := lrun_invh (evs.take k)
  obtain ⟨⟨hT, _⟩, hlt⟩ := hP.timers t ht
  have hF := (lrun_invh evs).fired fr hfr
  obtain ⟨hik, hat⟩ := hT.delayAt.of_take
  -- the execution would belong to the same `delay` event as `t`, so the stop at `k` precedes it
  obtain ⟨hd, htc, hid⟩ := (heq ▸ hF.delayAt).unique hat
  have hstop := hF.nostop k (heq ▸ hik) (hid ▸ hx)
  have hf := hF.exact
  have hdl := hT.exact
  rw [hP.now_eq] at hlt
  rw [hd, htc, ← hdl] at hf
  exact absurd (hf ▸ hstop) (Int.not_le.mpr hlt)

theorem delay_ran {hist s} (h : LInvH hist s) {i : Nat} {d : Int} (hx : hist[i]? = some (LEv.delay d))
    (hns : ∀ k, i < k → hist[k]? = some (LEv.stop (cnt (hist.take i))) →
      lclock (hist.take i) + max d 0 ≤ lclock (hist.take k))
    (hlong : lclock (hist.take i) + max d 0 ≤ lclock hist) :
    ∃ fr ∈ s.fired, fr.idx = i ∧ fr.f = lclock (hist.take i) + max d 0 := by
  have hat : DelayAt hist i d (lclock (hist.take i)) (cnt (hist.take i)) := ⟨hx, rfl, rfl⟩
  rcases h.served i d hx with ⟨t, ht, hti⟩ | ⟨fr, hfr, hi⟩ | ⟨k, hk, hxk, hlt⟩
  · -- still pending: its deadline would lie ahead
    subst hti
    exact absurd hlong (Int.not_le.mpr (h.pending_ahead ht hx))
  · obtain ⟨hd, htc, _⟩ := (hi ▸ (h.fired fr hfr).delayAt).unique hat
    exact ⟨fr, hfr, hi, by rw [(h.fired fr hfr).exact, hd, htc]⟩
  · exact absurd (hns k hk hxk) (Int.not_le.mpr hlt)

/-- **Completeness.**  If the `delay d` event at position `i` is not stopped before its deadline
`tc + max d 0` (every `stop` of its timer comes at or after the deadline) and the clock has reached
the deadline, the callback has run exactly once, at the deadline. -/
theorem delay_completeness (evs : List LEv) (i : Nat) (d : Int) (hx : evs[i]? = some (LEv.delay d))
    (hns : ∀ k, i < k → evs[k]? = some (LEv.stop (cnt (evs.take i))) →
      lclock (evs.take i) + max d 0 ≤ lclock (evs.take k))
    (hlong : lclock (evs.take i) + max d 0 ≤ lclock evs) :
    firedAt i (lrun evs).fired = 1 ∧
    ∃ fr ∈ (lrun evs).fired, fr.idx = i ∧ fr.f = lclock (evs.take i) + max d 0 := by
  obtain ⟨fr, hfr, hi, hf⟩ := delay_ran (lrun_invh evs) hx hns hlong
  have h1 := delay_at_most_once evs i
  have h2 : 0 < firedAt i (lrun evs).fired := List.countP_pos_iff.mpr ⟨fr, hfr, beq_iff_eq.mpr hi⟩
  exact ⟨Nat.le_antisymm h1 h2, fr, hfr, hi, hf⟩

example : (lrun ([LEv.delay 5, .advance 4].take 1)).timers.map (·.id) = [0] ∧
    (lrun [.delay 5, .stop 0, .advance 10]).fired = [] := by decide +kernel
example : firedAt 0 (lrun [.delay 5, .advance 4, .advance 1]).fired = 1 := by decide +kernel

/-! ## The debounce monitor accepts the model

`DMon` (the decidable monitor that judges the implementation's trace in the driver) is run alongside
the model: after every event the monitor is told the event, and at arbitrary points (`true` flags) it
is shown the model's execution log, exactly as the driver shows it the implementation's log.  For
every history and every choice of observation points the monitor reports no violation. -/

/-- the model's execution log in the monitor's format (fireTime, position of the call, callTime) -/
def dlog (s : DState) : List (Int × Nat × Int) := s.fired.map fun fr => (fr.f, fr.idx, fr.tc)

def dmonRun (wait : Nat) : List (DEv × Bool) → DMon → DState → Option String
  | [], _, _ => none
  | (e, o) :: r, m, s =>
    if o then
      match (m.push e).onFired (dlog (dstep wait s e)) with
      | (some c, _) => some c
      | (none, m2) => dmonRun wait r m2 (dstep wait s e)
    else dmonRun wait r (m.push e) (dstep wait s e)

theorem dlog_entry_ok {wait hist s} (h : DInv wait hist s) :
    ∀ x ∈ dlog s, FireOK wait hist x.1 x.2.1 x.2.2 ∧ x.1 ≤ clock hist := by
  intro x hx
  obtain ⟨fr, hfr, rfl⟩ := List.mem_map.mp hx
  exact ⟨fireOK_of_inv h fr hfr, Int.le_trans (h.fired fr hfr).fired_by (clock_take_le hist _)⟩

theorem chk_accepts (m : DMon) (hist : List DEv) (hnow : m.now = clock hist) :
    ∀ (extra old : List (Int × Nat × Int)),
      (∀ x ∈ extra, FireOK m.wait hist x.1 x.2.1 x.2.2 ∧ x.1 ≤ clock hist) →
      (old ++ extra).Pairwise (fun a b => a.2.1 < b.2.1) →
      DMon.onFired.chk m hist old extra = none := by
  intro extra
  induction extra with
  | nil => intro old _ _; rfl
  | cons x r ih =>
    intro old hok hsorted
    obtain ⟨f, i, tc⟩ := x
    obtain ⟨hx, hle⟩ := hok (f, i, tc) (List.mem_cons_self ..)
    have h1 : ¬ (old.any fun o => o.2.1 == i) = true := by
      intro hc
      obtain ⟨o, ho, hoi⟩ := List.any_eq_true.mp hc
      have := (List.pairwise_append.mp hsorted).2.2 o ho (f, i, tc) (List.mem_cons_self ..)
      exact Nat.lt_irrefl i (beq_iff_eq.mp hoi ▸ this)
    have h2 : ¬ f > m.now := hnow ▸ Int.not_lt.mpr hle
    have h3 : ¬ (hist[i]? != some DEv.call || clock (hist.take i) != tc) = true := by
      simp [hx.isCall, hx.callTime]
    have h4 : ¬ f < tc + m.wait := Int.not_lt.mpr hx.notEarly
    have h5 : ¬ (!fireOKb m.wait hist f i tc) = true := by
      rw [(fireOKb_iff m.wait hist f i tc).mpr hx]; decide
    rw [DMon.onFired.chk, if_neg h1, if_neg h2, if_neg h3, if_neg h4, if_neg h5]
    exact ih (old ++ [(f, i, tc)]) (fun y hy => hok y (List.mem_cons_of_mem _ hy))
      (by rw [List.append_assoc]; exact hsorted)

/-- monitor and model in step after the history `hist` -/
structure DSync (wait : Nat) (hist : List DEv) (m : DMon) (s : DState) : Prop where
  inv : DInv wait hist s
  wait_eq : m.wait = wait
  rev_eq : m.rev = hist.reverse
  len_eq : m.len = hist.length
  now_eq : m.now = clock hist
  seen : m.seen <+: dlog s
  lastNA : ∀ i tc, m.lastNA = some (i, true, tc) → CallServed (tc + wait) i tc s

theorem dsync_init (wait : Nat) : DSync wait [] { wait := wait } {} where
  inv := dinv_init wait
  wait_eq := rfl
  rev_eq := rfl
  len_eq := rfl
  now_eq := rfl
  seen := List.prefix_refl _
  lastNA := by intro i tc h; cases h

theorem dsync_push {wait hist m s} (e : DEv) (h : DSync wait hist m s) :
    DSync wait (hist ++ [e]) (m.push e) (dstep wait s e) where
  inv := dstep_inv e h.inv
  wait_eq := h.wait_eq
  rev_eq := by rw [List.reverse_append]; exact congrArg (e :: ·) h.rev_eq
  len_eq := by rw [List.length_append]; exact congrArg (· + 1) h.len_eq
  now_eq := by rw [clock_snoc, ← h.now_eq]; rfl
  seen := h.seen.trans ((dstep_fired_prefix wait s e).map _)
  lastNA := by
    intro i tc hl
    cases e with
    | call =>
      simp only [DMon.push, DEv.isAdvance, Bool.false_eq_true, if_false, Option.some.injEq, Prod.mk.injEq] at hl
      obtain ⟨rfl, _, rfl⟩ := hl
      rw [h.len_eq, h.now_eq]
      exact callServed_call h.inv
    | cancel => simp [DMon.push, DEv.isAdvance] at hl
    | advance dt => exact callServed_advance wait _ i tc s dt (h.lastNA i tc hl)

theorem donFired_accepts {wait hist m s} (h : DSync wait hist m s) :
    m.onFired (dlog s) = (none, { m with seen := dlog s }) := by
  have hseen : (dlog s).take m.seen.length = m.seen := (List.prefix_iff_eq_take.mp h.seen).symm
  have hsplit : m.seen ++ (dlog s).drop m.seen.length = dlog s := List.prefix_iff_eq_append.mp h.seen
  -- the monitor reverses its history only when there is something new: `evs` is `hist` then, and irrelevant otherwise
  have hchk : ∀ evs, (((dlog s).drop m.seen.length).isEmpty = false → evs = hist) →
      DMon.onFired.chk m evs m.seen ((dlog s).drop m.seen.length) = none := by
    intro evs hev
    cases hd : (dlog s).drop m.seen.length with
    | nil => rfl
    | cons x r =>
      rw [hd] at hev hsplit
      rw [hev rfl]
      refine chk_accepts m hist h.now_eq _ _ (fun y hy => ?_) (by
        rw [hsplit]; exact List.pairwise_map.mpr h.inv.sorted)
      exact h.wait_eq ▸ dlog_entry_ok h.inv y (hsplit ▸ List.mem_append_right _ hy)
  unfold DMon.onFired
  have hne : ((dlog s).take m.seen.length != m.seen) = false := by rw [hseen]; exact bne_self_eq_false _
  simp only [hne, Bool.false_eq_true, if_false]
  rw [hchk _ (by intro hne'; simp [hne', h.rev_eq])]
  simp only
  rcases hl : m.lastNA with _ | ⟨i, b, tc⟩
  · rfl
  · cases b with
    | false => rfl
    | true =>
      simp only
      -- the last call-or-cancel is the call `i`: if its deadline has passed it is in the log
      have hcond : ¬ (decide (tc + (m.wait : Int) ≤ m.now) && !((dlog s).any fun o => o.2.1 == i)) = true := by
        intro hc
        rw [Bool.and_eq_true, decide_eq_true_eq, Bool.not_eq_true'] at hc
        rcases h.lastNA i tc hl with ⟨fr, hfr, hi, _⟩ | ⟨_, hlt⟩
        · have : ((dlog s).any fun o => o.2.1 == i) = true :=
            List.any_eq_true.mpr ⟨_, List.mem_map_of_mem hfr, beq_iff_eq.mpr hi⟩
          rw [this] at hc; cases hc.2
        · have := hc.1
          rw [h.wait_eq, h.now_eq, ← h.inv.now_eq] at this
          exact absurd this (Int.not_le.mpr hlt)
      exact if_neg hcond

theorem dmonRun_accepts (wait : Nat) : ∀ (tr : List (DEv × Bool)) (hist : List DEv) (m : DMon) (s : DState),
    DSync wait hist m s → dmonRun wait tr m s = none := by
  intro tr
  induction tr with
  | nil => intro hist m s _; rfl
  | cons x r ih =>
    intro hist m s h
    obtain ⟨e, o⟩ := x
    have hp := dsync_push e h
    cases o with
    | false => exact ih _ _ _ hp
    | true =>
      rw [dmonRun, if_pos rfl, donFired_accepts hp]
      exact ih _ _ _ { hp with seen := List.prefix_refl _ }

/-- **The debounce monitor accepts the model**: for every wait, every history and every choice of
observation points, `DMon` — fed the events and shown the model's execution log — reports no
violated clause (`log-grows-only`, `at-most-once-per-burst`, `fire-time-in-the-future`,
`belongs-to-a-call`, `never-early`, `most-recent-call-and-none-after-cancel`, `does-run`). -/
theorem dmon_accepts_model (wait : Nat) (tr : List (DEv × Bool)) :
    dmonRun wait tr { wait := wait } {} = none :=
  dmonRun_accepts wait tr [] _ _ (dsync_init wait)

example : dmonRun 10 [(.call, true), (.advance 4, true), (.call, false), (.advance 10, true), (.cancel, true)]
    { wait := 10 } {} = none := by decide +kernel

/-- the model's execution log in the monitor's format (fireTime, timer id, callTime), in the order the model appends:
by step, and within one step by creation (`[.delay 10, .delay 5, .advance 20]` gives the run at 10 before the run
at 5).  The driver sorts it by (time, id); every check of `LMon.onFired` is insensitive to the order. -/
def llog (s : LState) : List (Int × Nat × Int) := s.fired.map fun fr => (fr.f, fr.id, fr.tc)

def lmonPush (m : LMon) : LEv → LMon
  | .delay d => m.onDelay d
  | .stop id => m.onStop id
  | .advance dt => m.onSleep dt

def lmonRun : List (LEv × Bool) → LMon → LState → Option String
  | [], _, _ => none
  | (e, o) :: r, m, s =>
    if o then
      match (lmonPush m e).onFired (llog (lstep s e)) with
      | some c => some c
      | none => lmonRun r ((lmonPush m e).observe (llog (lstep s e))) (lstep s e)
    else lmonRun r (lmonPush m e) (lstep s e)

/-- what the monitor knows about timer `j`: the `delay` event that created it, and in `stopped` the
instant of the first `stop j` after that event -/
structure MTimerOK (hist : List LEv) (j : Nat) (t : LTimer) : Prop where
  id_eq : t.id = j
  pos : ∃ i, DelayAt hist i t.d t.tc j ∧
    (∀ k, i < k → hist[k]? = some (LEv.stop j) → ∃ sv, t.stopped = some sv ∧ sv ≤ lclock (hist.take k)) ∧
    (∀ sv, t.stopped = some sv → ∃ k, i < k ∧ hist[k]? = some (LEv.stop j) ∧ sv = lclock (hist.take k))

/-- monitor and model in step after the history `hist` -/
structure LSync (hist : List LEv) (m : LMon) (s : LState) : Prop where
  inv : LInvH hist s
  now_eq : m.now = lclock hist
  len : m.timers.length = cnt hist
  tim : ∀ j t, m.timers[j]? = some t → MTimerOK hist j t
  seen : ∀ x ∈ m.seen, x ∈ llog s

/-- the monitor's record of timer `j` stays right under an event that is not the first `stop j` -/
theorem MTimerOK.keep {hist j t} (e : LEv) (h : MTimerOK hist j t) (hc : e = LEv.stop j → t.stopped ≠ none) :
    MTimerOK (hist ++ [e]) j t := by
  obtain ⟨i, hd, hstops, hsv⟩ := h.pos
  refine ⟨h.id_eq, i, hd.snoc e, fun k hk hx => ?_, fun sv hs => ?_⟩
  · rcases Lemmas.ListFacts.getElem?_snoc_cases hx with ⟨hkl, hx'⟩ | ⟨hkl, he⟩
    · rw [List.take_append_of_le_length (Nat.le_of_lt hkl)]; exact hstops k hk hx'
    · -- a later `stop j`: the first one was recorded at an earlier instant
      cases hs : t.stopped with
      | none => exact absurd hs (hc he.symm)
      | some sv =>
        obtain ⟨k0, _, _, hsv0⟩ := hsv sv hs
        exact ⟨sv, rfl, by rw [hkl, List.take_left, hsv0]; exact lclock_take_le _ _⟩
  · obtain ⟨k, hk, hx, hsvk⟩ := hsv sv hs
    exact ⟨k, hk, get_snoc_old _ _ _ hx, by rw [List.take_append_of_le_length (Nat.le_of_lt (get_lt hx))]; exact hsvk⟩

theorem MTimerOK.stop {hist j t} (h : MTimerOK hist j t) (hn : t.stopped = none) :
    MTimerOK (hist ++ [LEv.stop j]) j { t with stopped := some (lclock hist) } := by
  obtain ⟨i, hd, hstops, _⟩ := h.pos
  refine ⟨h.id_eq, i, hd.snoc _, fun k hk hx => ?_, fun sv hs => ?_⟩
  · rcases Lemmas.ListFacts.getElem?_snoc_cases hx with ⟨_, hx'⟩ | ⟨hkl, _⟩
    · obtain ⟨sv, hs, _⟩ := hstops k hk hx'
      cases hn.symm.trans hs
    · exact ⟨_, rfl, by rw [hkl, List.take_left]; exact Int.le_refl _⟩
  · cases hs
    exact ⟨hist.length, get_lt hd.isDelay, List.getElem?_concat_length, by rw [List.take_left]⟩

theorem lsync_init : LSync [] {} {} where
  inv := linvh_init
  now_eq := rfl
  len := rfl
  tim := by intro j t h; simp at h
  seen := by intro x h; cases h

theorem lmonPush_now (m : LMon) (e : LEv) : (lmonPush m e).now = m.now + e.dt := by
  cases e with
  | advance dt => rfl
  | _ => exact (Int.add_zero _).symm

theorem lmonPush_length (m : LMon) (e : LEv) : (lmonPush m e).timers.length = m.timers.length + cnt [e] := by
  cases e with
  | delay d => exact List.length_append
  | stop id => exact List.length_map _
  | advance dt => rfl

theorem lmonPush_seen (m : LMon) (e : LEv) : (lmonPush m e).seen = m.seen := by cases e <;> rfl

theorem lsync_push {hist m s} (e : LEv) (h : LSync hist m s) :
    LSync (hist ++ [e]) (lmonPush m e) (lstep s e) where
  inv := lstep_invh e h.inv
  now_eq := by rw [lmonPush_now, lclock_snoc, h.now_eq]
  len := by rw [lmonPush_length, cnt_append, h.len]
  seen := fun x hx => by
    obtain ⟨fr, hfr, rfl⟩ := List.mem_map.mp (h.seen x (lmonPush_seen m e ▸ hx))
    exact List.mem_map_of_mem (lstep_fired_mono s e fr hfr)
  tim := by
    intro j t hj
    cases e with
    | delay d =>
      rcases Lemmas.ListFacts.getElem?_snoc_cases hj with ⟨_, hj⟩ | ⟨hjl, rfl⟩
      · exact (h.tim j t hj).keep _ nofun
      · exact ⟨hjl.symm, hist.length, DelayAt.last rfl h.now_eq (hjl.trans h.len),
          fun k hk hx => absurd hx (get_snoc_beyond hk), nofun⟩
    | stop id =>
      rw [lmonPush, LMon.onStop, List.getElem?_map] at hj
      obtain ⟨t0, hj0, rfl⟩ := Option.map_eq_some_iff.mp hj
      have hT := h.tim j t0 hj0
      -- the monitor's own test: is this the first `stop` of the timer?
      by_cases hc : (t0.id == id && t0.stopped.isNone) = true
      · rw [if_pos hc]
        rw [Bool.and_eq_true, beq_iff_eq, Option.isNone_iff_eq_none, hT.id_eq] at hc
        obtain ⟨rfl, hn⟩ := hc
        exact h.now_eq ▸ hT.stop hn
      · rw [if_neg hc]
        exact hT.keep _ fun he hn => hc (by rw [hT.id_eq, LEv.stop.inj he, hn, beq_self_eq_true]; rfl)
    | advance dt => exact (h.tim j t hj).keep _ nofun

theorem pairwise_of_once (l : List LFire) (h : ∀ i, firedAt i l ≤ 1) : l.Pairwise (fun a b => a.idx ≠ b.idx) :=
  List.pairwise_map.mp (List.nodup_iff_count.mpr fun i => by rw [List.count_eq_countP, List.countP_map]; exact h i)

theorem nodup_of_pairwise : ∀ (l : List (Int × Nat × Int)),
    l.Pairwise (fun a b => a.2.1 ≠ b.2.1) → LMon.onFired.nodup l = true := by
  intro l
  induction l with
  | nil => intro _; rfl
  | cons x r ih =>
    intro h
    rw [List.pairwise_cons] at h
    rw [LMon.onFired.nodup]
    simp only [Bool.and_eq_true, Bool.not_eq_true', List.any_eq_false, beq_iff_eq]
    exact ⟨fun y hy heq => h.1 y hy heq.symm, ih h.2⟩

theorem llog_ids_distinct {hist s} (h : LInvH hist s) : (llog s).Pairwise (fun a b => a.2.1 ≠ b.2.1) := by
  refine List.pairwise_map.mpr ((pairwise_of_once _ fun i =>
    Nat.le_trans (Nat.le_add_left _ _) (h.once i)).imp_of_mem ?_)
  intro a b ha hb hne heq
  exact hne ((h.fired a ha).delayAt.idx_inj (h.fired b hb).delayAt heq)

theorem LSync.find_timer {hist m s} (h : LSync hist m s) {id : Nat} (hid : id < cnt hist) :
    ∃ t, m.timers.find? (·.id == id) = some t ∧ MTimerOK hist id t := by
  have hget := List.getElem?_eq_getElem (show id < m.timers.length from h.len ▸ hid)
  cases hf : m.timers.find? (·.id == id) with
  | none =>
    exact absurd (beq_iff_eq.mpr (h.tim _ _ hget).id_eq)
      (List.find?_eq_none.mp hf _ (List.mem_of_getElem? hget))
  | some t =>
    obtain ⟨j, hj⟩ := List.getElem?_of_mem (List.mem_of_find?_eq_some hf)
    have hT := h.tim j t hj
    have hp := List.find?_some (p := fun x : LTimer => x.id == id) hf
    have hji : j = id := hT.id_eq.symm.trans (beq_iff_eq.mp hp)
    exact ⟨t, rfl, hji ▸ hT⟩

theorem timer_ran {hist m s} (h : LSync hist m s) {j : Nat} {t : LTimer} (hT : MTimerOK hist j t)
    (hdue : t.tc + max t.d 0 ≤ m.now) (hst : ∀ sv, t.stopped = some sv → t.tc + max t.d 0 < sv) :
    ∃ fr ∈ s.fired, fr.id = t.id := by
  obtain ⟨i, hd, hstops, _⟩ := hT.pos
  rw [h.now_eq, ← hd.callTime] at hdue
  obtain ⟨fr, hfr, hfi, _⟩ := delay_ran h.inv hd.isDelay (fun k hk hxk => by
    obtain ⟨sv, hs, hle⟩ := hstops k hk (hd.id_eq ▸ hxk)
    have := hst sv hs
    rw [hd.callTime]; omega) hdue
  exact ⟨fr, hfr, by rw [(h.inv.fired fr hfr).id_eq, hfi, ← hd.id_eq, hT.id_eq]⟩

/-- an entry that satisfies the specification passes the per-entry test of `LMon.onFired` against the monitor's
record `t` of its timer -/
theorem entry_passes {hist : List LEv} {i : Nat} {t : LTimer} {f tc now : Int}
    (hT : MTimerOK hist (cnt (hist.take i)) t) (hok : DelayOK hist (fun i => cnt (hist.take i)) f i tc)
    (hle : f ≤ now) :
    (!(t.tc == tc && decide (tc + t.d ≤ f) && decide (f ≤ now) &&
      (match t.stopped with | some s => decide (f ≤ s) | none => true))) = false := by
  obtain ⟨i', hd, _, hsv⟩ := hT.pos
  obtain ⟨d, hx, hdf⟩ := hok.isDelay
  have hat : DelayAt hist i d tc (cnt (hist.take i)) := ⟨hx, hok.callTime, rfl⟩
  cases hd.idx_inj hat rfl
  obtain ⟨hd', htc, _⟩ := hd.unique hat
  rw [beq_iff_eq.mpr htc, decide_eq_true (hd' ▸ hdf), decide_eq_true hle]
  cases hs : t.stopped with
  | none => rfl
  | some sv =>
    obtain ⟨k, hk, hxk, hsvk⟩ := hsv sv hs
    show (!(true && true && true && decide (f ≤ sv))) = false
    rw [decide_eq_true (hsvk ▸ hok.notStopped k hk hxk)]; rfl

/-- the monitor accepts every permutation of the model's log: its checks depend on the log only
through membership and distinctness of ids -/
theorem lonFired_accepts_perm {hist m s} (h : LSync hist m s) (log' : List (Int × Nat × Int))
    (hperm : log'.Perm (llog s)) : m.onFired log' = none := by
  have hnodup : LMon.onFired.nodup log' = true :=
    nodup_of_pairwise _ ((hperm.pairwise_iff fun hab => Ne.symm hab).mpr (llog_ids_distinct h.inv))
  have hseen : (m.seen.all fun o => log'.contains o) = true :=
    List.all_eq_true.mpr fun x hx => List.contains_iff_mem.mpr (hperm.mem_iff.mpr (h.seen x hx))
  unfold LMon.onFired
  rw [hnodup, hseen]
  simp only [Bool.not_true, Bool.false_eq_true, if_false]
  split
  · -- an entry the monitor rejects: impossible by `entry_passes`
    rename_i val hbad
    obtain ⟨fr, hfr, rfl⟩ := List.mem_map.mp (hperm.mem_iff.mp (List.mem_of_find?_eq_some hbad))
    have hp := List.find?_some hbad
    obtain ⟨t, hfind, hT⟩ := h.find_timer (h.inv.fired fr hfr).delayAt.id_lt
    dsimp only at hp
    rw [hfind] at hp
    obtain ⟨hok, hid, hle⟩ := delayOK_of_inv h.inv fr hfr
    cases (entry_passes (hid ▸ hT) hok (h.now_eq ▸ hle)).symm.trans hp
  · split
    · -- a timer the monitor misses: impossible by `timer_ran`
      rename_i val hmiss
      have hp := List.find?_some hmiss
      obtain ⟨j, hj⟩ := List.getElem?_of_mem (List.mem_of_find?_eq_some hmiss)
      simp only [Bool.and_eq_true, decide_eq_true_eq, Bool.not_eq_true'] at hp
      obtain ⟨⟨hdl, hst⟩, hnot⟩ := hp
      obtain ⟨fr, hfr, hid⟩ := timer_ran h (h.tim j val hj) hdl (fun sv hs => by
        rw [hs] at hst; exact of_decide_eq_true hst)
      have : (log'.any fun o => o.2.1 == val.id) = true :=
        List.any_eq_true.mpr ⟨_, hperm.mem_iff.mpr (List.mem_map_of_mem hfr), beq_iff_eq.mpr hid⟩
      rw [this] at hnot
      cases hnot
    · rfl

theorem LSync.observe {hist m s} (h : LSync hist m s) {log : List (Int × Nat × Int)}
    (hlog : ∀ x ∈ log, x ∈ llog s) : LSync hist (m.observe log) s :=
  { h with seen := hlog }

theorem lmonRun_accepts : ∀ (tr : List (LEv × Bool)) (hist : List LEv) (m : LMon) (s : LState),
    LSync hist m s → lmonRun tr m s = none := by
  intro tr
  induction tr with
  | nil => intro hist m s _; rfl
  | cons x r ih =>
    intro hist m s h
    obtain ⟨e, o⟩ := x
    have hp := lsync_push e h
    cases o with
    | false => exact ih _ _ _ hp
    | true =>
      rw [lmonRun, if_pos rfl, lonFired_accepts_perm hp _ (List.Perm.refl _)]
      exact ih _ _ _ (hp.observe fun _ hx => hx)

/-- **The delay monitor accepts the model**: for every history of `Delay` / `Stop` / passages of time
and every choice of observation points, `LMon` — fed the events and shown the model's execution log —
reports no violated clause (`at-most-once`, `log-grows-only`, `never-early-and-not-after-stop`,
`does-run`). -/
theorem lmon_accepts_model (tr : List (LEv × Bool)) : lmonRun tr {} {} = none :=
  lmonRun_accepts tr [] _ _ lsync_init

example : lmonRun [(.delay 5, true), (.delay (-3), true), (.advance 4, true), (.stop 0, true),
    (.stop 1, true), (.delay 2, false), (.advance 10, true)] {} {} = none := by decide +kernel

end GoguVerif.Theorems.C20
