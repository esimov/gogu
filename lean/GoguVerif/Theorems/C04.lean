import GoguVerif.Lemmas.C04
import GoguVerif.Kinds.Bst
/-!
# C04 — property theorems (the binary search tree behaves as an ordered map)

Everything is about `Model.Bst` (the model of `bstree/bstree.go` as it is in /repo), for every
history, every key/value type and every comparator that is a strict total order (`OrdMap.STO`).

* `Inv` — representation invariant: the tree is a binary search tree (`IsBst`);
* `abs` — abstraction function: the in-order traversal, an ordered association list;
* `absP` — abstraction into the PATCHED specification's state: `abs` plus the number of failed
  deletes, recovered from the state as `|abs| − size`.

Known finding `bstree.delete-absent-decrements-size`: the full-strength statement (the model refines
`Spec.C04.run` including `Size`) is FALSE (`bst_refines_spec_false`); what holds for every history is
the refinement to `Spec.C04.Patched.run` (`bst_refines_spec_partial`), the refinement to the unpatched
specification on everything except the `Size` answers (`bst_refines_spec_except_size`), and the exact
characterisation `size = |abs| − failed deletes` (`size_characterisation`).
-/
namespace GoguVerif.Theorems.C04
open GoguVerif.Spec GoguVerif.Spec.OrdMap GoguVerif.Spec.C04
open GoguVerif.Model.Bst (Tree traverse)
open GoguVerif.Lemmas.C04

variable {κ ν : Type} {comp : κ → κ → Bool}

/-- `<` on `Int` (harness comparator `lt`) is a strict total order. -/
theorem sto_lt : STO (fun a b : Int => decide (a < b)) :=
  sto_int_lt

/-- `>` on `Int` (harness comparator `gt`) is a strict total order. -/
theorem sto_gt : STO (fun a b : Int => decide (a > b)) :=
  sto_int_lt.flip

/-- these are literally the comparators the driver runs the model with -/
example : Kinds.Bst.compOf "lt" = some (fun a b : Int => decide (a < b)) := rfl
example : Kinds.Bst.compOf "gt" = some (fun a b : Int => decide (a > b)) := rfl

/-- Representation invariant of a `BsTree` state: the root is a binary search tree.
(Nothing is required of `size`: it is *characterised*, see `absP`.) -/
def Inv (comp : κ → κ → Bool) (s : Model.Bst.St κ ν) : Prop := IsBst comp s.root

/-- Abstraction function: the ordered association list held by the tree = its in-order traversal. -/
def abs (s : Model.Bst.St κ ν) : List (κ × ν) := traverse s.root

/-- Abstraction into the patched specification: the failed deletes are `|abs| − size`. -/
def absP (s : Model.Bst.St κ ν) : Patched.St κ ν :=
  { m := abs s, failedDeletes := (abs s).length - s.size }

theorem inv_init : Inv comp ({} : Model.Bst.St κ ν) := trivial
theorem abs_init : abs ({} : Model.Bst.St κ ν) = [] := rfl
theorem absP_init : absP ({} : Model.Bst.St κ ν) = { m := [] } := rfl

/-- The invariant says exactly that the abstraction is a well-formed ordered map. -/
theorem inv_iff_sorted (h : STO comp) (s : Model.Bst.St κ ν) : Inv comp s ↔ Sorted comp (abs s) :=
  isBst_iff_sorted h s.root

/-- One call: from a state satisfying the invariant the model does not panic, re-establishes the
invariant, answers what the patched specification answers in the abstract state, and lands in the
abstraction of the patched specification's next state. -/
theorem step_refines_patched (h : STO comp) (s : Model.Bst.St κ ν) (op : Op κ ν) (hi : Inv comp s) :
    ∃ s' o, Model.Bst.step comp s op = some (s', o) ∧ Inv comp s' ∧
      Patched.step comp (absP s) op = (absP s', o) := by
  obtain ⟨root, size⟩ := s
  have hs : Sorted comp (traverse root) := (isBst_iff_sorted h root).1 hi
  cases op with
  | upsert key val =>
    -- `Upsert` on the empty tree is the same insertion, done by `step` itself
    have ⟨t', e1, e2⟩ : ∃ t', Model.Bst.step comp ⟨root, size⟩ (.upsert key val) =
          some (⟨t', size + if (lookup comp key (traverse root)).isSome then 0 else 1⟩, .unit) ∧
        traverse t' = OrdMap.insert comp key val (traverse root) := by
      cases root with
      | nil => exact ⟨_, rfl, rfl⟩
      | node l k v r =>
        obtain ⟨t', e1, e2⟩ := upsertNode_spec h key val (.node l k v r) size (fun e => nomatch e) hi
        exact ⟨t', by simp only [Model.Bst.step, e1], e2⟩
    refine ⟨_, _, e1, (isBst_iff_sorted h t').2 (e2 ▸ sorted_insert h key val hs), ?_⟩
    simp only [Patched.step, C04.step, absP, abs, e2, length_insert]
    -- the failed deletes `|abs| - size` stay: a new key adds 1 to both, an overwrite to neither
    congr 2
    split <;> omega
  | get key =>
    refine ⟨⟨root, size⟩, .got (lookup comp key (traverse root)), ?_, hi, rfl⟩
    rw [← get_spec h key root hi, Model.Bst.step]
    cases Model.Bst.get comp key root <;> rfl
  | delete key =>
    obtain ⟨t', e1, e2⟩ := delete_spec h root key hi
    refine ⟨⟨t', size - 1⟩, .deleted (lookup comp key (traverse root)).isSome,
      by simp only [Model.Bst.step, e1],
      (isBst_iff_sorted h t').2 (e2 ▸ sorted_erase key hs), ?_⟩
    have hlen := length_erase (comp := comp) key (traverse root)
    simp only [Patched.step, absP, abs, e2]
    -- `size` drops by 1 whatever happens, `|abs|` only if the key was there: else `|abs| - size` grows by 1
    congr 2
    by_cases hf : (lookup comp key (traverse root)).isSome = true
    · rw [if_pos hf] at hlen; simp only [hf, ↓reduceIte]; omega
    · rw [if_neg hf] at hlen; simp only [hf, Bool.false_eq_true, ↓reduceIte]; omega
  | size =>
    refine ⟨⟨root, size⟩, .int size, rfl, hi, ?_⟩
    simp only [Patched.step, absP, abs, Int.sub_sub_self]
  | traverse => exact ⟨⟨root, size⟩, .items (traverse root), rfl, hi, rfl⟩

/-- The BST invariant is preserved by every operation. -/
theorem inv_preserved (h : STO comp) (s s' : Model.Bst.St κ ν) (op : Op κ ν) (o : Out κ ν)
    (hi : Inv comp s) (hs : Model.Bst.step comp s op = some (s', o)) : Inv comp s' := by
  obtain ⟨s'', o', e, hi', _⟩ := step_refines_patched h s op hi
  rw [e] at hs; cases hs; exact hi'

/-- No call panics from a state satisfying the invariant (the nil dereferences in `upsert`/`min` are
unreachable). -/
theorem step_no_panic (h : STO comp) (s : Model.Bst.St κ ν) (op : Op κ ν) (hi : Inv comp s) :
    (Model.Bst.step comp s op).isSome = true := by
  obtain ⟨s', o, e, _, _⟩ := step_refines_patched h s op hi
  rw [e]; rfl

/--
For EVERY history the model refines the PATCHED specification (the ordered map, with `Size` = present
keys minus failed deletes): same answers, never a panic, and the final state abstracts to the patched
specification's final state.

The full-strength statement is false for the code as it is (known finding
`bstree.delete-absent-decrements-size`); it is negated below (`bst_refines_spec_false`):

  (Model.Bst.run comp {} ops).2 = (Spec.C04.run comp [] ops).2.map some
-/
theorem bst_refines_spec_partial (h : STO comp) (ops : List (Op κ ν)) (s : Model.Bst.St κ ν)
    (hi : Inv comp s) :
    (Model.Bst.run comp s ops).2 = (Patched.run comp (absP s) ops).2.map some ∧
    absP (Model.Bst.run comp s ops).1 = (Patched.run comp (absP s) ops).1 ∧
    Inv comp (Model.Bst.run comp s ops).1 := by
  induction ops generalizing s with
  | nil => exact ⟨rfl, rfl, hi⟩
  | cons op ops ih =>
    obtain ⟨s', o, e, hi', ep⟩ := step_refines_patched h s op hi
    obtain ⟨i1, i2, i3⟩ := ih s' hi'
    simp only [Model.Bst.run, Patched.run, e, ep]
    exact ⟨by rw [i1]; rfl, i2, i3⟩

/-- …from the empty tree (`bstree.New`). -/
theorem bst_refines_spec_partial_init (h : STO comp) (ops : List (Op κ ν)) :
    (Model.Bst.run comp {} ops).2 = (Patched.run comp { m := [] } ops).2.map some :=
  (bst_refines_spec_partial h ops {} inv_init).1

/-- Negation of the full-strength statement, by the recorded witness
`Upsert(1,10); Delete(5); Size()`: the model (like the code) answers `Size = 0`, the property
demands `1`. -/
theorem bst_refines_spec_false :
    ¬ ∀ ops : List (Op Int Int),
        (Model.Bst.run (fun a b => decide (a < b)) {} ops).2 =
          (Spec.C04.run (fun a b => decide (a < b)) [] ops).2.map some := by
  intro hall
  have := hall [.upsert 1 10, .delete 5, .size]
  revert this
  decide

/-- the witness, evaluated on the model and on the specification -/
example : (Model.Bst.run (fun a b : Int => decide (a < b)) {} [.upsert 1 (10 : Int), .delete 5, .size]).2
    = [some .unit, some (.deleted false), some (.int 0)] := by decide +kernel
example : (Spec.C04.run (fun a b : Int => decide (a < b)) [] [.upsert 1 (10 : Int), .delete 5, .size]).2
    = [.unit, .deleted false, .int 1] := by decide +kernel

/-- One call other than `Size`: the model answers what the (unpatched) ordered-map specification
answers, and the abstraction of its next state is the specification's next state. -/
theorem step_refines_spec (h : STO comp) (s : Model.Bst.St κ ν) (op : Op κ ν) (hi : Inv comp s) :
    ∃ s' o, Model.Bst.step comp s op = some (s', o) ∧ Inv comp s' ∧
      abs s' = (Spec.C04.step comp (abs s) op).1 ∧
      (op ≠ .size → o = (Spec.C04.step comp (abs s) op).2) := by
  obtain ⟨s', o, e, hi', ep⟩ := step_refines_patched h s op hi
  rw [patched_step] at ep
  refine ⟨s', o, e, hi', (congrArg (fun x => x.1.m) ep).symm,
    fun hne => (congrArg Prod.snd ep).symm.trans ?_⟩
  cases op with
  | size => exact absurd rfl hne
  | _ => rfl

/-- For EVERY history, all answers except those of `Size` calls are the ordered-map specification's
(Get, Delete's error flag, the Traverse sequence), no call panics, and the tree's in-order content is
the specification's map. -/
theorem bst_refines_spec_except_size (h : STO comp) (ops : List (Op κ ν)) :
    (Model.Bst.run comp {} ops).2.map (Option.map maskSize) =
      (Spec.C04.run comp [] ops).2.map (fun o => some (maskSize o)) ∧
    abs (Model.Bst.run comp {} ops).1 = (Spec.C04.run comp [] ops).1 := by
  obtain ⟨r1, r2, _⟩ := bst_refines_spec_partial h ops ({} : Model.Bst.St κ ν) inv_init
  constructor
  · rw [r1, List.map_map]
    show List.map (some ∘ maskSize) _ = List.map (some ∘ maskSize) _
    rw [← List.map_map, ← List.map_map]
    exact congrArg (List.map some)
      (patched_run_out maskSize ops _ fun d o _ _ => maskSize_shiftSize d o)
  · exact (congrArg Patched.St.m r2).trans (congrArg Patched.St.m (patched_run_state _ ops))

/-- `Size` after ANY history = number of present keys − number of failed deletes so far
(so it also goes below zero).  This is the exact content of the known finding. -/
theorem size_characterisation (h : STO comp) (ops : List (Op κ ν)) :
    (Model.Bst.run comp {} ops).1.size =
      ((Spec.C04.run comp [] ops).1.length : Int) - failedDeletes comp [] ops := by
  obtain ⟨_, r2, _⟩ := bst_refines_spec_partial h ops ({} : Model.Bst.St κ ν) inv_init
  have hm := (bst_refines_spec_except_size h ops).2
  have hf : _ = 0 + (failedDeletes comp [] ops : Int) :=
    congrArg Patched.St.failedDeletes (r2.trans (patched_run_state _ ops))
  simp only [absP, hm] at hf
  omega

/-- `Size` clause under the exact side condition: a history without a failed `Delete` gets the
answers of the UNPATCHED specification on every call, `Size` included. -/
theorem size_partial (h : STO comp) (ops : List (Op κ ν)) (hnf : failedDeletes comp [] ops = 0) :
    (Model.Bst.run comp {} ops).2 = (Spec.C04.run comp [] ops).2.map some := by
  rw [bst_refines_spec_partial_init h]
  -- with no failed delete every shift of a `Size` answer is 0
  have := patched_run_out (comp := comp) id ops { m := [] } fun d o h1 h2 => by
    rw [hnf] at h2
    obtain rfl : d = 0 := Int.le_antisymm h2 h1
    exact congrArg id (shiftSize_zero o)
  rw [List.map_id, List.map_id] at this
  rw [this]

/-- what `Get(k)` answers: the value, or `none` for `ErrorNotFound` -/
def get? (comp : κ → κ → Bool) (s : Model.Bst.St κ ν) (k : κ) : Option ν :=
  (Model.Bst.get comp k s.root).map (·.2)

/-- what state `Upsert(k, v)` / `Delete(k)` leads to (they do not panic under `Inv`) -/
def after (comp : κ → κ → Bool) (s : Model.Bst.St κ ν) (op : Op κ ν) : Model.Bst.St κ ν :=
  match Model.Bst.step comp s op with
  | some (s', _) => s'
  | none => s

theorem get?_eq_lookup (h : STO comp) (s : Model.Bst.St κ ν) (hi : Inv comp s) (k : κ) :
    get? comp s k = lookup comp k (abs s) := get_spec h k s.root hi

theorem after_spec (h : STO comp) (s : Model.Bst.St κ ν) (op : Op κ ν) (hi : Inv comp s) :
    Inv comp (after comp s op) ∧ abs (after comp s op) = (Spec.C04.step comp (abs s) op).1 := by
  obtain ⟨s', o, e, hi', ea, _⟩ := step_refines_spec h s op hi
  simp only [after, e]
  exact ⟨hi', ea⟩

theorem abs_upsert (h : STO comp) (s : Model.Bst.St κ ν) (hi : Inv comp s) (k : κ) (v : ν) :
    abs (after comp s (.upsert k v)) = OrdMap.insert comp k v (abs s) := (after_spec h s _ hi).2

/-- covers the two-child case (successor splice) -/
theorem abs_delete (h : STO comp) (s : Model.Bst.St κ ν) (hi : Inv comp s) (k : κ) :
    abs (after comp s (.delete k)) = OrdMap.erase comp k (abs s) := (after_spec h s _ hi).2

/-- Get returns the most recently upserted value … -/
theorem get_after_upsert_same (h : STO comp) (s : Model.Bst.St κ ν) (hi : Inv comp s) (k : κ) (v : ν) :
    get? comp (after comp s (.upsert k v)) k = some v := by
  rw [get?_eq_lookup h _ (after_spec h s _ hi).1, abs_upsert h s hi]
  exact lookup_insert_self (h.irrefl k) v _

/-- … and an `Upsert` of one key does not disturb any other key. -/
theorem get_after_upsert_other (h : STO comp) (s : Model.Bst.St κ ν) (hi : Inv comp s) (k k' : κ) (v : ν)
    (hne : k' ≠ k) : get? comp (after comp s (.upsert k v)) k' = get? comp s k' := by
  rw [get?_eq_lookup h _ (after_spec h s _ hi).1, abs_upsert h s hi, get?_eq_lookup h s hi]
  exact lookup_insert_other h hne v _

/-- A deleted key is not found afterwards … -/
theorem get_after_delete_same (h : STO comp) (s : Model.Bst.St κ ν) (hi : Inv comp s) (k : κ) :
    get? comp (after comp s (.delete k)) k = none := by
  rw [get?_eq_lookup h _ (after_spec h s _ hi).1, abs_delete h s hi]
  exact lookup_erase_self h k ((inv_iff_sorted h s).1 hi)

/-- … and `Delete` removes only that key. -/
theorem get_after_delete_other (h : STO comp) (s : Model.Bst.St κ ν) (hi : Inv comp s) (k k' : κ)
    (hne : k' ≠ k) : get? comp (after comp s (.delete k)) k' = get? comp s k' := by
  rw [get?_eq_lookup h _ (after_spec h s _ hi).1, abs_delete h s hi, get?_eq_lookup h s hi]
  exact lookup_erase_other h hne ((inv_iff_sorted h s).1 hi)

/-- `Delete` reports not-found exactly for absent keys. -/
theorem delete_errs_iff_absent (h : STO comp) (s : Model.Bst.St κ ν) (hi : Inv comp s) (k : κ) :
    ∃ s', Model.Bst.step comp s (.delete k) = some (s', .deleted (get? comp s k).isSome) := by
  obtain ⟨s', o, e, _, _, ho⟩ := step_refines_spec h s (.delete k) hi
  refine ⟨s', ?_⟩
  rw [e, ho nofun, get?_eq_lookup h s hi]
  rfl

/-- A failed `Delete` leaves the tree itself untouched (only the counter moves: the finding). -/
theorem delete_absent_root (h : STO comp) (s : Model.Bst.St κ ν) (hi : Inv comp s) (k : κ)
    (ha : get? comp s k = none) :
    Model.Bst.step comp s (.delete k) = some ({ root := s.root, size := s.size - 1 }, .deleted false) := by
  rw [get?_eq_lookup h s hi] at ha
  simp only [Model.Bst.step, delete_absent h s.root k hi ha]

/-- Two-child deletion, explicitly: the node keeps its place and its left subtree, takes over the
item of its in-order successor (the first item of the right subtree's traversal), and the successor is
removed from the right subtree; the call reports success. -/
theorem delete_two_children_successor (h : STO comp) (ll lr rl rr : Tree κ ν) (lk k rk : κ) (lv v rv : ν)
    (hb : IsBst comp (.node (.node ll lk lv lr) k v (.node rl rk rv rr))) :
    ∃ mk mv r', Model.Bst.delete comp k (.node (.node ll lk lv lr) k v (.node rl rk rv rr)) =
        some (.node (.node ll lk lv lr) mk mv r', true) ∧
      traverse (.node rl rk rv rr) = (mk, mv) :: traverse r' := by
  obtain ⟨-, hr, -, -⟩ := hb
  exact delete_two_children h ll lr lk k lv v (fun e => nomatch e) fun key => delete_spec h _ key hr

/-- `Traverse` = the abstraction: every present key exactly once, with its current value, in
comparator order. -/
theorem traverse_eq_abs (s : Model.Bst.St κ ν) :
    Model.Bst.step comp s .traverse = some (s, .items (abs s)) := rfl

theorem traverse_sorted (h : STO comp) (s : Model.Bst.St κ ν) (hi : Inv comp s) :
    (abs s).Pairwise (fun a b => comp a.1 b.1 = true) :=
  sorted_iff_pairwise.1 ((inv_iff_sorted h s).1 hi)

theorem traverse_keys_nodup (h : STO comp) (s : Model.Bst.St κ ν) (hi : Inv comp s) :
    ((abs s).map (·.1)).Nodup := keys_nodup h ((inv_iff_sorted h s).1 hi)

theorem traverse_mem_iff_get (h : STO comp) (s : Model.Bst.St κ ν) (hi : Inv comp s) (k : κ) (v : ν) :
    (k, v) ∈ abs s ↔ get? comp s k = some v := by
  rw [get?_eq_lookup h s hi]
  exact mem_iff_lookup h ((inv_iff_sorted h s).1 hi) k v

/-- a state reached by a history with a two-child deletion: the invariant holds there, and the
two-child branch of `delete` (successor splice) is really taken -/
example :
    let lt : Int → Int → Bool := fun a b => decide (a < b)
    let s := (Model.Bst.run lt {} [.upsert 2 20, .upsert 1 (10 : Int), .upsert 4 40, .upsert 3 30]).1
    Model.Bst.deleteCase lt 2 s.root = "two-children" ∧
    (Model.Bst.run lt s [.delete 2, .traverse, .get 3, .get 2, .size]).2 =
      [some (.deleted true), some (.items [(1, 10), (3, 30), (4, 40)]), some (.got (some 30)),
       some (.got none), some (.int 3)] := by decide +kernel

/-- `Inv` is satisfiable by a non-trivial state -/
example : Inv (fun a b : Int => decide (a < b))
    (Model.Bst.run (fun a b : Int => decide (a < b)) {}
      [.upsert 2 20, .upsert 1 (10 : Int), .upsert 4 40, .upsert 3 30, .delete 2]).1 :=
  (bst_refines_spec_partial sto_lt _ _ inv_init).2.2

/-- the hypothesis of `delete_two_children_successor` is satisfiable -/
example : IsBst (fun a b : Int => decide (a < b))
    (Tree.node (.node .nil 1 (10 : Int) .nil) 2 20 (.node (.node .nil 3 30 .nil) 4 40 .nil)) := by
  simp [IsBst, traverse]

/-- the side condition of `size_partial` is met by a non-trivial history -/
example : failedDeletes (fun a b : Int => decide (a < b)) []
    [.upsert 2 20, .upsert 1 (10 : Int), .delete 2, .size] = 0 := by decide +kernel

example : failedDeletes (fun a b : Int => decide (a < b)) []
    [.upsert 1 (10 : Int), .delete 5, .size] = 1 := by decide +kernel

end GoguVerif.Theorems.C04
