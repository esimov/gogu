import GoguVerif.Lemmas.C13
/-!
# C13 — property theorems

For ALL inputs (slices of any length, any predicate / key function / comparator, any integers) the
model of each function (`Model/C13.lean`) returns an answer that satisfies the property's clause
(`Spec/C13.lean`) — in particular the models never answer `panic` or `hang` inside the documented
domain.  Go `int` is the unbounded `Int`; the `int8` instantiation of `Abs` is modelled with explicit
two's-complement wrap and proved for every int8 value (the specification demands nothing at `x = MIN`).
Floats are out of scope.
-/
namespace GoguVerif.Theorems.C13
open GoguVerif.Spec.C13 (Out GoMap)
open GoguVerif.Lemmas.C13

/-- `FindIndex` returns the smallest matching index, `-1` if none. -/
theorem findIndex_spec (p : Int → Bool) (s : List Int) :
    Spec.C13.FirstIdx p s (Model.C13.FindIndex s p) :=
  findIndexLoop_spec p [] s fun _ h => absurd h List.not_mem_nil

/-- `IndexOf` returns the smallest index holding the value, `-1` if none. -/
theorem indexOf_spec (s : List Int) (v : Int) : Spec.C13.IndexOf s v (Model.C13.IndexOf s v) := by
  unfold Spec.C13.IndexOf Model.C13.IndexOf
  rw [indexOfLoop_eq]
  exact findIndex_spec _ s

/-- `FindLastIndex` never panics and returns the largest matching index, `-1` if none. -/
theorem findLastIndex_spec (p : Int → Bool) (s : List Int) :
    ∃ r, Model.C13.FindLastIndex s p = .ok r ∧ Spec.C13.LastIdx p s r :=
  findLastIndexLoop_spec p s s.length (Nat.le_refl _) (by rw [List.drop_length]; nofun)

/-- `LastIndexOf` never panics and returns the largest index holding the value, `-1` if none. -/
theorem lastIndexOf_spec (s : List Int) (v : Int) :
    ∃ r, Model.C13.LastIndexOf s v = .ok r ∧ Spec.C13.LastIndexOf s v r := by
  unfold Model.C13.LastIndexOf Spec.C13.LastIndexOf
  rw [lastIndexOfLoop_eq]
  exact findLastIndex_spec _ s

/-- `FindAll` returns exactly the matching index/value pairs. -/
theorem findAll_spec (p : Int → Bool) (s : List Int) :
    Spec.C13.FindAll p s (Model.C13.FindAll s p) := by
  unfold Spec.C13.FindAll Model.C13.FindAll
  rw [findAllLoop_eq, List.nil_append]
  refine ⟨List.pairwise_map.mpr (((zipIdx_pairwise s).sublist List.filter_sublist).imp Int.ofNat_lt.mpr),
    fun e he => ?_, fun i hi => ⟨hi, fun hp => ?_⟩⟩
  · obtain ⟨⟨x, i⟩, hm, rfl⟩ := List.mem_map.mp he
    obtain ⟨hz, hp⟩ := List.mem_filter.mp hm
    exact ⟨Int.natCast_nonneg i,
      atIdx_iff.mpr ⟨x, List.mk_mem_zipIdx_iff_getElem?.mp hz, rfl, hp⟩⟩
  · exact List.mem_map.mpr ⟨(s[i], i), List.mem_filter.mpr
      ⟨List.mk_mem_zipIdx_iff_getElem?.mpr (List.getElem?_eq_getElem hi), hp⟩, rfl⟩

theorem contains_spec (s : List Int) (v : Int) : Spec.C13.Contains s v (Model.C13.Contains s v) := by
  unfold Spec.C13.Contains
  rw [contains_eq_some, some_eq_any, List.any_eq_true]
  exact ⟨fun ⟨x, hx, e⟩ => beq_iff_eq.mp e ▸ hx, fun h => ⟨v, h, beq_self_eq_true v⟩⟩

theorem some_spec (p : Int → Bool) (s : List Int) : Spec.C13.Some p s (Model.C13.Some p s) := by
  unfold Spec.C13.Some; rw [some_eq_any, List.any_eq_true]

theorem every_spec (p : Int → Bool) (s : List Int) : Spec.C13.Every p s (Model.C13.Every p s) := by
  unfold Spec.C13.Every; rw [every_eq_all, List.all_eq_true]

/-- `FindMinBy`: the FIRST element whose key is minimal, for every key function. -/
theorem findMinBy_spec (f : Int → Int) (s : List Int) :
    Spec.C13.IsMinBy f s (Model.C13.FindMinBy s f) :=
  (findMinBy_firstMin f s).elim Or.inl FirstMin.isMinBy

theorem findMaxBy_spec (f : Int → Int) (s : List Int) :
    Spec.C13.IsMaxBy f s (Model.C13.FindMaxBy s f) := by
  rw [isMaxBy_iff_isMinBy_neg, Model.C13.FindMaxBy, maxByLoop_eq_minByLoop]
  exact findMinBy_spec _ s

/-- `FindMin`: an element of the input that is minimal; the zero value for the empty slice. -/
theorem findMin_spec (s : List Int) : Spec.C13.IsMin s (Model.C13.FindMin s) := by
  rw [Model.C13.FindMin, minLoop_eq_minByLoop]
  exact (findMinBy_firstMin id s).imp id fun h => ⟨h.mem, fun _ => h.le⟩

theorem findMax_spec (s : List Int) : Spec.C13.IsMax s (Model.C13.FindMax s) := by
  rw [Model.C13.FindMax, maxLoop_eq_minByLoop]
  exact (findMinBy_firstMin (fun x => -x) s).imp id fun h => ⟨h.mem, fun x hx => Int.neg_le_neg_iff.mp (h.le hx)⟩

/-- variadic `Min(values...)` (math.go) -/
theorem min_spec (s : List Int) : Spec.C13.IsMin s (Model.C13.Min s) :=
  min_eq_findMin s ▸ findMin_spec s

theorem max_spec (s : List Int) : Spec.C13.IsMax s (Model.C13.Max s) :=
  max_eq_findMax s ▸ findMax_spec s

example : Model.C13.FindMinBy [3, -3, 2, -2] (fun x => x * x) = 2 := by decide +kernel
example : Model.C13.FindMaxBy [3, -3, 2] (fun x => x * x) = 3 := by decide +kernel

/-- a by-key clause is the plain clause (`IsMin`, `IsMax`) of the values `kv` stored under the key, the error flag
saying that there are none; `le`: the direction of the order.  `h` is `IsMin kv (F kv)` / `IsMax kv (F kv)` and the
conclusion `IsMinByKey` / `IsMaxByKey`, unfolded: the instances below fit by unfolding the specification's definitions. -/
theorem byKey_spec (le : Int → Int → Prop) (kv : List Int) (r : Bool × Int) (F : List Int → Int)
    (hr : r = (kv.isEmpty, F kv)) (h : (kv = [] ∧ F kv = 0) ∨ (F kv ∈ kv ∧ ∀ x ∈ kv, le (F kv) x)) :
    (r.1 = true ↔ kv = []) ∧ (r.1 = true → r.2 = 0) ∧ (r.1 = false → r.2 ∈ kv ∧ ∀ x ∈ kv, le r.2 x) := by
  subst hr
  cases kv with
  | nil => exact ⟨⟨fun _ => rfl, fun _ => rfl⟩, fun _ => h.elim And.right fun h => absurd h.1 List.not_mem_nil, nofun⟩
  | cons x t => exact ⟨⟨nofun, nofun⟩, nofun, fun _ => h.resolve_left fun h => List.cons_ne_nil x t h.1⟩

/-- `FindMinByKey`, for every slice of maps (each in any iteration order) and every key: never a panic; an error
(with the zero value) exactly when no map of the slice holds the key; otherwise the minimal one of the values stored
under the key. -/
theorem findMinByKey_spec (ms : List GoMap) (k : Int) :
    Spec.C13.IsMinByKey ms k (Model.C13.FindMinByKey ms k).1 (Model.C13.FindMinByKey ms k).2 :=
  byKey_spec (· ≤ ·) _ _ _ (findMinByKey_eq ms k) (findMin_spec _)

theorem findMaxByKey_spec (ms : List GoMap) (k : Int) :
    Spec.C13.IsMaxByKey ms k (Model.C13.FindMaxByKey ms k).1 (Model.C13.FindMaxByKey ms k).2 :=
  byKey_spec (fun a b => b ≤ a) _ _ _ (findMaxByKey_eq ms k) (findMax_spec _)

/-- As soon as SOME map holds the key no error is reported (so the extremum really is returned) — in particular when
the first map lacks it (finding F44). -/
theorem findMinByKey_no_error (ms : List GoMap) (k : Int)
    (hsome : ∃ m ∈ ms, Spec.C13.lookup k m ≠ none) : (Model.C13.FindMinByKey ms k).1 = false :=
  -- the clause says it: an error only when no value is stored under the key
  let ⟨m, hm, hl⟩ := hsome
  Bool.eq_false_iff.mpr fun h => hl (List.filterMap_eq_nil_iff.mp ((findMinByKey_spec ms k).1.mp h) m hm)

example : Model.C13.FindMinByKey [[(1, 5)], [(0, 7)], [(0, -2)]] 0 = (false, -2) := by decide +kernel
example : Model.C13.FindMinByKey [[(1, 5)], [(2, 7)]] 0 = (true, 0) := by decide +kernel
example : Model.C13.FindMinByKey [[(0, 5), (1, 1)], [(1, 9)], [(0, -2)]] 0 = (false, -2) := by decide +kernel

/-- `Nth` is total: `s[i]` for `0 ≤ i < len`, `s[len+i]` for `-len ≤ i < 0`, an error otherwise —
never a panic (for every slice, including the empty one, and every integer index). -/
theorem nth_spec (s : List Int) (i : Int) : Spec.C13.Nth s i (Model.C13.Nth s i) :=
  ⟨fun ⟨h0, h1⟩ => nth_nonneg s i h0 h1 ▸ index_ok s i h0 h1,
   fun ⟨h0, h1⟩ => nth_neg s i h0 h1 ▸ index_ok s _ (by omega) (by omega),
   nth_err s i⟩

example : Model.C13.Nth [] 0 = .err := by decide +kernel
example : Model.C13.Nth [1, 2, 3] (-3) = .ok 1 := by decide +kernel
example : Model.C13.Nth [1, 2, 3] 3 = .err := by decide +kernel

theorem sum_spec (s : List Int) : Spec.C13.Sum s (Model.C13.Sum s) := by
  unfold Spec.C13.Sum Model.C13.Sum; rw [sumLoop_eq]; omega

theorem sumBy_spec (f : Int → Int) (s : List Int) : Spec.C13.SumBy f s (Model.C13.SumBy s f) := by
  unfold Spec.C13.SumBy Model.C13.SumBy; rw [sumByLoop_eq]; omega

/-- `Mean` of a non-empty slice is the arithmetic mean rounded toward zero (Go's integer division);
no panic there.  (For the empty slice the model — like the code — panics: integer division by zero;
the property leaves that case open.) -/
theorem mean_spec (s : List Int) : Spec.C13.Mean s (Model.C13.Mean s) := by
  unfold Spec.C13.Mean Model.C13.Mean
  intro hne
  have hl : s.length ≠ 0 := mt List.eq_nil_of_length_eq_zero hne
  simp only [hl, if_false]
  refine ⟨_, rfl, ?_⟩
  rw [sumLoop_eq]
  rw [Int.zero_add]
  exact tdiv_isTruncQuot _ _ (by omega)

theorem mean_empty_panics : Model.C13.Mean [] = .panic := rfl

example : Model.C13.Mean [-1, -2, -4] = .ok (-2) := by decide +kernel

theorem abs_spec (x : Int) : Spec.C13.Abs x (Model.C13.Abs x) := by
  by_cases h : x < 0
  · rw [abs_of_neg h]; exact ⟨Int.neg_nonneg_of_nonpos (Int.le_of_lt h), Or.inr rfl⟩
  · rw [abs_of_nonneg (Int.not_lt.mp h)]; exact ⟨Int.not_lt.mp h, Or.inl rfl⟩

/-- `Abs` on int8 (negation wraps): for every int8 value `Abs x ≥ 0 ∨ x = MIN`; the result is `|x|`
except at `MIN`, where it is `MIN` again; the result is an int8. -/
theorem abs8_spec (x : Int) (hlo : -128 ≤ x) (hhi : x ≤ 127) :
    Spec.C13.Abs8 x (Model.C13.Abs8 x) ∧ (0 ≤ Model.C13.Abs8 x ∨ x = -128) ∧
      (x = -128 → Model.C13.Abs8 x = -128) ∧ -128 ≤ Model.C13.Abs8 x ∧ Model.C13.Abs8 x ≤ 127 := by
  by_cases hneg : x < 0
  · rcases Int.lt_or_eq_of_le hlo with hmin | hmin
    · -- away from `MIN` the negation does not wrap
      have e : Model.C13.Abs8 x = -x := by
        rw [Model.C13.Abs8, if_pos hneg, Model.C13.wrap8, Int.emod_eq_of_lt (by omega) (by omega)]
        omega
      have hb : 0 ≤ -x ∧ -128 ≤ -x ∧ -x ≤ 127 := by omega
      rw [e]
      exact ⟨Or.inr ⟨hb.1, Or.inr rfl⟩, Or.inl hb.1, fun h => absurd h (Int.ne_of_gt hmin), hb.2⟩
    · subst hmin; decide
  · have h0 : 0 ≤ x := Int.not_lt.mp hneg
    rw [show Model.C13.Abs8 x = x from if_neg hneg]
    exact ⟨Or.inr ⟨h0, Or.inl rfl⟩, Or.inl h0, fun h => absurd (h ▸ h0) (by decide), hlo, hhi⟩

example : Model.C13.Abs8 (-128) = -128 := by decide +kernel
example : Model.C13.Abs8 (-127) = 127 := by decide +kernel

/-- `Clamp` (for `lo ≤ hi`; the same comparisons serve every integer type, no arithmetic involved) -/
theorem clamp_spec (x lo hi : Int) : Spec.C13.Clamp x lo hi (Model.C13.Clamp x lo hi) := by
  intro h
  unfold Model.C13.Clamp
  by_cases h1 : x ≤ lo
  · rw [if_pos h1]
    exact ⟨Int.le_refl _, h, fun a => Int.le_antisymm a.1 h1, fun _ => rfl,
      fun a => absurd (Int.lt_of_lt_of_le a (Int.le_trans h1 h)) (Int.lt_irrefl _)⟩
  · rw [if_neg h1]
    by_cases h2 : x ≥ hi
    · rw [if_pos h2]
      exact ⟨h, Int.le_refl _, fun a => Int.le_antisymm h2 a.2, fun a => absurd (Int.le_of_lt a) h1,
        fun _ => rfl⟩
    · rw [if_neg h2]
      exact ⟨Int.le_of_lt (Int.not_le.mp h1), Int.le_of_lt (Int.not_le.mp h2), fun _ => rfl,
        fun a => absurd (Int.le_of_lt a) h1, fun a => absurd (Int.le_of_lt a) h2⟩

theorem inRange_spec (x lo hi : Int) : Spec.C13.InRange x lo hi (Model.C13.InRange x lo hi) := by
  unfold Spec.C13.InRange Model.C13.InRange
  split <;> simp_all

/-- `Compare` reflects the comparator, for every comparator -/
theorem compare_spec (c : Int → Int → Bool) (a b : Int) :
    Spec.C13.Compare c a b (Model.C13.Compare a b c) := by
  unfold Spec.C13.Compare Model.C13.Compare
  cases h1 : c a b <;> cases h2 : c b a <;> simp

theorem less_spec (a b : Int) : Spec.C13.Less a b (Model.C13.Less a b) := by
  unfold Spec.C13.Less Model.C13.Less; simp

theorem equal_spec (a b : Int) : Spec.C13.Equal a b (Model.C13.Equal a b) := by
  unfold Spec.C13.Equal Model.C13.Equal; simp

/-- three tests with one outcome as one test; the disjuncts come out in the order of `Spec.C13.Invalid3`
(`b ∨ a ∨ c`), which is not the order of the code's tests -/
theorem ite_or3_swap {β : Type} (a b c : Prop) [Decidable a] [Decidable b] [Decidable c] (x y : β) :
    (if a then x else if b then x else if c then x else y) = if b ∨ a ∨ c then x else y := by
  by_cases a <;> by_cases b <;> by_cases c <;> simp [*]

/-- the three-argument call: the code's three error tests are the documented invalid combinations -/
theorem range_three_args (s st e : Int) : Model.C13.Range [s, st, e] =
    if Spec.C13.Invalid3 s st e then .err else Model.C13.rangeLoops s st e :=
  ite_or3_swap (s > e ∧ e > 0) (st = 0) (st < 0 ∧ e > s) Out.err _

theorem range_clause_three (rev : Bool) (s st e : Int) (o : Out (List Int)) :
    Spec.C13.Range rev [s, st, e] o ↔
      if Spec.C13.Invalid3 s st e then o = .err
      else ∃ l, o = .ok (if rev then l.reverse else l) ∧ Spec.C13.IsRange s st e l :=
  Iff.rfl

/-- `Range` answers with an error or with a list; the clause holds of that answer and, the list reversed, of
`RangeRight`'s.  (Zero arguments: the loops run from 0 to 0.) -/
theorem range_cases (args : List Int) :
    (Model.C13.Range args = .err ∧ ∀ rev, Spec.C13.Range rev args .err) ∨
    ∃ l, Model.C13.Range args = .ok l ∧ ∀ rev, Spec.C13.Range rev args (.ok (if rev then l.reverse else l)) :=
  match args with
  | [] => .inr ⟨[], rfl, fun rev => .inr (by cases rev <;> rfl)⟩
  | [e] =>
    let ⟨l, h, hl⟩ := rangeLoops_spec 0 1 e (fun _ _ => Int.one_pos) (fun _ _ => by decide)
    .inr ⟨l, h, fun _ => ⟨l, rfl, hl⟩⟩
  | [s, e] =>
    let ⟨l, h, hl⟩ := rangeLoops_spec s 1 e (fun _ _ => Int.one_pos) (fun _ _ => by decide)
    .inr ⟨l, h, fun _ => ⟨l, rfl, hl⟩⟩
  | [s, st, e] => by
    rw [range_three_args]
    by_cases hi : Spec.C13.Invalid3 s st e
    · exact .inl ⟨if_pos hi, fun rev => (range_clause_three rev s st e _).mpr (by rw [if_pos hi])⟩
    · obtain ⟨l, h, hl⟩ := rangeLoops_spec s st e
        (fun _ hlt => Int.lt_iff_le_and_ne.mpr
          ⟨Int.not_lt.mp fun hn => hi (.inr (.inr ⟨hn, hlt⟩)), fun h0 => hi (.inl h0.symm)⟩)
        (fun _ _ h0 => hi (.inl h0))
      exact .inr ⟨l, (if_neg hi).trans h,
        fun rev => (range_clause_three rev s st e _).mpr (by rw [if_neg hi]; exact ⟨l, rfl, hl⟩)⟩
  | _ :: _ :: _ :: _ :: _ => .inl ⟨rfl, fun _ => rfl⟩

/-- `Range`, for every argument list over the integers: the loops terminate (never `hang`: the fuel
`|end - start| + 1` the model runs on always suffices), invalid argument combinations give an error,
and otherwise the result is the maximal progression from `start` by `|step|` toward `end` stopping
before it — ascending when `end > 0`, descending otherwise. -/
theorem range_spec (args : List Int) : Spec.C13.Range false args (Model.C13.Range args) := by
  rcases range_cases args with ⟨h, hs⟩ | ⟨l, h, hs⟩ <;> rw [h]
  · exact hs false
  · exact hs false

/-- `RangeRight` is the reverse of `Range` (same errors, same termination). -/
theorem rangeRight_spec (args : List Int) : Spec.C13.Range true args (Model.C13.RangeRight args) := by
  rcases range_cases args with ⟨h, hs⟩ | ⟨l, h, hs⟩ <;> rw [Model.C13.RangeRight, h]
  · exact hs true
  · exact hs true

/-- Termination, stated on its own: the fuel-driven model never answers `hang` or `panic`. -/
theorem range_terminates (args : List Int) :
    Model.C13.Range args ≠ .hang ∧ Model.C13.Range args ≠ .panic := by
  rcases range_cases args with ⟨h, _⟩ | ⟨l, h, _⟩ <;> exact h ▸ ⟨nofun, nofun⟩

example : Model.C13.Range [1, 2, 8] = .ok [1, 3, 5, 7] := by decide +kernel
example : Model.C13.Range [-3, 2, -10] = .ok [-3, -5, -7, -9] := by decide +kernel
example : Model.C13.Range [0, 0, 5] = .err := by decide +kernel
example : Model.C13.RangeRight [0, -1, -3] = .ok [-2, -1, 0] := by decide +kernel
example : ¬ Spec.C13.Invalid3 1 2 8 := by decide +kernel

/-! ## The clauses determine the answer

The specification is not merely satisfied by the models: for these clauses at most one answer is
accepted, so (with the theorems above) the monitor accepts exactly the model's answer. -/

/-- `FirstIdx` and `LastIdx` differ only in which part `W i` of the slice must be free of matches; all
that is needed of it is that a match at `i` and a match-free `W j` put `i` and `j` in an antisymmetric
relation.  `h`, `h'` are `FirstIdx p s r` / `LastIdx p s r` unfolded, with `W i` for the part named there. -/
theorem idx_unique (p : Int → Bool) (s : List Int) (W : Nat → List Int) (R : Nat → Nat → Prop)
    (hR : ∀ i j, R i j → R j i → i = j)
    (hW : ∀ i j, Spec.C13.AtIdx s i (fun x => p x = true) → (∀ x ∈ W j, p x = false) → R i j)
    (r r' : Int)
    (h : (r = -1 ∧ ∀ x ∈ s, p x = false) ∨ ∃ i, i < s.length ∧ r = (i : Int) ∧
      Spec.C13.AtIdx s i (fun x => p x = true) ∧ ∀ x ∈ W i, p x = false)
    (h' : (r' = -1 ∧ ∀ x ∈ s, p x = false) ∨ ∃ i, i < s.length ∧ r' = (i : Int) ∧
      Spec.C13.AtIdx s i (fun x => p x = true) ∧ ∀ x ∈ W i, p x = false) : r = r' := by
  rcases h with ⟨h1, h2⟩ | ⟨i, hi, h1, h2, h3⟩ <;> rcases h' with ⟨h1', h2'⟩ | ⟨i', hi', h1', h2', h3'⟩
  · exact h1.trans h1'.symm
  · obtain ⟨x, hx, hp⟩ := atIdx_mem h2'
    exact absurd hp (Bool.eq_false_iff.mp (h2 x hx))
  · obtain ⟨x, hx, hp⟩ := atIdx_mem h2
    exact absurd hp (Bool.eq_false_iff.mp (h2' x hx))
  · rw [h1, h1', hR i i' (hW i i' h2 h3') (hW i' i h2' h3)]

theorem firstIdx_unique (p : Int → Bool) (s : List Int) (r r' : Int)
    (h : Spec.C13.FirstIdx p s r) (h' : Spec.C13.FirstIdx p s r') : r = r' :=
  idx_unique p s (s.take ·) (fun i j => j ≤ i) (fun _ _ a b => Nat.le_antisymm b a)
    (fun _ _ hi hj => le_of_atIdx_take_free hi fun x hx => Bool.eq_false_iff.mp (hj x hx)) r r' h h'

theorem lastIdx_unique (p : Int → Bool) (s : List Int) (r r' : Int)
    (h : Spec.C13.LastIdx p s r) (h' : Spec.C13.LastIdx p s r') : r = r' :=
  idx_unique p s (fun i => s.drop (i + 1)) (fun i j => i ≤ j) (fun _ _ a b => Nat.le_antisymm a b)
    (fun _ _ hi hj => le_of_atIdx_drop_free hi fun x hx => Bool.eq_false_iff.mp (hj x hx)) r r' h h'

/-- `h`, `h'` are `IsMin s r` / `IsMax s r` unfolded, `le` the direction of the order -/
theorem extremum_unique (le : Int → Int → Prop) (anti : ∀ a b, le a b → le b a → a = b)
    (s : List Int) (r r' : Int) (h : (s = [] ∧ r = 0) ∨ (r ∈ s ∧ ∀ x ∈ s, le r x))
    (h' : (s = [] ∧ r' = 0) ∨ (r' ∈ s ∧ ∀ x ∈ s, le r' x)) : r = r' := by
  rcases h with ⟨h1, h2⟩ | ⟨h1, h2⟩ <;> rcases h' with ⟨h1', h2'⟩ | ⟨h1', h2'⟩
  · exact h2.trans h2'.symm
  · rw [h1] at h1'; cases h1'
  · rw [h1'] at h1; cases h1
  · exact anti r r' (h2 r' h1') (h2' r h1)

theorem isMin_unique (s : List Int) (r r' : Int) (h : Spec.C13.IsMin s r) (h' : Spec.C13.IsMin s r') :
    r = r' :=
  extremum_unique (· ≤ ·) (fun _ _ => Int.le_antisymm) s r r' h h'

theorem isMax_unique (s : List Int) (r r' : Int) (h : Spec.C13.IsMax s r) (h' : Spec.C13.IsMax s r') :
    r = r' :=
  extremum_unique (fun a b => b ≤ a) (fun _ _ a b => Int.le_antisymm b a) s r r' h h'

/-- "the first such one under a key function" pins the answer down -/
theorem isMinBy_unique (f : Int → Int) (s : List Int) (r r' : Int)
    (h : Spec.C13.IsMinBy f s r) (h' : Spec.C13.IsMinBy f s r') : r = r' := by
  rcases h with ⟨h1, h2⟩ | ⟨i, hi, h1, h2, h3⟩ <;> rcases h' with ⟨h1', h2'⟩ | ⟨i', hi', h1', h2', h3'⟩
  · exact h2.trans h2'.symm
  · rw [h1] at hi'; exact absurd hi' (Nat.not_lt_zero _)
  · rw [h1'] at hi; exact absurd hi (Nat.not_lt_zero _)
  · -- neither index lies before the other: the earlier element would have a strictly larger key
    obtain ⟨_, hr, er⟩ := atIdx_mem h1
    obtain ⟨_, hr', er'⟩ := atIdx_mem h1'
    have e : i = i' := Nat.le_antisymm
      (le_of_atIdx_take_free h1' fun x hx ex => Int.lt_irrefl _ (Int.lt_of_lt_of_le (ex ▸ h3 x hx) (h2' r (er ▸ hr))))
      (le_of_atIdx_take_free h1 fun x hx ex => Int.lt_irrefl _ (Int.lt_of_lt_of_le (ex ▸ h3' x hx) (h2 r' (er' ▸ hr'))))
    subst e
    exact h1.2.symm.trans h1'.2

theorem isMaxBy_unique (f : Int → Int) (s : List Int) (r r' : Int)
    (h : Spec.C13.IsMaxBy f s r) (h' : Spec.C13.IsMaxBy f s r') : r = r' :=
  isMinBy_unique (fun x => -f x) s r r' ((isMaxBy_iff_isMinBy_neg f s r).mp h)
    ((isMaxBy_iff_isMinBy_neg f s r').mp h')

theorem nth_unique (s : List Int) (i : Int) (o o' : Out Int)
    (h : Spec.C13.Nth s i o) (h' : Spec.C13.Nth s i o') : o = o' := by
  obtain ⟨a, b, c⟩ := h
  obtain ⟨a', b', c'⟩ := h'
  have ok : ∀ {j : Nat}, (∃ v, o = .ok v ∧ s[j]? = some v) → (∃ v, o' = .ok v ∧ s[j]? = some v) → o = o' :=
    fun ⟨v, e, hv⟩ ⟨v', e', hv'⟩ => by rw [e, e', Option.some.inj (hv.symm.trans hv')]
  rcases Int.lt_or_le i 0 with hneg | h0
  · by_cases h2 : -(s.length : Int) ≤ i
    · exact ok (b ⟨h2, hneg⟩) (b' ⟨h2, hneg⟩)
    · rw [c (.inr (Int.not_le.mp h2)), c' (.inr (Int.not_le.mp h2))]
  · by_cases h1 : i < s.length
    · exact ok (a ⟨h0, h1⟩) (a' ⟨h0, h1⟩)
    · rw [c (.inl (Int.not_lt.mp h1)), c' (.inl (Int.not_lt.mp h1))]

theorem abs_unique (x r r' : Int) (h : Spec.C13.Abs x r) (h' : Spec.C13.Abs x r') : r = r' := by
  unfold Spec.C13.Abs at h h'; omega

theorem clamp_unique (x lo hi r r' : Int) (hle : lo ≤ hi)
    (h : Spec.C13.Clamp x lo hi r) (h' : Spec.C13.Clamp x lo hi r') : r = r' := by
  obtain ⟨_, _, hin, hlo, hhi⟩ := h hle
  obtain ⟨_, _, hin', hlo', hhi'⟩ := h' hle
  by_cases h1 : x < lo
  · exact (hlo h1).trans (hlo' h1).symm
  · by_cases h2 : hi < x
    · exact (hhi h2).trans (hhi' h2).symm
    · have hx := And.intro (Int.not_lt.mp h1) (Int.not_lt.mp h2)
      exact (hin hx).trans (hin' hx).symm

theorem compare_unique (c : Int → Int → Bool) (a b r r' : Int)
    (h : Spec.C13.Compare c a b r) (h' : Spec.C13.Compare c a b r') : r = r' := by
  obtain ⟨h1, h2, h3⟩ := h
  obtain ⟨h1', h2', h3'⟩ := h'
  cases hab : c a b with
  | true => rw [h1 hab, h1' hab]
  | false =>
    cases hba : c b a with
    | true => rw [h2 hab hba, h2' hab hba]
    | false => rw [h3 hab hba, h3' hab hba]

/-! ## The clauses are not vacuous: each rejects wrong answers (kernel-evaluated monitors) -/

example : ¬ Spec.C13.IndexOf [1, 2, 1] 1 2 := by decide +kernel
example : ¬ Spec.C13.LastIndexOf [1, 2, 1] 1 0 := by decide +kernel
example : ¬ Spec.C13.FirstIdx (Spec.C13.pred 0) [1, 3] 0 := by decide +kernel
example : ¬ Spec.C13.FindAll (Spec.C13.pred 0) [1, 2, 4] [(1, 2)] := by decide +kernel
example : Spec.C13.FindAll (Spec.C13.pred 0) [1, 2, 4] [(1, 2), (2, 4)] := by decide +kernel
example : ¬ Spec.C13.IsMax [-3, -1] 0 := by decide +kernel
example : ¬ Spec.C13.IsMinBy (Spec.C13.key 5) [3, -3] (-3) := by decide +kernel
example : Spec.C13.IsMinBy (Spec.C13.key 5) [3, -3] 3 := by decide +kernel
example : ¬ Spec.C13.IsMinByKey [[(0, 1)], [(0, -2)]] 0 true 0 := by decide +kernel
example : ¬ Spec.C13.IsMinByKey [[(1, 1)], [(0, 7)]] 0 true 0 := by decide +kernel   -- F44: the first map lacks the key
example : ¬ Spec.C13.Nth [] 0 .panic := by decide +kernel
example : ¬ Spec.C13.Nth [1, 2] (-1) (.ok 1) := by decide +kernel
example : ¬ Spec.C13.Mean [-1, -2] (.ok (-2)) := by decide +kernel
example : Spec.C13.Mean [-1, -2] (.ok (-1)) := by decide +kernel
example : ¬ Spec.C13.Abs8 (-127) (-127) := by decide +kernel
example : ¬ Spec.C13.Clamp 5 0 3 5 := by decide +kernel
example : ¬ Spec.C13.Range false [0, 2, 5] (.ok [0, 2]) := by decide +kernel
example : ¬ Spec.C13.Range false [0, 2, 5] (.ok [0, 2, 4, 6]) := by decide +kernel
example : Spec.C13.Range false [0, 2, 5] (.ok [0, 2, 4]) := by decide +kernel
example : ¬ Spec.C13.Range false [0, 0, 5] (.ok []) := by decide +kernel
example : ¬ Spec.C13.Range false [3] .hang := by decide +kernel
example : ¬ Spec.C13.Range true [3] (.ok [0, 1, 2]) := by decide +kernel

end GoguVerif.Theorems.C13
