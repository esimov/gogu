import GoguVerif.Theorems.C02
import GoguVerif.Theorems.C08
import GoguVerif.Lemmas.C09Ord
/-!
# C02 — "insert-if-absent is granted to exactly one racer"

`Theorems/C02.lean` proves (generically) that every concurrent history is a LEGAL sequential run of
the sequential object in linearization order, with exactly the returned values.  The generic facts about `Reach`,
`linOps` and `Legal` used below stand in `Theorems/C02.lean`, in a second block that opens this namespace:
`C02More.legal_cons_inv`, `legal_nil_inv`, `legal_preserves_on`, `reach_preserves`, `mem_linOps`, `lin_mem_linOps`,
`linOps_invoked`, `linOps_of_inv`, `ret_mem_linOps`, `ret_id_lt`, `openInv`, `ret_unique`, `step_pcs`,
`lin_returned_or_done`, `inv_linearized_or_pending`, `exists_inv` (with `OpenOk`, `Leaves`).  This file adds the
sequential facts that turn that into the racing clause, and the concurrent corollaries.

Sequential object of the cache: the specification `Spec.C08.step cfg c` (`c` resolves the one
instant `now = deadline` the property leaves open; everything below holds for both choices).  `Set`
does not let time pass (`now` only moves in `sleep`), so in a run made of `Set`s alone all calls
happen at one instant `now`; every entry a `Set` stores is live at the instant it is stored
(`live_expOf`), whatever the duration (positive, negative = never, `0` = the default) — so no
hypothesis on the durations is needed.

The sequential core: in a legal run consisting only of `Set k vᵢ dᵢ` with accepted values on one key
without live entry at the start, the first call stores and makes the key held live, and a held key
refuses every further `Set`.  Concurrently (histories of the atomic system, `C02.lin_legal`) this gives
exactly one successful linearization point, and among the calls that RETURNED at most one success —
exactly one once every call has returned.  The same for the MODEL of `cache.go` through
`Theorems/C08.lean: step_refines`, and for racing `Put`s on one new key of the trie (`Size` grows by
exactly one).
-/
namespace GoguVerif.Theorems.C02More
open GoguVerif.Model.Lin

section cache
open GoguVerif.Spec.C08

/-- the expiring cache as a sequential object, started in `s0` -/
def cacheObj (cfg : Cfg) (c : Bool) (s0 : St) : Obj St Op Out := ⟨s0, Spec.C08.step cfg c⟩

/-- key `k` has no live entry: it is absent, or its entry is expired -/
def Free (c : Bool) (k : Int) (s : St) : Prop := ∀ e, find k s.es = some e → live c s.now e = false

/-- key `k` holds value `v` with deadline `x`, live -/
def Holds (c : Bool) (k v x : Int) (s : St) : Prop :=
  find k s.es = some ⟨k, v, x⟩ ∧ live c s.now ⟨k, v, x⟩ = true

/-- a racing call: `Set` on key `k` with a value the cache accepts -/
def RaceOp (cfg : Cfg) (k : Int) (op : Op) : Prop := ∃ v d, op = .set k v d ∧ accepted cfg v = true

/-- number of calls of a sequential run that report success -/
def successes (ops : List (Op × Out)) : Nat := (ops.filter (fun p => decide (p.2 = Out.err false))).length

theorem find_store (k v x : Int) (es : List Entry) : find k (store k v x es) = some ⟨k, v, x⟩ := by
  simp [find, store]

/-- Whatever the duration, a freshly stored entry is live at the instant it is stored. -/
theorem live_expOf (cfg : Cfg) (c : Bool) (now k v d : Int) : live c now ⟨k, v, expOf cfg now d⟩ = true := by
  unfold expOf live
  generalize (if d == 0 then cfg.defExp else d) = d'
  by_cases h1 : d' > 0
  · simp only [h1, if_true]
    by_cases h2 : now + d' ≤ 0
    · simp [h2]
    · have : now < now + d' := by omega
      simp [this]
  · by_cases h2 : d' < 0 <;> simp [h1, h2]

theorem set_free {cfg : Cfg} {c : Bool} {s : St} {k v d : Int} (hf : Free c k s)
    (ha : accepted cfg v = true) :
    Spec.C08.step cfg c s (.set k v d) =
      ({ s with es := store k v (expOf cfg s.now d) s.es }, .err false) := by
  simp only [Spec.C08.step, setOne]
  cases hk : find k s.es with
  | none => simp [ha]
  | some e => simp [hf e hk, ha]

theorem set_held {cfg : Cfg} {c : Bool} {s : St} {k v x v' d : Int} (hh : Holds c k v x s) :
    Spec.C08.step cfg c s (.set k v' d) = (s, .err true) := by
  simp [Spec.C08.step, setOne, hh.1, hh.2]

/-- Once the key is held live, every further racing `Set` reports the error and changes nothing. -/
theorem race_losers {cfg : Cfg} {c : Bool} {s0 : St} {k v x : Int} :
    ∀ {ops : List (Op × Out)} {s s' : St}, Legal (cacheObj cfg c s0) s ops s' →
      (∀ p ∈ ops, RaceOp cfg k p.1) → Holds c k v x s →
      s' = s ∧ ∀ p ∈ ops, p.2 = Out.err true := by
  intro ops s s' hl hr hh
  -- the state stays `s`, where the key is held
  refine legal_preserves_on (· = s) (RaceOp cfg k) (fun _ r => r = Out.err true) ?_ hl hr rfl
  rintro s1 op rfl ⟨v', d', rfl, _⟩
  show (Spec.C08.step cfg c s1 _).1 = s1 ∧ (Spec.C08.step cfg c s1 _).2 = _
  rw [set_held hh]; exact ⟨rfl, rfl⟩

/-- Insert-if-absent, sequentially.  In any legal sequential run of the cache that consists only
of `Set k vᵢ dᵢ` calls with accepted values, on one key `k` that has no live entry at the start:
the FIRST call succeeds, EVERY other call reports the error, and the final content holds the first
call's value with the deadline computed for the first call; time has not moved. -/
theorem race_sequential {cfg : Cfg} {c : Bool} {s0 s s' : St} {k : Int} {ops : List (Op × Out)}
    (hl : Legal (cacheObj cfg c s0) s ops s') (hr : ∀ p ∈ ops, RaceOp cfg k p.1) (hf : Free c k s)
    (hne : ops ≠ []) :
    ∃ v d rest, ops = (Op.set k v d, Out.err false) :: rest ∧ (∀ p ∈ rest, p.2 = Out.err true) ∧
      Holds c k v (expOf cfg s.now d) s' ∧ s'.now = s.now ∧
      s'.es = store k v (expOf cfg s.now d) s.es := by
  cases ops with
  | nil => exact absurd rfl hne
  | cons p rest =>
    obtain ⟨h1, h2⟩ := legal_cons_inv hl
    obtain ⟨v, d, hop, ha⟩ := hr p List.mem_cons_self
    have hs : (cacheObj cfg c s0).step s p.1 =
        ({ s with es := store k v (expOf cfg s.now d) s.es }, Out.err false) := by
      rw [hop]; exact set_free hf ha
    rw [hs] at h1 h2
    have hh : Holds c k v (expOf cfg s.now d) { s with es := store k v (expOf cfg s.now d) s.es } :=
      ⟨find_store _ _ _ _, live_expOf cfg c s.now k v d⟩
    obtain ⟨e1, e2⟩ := race_losers h2 (fun q hq => hr q (List.mem_cons_of_mem _ hq)) hh
    refine ⟨v, d, rest, ?_, e2, ?_, ?_, ?_⟩
    · rw [show p = (Op.set k v d, Out.err false) from Prod.ext hop h1]
    · rw [e1]; exact hh
    · rw [e1]
    · rw [e1]

/-- Hence EXACTLY ONE of the racing calls succeeds. -/
theorem race_sequential_count {cfg : Cfg} {c : Bool} {s0 s s' : St} {k : Int} {ops : List (Op × Out)}
    (hl : Legal (cacheObj cfg c s0) s ops s') (hr : ∀ p ∈ ops, RaceOp cfg k p.1) (hf : Free c k s)
    (hne : ops ≠ []) : successes ops = 1 := by
  obtain ⟨v, d, rest, rfl, h2, _⟩ := race_sequential hl hr hf hne
  have : rest.filter (fun p => decide (p.2 = Out.err false)) = [] := by
    rw [List.filter_eq_nil_iff]
    intro p hp
    simp [h2 p hp]
  simp [successes, this]

theorem race_sequential_one {cfg : Cfg} {c : Bool} {s0 s s' : St} {k : Int} {ops : List (Op × Out)}
    (hl : Legal (cacheObj cfg c s0) s ops s') (hr : ∀ p ∈ ops, RaceOp cfg k p.1) (hf : Free c k s)
    (hne : ops ≠ []) :
    successes ops = 1 ∧
    ∃ v d rest, ops = (Op.set k v d, Out.err false) :: rest ∧ (∀ p ∈ rest, p.2 = Out.err true) ∧
      Holds c k v (expOf cfg s.now d) s' := by
  refine ⟨race_sequential_count hl hr hf hne, ?_⟩
  obtain ⟨v, d, rest, h1, h2, h3, _⟩ := race_sequential hl hr hf hne
  exact ⟨v, d, rest, h1, h2, h3⟩

/-- instance: three racers on key 1 of an empty string-valued cache, different durations -/
example : Legal (cacheObj ⟨20, 10, true⟩ true {}) {}
    [(.set 1 7 5, .err false), (.set 1 8 (-1), .err true), (.set 1 9 0, .err true)]
    { now := 0, es := [⟨1, 7, 5⟩] } := Legal.cons (Legal.cons (Legal.cons (Legal.nil _)))

example : successes [(Op.set 1 7 5, Out.err false), (.set 1 8 (-1), .err true), (.set 1 9 0, .err true)] = 1 := by
  decide

/-- the key may be present but expired: the racer that comes first replaces it -/
example : Free true 1 { now := 10, es := [⟨1, 3, 4⟩] } ∧
    (Spec.C08.step ⟨20, 10, true⟩ true { now := 10, es := [⟨1, 3, 4⟩] } (.set 1 7 5)) =
      ({ now := 10, es := [⟨1, 7, 15⟩] }, .err false) := by
  constructor
  · intro e he
    have : e = ⟨1, 3, 4⟩ := by simpa [find] using he.symm
    subst this; decide
  · decide

theorem successes_pos {ops : List (Op × Out)} {p : Op × Out} (hm : p ∈ ops) (hp : p.2 = Out.err false) :
    1 ≤ successes ops := by
  exact List.length_pos_of_mem (List.mem_filter.2 ⟨hm, decide_eq_true hp⟩)

theorem successes_append (a b : List (Op × Out)) : successes (a ++ b) = successes a + successes b := by
  simp [successes]

theorem lin_success_unique {h : List (Ev Op Out)} (hs : successes (linOps h) ≤ 1)
    {t1 c1 t2 c2 : Nat} {op1 op2 : Op}
    (h1 : Ev.lin t1 c1 op1 (Out.err false) ∈ h) (h2 : Ev.lin t2 c2 op2 (Out.err false) ∈ h) :
    t1 = t2 ∧ c1 = c2 ∧ op1 = op2 := by
  induction h with
  | nil => cases h1
  | cons e es ih =>
    cases e with
    | lin t c op r =>
      rw [linOps, successes_append] at hs
      -- a success among the older events together with a success at the head would make two
      have two {t' c' op'} (m : Ev.lin t' c' op' (Out.err false) ∈ es)
          (hs : successes (linOps es) + 1 ≤ 1) : False :=
        Nat.not_succ_le_self 1
          (Nat.le_trans (Nat.add_le_add_right (successes_pos (lin_mem_linOps m) rfl) 1) hs)
      rcases List.mem_cons.1 h1 with e1 | m1 <;> rcases List.mem_cons.1 h2 with e2 | m2
      · cases e1; cases e2; exact ⟨rfl, rfl, rfl⟩
      · cases e1; exact (two m2 hs).elim
      · cases e2; exact (two m1 hs).elim
      · exact ih (Nat.le_trans (Nat.le_add_right _ _) hs) m1 m2
    | _ =>
      exact ih hs ((List.mem_cons.1 h1).resolve_left nofun) ((List.mem_cons.1 h2).resolve_left nofun)

/-- Racing `Set`s, concurrently (linearization points).  Any number of threads, any number of
calls, every call a `Set` on key `k` with an accepted value, `k` without live entry initially: as
soon as one call has taken effect, exactly one call has succeeded — the one linearized first — all
others linearized so far report the error, and the cache holds the winner's value. -/
theorem race_linearizable {cfg : Cfg} {c : Bool} {s0 : St} {k : Int} {h : List (Ev Op Out)}
    {st : CState St Op Out} (r : Reach (cacheObj cfg c s0) h st) (hf : Free c k s0)
    (hinv : ∀ t c' op, Ev.inv t c' op ∈ h → RaceOp cfg k op) (hne : linOps h ≠ []) :
    successes (linOps h) = 1 ∧
    ∃ v d rest, linOps h = (Op.set k v d, Out.err false) :: rest ∧ (∀ p ∈ rest, p.2 = Out.err true) ∧
      Holds c k v (expOf cfg s0.now d) st.obj := by
  exact race_sequential_one (C02.lin_legal r) (linOps_of_inv r hinv) hf hne

theorem race_at_most_one_success {cfg : Cfg} {c : Bool} {s0 : St} {k : Int} {h : List (Ev Op Out)}
    {st : CState St Op Out} (r : Reach (cacheObj cfg c s0) h st) (hf : Free c k s0)
    (hinv : ∀ t c' op, Ev.inv t c' op ∈ h → RaceOp cfg k op) : successes (linOps h) ≤ 1 := by
  by_cases hne : linOps h = []
  · simp [hne, successes]
  · exact Nat.le_of_eq (race_linearizable r hf hinv hne).1

/-- At most one racer is granted (returned values): no two `ret` events of a history of racing
`Set`s carry success. -/
theorem race_at_most_one_granted {cfg : Cfg} {c : Bool} {s0 : St} {k : Int} {h : List (Ev Op Out)}
    {st : CState St Op Out} (r : Reach (cacheObj cfg c s0) h st) (hf : Free c k s0)
    (hinv : ∀ t c' op, Ev.inv t c' op ∈ h → RaceOp cfg k op)
    (n1 n2 n3 : List (Ev Op Out)) (t1 c1 t2 c2 : Nat) (op1 op2 : Op) :
    h ≠ n1 ++ Ev.ret t1 c1 op1 (Out.err false) :: (n2 ++ Ev.ret t2 c2 op2 (Out.err false) :: n3) := by
  intro e
  have m1 : Ev.lin t1 c1 op1 (Out.err false) ∈ h :=
    C02.lin_of_ret r (e ▸ List.mem_append_right _ List.mem_cons_self)
  have m2 : Ev.lin t2 c2 op2 (Out.err false) ∈ h :=
    C02.lin_of_ret r (C02.mem_older e (List.mem_append_right _ List.mem_cons_self))
  obtain ⟨rfl, rfl, rfl⟩ := lin_success_unique (race_at_most_one_success r hf hinv) m1 m2
  exact ret_unique r n1 _ t1 c1 op1 _ e op1 (Out.err false)
    (List.mem_append_right _ List.mem_cons_self)

/-- Exactly one racer is granted.  Once every call has returned (all threads idle) and at least
one call was made: exactly one call — `(t, c)` — returned success, the cache holds its value, and
every other call that returned, returned the error. -/
theorem race_exactly_one_granted {cfg : Cfg} {c : Bool} {s0 : St} {k : Int} {h : List (Ev Op Out)}
    {st : CState St Op Out} (r : Reach (cacheObj cfg c s0) h st) (hf : Free c k s0)
    (hinv : ∀ t c' op, Ev.inv t c' op ∈ h → RaceOp cfg k op)
    (hq : ∀ t, st.pcs t = PC.idle) (hne : h ≠ []) :
    ∃ t c₀ v d, Ev.ret t c₀ (Op.set k v d) (Out.err false) ∈ h ∧
      Holds c k v (expOf cfg s0.now d) st.obj ∧
      (∀ t' c' op' res, Ev.ret t' c' op' res ∈ h →
        (res = Out.err false ∧ t' = t ∧ c' = c₀ ∧ op' = Op.set k v d) ∨ res = Out.err true) := by
  -- some call was invoked, hence (all idle) linearized
  have hlin : linOps h ≠ [] := by
    obtain ⟨t, c', op, hi⟩ := exists_inv r hne
    rcases inv_linearized_or_pending r t c' op hi with ⟨res, hl⟩ | hp
    · exact List.ne_nil_of_mem (lin_mem_linOps hl)
    · rw [hq t] at hp; cases hp
  obtain ⟨hcount, v, d, rest, h1, h2, h3⟩ := race_linearizable r hf hinv hlin
  have hw : (Op.set k v d, Out.err false) ∈ linOps h := by rw [h1]; exact List.mem_cons_self
  obtain ⟨t, c₀, hl⟩ := mem_linOps hw
  have hret : Ev.ret t c₀ (Op.set k v d) (Out.err false) ∈ h := by
    rcases lin_returned_or_done r t c₀ _ _ hl with h' | h'
    · exact h'
    · rw [hq t] at h'; cases h'
  refine ⟨t, c₀, v, d, hret, h3, ?_⟩
  intro t' c' op' res hr'
  have hl' : Ev.lin t' c' op' res ∈ h := C02.lin_of_ret r hr'
  have hm := lin_mem_linOps hl'
  rw [h1] at hm
  rcases List.mem_cons.1 hm with e' | hm'
  · have hres : res = Out.err false := (Prod.mk.inj e').2
    subst hres
    obtain ⟨a, b, c3⟩ := lin_success_unique (Nat.le_of_eq hcount) hl' hl
    exact Or.inl ⟨rfl, a, b, c3⟩
  · exact Or.inr (h2 _ hm')

/-- non-vacuity: two threads race on key 1; thread 1's call takes effect first and wins, thread 0's
call reports the error; both have returned -/
example : ∃ h st, Reach (cacheObj ⟨20, 10, true⟩ true {}) h st ∧ (∀ t, st.pcs t = PC.idle) ∧
    Ev.ret 1 1 (Op.set 1 8 (-1)) (Out.err false) ∈ h ∧ Ev.ret 0 0 (Op.set 1 7 5) (Out.err true) ∈ h := by
  have r0 : Reach (cacheObj ⟨20, 10, true⟩ true {}) [] _ := Reach.init
  have r1 := r0.step (Step.inv _ 0 (.set 1 7 5) rfl)
  have r2 := r1.step (Step.inv _ 1 (.set 1 8 (-1)) rfl)
  have r3 := r2.step (Step.lin _ 1 1 (.set 1 8 (-1)) rfl)
  have r4 := r3.step (Step.lin _ 0 0 (.set 1 7 5) rfl)
  have r5 := r4.step (Step.ret _ 0 0 (.set 1 7 5) (.err true) rfl)
  refine ⟨_, _, r5.step (Step.ret _ 1 1 (.set 1 8 (-1)) (.err false) rfl), fun t => ?_,
    List.mem_cons_self, List.mem_cons_of_mem _ List.mem_cons_self⟩
  by_cases h1 : t = 1
  · rw [h1]; rfl
  · by_cases h0 : t = 0
    · rw [h0]; rfl
    · simp only [upd, if_neg h1, if_neg h0]

end cache

/-! ## The cache: the same for the MODEL of `cache.go`

`Theorems/C08.lean: step_refines` — every call of the model is the specification's step with the
deadline instant counted as live — carries legal runs of the model to legal runs of the
specification, hence the racing clause to the model of the code. -/

section cacheModel
open GoguVerif.Spec.C08 GoguVerif.Lemmas.C08

/-- the model of `cache.go` (clocked machine) as a sequential object -/
def cacheModelObj (cfg : Model.Cache.Cfg) (s0 : Model.Cache.St) :
    Obj Model.Cache.St Op Out := ⟨s0, Model.Cache.step cfg⟩

/-- A legal run of the model is, through the abstraction function, a legal run of the specification
with the same calls and the same answers. -/
theorem model_legal_abs {cfg : Model.Cache.Cfg} {s0 : Model.Cache.St} :
    ∀ {ops : List (Op × Out)} {s s' : Model.Cache.St}, Legal (cacheModelObj cfg s0) s ops s' →
      Inv cfg s → (∀ p ∈ ops, WellTimed p.1) →
      Legal (cacheObj (absCfg cfg) true (abs s0)) (abs s) ops (abs s') ∧ Inv cfg s' := by
  intro ops
  induction ops with
  | nil => intro s s' hl hi _; rw [legal_nil_inv hl]; exact ⟨Legal.nil _, hi⟩
  | cons p rest ih =>
    intro s s' hl hi hw
    obtain ⟨h1, h2⟩ := legal_cons_inv hl
    obtain ⟨r1, r2⟩ := C08.step_refines cfg s p.1 hi (hw p List.mem_cons_self)
    obtain ⟨l, i⟩ := ih h2 r2 (fun q hq => hw q (List.mem_cons_of_mem _ hq))
    refine ⟨?_, i⟩
    have hp : p = (p.1, ((cacheObj (absCfg cfg) true (abs s0)).step (abs s) p.1).2) := by
      refine Prod.ext rfl ?_
      show p.2 = (Spec.C08.step (absCfg cfg) true (abs s) p.1).2
      rw [r1]; exact h1
    rw [hp]
    refine Legal.cons ?_
    show Legal _ (Spec.C08.step (absCfg cfg) true (abs s) p.1).1 rest (abs s')
    rw [r1]; exact l

/-- Insert-if-absent for the model of the code, sequentially.  Any legal sequential run of the
model consisting only of `Set k vᵢ dᵢ` with accepted values on a key without live entry: exactly one
call — the first — succeeds, all others report the error, the first call's value is held. -/
theorem race_sequential_model {cfg : Model.Cache.Cfg} {s0 s s' : Model.Cache.St} {k : Int}
    {ops : List (Op × Out)} (hl : Legal (cacheModelObj cfg s0) s ops s') (hi : Inv cfg s)
    (hr : ∀ p ∈ ops, RaceOp (absCfg cfg) k p.1) (hf : Free true k (abs s)) (hne : ops ≠ []) :
    successes ops = 1 ∧
    ∃ v d rest, ops = (Op.set k v d, Out.err false) :: rest ∧ (∀ p ∈ rest, p.2 = Out.err true) ∧
      Holds true k v (expOf (absCfg cfg) s.now d) (abs s') := by
  have hw : ∀ p ∈ ops, WellTimed p.1 := by
    intro p hp
    obtain ⟨v, d, e, _⟩ := hr p hp
    rw [e]; trivial
  exact race_sequential_one (model_legal_abs hl hi hw).1 hr hf hne

/-- The same concurrently, on a cache fresh from `New` (any key is free there): in every history
of the atomic system over the model in which all calls are racing `Set`s on `k`, exactly one call
has succeeded as soon as one has taken effect. -/
theorem race_linearizable_model {cfg : Model.Cache.Cfg} {k : Int} {h : List (Ev Op Out)}
    {st : CState Model.Cache.St Op Out}
    (r : Reach (cacheModelObj cfg (Model.Cache.init cfg)) h st)
    (hinv : ∀ t c' op, Ev.inv t c' op ∈ h → RaceOp (absCfg cfg) k op) (hne : linOps h ≠ []) :
    successes (linOps h) = 1 ∧
    ∃ v d rest, linOps h = (Op.set k v d, Out.err false) :: rest ∧ (∀ p ∈ rest, p.2 = Out.err true) ∧
      Holds true k v (expOf (absCfg cfg) 0 d) (abs st.obj) := by
  have hl : Legal (cacheModelObj cfg (Model.Cache.init cfg)) (Model.Cache.init cfg) (linOps h) st.obj :=
    C02.lin_legal r
  have hr : ∀ p ∈ linOps h, RaceOp (absCfg cfg) k p.1 := linOps_of_inv r hinv
  have hf : Free true k (abs (Model.Cache.init cfg)) := by
    intro e he
    simp [abs, Model.Cache.init, absItems, find] at he
  exact race_sequential_model hl (C08.inv_init cfg) hr hf hne

example : Legal (cacheModelObj ⟨20, 10, true⟩ (Model.Cache.init ⟨20, 10, true⟩))
    (Model.Cache.init ⟨20, 10, true⟩)
    [(.set 1 7 5, .err false), (.set 1 8 (-1), .err true), (.set 1 9 0, .err true)]
    { now := 0, nextTick := 10, items := [(1, ⟨7, 5⟩)] } :=
  Legal.cons (Legal.cons (Legal.cons (Legal.nil _)))

end cacheModel

section trie
open GoguVerif.Spec GoguVerif.Spec.C09 GoguVerif.Lemmas.C09

variable {κ ν : Type}

/-- `insert` adds an entry exactly when `lookup` finds none (no hypothesis on the comparator). -/
theorem insert_length (comp : κ → κ → Bool) (k : κ) (v : ν) (m : List (κ × ν)) :
    (OrdMap.insert comp k v m).length =
      m.length + (if (OrdMap.lookup comp k m).isNone then 1 else 0) := by
  rw [Lemmas.C04.length_insert]; cases OrdMap.lookup comp k m <;> rfl

/-- the trie as a sequential object, started with the map `m0` -/
def trieObj (m0 : List (Key × Int)) : Obj (List (Key × Int)) C09.Op C09.Out := ⟨m0, C09.step⟩

/-- a racing call: `Put` on key `k` -/
def PutOp (k : Key) (op : C09.Op) : Prop := ∃ v, op = .put k v

/-- Racing `Put`s on a key that is already held do not change the size. -/
theorem put_held {m0 : List (Key × Int)} {k : Key} :
    ∀ {ops : List (C09.Op × C09.Out)} {m m' : List (Key × Int)}, Legal (trieObj m0) m ops m' →
      (∀ p ∈ ops, PutOp k p.1) → (OrdMap.lookup lexLt k m).isSome = true →
      m'.length = m.length ∧ (OrdMap.lookup lexLt k m').isSome = true ∧ ∀ p ∈ ops, p.2 = C09.Out.unit := by
  intro ops m m' hl hr hs
  have := legal_preserves_on (O := trieObj m0)
    (fun x => x.length = m.length ∧ (OrdMap.lookup lexLt k x).isSome = true) (PutOp k)
    (fun _ r => r = C09.Out.unit) ?_ hl hr ⟨rfl, hs⟩
  · exact ⟨this.1.1, this.1.2, this.2⟩
  rintro x op ⟨e1, e2⟩ ⟨v, rfl⟩
  show ((OrdMap.insert lexLt k v x).length = _ ∧
    (OrdMap.lookup lexLt k (OrdMap.insert lexLt k v x)).isSome = true) ∧ C09.Out.unit = C09.Out.unit
  rw [insert_length, Lemmas.C04.lookup_insert_self (lexLt_irrefl k) v x, e1]
  cases hL : OrdMap.lookup lexLt k x with
  | none => rw [hL] at e2; cases e2
  | some _ => exact ⟨⟨rfl, rfl⟩, rfl⟩

theorem legal_put_cons {m0 m m' : List (Key × Int)} {k : Key} {p : C09.Op × C09.Out}
    {rest : List (C09.Op × C09.Out)} (hl : Legal (trieObj m0) m (p :: rest) m') (hp : PutOp k p.1) :
    ∃ v, p = (C09.Op.put k v, C09.Out.unit) ∧ Legal (trieObj m0) (OrdMap.insert lexLt k v m) rest m' := by
  obtain ⟨h1, h2⟩ := legal_cons_inv hl
  obtain ⟨v, hop⟩ := hp
  rw [hop] at h1 h2
  exact ⟨v, Prod.ext hop h1, h2⟩

/-- the value held after racing `Put`s is the one put last -/
theorem put_last {m0 : List (Key × Int)} {k : Key} :
    ∀ {ops : List (C09.Op × C09.Out)} {m m' : List (Key × Int)}, Legal (trieObj m0) m ops m' →
      (∀ p ∈ ops, PutOp k p.1) → ops ≠ [] →
      ∃ v, ops.getLast? = some (C09.Op.put k v, C09.Out.unit) ∧ OrdMap.lookup lexLt k m' = some v := by
  intro ops
  induction ops with
  | nil => intro m m' _ _ hne; exact absurd rfl hne
  | cons p rest ih =>
    intro m m' hl hr _
    obtain ⟨v, rfl, h2⟩ := legal_put_cons hl (hr _ List.mem_cons_self)
    cases rest with
    | nil =>
      rw [legal_nil_inv h2]
      exact ⟨v, rfl, Lemmas.C04.lookup_insert_self (lexLt_irrefl k) v m⟩
    | cons q rest' =>
      obtain ⟨w, hw1, hw2⟩ := ih h2 (fun x hx => hr x (List.mem_cons_of_mem _ hx)) (List.cons_ne_nil _ _)
      exact ⟨w, by rw [List.getLast?_cons_cons]; exact hw1, hw2⟩

/-- Racing `Put`s on one new key, sequentially.  In any legal sequential run of the trie
consisting only of `Put k vᵢ` on one key `k` that is not held at the start: the number of entries —
what `Size` reports — grows by EXACTLY ONE, however many calls there are; every call answers
normally; the key ends up holding the value put last. -/
theorem put_race_sequential {m0 m m' : List (Key × Int)} {k : Key} {ops : List (C09.Op × C09.Out)}
    (hl : Legal (trieObj m0) m ops m') (hr : ∀ p ∈ ops, PutOp k p.1)
    (hnew : OrdMap.lookup lexLt k m = none) (hne : ops ≠ []) :
    m'.length = m.length + 1 ∧
    ((C09.step m .size).2 = C09.Out.int m.length ∧ (C09.step m' .size).2 = C09.Out.int (m.length + 1)) ∧
    (∀ p ∈ ops, p.2 = C09.Out.unit) ∧
    ∃ v, ops.getLast? = some (C09.Op.put k v, C09.Out.unit) ∧ OrdMap.lookup lexLt k m' = some v := by
  have hlast := put_last hl hr hne
  cases ops with
  | nil => exact absurd rfl hne
  | cons p rest =>
    obtain ⟨v, rfl, h2⟩ := legal_put_cons hl (hr _ List.mem_cons_self)
    have hs' : (OrdMap.lookup lexLt k (OrdMap.insert lexLt k v m)).isSome = true := by
      rw [Lemmas.C04.lookup_insert_self (lexLt_irrefl k) v m]; rfl
    obtain ⟨e1, _, e3⟩ := put_held h2 (fun q hq => hr q (List.mem_cons_of_mem _ hq)) hs'
    have hlen : m'.length = m.length + 1 := by
      rw [e1, insert_length, hnew]; rfl
    refine ⟨hlen, ?_, ?_, hlast⟩
    · simp [C09.step, hlen]
    · intro q hq
      rcases List.mem_cons.1 hq with rfl | hq
      · rfl
      · exact e3 q hq

/-- Racing `Put`s, concurrently: any number of threads and calls, every call a `Put` on the one
new key `k`; as soon as one call has taken effect the trie has exactly one entry more than at the
start, and it stays so. -/
theorem put_race_linearizable {m0 : List (Key × Int)} {k : Key} {h : List (Ev C09.Op C09.Out)}
    {st : CState (List (Key × Int)) C09.Op C09.Out} (r : Reach (trieObj m0) h st)
    (hnew : OrdMap.lookup lexLt k m0 = none)
    (hinv : ∀ t c op, Ev.inv t c op ∈ h → PutOp k op) (hne : linOps h ≠ []) :
    st.obj.length = m0.length + 1 ∧ (C09.step st.obj .size).2 = C09.Out.int (m0.length + 1) := by
  have := put_race_sequential (C02.lin_legal r) (linOps_of_inv r hinv) hnew hne
  exact ⟨this.1, this.2.1.2⟩

/-- instance: three `Put`s on the new key "b" of a trie holding "a" and "c" -/
example : Legal (trieObj []) [([97], 1), ([99], 3)]
    [(.put [98] 10, .unit), (.put [98] 20, .unit), (.put [98] 30, .unit)]
    [([97], 1), ([98], 30), ([99], 3)] :=
  Legal.cons (Legal.cons (Legal.cons (Legal.nil _)))

end trie

end GoguVerif.Theorems.C02More
