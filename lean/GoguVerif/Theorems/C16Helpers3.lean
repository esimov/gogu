import GoguVerif.Lemmas.C16Helpers3
import GoguVerif.Lemmas.C16Fixtures
import GoguVerif.Lemmas.C16Table
import GoguVerif.Gen.Effects
import GoguVerif.Theorems.C14
/-!
# C16 — the remaining in-place helpers: `heap.FromSlice`, `heap.Sort`, `Omit`, `OmitBy`

The specification lets exactly six helpers write in place.  `Theorems/C16Helpers.lean` has `Reverse` and
`Reject`; here are the other four, over the models of `Model/StoreHelpers3.lean` (the Go statements one
after the other, every read from the CURRENT store).

**`heap.FromSlice(data, comp)`** — for ALL stores, all well-formed `data` headers (any offset, any spare
capacity, other slices sharing the array), an ARBITRARY comparator and every amount of fuel: a run that
ends (`fromSliceStore … = some (σ', res)`: no panic, fuel not exhausted) returns `data` itself as the
heap's backing slice, and is `InPlace σ σ' data` — no allocation, every other array unchanged, in `data`'s
array only cells of the window `[off, off+len)` may differ (so the spare capacity behind `len` is
untouched, `fromSlice_spare_untouched`), every other well-formed slice that does not overlap the window
keeps its elements (`fromSlice_keeps`); the elements of `data` are PERMUTED (`List.Perm`); and the store
is reached by indexed writes through the one register holding `data`
(`fromSlice_is_runInPlace`, so `Theorems.C16.runInPlace_frame` applies).  The heap ORDER is C03's business.
Fuel is necessary: the inner loop overwrites the outer loop variable, and with `comp = (· ≤ ·)` on `[1, 1]`
the Go loop never ends (`fromSlice_nonstrict_never_ends`: `none` for EVERY fuel).

**`heap.Sort(data, comp)`** — it does BOTH: it sorts `data` in place (`FromSlice`, then
`swap(data, 0, i)` / `heap.moveDown(i, 0)` on `heap.data = data`) and returns `heap.GetValues()`, a fresh
copy.  `sort_refines`: a run that ends goes through an intermediate store `σ1` with `InPlace σ σ1 data`
and `data` permuted (reached by writes through `data`'s register), then allocates ONE array
(`Frame σ1 σ2`, `σ2.length = σ.length + 1`), and the result is a well-formed header on that fresh array
(`res.arr = σ.length`: it aliases nothing that existed) showing what `data` now shows — a permutation of
the original elements.  `sort_keeps`: every other non-overlapping slice keeps its elements.  The ORDER of
the result is C03's business.

**`Omit(collection, keys...)`, `OmitBy(collection, fn)`** — over the map store `MStore` (map objects by id):
for EVERY visiting order `order` (any function whose result is a permutation of the entries), `Omit` never
panics (well-formed `keys` slice), returns the slice store as it came and the SAME map id; only that map
object changes (`μ'.length = μ.length`, every other id keeps its entries); and the entries of that map
afterwards are the answer of the value-level model `Model.C14.Omit` / `OmitBy` on the entries before —
hence `Spec.C14.OmitSpec` / `OmitBySpec`: exactly the entries not selected are kept, unchanged, the
selected ones are gone (`omit_kept_gone`, `omitBy_kept_gone`).  The right-hand sides do not mention
`order`: any two visiting orders leave the SAME map store (`omit_order_independent`,
`omitBy_order_independent`).

Assumed: as in `Theorems/C16Helpers.lean` (element type `Int`, pure callbacks, `WF` for argument headers,
that `Model/StoreHelpers3.lean` mirrors the Go statements — read off the source, not regenerated);
Go `int`s are unbounded `Int`s; map keys and values are `Int`; a map object has pairwise distinct keys
(`Spec.C14.WF`).  Core Lean only.
-/
set_option autoImplicit false
namespace GoguVerif.Theorems.C16Helpers3
open Model.Store Model.StoreHelpers Model.StoreHelpers3 Lemmas.C16Helpers3
open Theorems.C16Helpers

theorem fromSliceStore_step {fuel : Nat} {σ σ' : Store} {data res : Slice} {comp : Int → Int → Bool}
    (hr : fromSliceStore fuel σ data comp = some (σ', res)) : res = data ∧ Step σ σ' data := by
  unfold fromSliceStore at hr
  split at hr
  · rename_i σ1 hl
    cases hr
    exact ⟨rfl, fromSliceLoop_step comp fuel fuel _ σ hl⟩
  · cases hr

/-- heap.FromSlice (in place): a run that ends — for any comparator, any fuel — returns `data` itself
as the heap's backing slice; it writes only cells of `data`'s window (`InPlace`), allocates nothing,
permutes the elements of `data`, and leaves `data` a well-formed header (the one conjunct that reads `h`; the
others are `fromSliceStore_step`, which holds of any header). -/
theorem fromSlice_inplace (fuel : Nat) (σ σ' : Store) (data res : Slice) (comp : Int → Int → Bool)
    (h : WF σ data) (hr : fromSliceStore fuel σ data comp = some (σ', res)) :
    res = data ∧ InPlace σ σ' data ∧ (elems σ' data).Perm (elems σ data) ∧ σ'.length = σ.length ∧
      WF σ' data := by
  obtain ⟨e, s⟩ := fromSliceStore_step hr
  exact ⟨e, s.inplace, s.perm, s.length_eq, s.wf h⟩

/-- every other well-formed slice — in another array, or in `data`'s array but not overlapping the window
`[off, off+len)` — shows the same elements after `FromSlice` -/
theorem fromSlice_keeps (fuel : Nat) (σ σ' : Store) (data res : Slice) (comp : Int → Int → Bool)
    (hr : fromSliceStore fuel σ data comp = some (σ', res)) {t : Slice} (ht : WF σ t)
    (hdis : t.arr ≠ data.arr ∨ t.off + t.len ≤ data.off ∨ data.off + data.len ≤ t.off) :
    elems σ' t = elems σ t ∧ WF σ' t :=
  inplace_keeps (fromSliceStore_step hr).2.inplace ht hdis

/-- the spare capacity of `data`'s array beyond `len(data)` is untouched -/
theorem fromSlice_spare_untouched (fuel : Nat) (σ σ' : Store) (data res : Slice) (comp : Int → Int → Bool)
    (h : WF σ data) (hr : fromSliceStore fuel σ data comp = some (σ', res)) :
    elems σ' { arr := data.arr, off := data.off + data.len, len := data.cap - data.len, cap := data.cap - data.len } =
    elems σ { arr := data.arr, off := data.off + data.len, len := data.cap - data.len, cap := data.cap - data.len } := by
  refine (fromSlice_keeps fuel σ σ' data res comp hr (t := ⟨data.arr, data.off + data.len, _, _⟩) ?_
    (Or.inr (Or.inr (Nat.le_refl _)))).1
  obtain ⟨hl, a, ha, hc⟩ := h
  exact ⟨Nat.le_refl _, a, ha, by simp only; omega⟩

/-- heap.FromSlice is an instance of the generic in-place class (`Model.Store.runInPlace`): its store is
reached by a sequence of indexed writes through the ONE register holding `data` (whether or not `data` is
well-formed: `h` is not read). -/
theorem fromSlice_is_runInPlace (fuel : Nat) (σ σ' : Store) (data res : Slice) (comp : Int → Int → Bool)
    (h : WF σ data) (hr : fromSliceStore fuel σ data comp = some (σ', res)) (regs : List Slice) (r : Nat)
    (hreg : regs[r]? = some data) :
    ∃ ws, runInPlace { σ := σ, regs := regs } r ws = { σ := σ', regs := regs } :=
  (fromSliceStore_step hr).2.writes regs r hreg

/-- min-heap of `5 3 8 1 9 2` inside the window; sentinels in front, behind (spare capacity) and the other
array are untouched; the heap's backing slice is the argument.  Too little fuel: `none`.  The hypothesis of the
theorems above holds of this store: `wf_argh` (`Lemmas/C16Fixtures.lean`). -/
example : fromSliceStore 20 σh argh (fun a b => decide (a < b)) =
      some ([[-555, 1, 3, 2, 5, 9, 8, -777, -777], [2, 9, -888]], argh) ∧
    fromSliceStore 5 σh argh (fun a b => decide (a < b)) = none := by decide +kernel

/-- why fuel: with the non-strict comparator `<=` and two equal elements `FromSlice` never ends — the
inner loop swaps the root down and sets `i = 1`, the outer `i--` makes it `0` again, for ever.  The model
answers `none` for EVERY amount of fuel. -/
theorem fromSlice_nonstrict_never_ends (fuel : Nat) :
    fromSliceStore fuel [[-555, 1, 1, -777]] { arr := 0, off := 1, len := 2, cap := 3 }
      (fun a b => decide (a ≤ b)) = none := by
  have key : ∀ f n, fromSliceLoop (fun a b => decide (a ≤ b)) { arr := 0, off := 1, len := 2, cap := 3 } f n 0
      [[-555, 1, 1, -777]] = none := by
    intro f n
    induction n with
    | zero => rfl
    | succ n ih =>
      -- the inner loop needs two units of fuel to swap and come back with `i = 1`; with less it runs out itself
      match f with
      | 0 => rfl
      | 1 => rfl
      | f + 2 =>
        have hs : siftLoop (fun a b => decide (a ≤ b)) { arr := 0, off := 1, len := 2, cap := 3 } (f + 2) 0
            [[-555, 1, 1, -777]] = some ([[-555, 1, 1, -777]], 1) := by
          rfl
        simp only [fromSliceLoop, hs]
        exact ih
  unfold fromSliceStore
  rw [show Int.tdiv ((2 : Nat) : Int) 2 - 1 = 0 from by decide, key]

/-- heap.Sort: in place on `data` AND a fresh copy as the result.  A run that ends passes an
intermediate store `σ1` (after the last `moveDown`): `InPlace σ σ1 data`, `data` permuted, reached by writes
through `data`'s register; then `GetValues` allocates one array: every array of `σ1` is unchanged in `σ2`,
the result is a well-formed header on the fresh array (it aliases nothing that existed) and shows what
`data` shows — a permutation of the original elements. -/
theorem sort_refines (fuel : Nat) (σ σ2 : Store) (data res : Slice) (comp : Int → Int → Bool)
    (h : WF σ data) (hr : sortStore fuel σ data comp = some (σ2, res)) :
    ∃ σ1, InPlace σ σ1 data ∧ (elems σ1 data).Perm (elems σ data) ∧
      (∀ (regs : List Slice) (r : Nat), regs[r]? = some data →
        ∃ ws, runInPlace { σ := σ, regs := regs } r ws = { σ := σ1, regs := regs }) ∧
      Frame σ1 σ2 ∧ σ2.length = σ.length + 1 ∧ res.arr = σ.length ∧ WF σ2 res ∧
      elems σ2 res = elems σ2 data ∧ elems σ2 data = elems σ1 data ∧ (elems σ2 res).Perm (elems σ data) := by
  unfold sortStore at hr
  split at hr
  · cases hr
  · rename_i σa hdata hfs
    obtain ⟨e, s1⟩ := fromSliceStore_step hfs
    subst e
    split at hr
    · cases hr
    · rename_i σ1 hsl
      have s2 := sortLoop_step comp fuel _ σa hsl
      have s := s1.trans s2
      have hw1 := s.wf h
      obtain ⟨σ', res', g1, g2, g3, g4, g5, g6⟩ := getValuesStore_spec hw1
      rw [g1] at hr
      cases hr
      have hk := frame_keeps g3 hw1
      refine ⟨σ1, s.inplace, s.perm, s.writes, g3, by rw [g5, s.length_eq], by rw [g4, s.length_eq], g6, ?_, hk.1, ?_⟩
      · rw [g2, hk.1]
      · rw [g2]; exact s.perm

/-- every other well-formed slice that does not overlap `data`'s window shows the same elements after
`Sort` (the result lies in an array that did not exist) -/
theorem sort_keeps (fuel : Nat) (σ σ2 : Store) (data res : Slice) (comp : Int → Int → Bool)
    (h : WF σ data) (hr : sortStore fuel σ data comp = some (σ2, res)) {t : Slice} (ht : WF σ t)
    (hdis : t.arr ≠ data.arr ∨ t.off + t.len ≤ data.off ∨ data.off + data.len ≤ t.off) :
    elems σ2 t = elems σ t ∧ WF σ2 t := by
  obtain ⟨σ1, hp, _, _, hf, _⟩ := sort_refines fuel σ σ2 data res comp h hr
  obtain ⟨k1, k2⟩ := inplace_keeps hp ht hdis
  obtain ⟨f1, _, f3⟩ := frame_keeps hf k2
  exact ⟨f1.trans k1, f3⟩

/-- descending with `<` (a min-heap), ascending with `>`; the argument's window holds the sorted elements,
the sentinels are untouched, the result is a fresh array -/
example : sortStore 20 σh argh (fun a b => decide (a < b)) =
      some ([[-555, 9, 8, 5, 3, 2, 1, -777, -777], [2, 9, -888], [9, 8, 5, 3, 2, 1]],
        { arr := 2, off := 0, len := 6, cap := 6 }) ∧
    sortStore 20 σh argh (fun a b => decide (a > b)) =
      some ([[-555, 1, 2, 3, 5, 8, 9, -777, -777], [2, 9, -888], [1, 2, 3, 5, 8, 9]],
        { arr := 2, off := 0, len := 6, cap := 6 }) := by decide +kernel

/-- OmitBy, for every visiting order: the result is the SAME map object; only that object changes; its
entries afterwards are the value-level model's answer on the entries before, i.e. exactly the entries `fn`
does not select. -/
theorem omitBy_refines (order : List (Int × Int) → List (Int × Int)) (μ : MStore) (id : Nat)
    (fn : Int → Int → Bool) (hm : Spec.C14.WF (mget μ id)) (ho : (order (mget μ id)).Perm (mget μ id)) :
    (omitByStoreIn order μ id fn).2 = id ∧
    mget (omitByStoreIn order μ id fn).1 id = Model.C14.OmitBy (mget μ id) fn ∧
    Spec.C14.OmitBySpec (mget μ id) fn (mget (omitByStoreIn order μ id fn).1 id) ∧
    (omitByStoreIn order μ id fn).1.length = μ.length ∧
    ∀ j, j ≠ id → (omitByStoreIn order μ id fn).1[j]? = μ[j]? := by
  obtain ⟨g1, g2, g3⟩ := omitByLoopM_spec fn id (order (mget μ id)) μ
  have e : mget (omitByStoreIn order μ id fn).1 id = Model.C14.OmitBy (mget μ id) fn :=
    g1.trans (omitByLoop_perm fn ho _)
  refine ⟨rfl, e, ?_, g2, g3⟩
  rw [e]
  exact Theorems.C14.omitBy_spec hm fn

theorem omitBy_kept_gone (order : List (Int × Int) → List (Int × Int)) (μ : MStore) (id : Nat)
    (fn : Int → Int → Bool) (hm : Spec.C14.WF (mget μ id)) (ho : (order (mget μ id)).Perm (mget μ id)) :
    (∀ e ∈ mget μ id, fn e.1 e.2 = false → e ∈ mget (omitByStoreIn order μ id fn).1 id) ∧
    (∀ e ∈ mget (omitByStoreIn order μ id fn).1 id, e ∈ mget μ id ∧ fn e.1 e.2 = false) := by
  obtain ⟨_, _, ⟨_, h2, h3⟩, _⟩ := omitBy_refines order μ id fn hm ho
  exact ⟨fun e he hf => h3 e he (by simp [hf]), fun e he => ⟨(h2 e he).1, by simpa using (h2 e he).2⟩⟩

/-- Omit, for every visiting order: never panics (well-formed `keys`), the slice store is returned as
it came — `keys` is only read —, the result is the SAME map object; only that object changes; its entries
afterwards are the value-level model's answer, i.e. exactly the entries whose key is not listed. -/
theorem omit_refines (order : List (Int × Int) → List (Int × Int)) (σ : Store) (μ : MStore) (id : Nat)
    (keys : Slice) (hk : WF σ keys) (hm : Spec.C14.WF (mget μ id))
    (ho : (order (mget μ id)).Perm (mget μ id)) :
    ∃ μ', omitStoreIn order σ μ id keys = some (σ, μ', id) ∧
      mget μ' id = Model.C14.Omit (mget μ id) (elems σ keys) ∧
      Spec.C14.OmitSpec (mget μ id) (elems σ keys) (mget μ' id) ∧
      μ'.length = μ.length ∧ ∀ j, j ≠ id → μ'[j]? = μ[j]? := by
  obtain ⟨_, g2, _, g4, g5⟩ := omitBy_refines order μ id (fun k _ => decide (k ∈ elems σ keys)) hm ho
  -- `Omit` is `OmitBy` with "the key is listed" as the test
  have e : Model.C14.OmitBy (mget μ id) (fun k _ => decide (k ∈ elems σ keys)) =
      Model.C14.Omit (mget μ id) (elems σ keys) :=
    (Theorems.C14.omitBy_eq_filter hm _).trans (Theorems.C14.omit_eq_filter hm _).symm
  rw [e] at g2
  exact ⟨_, by simp only [omitStoreIn, omitLoopM_eq hk, omitByStoreIn], g2, g2 ▸ Theorems.C14.omit_spec hm _, g4, g5⟩

theorem omit_kept_gone (order : List (Int × Int) → List (Int × Int)) (σ : Store) (μ μ' : MStore) (id id' : Nat)
    (keys : Slice) (hk : WF σ keys) (hm : Spec.C14.WF (mget μ id))
    (ho : (order (mget μ id)).Perm (mget μ id)) (hr : omitStoreIn order σ μ id keys = some (σ, μ', id')) :
    id' = id ∧ (∀ e ∈ mget μ id, e.1 ∉ elems σ keys → e ∈ mget μ' id) ∧
    (∀ e ∈ mget μ' id, e ∈ mget μ id ∧ e.1 ∉ elems σ keys) := by
  obtain ⟨μ1, h1, _, ⟨_, h2, h3⟩, _⟩ := omit_refines order σ μ id keys hk hm ho
  rw [h1] at hr
  cases hr
  exact ⟨rfl, fun e he hf => h3 e he (by simp [hf]), fun e he => ⟨(h2 e he).1, by simpa using (h2 e he).2⟩⟩

/-- the iteration order does not matter: any two visiting orders leave the SAME map store -/
theorem omitBy_order_independent (o1 o2 : List (Int × Int) → List (Int × Int)) (μ : MStore) (id : Nat)
    (fn : Int → Int → Bool) (hm : Spec.C14.WF (mget μ id)) (h1 : (o1 (mget μ id)).Perm (mget μ id))
    (h2 : (o2 (mget μ id)).Perm (mget μ id)) : omitByStoreIn o1 μ id fn = omitByStoreIn o2 μ id fn := by
  obtain ⟨_, a2, _, a4, a5⟩ := omitBy_refines o1 μ id fn hm h1
  obtain ⟨_, b2, _, b4, b5⟩ := omitBy_refines o2 μ id fn hm h2
  refine Prod.ext (mstore_ext (a4.trans b4.symm) fun j => ?_) rfl
  by_cases hj : j = id
  · rw [hj, a2, b2]
  · exact (mget_congr (a5 j hj)).trans (mget_congr (b5 j hj)).symm

theorem omit_order_independent (o1 o2 : List (Int × Int) → List (Int × Int)) (σ : Store) (μ : MStore) (id : Nat)
    (keys : Slice) (hk : WF σ keys) (hm : Spec.C14.WF (mget μ id)) (h1 : (o1 (mget μ id)).Perm (mget μ id))
    (h2 : (o2 (mget μ id)).Perm (mget μ id)) : omitStoreIn o1 σ μ id keys = omitStoreIn o2 σ μ id keys := by
  have := omitBy_order_independent o1 o2 μ id (fun k _ => decide (k ∈ elems σ keys)) hm h1 h2
  simp only [omitByStoreIn, Prod.mk.injEq, and_true] at this
  simp only [omitStoreIn, omitLoopM_eq hk, this]

/-- map 1 loses key `2`; map 2 also has key `2` and keeps it; the slice store is unchanged; the same answer
in the opposite visiting order -/
example : omitStore σh μx 1 keysx = some (σh, [[(7, 70)], [(1, 10), (3, 30), (4, 40)], [(2, 99)]], 1) ∧
    omitStoreIn List.reverse σh μx 1 keysx = some (σh, [[(7, 70)], [(1, 10), (3, 30), (4, 40)], [(2, 99)]], 1) :=
  ⟨by decide +kernel, by decide +kernel⟩

example : omitByStore μx 1 (fun k v => k % 2 == 1 || v == 40) = ([[(7, 70)], [(2, 20)], [(2, 99)]], 1) ∧
    omitByStoreIn List.reverse μx 1 (fun k v => k % 2 == 1 || v == 40) = ([[(7, 70)], [(2, 20)], [(2, 99)]], 1) :=
  by decide +kernel

/-- the hypotheses of `omit_refines` / `omitBy_refines` hold of that store -/
example : WF σh keysx ∧ Spec.C14.WF (mget μx 1) ∧ (List.reverse (mget μx 1)).Perm (mget μx 1) :=
  ⟨wf_keysx, by decide, List.reverse_perm _⟩

/-- the helpers covered here with what is PROVED about them: (name, parameters written through, parameters
the result may alias).  `heap.FromSlice` returns a `*Heap[T]`, not a slice: the table's alias column is
about slice / map results (that the heap keeps `data` as its backing slice is `fromSlice_inplace`'s
`res = data`); `heap.Sort` returns a fresh copy (`sort_refines`: `res.arr = σ.length`); `Omit` / `OmitBy`
return their map argument (`omit_refines`, `omitBy_refines`: the same id). -/
def covered3 : List (String × List Nat × List Nat) :=
  [("heap.FromSlice", [0], []), ("heap.Sort", [0], []), ("Omit", [0], [0]), ("OmitBy", [0], [0])]

/-- for every helper covered here the classification in the translator's table (`Gen.effects`, regenerated from the
source on every run) is the one proved above. -/
theorem covered3_agree_with_table :
    covered3.all (fun c => Gen.effects.any (fun e => e.name == c.1 && e.writes == c.2.1 && e.aliases == c.2.2 &&
      !e.selfAssignOnly)) = true :=
  Lemmas.C16Table.all_any_of_foundAt [106, 107, 68, 69] (by decide +kernel)

end GoguVerif.Theorems.C16Helpers3
