import GoguVerif.Gen.Lru
/-!
# The regenerated tie for the LRU cache at POINTER level (C07)

`Gen/Lru.lean` is produced on every run by the translator (translator/frag_lru.go) from `cache/lrucache.go`, statement
by statement, over the store of `Model/LruPtr.lean`; its header says how pointers, dereferences, assignments and
allocation are read.

The theorems below state, for ALL stores (also ill-formed ones no history reaches: dangling addresses, broken rings),
all addresses, keys and values, that each regenerated function computes exactly what the hand-written function of
`Model/LruPtr.lean` computes — same new store, same answer, and a nil dereference in exactly the same cases.
`Theorems/C07.lean` (how `LruPtr` refines the abstract `Model/Lru.lean`, and that `.fault` is unreachable) is about
those hand-written functions; through these ties it is about the regenerated code.
-/
namespace GoguVerif.Theorems.GenTieLru
open GoguVerif.Model.LruPtr (PNode Heap PList PSt PRes)
open GoguVerif.Spec.C07 (Op)

/-- `follow e as x`: the next store read, store write or call `e` of both sides.  If it finds no node both sides end in
the same failure; otherwise both go on with its result `x`. -/
macro "follow " e:term " as " x:ident : tactic =>
  `(tactic| (cases $e:term with | none => rfl | some $x => ?_; dsimp only [Option.bind_eq_bind, Option.bind_some]))

/-- `newLRUList()`: never faults and builds the model's empty ring, whatever the nil pointer is. -/
theorem newLRUList_tie (nilp : Nat) : Gen.Lru.newLRUList nilp = some Model.LruPtr.newLRUList := by
  rfl

open Model.LruPtr in
/-- `moveAfter(current, nd)`: the six pointer assignments, read by read and write by write. -/
theorem moveAfter_tie (l : PList) (current nd : Nat) :
    Gen.Lru.moveAfter l current nd = Model.LruPtr.moveAfter l current nd := by
  unfold Gen.Lru.moveAfter Model.LruPtr.moveAfter
  split
  · rfl
  dsimp only [Option.bind_eq_bind]
  follow prevOf l.heap nd as p
  follow nextOf l.heap nd as q
  follow wrNext l.heap p q as h
  follow nextOf h nd as q
  follow prevOf h nd as p
  follow wrPrev h q p as h
  follow wrPrev h nd current as h
  follow nextOf h current as f
  follow wrNext h nd f as h
  follow prevOf h nd as p
  follow wrNext h p nd as h
  follow nextOf h nd as q
  follow wrPrev h q nd as h

theorem moveFront_tie (l : PList) (nd : Nat) :
    Gen.Lru.moveFront l nd = Model.LruPtr.moveFront l nd := by
  unfold Gen.Lru.moveFront Model.LruPtr.moveFront
  rw [moveAfter_tie]
  cases Model.LruPtr.moveAfter l Model.LruPtr.root nd <;> rfl

theorem length_tie (l : PList) : Gen.Lru.length l = Model.LruPtr.length l := rfl

open Model.LruPtr in
/-- `addAfter(current, key, value)`: allocation at `heap.length`, the two re-linking writes, `len++`, the new address. -/
theorem addAfter_tie (l : PList) (current : Nat) (key value : Int) :
    Gen.Lru.addAfter l current key value = Model.LruPtr.addAfter l current key value := by
  unfold Gen.Lru.addAfter Model.LruPtr.addAfter
  dsimp only [Option.bind_eq_bind]
  follow nextOf l.heap current as cn
  generalize l.heap ++ [{ next := cn, prev := current, key := key, value := value }] = h
  follow nextOf h current as cn
  follow wrPrev h cn l.heap.length as h
  follow wrNext h current l.heap.length as h

theorem addFront_tie (l : PList) (key value : Int) :
    Gen.Lru.addFront l key value = Model.LruPtr.addFront l key value := by
  unfold Gen.Lru.addFront Model.LruPtr.addFront
  rw [addAfter_tie]
  cases Model.LruPtr.addAfter l Model.LruPtr.root key value <;> rfl

theorem last_tie (l : PList) : Gen.Lru.last l = Model.LruPtr.last l := by
  unfold Gen.Lru.last Model.LruPtr.last
  cases Model.LruPtr.prevOf l.heap Model.LruPtr.root <;> rfl

theorem first_tie (l : PList) : Gen.Lru.first l = Model.LruPtr.first l := by
  unfold Gen.Lru.first Model.LruPtr.first
  cases Model.LruPtr.nextOf l.heap Model.LruPtr.root <;> rfl

open Model.LruPtr in
theorem remove_tie (l : PList) (node : Nat) :
    Gen.Lru.remove l node = Model.LruPtr.remove l node := by
  unfold Gen.Lru.remove Model.LruPtr.remove
  split
  · dsimp only [Option.bind_eq_bind]
    follow nextOf l.heap node as next
    follow prevOf l.heap node as prev
    follow wrPrev l.heap next prev as h
    follow wrNext h prev next as h
  · rfl

theorem removeLast_tie (l : PList) : Gen.Lru.removeLast l = Model.LruPtr.removeLast l := by
  unfold Gen.Lru.removeLast Model.LruPtr.removeLast
  rw [last_tie]
  follow Model.LruPtr.last l as x
  rw [remove_tie]
  cases Model.LruPtr.remove l x <;> rfl

theorem count_tie (c : PSt) : Gen.Lru.Count c = Model.LruPtr.count c := rfl

/-! In the cache methods the regenerated code reads `item.key` and `item.value` one after the other (the key twice
where the map entry is deleted in between); the model reads both in one `match`. -/

open Model.LruPtr in
theorem removeOldest_tie (c : PSt) : Gen.Lru.RemoveOldest c = Model.LruPtr.removeOldest c := by
  unfold Gen.Lru.RemoveOldest Model.LruPtr.removeOldest
  rw [last_tie]
  follow last c.evictList as item
  split
  · follow keyOf c.evictList.heap item as k
    follow valOf c.evictList.heap item as v
    rw [removeLast_tie]
    cases removeLast c.evictList <;> rfl
  · rfl

open Model.LruPtr in
theorem add_tie (c : PSt) (key value : Int) : Gen.Lru.Add c key value = Model.LruPtr.add c key value := by
  unfold Gen.Lru.Add Model.LruPtr.add
  cases mapGet key c.items with
  | some item =>
    dsimp only
    rw [moveFront_tie]
    follow moveFront c.evictList item as l1
    cases wrVal l1.heap item value <;> rfl
  | none =>
    dsimp only
    rw [addFront_tie]
    follow addFront c.evictList key value as r
    rw [removeOldest_tie]
    rfl

open Model.LruPtr in
theorem getOldest_tie (c : PSt) : Gen.Lru.GetOldest c = Model.LruPtr.getOldest c := by
  unfold Gen.Lru.GetOldest Model.LruPtr.getOldest
  rw [last_tie]
  follow last c.evictList as item
  split
  · rw [moveFront_tie]
    follow moveFront c.evictList item as l1
    follow keyOf l1.heap item as k
    cases valOf l1.heap item <;> rfl
  · rfl

open Model.LruPtr in
theorem get_tie (c : PSt) (key : Int) : Gen.Lru.Get c key = Model.LruPtr.get c key := by
  unfold Gen.Lru.Get Model.LruPtr.get
  cases mapGet key c.items with
  | none => rfl
  | some item =>
    dsimp only
    rw [moveFront_tie]
    follow moveFront c.evictList item as l1
    cases valOf l1.heap item <;> rfl

open Model.LruPtr in
theorem getYoungest_tie (c : PSt) : Gen.Lru.GetYoungest c = Model.LruPtr.getYoungest c := by
  unfold Gen.Lru.GetYoungest Model.LruPtr.getYoungest
  rw [first_tie]
  follow first c.evictList as item
  split
  · follow keyOf c.evictList.heap item as k
    cases valOf c.evictList.heap item <;> rfl
  · rfl

open Model.LruPtr in
theorem remove_key_tie (c : PSt) (key : Int) : Gen.Lru.Remove c key = Model.LruPtr.removeKey c key := by
  unfold Gen.Lru.Remove Model.LruPtr.removeKey
  cases mapGet key c.items with
  | none => rfl
  | some item =>
    dsimp only
    follow keyOf c.evictList.heap item as k
    rw [remove_tie]
    follow remove c.evictList item as r
    cases valOf r.1.heap item <;> rfl

open Model.LruPtr in
/-- `RemoveYoungest()` unlinks the FIRST node (`remove(item)`, the repaired code; the pre-repair `removeLast()` of
finding F13 is `Model.LruPtr.removeYoungestPreFix`, which this theorem would not hold for). -/
theorem removeYoungest_tie (c : PSt) : Gen.Lru.RemoveYoungest c = Model.LruPtr.removeYoungest c := by
  unfold Gen.Lru.RemoveYoungest Model.LruPtr.removeYoungest
  rw [first_tie]
  follow first c.evictList as item
  split
  · follow keyOf c.evictList.heap item as k
    follow valOf c.evictList.heap item as v
    rw [remove_tie]
    cases remove c.evictList item <;> rfl
  · rfl

theorem flush_tie (c : PSt) (nilp : Nat) : Gen.Lru.Flush c nilp = Model.LruPtr.flush c := by
  unfold Gen.Lru.Flush Model.LruPtr.flush
  simp only [newLRUList_tie]

def genStep (nilp : Nat) (c : PSt) : Op → PRes
  | .add k v => Gen.Lru.Add c k v
  | .get k => Gen.Lru.Get c k
  | .getOldest => Gen.Lru.GetOldest c
  | .getYoungest => Gen.Lru.GetYoungest c
  | .remove k => Gen.Lru.Remove c k
  | .removeOldest => Gen.Lru.RemoveOldest c
  | .removeYoungest => Gen.Lru.RemoveYoungest c
  | .flush => Gen.Lru.Flush c nilp
  | .count => .ok c (.int (Gen.Lru.Count c))

def genRun (nilp : Nat) (c : PSt) : List Op → Option (PSt × List Model.Lru.Ret)
  | [] => some (c, [])
  | op :: ops =>
    match genStep nilp c op with
    | .fault => none
    | .ok c' r =>
      match genRun nilp c' ops with
      | none => none
      | some (c'', rs) => some (c'', r :: rs)

theorem step_tie (nilp : Nat) (c : PSt) (op : Op) : genStep nilp c op = Model.LruPtr.step c op := by
  cases op <;>
    simp only [genStep, Model.LruPtr.step, add_tie, get_tie, getOldest_tie, getYoungest_tie, remove_key_tie,
      removeOldest_tie, removeYoungest_tie, flush_tie, count_tie]

/-- every history: the regenerated methods, run one after the other from ANY state, give the states and answers of
`Model.LruPtr.run` (and fault exactly when it does) — so `Theorems.C07`'s refinement theorems about `run` are theorems
about the regenerated code. -/
theorem run_tie (nilp : Nat) (c : PSt) (ops : List Op) : genRun nilp c ops = Model.LruPtr.run c ops := by
  induction ops generalizing c with
  | nil => rfl
  | cons op ops ih =>
    simp only [genRun, Model.LruPtr.run, step_tie]
    cases Model.LruPtr.step c op with
    | fault => rfl
    | ok c' r =>
      simp only [ih]
      cases Model.LruPtr.run c' ops <;> rfl

/-- the ties are not vacuous: a concrete history through the regenerated code (eviction at capacity 2, then the
youngest is removed) -/
example : (genRun 7 { items := [], evictList := Model.LruPtr.newLRUList, size := 2 }
    [.add 1 10, .add 2 20, .add 3 30, .get 2, .removeYoungest, .count]).map (·.2) =
    some [.kvb 0 0 false, .kvb 0 0 false, .kvb 1 10 true, .vb 20 true, .kvb 2 20 true, .int 1] := by decide +kernel

end GoguVerif.Theorems.GenTieLru
