import GoguVerif.Lemmas.C12Zip
import GoguVerif.Lemmas.C12Str
/-!
# C12 — property theorems: for ALL inputs (all slices, sizes, counts, callbacks, matrices, nestings,
random index streams, strings) the answer of the MODEL of each helper satisfies the specification
clause of `Spec/C12.lean`, and the model panics exactly outside the stated domain.

The order is that of `Model/C12`.  An `example` shows that the hypothesis or clause of a theorem just above it can be met.
-/
namespace GoguVerif.Theorems.C12
open GoguVerif.Model.C12 GoguVerif.Spec.C12 GoguVerif.Lemmas.C12

variable {α β κ σ : Type}

/-- For every slice and every size > 0, `Chunk` never reaches a slice-bounds panic and cuts the slice
into pieces of length `size`, the last one shorter but non-empty when `size ∤ len`. -/
theorem chunk_spec (s : List α) (n : Int) (h : 0 < n) :
    ∃ r, chunk s n = .ok r ∧ ChunkOK s n.toNat r := by
  unfold chunk
  rw [if_neg (by omega)]
  exact chunkLoop_spec s n.toNat s.length 0 0 [] (Nat.zero_add _) (by omega) (Nat.zero_mod _)

example : (0 : Int) < 3 := by decide
example : ChunkOK [1, 2, 3, 4, 5] 2 [[1, 2], [3, 4], [5]] := by decide

/-- The deliberate panic: exactly for sizes ≤ 0. -/
theorem chunk_panics (s : List α) (n : Int) (h : n ≤ 0) : chunk s n = .panic := by
  unfold chunk
  rw [if_pos h]

example : (-2 : Int) ≤ 0 := by decide

/-- `ChunkOK` leaves no freedom (two answers accepted by the monitor are equal). -/
theorem chunkOK_unique (s : List α) (n : Nat) (r₁ r₂ : List (List α))
    (h₁ : ChunkOK s n r₁) (h₂ : ChunkOK s n r₂) : r₁ = r₂ := by
  induction r₁ generalizing s r₂ with
  | nil => cases h₁.1; exact (chunkOK_nil h₂).symm
  | cons c₁ t₁ ih =>
    cases r₂ with
    | nil => cases h₂.1; exact chunkOK_nil h₁
    | cons c₂ t₂ =>
      obtain ⟨e₁, k₁⟩ := chunkOK_cons h₁
      obtain ⟨e₂, k₂⟩ := chunkOK_cons h₂
      rw [e₁, e₂, ih _ _ k₁ k₂]

theorem partition_spec (s : List α) (p : α → Bool) :
    PartitionOK p s (partition s p).1 (partition s p).2 := by
  unfold partition
  rw [partitionLoop_eq]
  exact ⟨by simpa using keepOK_filter p s, by simpa using keepOK_filter (fun x => !p x) s⟩

theorem filter_spec (s : List α) (p : α → Bool) : FilterOK p s (filter s p) := by
  unfold filter FilterOK
  rw [filterLoop_eq]
  simpa using keepOK_filter p s

theorem reject_spec (s : List α) (p : α → Bool) : RejectOK p s (reject s p) := by
  unfold reject RejectOK
  rw [rejectLoop_eq]
  exact keepOK_filter (fun x => !p x) s

theorem dropWhile_spec (s : List α) (p : α → Bool) : DropWhileOK p s (dropWhile s p) := by
  unfold dropWhile DropWhileOK
  rw [dropWhileLoop_eq]
  simpa using keepOK_filter (fun x => !p x) s

/-- `DropRightWhile` never reaches its index panic and answers the rejected part of the reversed slice. -/
theorem dropRightWhile_spec (s : List α) (p : α → Bool) :
    ∃ r, dropRightWhile s p = .ok r ∧ DropRightWhileOK p s r := by
  refine ⟨_, dropRightWhileLoop_eq p s s.length [] (Nat.le_refl _), ?_⟩
  unfold DropRightWhileOK
  simpa using keepOK_filter (fun x => !p x) s.reverse

/-- The split clauses leave no freedom: an answer accepted by the monitor IS the filtered list
(so "every element exactly once, in the part its predicate dictates, order kept" is what is checked). -/
theorem keepOK_iff (p : α → Bool) (s r : List α) : KeepOK p s r ↔ r = s.filter p := by
  refine ⟨fun ⟨hsub, hall, hlen⟩ => ?_, fun h => h ▸ keepOK_filter p s⟩
  have h1 : r.Sublist (s.filter p) := by
    have := hsub.filter p
    rwa [List.filter_eq_self.mpr hall] at this
  exact h1.eq_of_length (by rw [hlen, List.countP_eq_length_filter])

/-! Map, ForEach, ForEachRight, Reduce: once per element, in index order, for EVERY state-passing callback -/

/-- `Map` never reaches its index panic, and what it does to an arbitrary stateful callback is exactly
`callsInOrder`: one call per element, in index order; the i-th result is stored at position i. -/
theorem map_calls_in_order [Inhabited β] (s : List α) (fn : α → σ → β × σ) (st : σ) :
    map s fn st = .ok (callsInOrder fn s st) :=
  map_eq s fn st

/-- with the logging callback of the harness: the visit log is `s`, the result is the image list -/
theorem map_spec [Inhabited β] (s : List α) (f : α → β) :
    ∃ r log, map s (fun x (lg : List α) => (f x, lg ++ [x])) [] = .ok (r, log) ∧ MapOK f s r log := by
  refine ⟨s.map f, s, ?_, rfl, rfl⟩
  rw [map_calls_in_order, callsInOrder_logging]; simp

/-- `ForEach` folds the callback's state over the slice from the left: its loop is `List.foldl`, clause for clause (`rfl`
with `smartUnfolding` off, as for `Lemmas.C12.dropWhileLoop_eq_filterLoop`). -/
theorem forEach_in_order (s : List α) (fn : α → σ → σ) (st : σ) :
    forEach fn s st = s.foldl (fun st x => fn x st) st := by
  set_option smartUnfolding false in rfl

theorem forEach_spec (s : List α) : ForEachOK s (forEach (fun x (lg : List α) => lg ++ [x]) s []) := by
  unfold ForEachOK
  rw [forEach_in_order, Lemmas.ListFacts.foldl_snoc]; rfl

/-- `ForEachRight` folds it over the reversed slice and never reaches its index panic. -/
theorem forEachRight_in_order (s : List α) (fn : α → σ → σ) (st : σ) :
    forEachRight s fn st = .ok (s.reverse.foldl (fun st x => fn x st) st) := by
  unfold forEachRight
  rw [forEachRightLoop_eq _ _ _ _ (Nat.le_refl _)]; simp

theorem forEachRight_spec (s : List α) :
    ∃ log, forEachRight s (fun x (lg : List α) => lg ++ [x]) [] = .ok log ∧ ForEachRightOK s log := by
  refine ⟨_, forEachRight_in_order s _ _, ?_⟩
  unfold ForEachRightOK
  rw [Lemmas.ListFacts.foldl_snoc]; rfl

/-- `Reduce` threads accumulator and callback state through the slice from the left. -/
theorem reduce_in_order (s : List α) (fn : α → β → σ → β × σ) (init : β) (st : σ) :
    reduce fn s init st = s.foldl (fun p x => fn x p.1 p.2) (init, st) := by
  induction s generalizing init st with
  | nil => rfl
  | cons v rest ih => simp [reduce, ih]

theorem reduce_spec (s : List α) (f : α → β → β) (init : β) :
    ReduceOK f s init (reduce (fun x acc (lg : List α) => (f x acc, lg ++ [x])) s init []).1
      (reduce (fun x acc (lg : List α) => (f x acc, lg ++ [x])) s init []).2 := by
  rw [reduce_logging]
  exact ⟨rfl, rfl⟩

/-- `GroupBy` (= `mapByIndex(slice, Map(slice, fn))`) reaches neither index panic, and its map holds,
under distinct keys, for every key the part of the slice with that key, in order; every element is in
the group of its key. -/
theorem groupBy_spec [DecidableEq κ] [Inhabited κ] (s : List α) (fn : α → κ) :
    ∃ g, groupBy s fn = .ok g ∧ GroupOK fn s g := by
  unfold groupBy
  rw [mapPure_eq]
  obtain ⟨ks, hks, h⟩ := mapByIndexLoop_groups fn [] s [] ⟨List.nodup_nil, fun _ => Iff.rfl⟩
  exact ⟨_, h, groupOK_groups hks⟩

/-- The Go map has no order: the clause holds for every listing of the same entries (the model's
association list is one of them; the harness prints the entries sorted by key). -/
theorem groupOK_perm [DecidableEq κ] (fn : α → κ) (s : List α) (g g' : List (κ × List α))
    (h : GroupOK fn s g) (hp : g'.Perm g) : GroupOK fn s g' := by
  obtain ⟨hnd, hgrp, hcov⟩ := h
  refine ⟨(hp.map _).nodup_iff.mpr hnd, fun e he => hgrp e (hp.mem_iff.mp he), fun x hx => ?_⟩
  obtain ⟨e, he, hk⟩ := hcov x hx
  exact ⟨e, hp.mem_iff.mpr he, hk⟩

example : GroupOK (fun x : Int => x.tmod 2) [1, 2, 3] [(1, [1, 3]), (0, [2])] := by decide
example : List.Perm [((0 : Int), [(2 : Int)]), (1, [1, 3])] [(1, [1, 3]), (0, [2])] := by decide

/-- `GroupOK` pins every group down: it is the filtered slice. -/
theorem groupOK_group [DecidableEq κ] (fn : α → κ) (s : List α) (g : List (κ × List α))
    (h : GroupOK fn s g) (e : κ × List α) (he : e ∈ g) :
    e.2 = s.filter (fun x => decide (fn x = e.1)) :=
  (keepOK_iff _ _ _).mp (h.2.1 e he).2

/-- On every square matrix (any size, 0 × 0 included) `Zip` reaches none of its index panics and answers
the transpose. -/
theorem zip_spec [Inhabited α] (m : List (List α)) (h : Square m) :
    ∃ r, zip m = .ok r ∧ TransposeOK m r := zipWith_ok false m h

theorem unzip_spec [Inhabited α] (m : List (List α)) (h : Square m) :
    ∃ r, unzip m = .ok r ∧ TransposeOK m r := zipWith_ok true m h

example : Square [[1, 2], [3, 4]] := by decide

/-- The deliberate panics: exactly on the non-square (ragged, or rows ≠ columns) inputs. -/
theorem zip_panics [Inhabited α] (m : List (List α)) (h : ¬ Square m) : zip m = .panic :=
  zipWith_panic false m h

theorem unzip_panics [Inhabited α] (m : List (List α)) (h : ¬ Square m) : unzip m = .panic :=
  zipWith_panic true m h

example : ¬ Square [[1, 2], [3]] := by decide

/-- `Zip` and `Unzip` undo each other on square matrices: what one `zip m => r back` /
`unzip m => r back` protocol line must show. -/
theorem zip_unzip [Inhabited α] (m : List (List α)) (h : Square m) :
    ∃ r, zip m = .ok r ∧ unzip r = .ok m ∧ ZipOK m r m := zipWith_round false m h

theorem unzip_zip [Inhabited α] (m : List (List α)) (h : Square m) :
    ∃ r, unzip m = .ok r ∧ zip r = .ok m ∧ ZipOK m r m := zipWith_round true m h

/-- `Flatten` answers the leaves, left to right, of every well-formed nesting of any depth, and an
error exactly for the nestings that contain a value of a foreign type. -/
theorem flatten_eq (n : Nested α) :
    flatten n = if (toSpec n).wellFormed then some (toSpec n).leaves else none := by
  unfold flatten
  rw [baseFlatten_eq]; simp

theorem flatten_spec (n : Nested α) : FlattenOK (toSpec n) (flatten n) := by
  intro h
  rw [flatten_eq, if_pos h]

theorem merge_spec (s : List α) (params : List (List α)) : MergeOK s params (merge s params) := by
  unfold merge MergeOK
  rw [mergeLoop_eq]; simp

/-- `Drop` never panics (its slice expressions are in range) and removes `min |n| len` elements from
the front (`n > 0`) or the back (`n < 0`). -/
theorem drop_spec (s : List α) (n : Int) : ∃ r, drop s n = .ok r ∧ DropOK s n r := by
  obtain ⟨k, rfl | rfl⟩ := Int.eq_nat_or_neg n
  · refine ⟨_, drop_natCast s k, ?_, fun _ => List.drop_suffix _ _, fun h => by omega, fun h => ?_⟩
    · rw [List.length_drop, Int.natAbs_natCast]; omega
    · rw [Int.natCast_eq_zero.mp h]; rfl
  · refine ⟨_, drop_neg_natCast s k, ?_, fun h => by omega, fun _ => List.take_prefix _ _, fun h => ?_⟩
    · rw [List.length_take, Int.natAbs_neg, Int.natAbs_natCast]; omega
    · rw [Int.natCast_eq_zero.mp (Int.neg_eq_zero.mp h), Nat.sub_zero, List.take_length]

/-- `Reverse` never reaches an index panic and answers the reversed list. -/
theorem reverse_eq (s : List α) : reverse s = .ok s.reverse := by
  have := reverseLoop_window [] s []
  simpa [reverse] using this

/-- In the terms of the clause: the answer lists the slice backwards. -/
theorem reverse_spec (s : List α) : ∃ r, reverse s = .ok r ∧ Reversed s r :=
  ⟨_, reverse_eq s, (reversed_iff s _).mpr rfl⟩

/-- `Reverse` is an involution: what one `reverse s => r rr` line of the protocol must show. -/
theorem reverse_involution (s : List α) :
    ∃ r rr, reverse s = .ok r ∧ reverse r = .ok rr ∧ ReverseOK s r rr := by
  refine ⟨s.reverse, s, reverse_eq s, ?_, (reversed_iff s _).mpr rfl, rfl⟩
  rw [reverse_eq, List.reverse_reverse]

/-- For EVERY stream of random numbers `rnd`, `Shuffle` never reaches an index panic and answers a
permutation of its argument. -/
theorem shuffle_spec (rnd : Nat → Nat) (s : List α) : ∃ r, shuffle rnd s = .ok r ∧ ShuffleOK s r :=
  shuffleLoop_spec rnd s.length 0 s (Nat.le_refl _)

/-- `ReverseStr` never panics: decode (Go's lenient decoder), reverse, encode. -/
theorem reverseStr_eq (s : List Nat) : reverseStr s = .ok (encodeRunes (decodeRunes s).reverse) := by
  unfold reverseStr
  rw [reverse_eq]

/-- On everything the strict decoder accepts — Go's lenient decoder returns the same runes there — `ReverseStr`
answers the UTF-8 form of the reversed sequence of scalar values. -/
theorem reverseStr_parse (s rs : List Nat) (h : parse? s = some rs) :
    reverseStr s = .ok (utf8All rs.reverse) := by
  have hp := parse?_sound s rs h
  rw [reverseStr_eq, hp.decode, encodeRunes_eq_utf8All rs.reverse fun x hx => hp.scalar x (List.mem_reverse.mp hx)]

/-- On the UTF-8 form of ANY sequence of Unicode scalar values, `ReverseStr` answers the UTF-8 form of
the reversed sequence. -/
theorem reverseStr_utf8 (rs : List Nat) (h : ∀ x ∈ rs, Scalar x) :
    reverseStr (utf8All rs) = .ok (utf8All rs.reverse) :=
  reverseStr_parse _ rs (parse?_utf8All rs h)

example : ∀ x ∈ [0x61, 0xE9, 0x20AC, 0x1F600], Scalar x := by decide

/-- Hence `ReverseStr` is an involution on valid UTF-8: what one `reversestr s => r rr` line must show. -/
theorem reverseStr_spec (s : List Nat) :
    ∃ r rr, reverseStr s = .ok r ∧ reverseStr r = .ok rr ∧ ReverseStrOK s r rr := by
  refine ⟨_, _, reverseStr_eq s, reverseStr_eq _, fun rs hrs hs => ?_⟩
  subst hs
  have e1 := (reverseStr_eq _).symm.trans (reverseStr_utf8 rs hrs)
  have e2 := (reverseStr_eq _).symm.trans (reverseStr_utf8 rs.reverse fun x hx => hrs x (List.mem_reverse.mp hx))
  injection e1 with e1
  injection e2 with e2
  rw [e1, e2, List.reverse_reverse]
  exact ⟨rfl, rfl⟩

/-- The monitor used by the driver for `reversestr` lines decides exactly the property clause
(`parse?` = the strict decoder of Unicode table 3-7 is sound and complete for `utf8All`). -/
theorem reverseStrCheck_iff (s r rr : List Nat) :
    reverseStrCheck s r rr = true ↔ ReverseStrOK s r rr := by
  unfold reverseStrCheck ReverseStrOK
  constructor
  · intro h rs hrs hs
    rw [hs, parse?_utf8All rs hrs] at h
    simp only [Bool.and_eq_true, beq_iff_eq] at h
    exact ⟨h.1, by rw [hs]; exact h.2⟩
  · intro h
    cases hp : parse? s with
    | none => rfl
    | some rs =>
      have hs := parse?_sound s rs hp
      obtain ⟨h3, h4⟩ := h rs hs.scalar hs.utf8
      simp [h3, h4]

end GoguVerif.Theorems.C12

