-- Root of the library: everything `lake build` (bin/setup) has to build.
import GoguVerif.Go.Run
import GoguVerif.Go.Utf8
import GoguVerif.Go.Val
import GoguVerif.Kinds.BTree
import GoguVerif.Kinds.Bst
import GoguVerif.Kinds.C11
import GoguVerif.Kinds.C12
import GoguVerif.Kinds.C13
import GoguVerif.Kinds.C14
import GoguVerif.Kinds.C15
import GoguVerif.Kinds.C16
import GoguVerif.Kinds.C17
import GoguVerif.Kinds.C20
import GoguVerif.Kinds.Cache
import GoguVerif.Kinds.Common
import GoguVerif.Kinds.Funcs
import GoguVerif.Kinds.Heap
import GoguVerif.Kinds.Lists
import GoguVerif.Kinds.Lru
import GoguVerif.Kinds.QueueStack
import GoguVerif.Kinds.Trie
import GoguVerif.Theorems.C01
import GoguVerif.Theorems.C01NoPanic
import GoguVerif.Theorems.C01NoPanicGen
import GoguVerif.Theorems.C02
import GoguVerif.Theorems.C02Fine
import GoguVerif.Theorems.C02Inst
import GoguVerif.Theorems.C02More
import GoguVerif.Theorems.C02Two
import GoguVerif.Theorems.C03
import GoguVerif.Theorems.C04
import GoguVerif.Theorems.C05
import GoguVerif.Theorems.C05More
import GoguVerif.Theorems.C06
import GoguVerif.Theorems.C06More
import GoguVerif.Theorems.C07
import GoguVerif.Theorems.C08
import GoguVerif.Theorems.C09
import GoguVerif.Theorems.C10
import GoguVerif.Theorems.C11
import GoguVerif.Theorems.C12
import GoguVerif.Theorems.C13
import GoguVerif.Theorems.C14
import GoguVerif.Theorems.C15
import GoguVerif.Theorems.C16
import GoguVerif.Theorems.C16Helpers
import GoguVerif.Theorems.C16Helpers2
import GoguVerif.Theorems.C16Helpers3
import GoguVerif.Theorems.C16Helpers4
import GoguVerif.Theorems.C16Helpers5
import GoguVerif.Theorems.C16Views
import GoguVerif.Theorems.C17
import GoguVerif.Theorems.C18
import GoguVerif.Theorems.C18More
import GoguVerif.Theorems.C19
import GoguVerif.Theorems.C19Handles
import GoguVerif.Theorems.C19Handles2
import GoguVerif.Theorems.C20
import GoguVerif.Theorems.C20Late
import GoguVerif.Theorems.C20M
import GoguVerif.Theorems.C20More
import GoguVerif.Theorems.GenTieBst
import GoguVerif.Theorems.GenTieCache
import GoguVerif.Theorems.GenTieDLists
import GoguVerif.Theorems.GenTieFunc
import GoguVerif.Theorems.GenTieHeap
import GoguVerif.Theorems.GenTieLinked
import GoguVerif.Theorems.GenTieLists
import GoguVerif.Theorems.GenTieLru
import GoguVerif.Theorems.GenTieMore2
import GoguVerif.Theorems.GenTieMore2A
import GoguVerif.Theorems.GenTieMore2B
import GoguVerif.Theorems.GenTieMore2Base
import GoguVerif.Theorems.GenTieMore2C
import GoguVerif.Theorems.GenTieQS
import GoguVerif.Theorems.GenTieTrie
